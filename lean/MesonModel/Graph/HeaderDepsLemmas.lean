/-
Lemmas about the order-only derivation `MesonModel/Graph/HeaderDeps.lean`: the `add_deps` traversal (post-order marking in
`added_deps`) reaches every dependency object reachable from `dependencies:`, nothing that was appended is lost, and the
recursion of `get_generated_headers` reaches every library of the link closure.
-/
import MesonModel.Graph.HeaderDeps

namespace MesonModel.Graph.HeaderDeps
open List

structure Le (a b : St) : Prop where
  generated : a.generated ⊆ b.generated
  linkT : a.linkT ⊆ b.linkT
  linkW : a.linkW ⊆ b.linkW
  added : a.added ⊆ b.added

theorem Le.refl (a : St) : Le a a := ⟨.refl _, .refl _, .refl _, .refl _⟩

theorem Le.trans {a b c : St} (h1 : Le a b) (h2 : Le b c) : Le a c :=
  ⟨h1.generated.trans h2.generated, h1.linkT.trans h2.linkT, h1.linkW.trans h2.linkW, h1.added.trans h2.added⟩

/-- dependency object `d` has been absorbed into `st` completely, children included -/
def Has (tb : Table) (st : St) (d : Nat) : Prop :=
  Le { generated := (tb.dep d).sources, linkT := (tb.dep d).libs, linkW := (tb.dep d).whole, added := (tb.dep d).deps } st

/-- everything marked in `added_deps` has been absorbed completely -/
def Closed (tb : Table) (st : St) : Prop := ∀ d, d ∈ st.added → Has tb st d

theorem le_absorb (st : St) (d : Dep) : Le st (absorb st d) :=
  ⟨subset_append_left .., subset_append_left .., subset_append_left .., .refl _⟩

theorem closed_absorb {tb : Table} {st : St} (d : Dep) (h : Closed tb st) : Closed tb (absorb st d) :=
  fun x hx => (h x hx).trans (le_absorb st d)

theorem fold_spec {tb : Table} {step : St → Nat → St} (bound : Nat)
    (hstep : ∀ st c, c < bound → Closed tb st → Closed tb (step st c) ∧ Le st (step st c) ∧ c ∈ (step st c).added) :
    ∀ (cs : List Nat) (st : St), (∀ c, c ∈ cs → c < bound) → Closed tb st →
      Closed tb (cs.foldl step st) ∧ Le st (cs.foldl step st) ∧ cs ⊆ (cs.foldl step st).added := by
  intro cs
  induction cs with
  | nil =>
    intro st _ hc
    exact ⟨hc, Le.refl _, nil_subset _⟩
  | cons c cs ih =>
    intro st hb hc
    rcases hstep st c (hb c mem_cons_self) hc with ⟨h1, h2, h3⟩
    rcases ih (step st c) (fun x hx => hb x (mem_cons_of_mem _ hx)) h1 with ⟨k1, k2, k3⟩
    exact ⟨k1, h2.trans k2, cons_subset.2 ⟨k2.added h3, k3⟩⟩

theorem addDep_spec {tb : Table} (hwf : ∀ d c, c ∈ (tb.dep d).deps → c < d) :
    ∀ (f : Nat) (st : St) (d : Nat), d < f → Closed tb st →
      Closed tb (addDep tb f st d) ∧ Le st (addDep tb f st d) ∧ d ∈ (addDep tb f st d).added := by
  intro f
  induction f with
  | zero =>
    intro st d h
    omega
  | succ f ih =>
    intro st d hd hc
    unfold addDep
    split
    · exact ⟨hc, Le.refl _, ‹_›⟩
    · have hch : ∀ c, c ∈ (tb.dep d).deps → c < f := fun c h => by
        have := hwf d c h
        omega
      rcases fold_spec f ih (tb.dep d).deps (absorb st (tb.dep d)) hch (closed_absorb _ hc) with ⟨k1, k2, k3⟩
      -- marking `d` only adds to `added`
      have up : ∀ s : St, Le s { s with added := d :: s.added } := fun s => ⟨.refl _, .refl _, .refl _, subset_cons_self ..⟩
      refine ⟨fun x hx => ?_, ((le_absorb st _).trans k2).trans (up _), mem_cons_self⟩
      rcases mem_cons.1 hx with rfl | hx
      · exact ⟨(subset_append_right ..).trans k2.generated, (subset_append_right ..).trans k2.linkT,
          (subset_append_right ..).trans k2.linkW, k3.trans (up _).added⟩
      · exact (k1 x hx).trans (up _)

theorem reach_added {tb : Table} {roots : List Nat} {st : St} (hc : Closed tb st) (hr : roots ⊆ st.added)
    {d : Nat} (h : DepReach tb roots d) : d ∈ st.added := by
  induction h with
  | root hm => exact hr hm
  | nested _ hcm ih => exact (hc _ ih).added hcm

theorem build_spec {tb : Table} (hwf : ∀ d c, c ∈ (tb.dep d).deps → c < d) (t : Tgt)
    (hr : ∀ d, d ∈ t.deps → d < tb.deps.length) :
    Closed tb (build tb t) ∧
    Le { generated := t.sources, linkT := t.linkWith, linkW := t.linkWhole, added := [] } (build tb t) ∧
    t.deps ⊆ (build tb t).added := by
  unfold build addDeps
  apply fold_spec tb.deps.length (addDep_spec hwf _) t.deps _ hr
  intro d hd
  cases hd

/-- what the build definition hands to a target, as a state below the target object: a dependency object reachable
    from `dependencies:` has been absorbed -/
theorem reach_has {tb : Table} (hwf : ∀ d c, c ∈ (tb.dep d).deps → c < d) (t : Tgt)
    (hr : ∀ d, d ∈ t.deps → d < tb.deps.length) {d : Nat} (h : DepReach tb t.deps d) : Has tb (build tb t) d :=
  have ⟨hc, _, hroots⟩ := build_spec hwf t hr
  hc d (reach_added hc hroots h)

theorem handed_generated {tb : Table} (hwf : ∀ d c, c ∈ (tb.dep d).deps → c < d) (t : Tgt)
    (hr : ∀ d, d ∈ t.deps → d < tb.deps.length) {g : Gen} (h : Handed tb t g) : g ∈ (build tb t).generated := by
  rcases h with h | ⟨d, hd, hg⟩
  · exact (build_spec hwf t hr).2.1.generated h
  · exact (reach_has hwf t hr hd).generated hg

theorem linked_built {tb : Table} (hwf : ∀ d c, c ∈ (tb.dep d).deps → c < d) (t : Tgt)
    (hr : ∀ d, d ∈ t.deps → d < tb.deps.length) {l : Nat} (h : Linked tb t l) :
    l ∈ (build tb t).linkT ++ (build tb t).linkW := by
  rcases h with h | h | ⟨d, hd, h | h⟩
  · exact mem_append_left _ ((build_spec hwf t hr).2.1.linkT h)
  · exact mem_append_right _ ((build_spec hwf t hr).2.1.linkW h)
  · exact mem_append_left _ ((reach_has hwf t hr hd).linkT h)
  · exact mem_append_right _ ((reach_has hwf t hr hd).linkW h)

theorem mem_ownGenHeaders {priv : Str} {gens : List Gen} {outs : List Out} {o : Out} (hg : Gen.glist outs ∈ gens)
    (ho : o ∈ outs) (hh : o.cls = .header) : joinPath priv o.name ∈ ownGenHeaders priv gens := by
  unfold ownGenHeaders
  refine List.mem_flatMap.2 ⟨_, hg, ?_⟩
  exact List.mem_map.2 ⟨o, List.mem_filter.2 ⟨ho, by simp [hh]⟩, rfl⟩

theorem own_mem_genHeaders (tb : Table) {t : Nat} {p : Str}
    (hp : p ∈ ownGenHeaders (tb.tgt t).priv (build tb (tb.tgt t)).generated) : ∀ f, t < f → p ∈ genHeaders tb f t
  | 0, h => absurd h (Nat.not_lt_zero t)
  | f + 1, _ => by
    unfold genHeaders
    exact List.mem_append_left _ hp

theorem LibReach.lt {tb : Table} (hwf : WF tb) {t l : Nat} (h : LibReach tb t l) : l < t := by
  induction h with
  | base hl _ => exact hwf.libsBefore _ _ hl
  | step hl _ _ ih =>
    have := hwf.libsBefore _ _ hl
    omega

theorem genHeaders_of_linked {tb : Table} (hwf : WF tb) {t l : Nat} (hl : Linked tb (tb.tgt t) l)
    (hk : (tb.tgt l).kind.isLib = true) {p : Str} (hp : ∀ f, l < f → p ∈ genHeaders tb f l) :
    ∀ f, t < f → p ∈ genHeaders tb f t
  | 0, hf => absurd hf (Nat.not_lt_zero t)
  | f + 1, hf => by
    have hlt := hwf.libsBefore t l hl
    unfold genHeaders
    refine List.mem_append_right _ (List.mem_flatMap.2 ⟨l, linked_built hwf.depsBefore _ (hwf.rootsInRange t) hl, ?_⟩)
    rw [if_pos hk]
    exact hp f (by omega)

theorem reach_genHeaders {tb : Table} (hwf : WF tb) {t m : Nat} (h : LibReach tb t m) :
    ∀ f, t < f → ∀ p, p ∈ ownGenHeaders (tb.tgt m).priv (build tb (tb.tgt m)).generated → p ∈ genHeaders tb f t := by
  induction h with
  | base hl hk => exact fun f hf p hp => genHeaders_of_linked hwf hl hk (own_mem_genHeaders tb hp) f hf
  | step hl hk _ ih => exact fun f hf p hp => genHeaders_of_linked hwf hl hk (fun f h => ih f h p hp) f hf

theorem mem_dedup {x : Str} : ∀ {l : List Str}, x ∈ dedup l ↔ x ∈ l := by
  intro l
  induction l with
  | nil => exact Iff.rfl
  | cons y ys ih =>
    rw [dedup, List.mem_cons, List.mem_filter, ih, List.mem_cons]
    by_cases e : x = y <;> simp [e]

theorem mem_loopHeaders {priv : Str} {gens : List Gen} {g : Gen} {o : Out} (hg : g ∈ gens) (ho : o ∈ g.outs)
    (hh : headerish o.cls = true) : joinPath (g.dirFor priv) o.name ∈ loopHeaders priv gens := by
  unfold loopHeaders
  refine mem_dedup.2 (List.mem_map.2 ⟨(joinPath (g.dirFor priv) o.name, o.cls), List.mem_filter.2 ⟨?_, hh⟩, rfl⟩)
  refine List.mem_flatMap.2 ⟨g, hg, ?_⟩
  unfold Gen.paths
  exact List.mem_map.2 ⟨o, ho, rfl⟩

theorem hasDirPart_joinPath {d n : Str} (hd : d ≠ []) : hasDirPart (joinPath d n) = true := by
  unfold joinPath hasDirPart
  simp only [hd, if_false]
  by_cases hl : d.getLast? = some '/'
  · simp only [hl, if_true]
    have hm : '/' ∈ d := List.mem_of_getLast? hl
    exact List.any_eq_true.2 ⟨'/', List.mem_append_left _ hm, by simp⟩
  · simp only [hl, if_false]
    exact List.any_eq_true.2 ⟨'/', List.mem_append_right _ (List.mem_cons_self ..), by simp⟩

/-- A table read with a default: what holds of the default and of every entry in range holds of every read. -/
theorem forall_getD {α : Type} (P : Nat → α → Prop) (l : List α) (d : α) (h0 : ∀ i, P i d)
    (h : ∀ i, i < l.length → P i (l.getD i d)) (i : Nat) : P i (l.getD i d) := by
  by_cases hi : i < l.length
  · exact h i hi
  · rw [List.getD_eq_getElem?_getD, List.getElem?_eq_none (Nat.le_of_not_lt hi)]
    exact h0 i

theorem no_reach_from_nil {tb : Table} {d : Nat} (h : DepReach tb [] d) : False := by
  induction h with
  | root hm => cases hm
  | nested _ _ ih => exact ih

theorem wfB_implies_WF {tb : Table} (h : wfB tb = true) : WF tb := by
  simp only [wfB, Bool.and_eq_true, List.all_eq_true, List.mem_range, decide_eq_true_eq, List.mem_append] at h
  obtain ⟨h1, h2⟩ := h
  have hdb := forall_getD (fun d (x : Dep) => ∀ c ∈ x.deps, c < d) tb.deps {} (fun _ _ => List.not_mem_nil.elim) h1
  have hroots := forall_getD (fun _ (x : Tgt) => ∀ d ∈ x.deps, d < tb.deps.length) tb.tgts {}
    (fun _ _ => List.not_mem_nil.elim) fun t ht => (h2 t ht).1.1
  refine ⟨hdb, hroots, ?_, fun t ht => (h2 t ht).2⟩
  -- the default target links nothing
  refine forall_getD (fun t (x : Tgt) => ∀ l, Linked tb x l → l < t) _ _ (fun t l hl => ?_) fun t ht l hl =>
    (h2 t ht).1.2 l (List.mem_append.1 (linked_built hdb _ (hroots t) hl))
  rcases hl with hl | hl | ⟨d, hd, _⟩
  · cases hl
  · cases hl
  · exact (no_reach_from_nil hd).elim

end MesonModel.Graph.HeaderDeps
