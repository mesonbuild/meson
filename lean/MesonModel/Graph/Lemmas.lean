/-
Runs are compared with a reference state `ref`, not with one another.  `Upto g init ref h st`: `st` is `init` overlaid with
the reference content of what the history `h` wrote.  Under `Hermetic` an enabled step then finds what its hermetic replay
directory `view` holds (`Upto.reads`, the one use of hermeticity), so every valid history keeps `Upto`
(`replay_invariant`); and a successful complete run is such a reference (`run_gives_replayOK`).  For the converse a valid
history is reordered so that a step and its declared ancestors run first (`ValidH.partition`, `reorder_first`).  At the end
the executable checkers are shown to decide the declarative definitions.
-/
import MesonModel.Graph.Model

namespace MesonModel.Graph

set_option linter.unusedSectionVars false

variable {ι F C : Type} [DecidableEq ι] [DecidableEq F]

theorem Anc.trans {g : Graph ι F C} {i k j : ι} (h1 : Anc g i k) (h2 : Anc g k j) : Anc g i j := by
  induction h2 with
  | base h => exact Anc.tail h1 h
  | tail _ h ih => exact Anc.tail ih h

theorem Anc.head {g : Graph ι F C} {i k j : ι} (h1 : Pred g i k) (h2 : Anc g k j) : Anc g i j :=
  (Anc.base h1).trans h2

theorem Anc.mem_steps {g : Graph ι F C} {i j : ι} (h : Anc g i j) : j ∈ g.steps := by
  cases h with
  | base h => exact h.1
  | tail _ h => exact h.1

theorem Enabled.mono {g : Graph ι F C} {d d' : List ι} {i : ι} (h : Enabled g d i) (hs : ∀ x, x ∈ d → x ∈ d') :
    Enabled g d' i := fun j hj => hs j (h j hj)

theorem ValidH.suffix {g : Graph ι F C} : ∀ {x y : List ι}, ValidH g (x ++ y) → ValidH g y
  | [], _, h => h
  | _ :: x, _, h => ValidH.suffix (x := x) h.2.2.2

theorem ValidH.mem_steps {g : Graph ι F C} : ∀ {h : List ι}, ValidH g h → ∀ i, i ∈ h → i ∈ g.steps
  | [], _, _, hi => by cases hi
  | k :: h, hv, i, hi => by
    rcases List.mem_cons.1 hi with rfl | hi
    · exact hv.1
    · exact ValidH.mem_steps hv.2.2.2 i hi

theorem ValidH.nodup {g : Graph ι F C} : ∀ {h : List ι}, ValidH g h → h.Nodup
  | [], _ => List.nodup_nil
  | _ :: _, hv => List.nodup_cons.2 ⟨hv.2.1, ValidH.nodup hv.2.2.2⟩

theorem ValidH.closed_pred {g : Graph ι F C} : ∀ {h : List ι}, ValidH g h → ∀ {i j}, i ∈ h → Pred g i j → j ∈ h
  | [], _, _, _, hi, _ => by cases hi
  | k :: h, hv, i, j, hi, hp => by
    rcases List.mem_cons.1 hi with rfl | hi
    · exact List.mem_cons_of_mem _ (hv.2.2.1 j hp)
    · exact List.mem_cons_of_mem _ (ValidH.closed_pred hv.2.2.2 hi hp)

theorem ValidH.closed_anc {g : Graph ι F C} {h : List ι} (hv : ValidH g h) {i j : ι} (hi : i ∈ h) (ha : Anc g i j) :
    j ∈ h := by
  induction ha with
  | base hp => exact hv.closed_pred hi hp
  | tail _ hp ih => exact hv.closed_pred ih hp

theorem ValidH.enabled_anc {g : Graph ι F C} {h : List ι} (hv : ValidH g h) {i j : ι} (he : Enabled g h i)
    (ha : Anc g i j) : j ∈ h := by
  induction ha with
  | base hp => exact he _ hp
  | tail _ hp ih => exact hv.closed_pred ih hp

theorem ValidH.insert {g : Graph ι F C} {k : ι} : ∀ {X Y : List ι}, ValidH g (X ++ Y) → k ∈ g.steps → k ∉ X ++ Y →
    Enabled g Y k → ValidH g (X ++ k :: Y)
  | [], Y, hv, hk, hn, he => ⟨hk, hn, he, hv⟩
  | x :: X, Y, hv, hk, hn, he => by
    have hxk : x ≠ k := fun e => hn (by simp [e])
    have hn' : k ∉ X ++ Y := fun m => hn (List.mem_cons_of_mem _ m)
    refine ⟨hv.1, by simpa [hxk] using hv.2.1, hv.2.2.1.mono fun y hy => ?_, ValidH.insert hv.2.2.2 hk hn' he⟩
    exact (List.mem_append.1 hy).elim (List.mem_append_left _) fun m => List.mem_append_right _ (List.mem_cons_of_mem _ m)

/-- stable partition of a valid history by a predicate that is closed under declared predecessors: the `P`-steps can
    all be run first -/
theorem ValidH.partition {g : Graph ι F C} (P : ι → Bool) (hP : ∀ k m, P k = true → Pred g k m → P m = true) :
    ∀ {h : List ι}, ValidH g h → ValidH g (h.filter (fun k => !P k) ++ h.filter P)
  | [], _ => trivial
  | k :: h, hv => by
    have ih := ValidH.partition P hP hv.2.2.2
    have hperm : (h.filter (fun k => !P k) ++ h.filter P).Perm h :=
      List.perm_append_comm.trans (List.filter_append_perm P h)
    have hk : k ∉ h.filter (fun k => !P k) ++ h.filter P := fun m => hv.2.1 (hperm.mem_iff.1 m)
    cases hpk : P k
    · rw [List.filter_cons_of_pos (by simp [hpk]), List.filter_cons_of_neg (by simp [hpk])]
      exact ⟨hv.1, hk, hv.2.2.1.mono (fun _ => hperm.mem_iff.2), ih⟩
    · rw [List.filter_cons_of_neg (by simp [hpk]), List.filter_cons_of_pos hpk]
      exact ValidH.insert ih hv.1 hk (fun m hm => List.mem_filter.2 ⟨hv.2.2.1 m hm, hP k m hpk hm⟩)

theorem validH_iff {g : Graph ι F C} {h : List ι} : ValidH g h ↔
    h.Nodup ∧ (∀ i, i ∈ h → i ∈ g.steps) ∧ (∀ x i y, h = x ++ i :: y → Enabled g y i) := by
  constructor
  · intro hv
    refine ⟨hv.nodup, hv.mem_steps, fun x i y e => ?_⟩
    subst e
    exact hv.suffix.2.2.1
  · induction h with
    | nil => exact fun _ => trivial
    | cons k h ih =>
      intro ⟨hn, hm, hp⟩
      have hn' := List.nodup_cons.1 hn
      exact ⟨hm k List.mem_cons_self, hn'.1, hp [] k h rfl,
        ih ⟨hn'.2, fun i hi => hm i (List.mem_cons_of_mem _ hi), fun x i y e => hp (k :: x) i y (by rw [e]; rfl)⟩⟩

theorem exec_some {s : Step F C} {σ σ' : FS F C} (h : exec s σ = some σ') :
    ∃ w, s.act (s.reads.map σ) = some w ∧ σ' = fun f => if f ∈ s.outs then some (w f) else σ f := by
  unfold exec at h
  split at h
  · cases h
  · next w hw => exact ⟨w, hw, (Option.some.inj h).symm⟩

theorem exec_of_act {s : Step F C} {σ : FS F C} {w : F → C} (h : s.act (s.reads.map σ) = some w) :
    exec s σ = some (fun f => if f ∈ s.outs then some (w f) else σ f) := by
  unfold exec
  rw [h]

theorem reads_congr {s : Step F C} {σ₁ σ₂ : FS F C} (h : ∀ f, f ∈ s.reads → σ₁ f = σ₂ f) :
    s.reads.map σ₁ = s.reads.map σ₂ := List.map_congr_left h

theorem mem_outsOf {g : Graph ι F C} {h : List ι} {f : F} : f ∈ outsOf g h ↔ ∃ j, j ∈ h ∧ f ∈ (g.step j).outs := by
  unfold outsOf
  exact List.mem_flatMap

theorem mem_outsOf_cons {g : Graph ι F C} {i : ι} {h : List ι} {f : F} :
    f ∈ outsOf g (i :: h) ↔ f ∈ (g.step i).outs ∨ f ∈ outsOf g h := by
  unfold outsOf
  rw [List.flatMap_cons, List.mem_append]

theorem runH_frame {g : Graph ι F C} {init : FS F C} : ∀ {h : List ι} {st : FS F C}, runH g init h = some st →
    ∀ f, f ∉ outsOf g h → st f = init f
  | [], st, hr, f, _ => by
    simp only [runH, Option.some.injEq] at hr
    rw [← hr]
  | i :: h, st, hr, f, hf => by
    simp only [runH] at hr
    rcases Option.bind_eq_some_iff.1 hr with ⟨st', h1, h2⟩
    rcases exec_some h2 with ⟨w, _, rfl⟩
    rw [mem_outsOf_cons, not_or] at hf
    exact (if_neg hf.1).trans (runH_frame h1 f hf.2)

theorem runH_append {g : Graph ι F C} {init : FS F C} : ∀ (x y : List ι),
    runH g init (x ++ y) = (runH g init y).bind (fun s => runH g s x)
  | [], y => by simp [runH]
  | i :: x, y => by
    simp only [List.cons_append, runH]
    rw [runH_append x y]
    cases runH g init y <;> rfl

/-- what step `i` finds in its hermetic replay directory: the reference content of every path produced by one of its
    declared ancestors, the initial content (source tree, configure-time files; nothing for generated paths in a clean
    build) everywhere else -/
noncomputable def view (g : Graph ι F C) (init ref : FS F C) (i : ι) : FS F C :=
  fun f => open Classical in if (∃ j, j ∈ g.steps ∧ f ∈ (g.step j).outs ∧ Anc g i j) then ref f else init f

/-- every step, replayed on `view`, succeeds and reproduces the reference content of its outputs -/
def ReplayOK (g : Graph ι F C) (init ref : FS F C) : Prop :=
  ∀ i, i ∈ g.steps → ∃ w, (g.step i).act ((g.step i).reads.map (view g init ref i)) = some w ∧
    ∀ f, f ∈ (g.step i).outs → ref f = some (w f)

/-- the reference differs from the initial state only on generated paths -/
def RefFrame (g : Graph ι F C) (init ref : FS F C) : Prop :=
  ∀ f, (∀ j, j ∈ g.steps → f ∉ (g.step j).outs) → ref f = init f

theorem view_of_anc {g : Graph ι F C} {init ref : FS F C} {i j : ι} {f : F} (hj : j ∈ g.steps)
    (hf : f ∈ (g.step j).outs) (ha : Anc g i j) : view g init ref i f = ref f := by
  unfold view
  exact if_pos ⟨j, hj, hf, ha⟩

theorem view_of_source {g : Graph ι F C} {init ref : FS F C} {i : ι} {f : F}
    (hf : ∀ j, j ∈ g.steps → f ∉ (g.step j).outs) : view g init ref i f = init f := by
  unfold view
  exact if_neg (fun ⟨j, hj, hm, _⟩ => hf j hj hm)

def Upto (g : Graph ι F C) (init ref : FS F C) (h : List ι) (st : FS F C) : Prop :=
  ∀ f, st f = if f ∈ outsOf g h then ref f else init f

/-- the one place where hermeticity is used: in a state that holds the reference content of what a valid history has
    written, a step that is enabled finds what its hermetic replay directory holds -/
theorem Upto.reads {g : Graph ι F C} {init ref st : FS F C} (hh : Hermetic g) {h : List ι} (hv : ValidH g h)
    (hst : Upto g init ref h st) {i : ι} (hi : i ∈ g.steps) (he : Enabled g h i) :
    (g.step i).reads.map st = (g.step i).reads.map (view g init ref i) := by
  apply reads_congr
  intro f hf
  rw [hst f]
  by_cases hex : ∃ j, j ∈ g.steps ∧ f ∈ (g.step j).outs
  · rcases hex with ⟨j, hj, hfj⟩
    have ha : Anc g i j := hh i hi f hf j hj hfj
    rw [view_of_anc hj hfj ha, if_pos (mem_outsOf.2 ⟨j, hv.enabled_anc he ha, hfj⟩)]
  · have hsrc : ∀ j, j ∈ g.steps → f ∉ (g.step j).outs := fun j hj hm => hex ⟨j, hj, hm⟩
    rw [view_of_source hsrc, if_neg]
    rintro m
    rcases mem_outsOf.1 m with ⟨j, hj, hm⟩
    exact hsrc j (hv.mem_steps j hj) hm

/-- the invariant behind everything: under hermeticity, after any valid history the generated paths written so far hold
    the reference content and everything else is untouched -/
theorem replay_invariant {g : Graph ι F C} {init ref : FS F C} (hh : Hermetic g) (hrep : ReplayOK g init ref) :
    ∀ {h : List ι}, ValidH g h → ∃ st, runH g init h = some st ∧ Upto g init ref h st
  | [], _ => ⟨init, rfl, fun f => by simp [outsOf]⟩
  | i :: h, hv => by
    rcases replay_invariant hh hrep hv.2.2.2 with ⟨st, hrun, hst⟩
    rcases hrep i hv.1 with ⟨w, hw, hout⟩
    rw [← hst.reads hh hv.2.2.2 hv.1 hv.2.2.1] at hw
    refine ⟨fun f => if f ∈ (g.step i).outs then some (w f) else st f, ?_, fun f => ?_⟩
    · rw [runH, hrun]
      exact exec_of_act hw
    · by_cases hfi : f ∈ (g.step i).outs
      · simp only [mem_outsOf_cons, hfi, true_or, if_true, hout f hfi]
      · simp only [mem_outsOf_cons, hfi, false_or, if_false, hst f]

/-- with single authorship, what the later steps `x` of a valid history write is disjoint from what the earlier ones wrote -/
theorem outsOf_disjoint {g : Graph ι F C} (hd : DisjointOuts g) {x y : List ι} (hv : ValidH g (x ++ y)) {f : F}
    (hy : f ∈ outsOf g y) : f ∉ outsOf g x := by
  intro hx
  rcases mem_outsOf.1 hy with ⟨j, hj, hfj⟩
  rcases mem_outsOf.1 hx with ⟨k, hk, hfk⟩
  have hkj : k ≠ j := fun e => (List.nodup_append.1 hv.nodup).2.2 k hk j hj e
  exact hd k (hv.mem_steps k (List.mem_append_left _ hk)) j (hv.mem_steps j (List.mem_append_right _ hj)) hkj f hfk hfj

/-- every intermediate state of a successful run holds the final content of what has been written so far -/
theorem runH_prefix {g : Graph ι F C} {init ref : FS F C} (hd : DisjointOuts g) {x y : List ι} (hv : ValidH g (x ++ y))
    (hrun : runH g init (x ++ y) = some ref) : ∃ st, runH g init y = some st ∧ Upto g init ref y st := by
  rw [runH_append] at hrun
  rcases Option.bind_eq_some_iff.1 hrun with ⟨st, hst, hx⟩
  refine ⟨st, hst, fun f => ?_⟩
  split
  · exact (runH_frame hx f (outsOf_disjoint hd hv ‹_›)).symm
  · exact runH_frame hst f ‹_›

/-- a successful complete run *is* a reference for which every hermetic replay succeeds -/
theorem run_gives_replayOK {g : Graph ι F C} {init ref : FS F C} (hd : DisjointOuts g) (hh : Hermetic g)
    {h : List ι} (hv : ValidH g h) (hc : ∀ i, i ∈ g.steps → i ∈ h) (hrun : runH g init h = some ref) :
    RefFrame g init ref ∧ ReplayOK g init ref := by
  constructor
  · intro f hsrc
    apply runH_frame hrun
    intro m
    rcases mem_outsOf.1 m with ⟨j, hj, hm⟩
    exact hsrc j (hv.mem_steps j hj) hm
  · intro i hi
    rcases List.append_of_mem (hc i hi) with ⟨x, y, rfl⟩
    have hvy : ValidH g (i :: y) := hv.suffix
    rcases runH_prefix hd hv hrun with ⟨sti, hsti, ui⟩
    rw [List.append_cons] at hv hrun
    rcases runH_prefix hd hv hrun with ⟨sty, hsty, uy⟩
    rw [runH, hsty] at hsti
    rcases exec_some hsti with ⟨w, hw, rfl⟩
    rw [uy.reads hh hvy.2.2.2 hi hvy.2.2.1] at hw
    refine ⟨w, hw, fun f hf => ?_⟩
    have := ui f
    simp only [mem_outsOf_cons, hf, true_or, if_true] at this
    exact this.symm

/-- from any valid complete history one can build another one in which `i` and its declared ancestors run first;
    in particular `i` runs before every step that is neither `i` nor one of its declared ancestors -/
theorem reorder_first {g : Graph ι F C} {h : List ι} (hv : ValidH g h) (hc : ∀ k, k ∈ g.steps → k ∈ h)
    {i j : ι} (hi : i ∈ g.steps) (hj : j ∈ g.steps) (hij : j ≠ i) (hna : ¬ Anc g i j) :
    ∃ x y, ValidH g (x ++ i :: y) ∧ (∀ k, k ∈ g.steps → k ∈ x ++ i :: y) ∧ j ∈ x ∧ (x ++ i :: y).Perm h := by
  classical
  let P : ι → Bool := fun k => decide (k = i ∨ Anc g i k)
  have hP : ∀ k m, P k = true → Pred g k m → P m = true := by
    intro k m hk hp
    simp only [P, decide_eq_true_eq] at hk ⊢
    rcases hk with rfl | hk
    · exact Or.inr (Anc.base hp)
    · exact Or.inr (Anc.tail hk hp)
  have hv' := ValidH.partition P hP hv
  have hiA : i ∈ h.filter P := List.mem_filter.2 ⟨hc i hi, by simp [P]⟩
  have hjB : j ∈ h.filter (fun k => !P k) := by
    refine List.mem_filter.2 ⟨hc j hj, ?_⟩
    simp only [P, Bool.not_eq_eq_eq_not, Bool.not_true, decide_eq_false_iff_not]
    rintro (e | e)
    · exact hij e
    · exact hna e
  have hperm := List.perm_append_comm.trans (List.filter_append_perm P h)
  rcases List.append_of_mem hiA with ⟨a1, a2, ha⟩
  rw [ha, ← List.append_assoc] at hv' hperm
  exact ⟨_, a2, hv', fun k hk => hperm.mem_iff.2 (hc k hk), List.mem_append_left _ hjB, hperm⟩

theorem map_overwrite {reads outs : List F} (w : F → C) (σ : FS F C) (h : ∀ f, f ∈ outs → f ∉ reads) :
    reads.map (fun f => if f ∈ outs then some (w f) else σ f) = reads.map σ :=
  List.map_congr_left (fun f hf => if_neg (fun m => h f m hf))

theorem exec_comm (s t : Step F C) (σ : FS F C) (h1 : ∀ f, f ∈ s.outs → f ∉ t.outs)
    (h2 : ∀ f, f ∈ s.outs → f ∉ t.reads) (h3 : ∀ f, f ∈ t.outs → f ∉ s.reads) :
    (exec s σ).bind (exec t) = (exec t σ).bind (exec s) := by
  have hs := fun w : F → C => map_overwrite w σ h3
  have ht := fun w : F → C => map_overwrite w σ h2
  cases hA : s.act (s.reads.map σ) with
  | none =>
    cases hB : t.act (t.reads.map σ) with
    | none => simp [exec, hA, hB]
    | some wt => simp [exec, hA, hB, hs]
  | some ws =>
    cases hB : t.act (t.reads.map σ) with
    | none => simp [exec, hA, hB, ht]
    | some wt =>
      simp only [exec, hA, hB, hs, ht, Option.bind_some, Option.some.injEq]
      funext f
      by_cases hfs : f ∈ s.outs
      · have : f ∉ t.outs := h1 f hfs
        simp [hfs, this]
      · simp [hfs]

/-- a batch whose members do not look at each other's outputs (all were enabled when the batch started, see
    `Props.C05.parallel_batch_eq_sequential`) gives what running them one after the other gives -/
theorem runBatchH_eq_runH {g : Graph ι F C} {snap : FS F C} : ∀ {b : List ι},
    (∀ i, i ∈ b → ∀ f, f ∈ (g.step i).reads → f ∉ outsOf g b) → runBatchH g snap b = runH g snap b
  | [], _ => rfl
  | i :: b, hb => by
    have hb' : ∀ k, k ∈ b → ∀ f, f ∈ (g.step k).reads → f ∉ outsOf g b := fun k hk f hf m =>
      hb k (List.mem_cons_of_mem _ hk) f hf (mem_outsOf_cons.2 (Or.inr m))
    simp only [runBatchH, runH, runBatchH_eq_runH hb']
    cases hr : runH g snap b with
    | none => rfl
    | some st =>
      simp only [Option.bind_some, execSnap, exec]
      have : (g.step i).reads.map snap = (g.step i).reads.map st := by
        apply reads_congr
        intro f hf
        exact (runH_frame hr f (fun m => hb i (List.mem_cons_self ..) f hf (mem_outsOf_cons.2 (Or.inr m)))).symm
      rw [this]

theorem producesAny_iff {outs ins : List F} : producesAny outs ins = true ↔ ∃ f, f ∈ ins ∧ f ∈ outs := by
  simp [producesAny]

theorem mem_predsB {g : Graph ι F C} {i j : ι} : j ∈ predsB g i ↔ Pred g i j := by
  unfold predsB Pred
  rw [List.mem_filter, producesAny_iff]

theorem enabledB_iff {g : Graph ι F C} {done : List ι} {i : ι} : enabledB g done i = true ↔ Enabled g done i := by
  unfold enabledB Enabled
  simp only [List.all_eq_true, decide_eq_true_eq]
  constructor
  · intro h j hj
    exact h j (mem_predsB.2 hj)
  · intro h j hj
    exact h j (mem_predsB.1 hj)

theorem validFromB_iff {g : Graph ι F C} (r done : List ι) :
    validFromB g done r = true ∧ ValidH g done ↔ ValidH g (r.reverse ++ done) := by
  fun_induction validFromB g done r with
  | case1 done => simp
  | case2 done i r ih =>
    rw [List.reverse_cons, List.append_assoc, List.singleton_append, ← ih]
    simp only [ValidH, Bool.and_eq_true, decide_eq_true_eq, Bool.not_eq_true', decide_eq_false_iff_not, enabledB_iff]
    exact ⟨fun ⟨⟨⟨⟨h1, h2⟩, h3⟩, h4⟩, hd⟩ => ⟨h4, h1, h2, h3, hd⟩, fun ⟨h4, h1, h2, h3, hd⟩ => ⟨⟨⟨⟨h1, h2⟩, h3⟩, h4⟩, hd⟩⟩

theorem validScheduleB_iff {g : Graph ι F C} (s : List ι) : validScheduleB g s = true ↔ Valid g s := by
  simpa [validScheduleB, Valid, ValidH] using validFromB_iff (g := g) s []

theorem completeB_iff {g : Graph ι F C} (s : List ι) : completeB g s = true ↔ Complete g s := by
  simp [completeB, Complete]

theorem ancLoop_sound {g : Graph ι F C} {i : ι} : ∀ (n : Nat) (todo seen : List ι),
    (∀ x, x ∈ todo → Anc g i x) → (∀ x, x ∈ seen → Anc g i x) → ∀ x, x ∈ ancLoop g n todo seen → Anc g i x
  | 0, _, _, _, hs => by simpa [ancLoop] using hs
  | _ + 1, [], _, _, hs => by simpa [ancLoop] using hs
  | n + 1, y :: todo, seen, ht, hs => by
    unfold ancLoop
    split
    · exact ancLoop_sound n todo seen (fun x hx => ht x (List.mem_cons_of_mem _ hx)) hs
    · apply ancLoop_sound n
      · intro x hx
        rcases List.mem_append.1 hx with hx | hx
        · exact Anc.tail (ht y (List.mem_cons_self ..)) (mem_predsB.1 hx)
        · exact ht x (List.mem_cons_of_mem _ hx)
      · intro x hx
        rcases List.mem_cons.1 hx with rfl | hx
        · exact ht _ (List.mem_cons_self ..)
        · exact hs x hx

theorem ancestorsB_sound {g : Graph ι F C} {i j : ι} (h : j ∈ ancestorsB g i) : Anc g i j := by
  unfold ancestorsB at h
  exact ancLoop_sound _ _ _ (fun x hx => Anc.base (mem_predsB.1 hx)) (fun x hx => by cases hx) j h

theorem anc_complete_of_closed {g : Graph ι F C} {i : ι} {A : List ι} (hc : ancClosedB g i A = true) {j : ι}
    (ha : Anc g i j) : j ∈ A := by
  unfold ancClosedB at hc
  simp only [List.all_eq_true, decide_eq_true_eq, List.mem_append, List.mem_flatMap] at hc
  induction ha with
  | base hp => exact hc _ (Or.inl (mem_predsB.2 hp))
  | tail _ hp ih => exact hc _ (Or.inr ⟨_, ih, mem_predsB.2 hp⟩)

end MesonModel.Graph
