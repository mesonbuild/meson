import MesonModel.Rewrite.SrcCommand
import MesonModel.Util.Sort
import MesonModel.Rewrite.CommandLemmas
/-
C17 — facts about the whole-command model of `target add / rm (extra) files` (SrcCommand.lean).
-/
namespace MesonModel.Rewrite

theorem isInsertionSort {α : Type} (lt : α → α → Bool) : IsInsertionSort (fun x y => !lt y x) (insertBy lt) (sortBy lt) :=
  ⟨fun _ => rfl, fun x y ys => by rw [insertBy]; cases lt y x <;> rfl, rfl, fun _ _ => rfl⟩

theorem sortBy_perm {α : Type} (lt : α → α → Bool) : ∀ l : List α, (sortBy lt l).Perm l := (isInsertionSort lt).perm

theorem mem_sortBy {α : Type} (lt : α → α → Bool) (y : α) (l : List α) : y ∈ sortBy lt l ↔ y ∈ l :=
  (sortBy_perm lt l).mem_iff

theorem removeFirst_eq {α : Type} (p : α → Bool) (l : List α) : removeFirst p l = (l.eraseP p, l.any p) := by
  induction l with
  | nil => rfl
  | cons x xs ih =>
    unfold removeFirst
    cases hp : p x <;> simp [hp, ih]

theorem removeFirst_subset {α : Type} (p : α → Bool) (l : List α) (x : α) (h : x ∈ (removeFirst p l).1) : x ∈ l := by
  rw [removeFirst_eq] at h
  exact List.mem_of_mem_eraseP h

theorem removeFirst_keeps {α : Type} (p : α → Bool) (l : List α) (x : α) (h : x ∈ l) (hx : p x = false) :
    x ∈ (removeFirst p l).1 := by
  rw [removeFirst_eq]
  exact (List.mem_eraseP_of_neg (by simp [hx])).mpr h

/-- the only element that satisfies `p` is the one `eraseP` takes -/
theorem perm_cons_eraseP {α : Type} (p : α → Bool) {l : List α} {e : α} (hin : e ∈ l) (he : p e = true)
    (huniq : ∀ y ∈ l, p y = true → y = e) : l.Perm (e :: l.eraseP p) := by
  obtain ⟨a, l₁, l₂, _, ha, hl, hE⟩ := List.exists_of_eraseP hin he
  obtain rfl : a = e := huniq a (by simp [hl]) ha
  rw [hE, hl]
  exact List.perm_middle

/-- add, then remove: a file that matched nothing before is the one that goes again, wherever the sort step put it -/
theorem add_then_rm_core {α : Type} (p : α → Bool) {S l : List α} {e : α} (hl : l.Perm (S ++ [e]))
    (hnew : ∀ y ∈ S, p y = false) (he : p e = true) : l.any p = true ∧ (l.eraseP p).Perm S := by
  have hin : e ∈ l := hl.mem_iff.mpr (by simp)
  refine ⟨List.any_eq_true.mpr ⟨e, hin, he⟩, ?_⟩
  have h := perm_cons_eraseP p hin he fun y hy hpy => by
    rcases List.mem_append.mp (hl.mem_iff.mp hy) with hS | h1
    · simp [hnew y hS] at hpy
    · simpa using h1
  exact (h.symm.trans (hl.trans (List.perm_append_singleton e S))).cons_inv

/-- remove, then add again: a file the list holds once leaves nothing behind that matches, and putting it back gives
the list again -/
theorem rm_then_add_core {α : Type} (p : α → Bool) (S : List α) (e : α)
    (hnd : S.Nodup) (hin : e ∈ S) (he : p e = true) (huniq : ∀ y ∈ S, p y = true → y = e) :
    (∀ y ∈ S.eraseP p, p y = false) ∧ (S.eraseP p ++ [e]).Perm S := by
  have h := perm_cons_eraseP p hin he huniq
  refine ⟨fun y hy => Bool.eq_false_iff.mpr fun hpy => ?_, (List.perm_append_singleton e _).trans h.symm⟩
  obtain rfl := huniq y (List.mem_of_mem_eraseP hy) hpy
  exact (List.nodup_cons.mp (h.nodup_iff.mp hnd)).1 hy

theorem posPart_kwOnly : ∀ items : Items, items.kwOnly.posPart = []
  | .nil => rfl
  | .pos _ r => by simp [Items.kwOnly, posPart_kwOnly r]
  | .kw _ _ r => by simp [Items.kwOnly, Items.posPart, posPart_kwOnly r]

theorem kwPart_kwOnly : ∀ items : Items, items.kwOnly.kwPart = items.kwPart
  | .nil => rfl
  | .pos _ r => by simp [Items.kwOnly, Items.kwPart, kwPart_kwOnly r]
  | .kw _ _ r => by simp [Items.kwOnly, Items.kwPart, kwPart_kwOnly r]

theorem posPart_relist (l : List Expr) (items : Items) : ((itemsOfList l).append items.kwOnly).posPart = l := by
  simp [posPart_append, posPart_itemsOfList, posPart_kwOnly]

theorem kwPart_relist (l : List Expr) (items : Items) : ((itemsOfList l).append items.kwOnly).kwPart = items.kwPart := by
  simp [kwPart_append, kwPart_itemsOfList, kwPart_kwOnly]

/-- a list of file-name literals only: the sort step is `sorted(…)` of the whole list -/
theorem sortArgs_plain_allStr (l : List Expr) (h : ∀ e ∈ l, e.isStr = true) : sortArgs false l = sortBy srcLt l := by
  have h1 : l.filter (fun e => !e.isStr) = [] := List.filter_eq_nil_iff.mpr (fun e he => by simp [h e he])
  have h2 : l.filter (fun e => e.isStr) = l := List.filter_eq_self.mpr (fun e he => h e he)
  simp [sortArgs, h1, h2]

theorem posPart_relist_sorted (l : List Expr) (items : Items) (h : ∀ e ∈ l, e.isStr = true) :
    ((itemsOfList (sortArgs false l)).append items.kwOnly).posPart = sortBy srcLt l := by
  rw [posPart_relist, sortArgs_plain_allStr l h]

/-- the sort step only reorders -/
theorem sortArgs_perm (l : List Expr) : (sortArgs false l).Perm l := by
  simp only [sortArgs, Bool.false_eq_true, if_false, List.nil_append]
  exact (((sortBy_perm srcLt _).append_left _).trans List.perm_append_comm).trans (List.filter_append_perm _ l)

theorem plain_beq_newExtra : (ListKind.plain == ListKind.newExtra) = false := by decide
theorem plain_bne_plain : (ListKind.plain != ListKind.plain) = false := by decide

theorem editArgs_add_plain (root : List Char) (oldT files : List (List Char)) (items : Items) :
    editArgs root .plain oldT ⟨false, files⟩ items
      = some ((itemsOfList (sortArgs false (items.posPart ++ toAppend root oldT files))).append items.kwOnly) := by
  simp [editArgs, plain_beq_newExtra, plain_bne_plain]

theorem editArgs_rm_plain (root : List Char) (oldT files : List (List Char)) (items : Items) :
    editArgs root .plain oldT ⟨true, files⟩ items
      = if (rmAll root files items.posPart 0).2 = 0 then none
        else some ((itemsOfList (sortArgs false (rmAll root files items.posPart 0).1)).append items.kwOnly) := by
  simp [editArgs, plain_bne_plain]

/-- `add` of one file that is not yet a file of the target: its literal joins the list -/
theorem editArgs_add_one (root : List Char) (oldT : List (List Char)) (f : List Char) (items : Items)
    (hnew : alreadyThere root oldT f = false) :
    ∃ items', editArgs root .plain oldT ⟨false, [f]⟩ items = some items' ∧ items'.kwPart = items.kwPart ∧
      items'.posPart.Perm (items.posPart ++ [.str 0 (normpath f) false false]) := by
  refine ⟨_, editArgs_add_plain root oldT [f] items, kwPart_relist _ _, ?_⟩
  have hta : toAppend root oldT [f] = [.str 0 (normpath f) false false] := by
    simp [toAppend, sortedSet, insertSet, hnew]
  rw [posPart_relist, hta]
  exact sortArgs_perm _

/-- `rm` of one file that a literal of the list matches: the first such literal leaves the list -/
theorem editArgs_rm_one (root : List Char) (oldT : List (List Char)) (f : List Char) (items : Items)
    (h : items.posPart.any (srcMatches root f) = true) :
    ∃ items', editArgs root .plain oldT ⟨true, [f]⟩ items = some items' ∧ items'.kwPart = items.kwPart ∧
      items'.posPart.Perm (items.posPart.eraseP (srcMatches root f)) := by
  refine ⟨(itemsOfList (sortArgs false (items.posPart.eraseP (srcMatches root f)))).append items.kwOnly, ?_,
    kwPart_relist _ _, ?_⟩
  · simp [editArgs_rm_plain, rmAll, removeFirst_eq, h]
  · rw [posPart_relist]
    exact sortArgs_perm _

theorem mem_insertSet (x y : List Char) : ∀ l, y ∈ insertSet x l ↔ y = x ∨ y ∈ l := by
  intro l
  induction l with
  | nil => simp [insertSet]
  | cons z zs ih =>
    unfold insertSet
    by_cases h1 : x = z
    · simp [h1]
    · cases h2 : strLt x z <;> simp [h1, ih, or_left_comm]

/-- `sorted(set(…))` holds exactly the requested names -/
theorem mem_sortedSet (y : List Char) : ∀ l, y ∈ sortedSet l ↔ y ∈ l := by
  intro l
  induction l with
  | nil => simp [sortedSet]
  | cons x xs ih => simp [sortedSet, mem_insertSet, ih]

theorem mem_toAppend (root : List Char) (oldT files : List (List Char)) (e : Expr) :
    e ∈ toAppend root oldT files ↔ ∃ f ∈ files, alreadyThere root oldT f = false ∧ e = .str 0 (normpath f) false false := by
  unfold toAppend
  rw [List.mem_filterMap]
  constructor
  · rintro ⟨f, hf, h⟩
    cases ha : alreadyThere root oldT f with
    | true => rw [ha] at h; simp at h
    | false =>
      rw [ha] at h
      exact ⟨f, (mem_sortedSet f files).mp hf, ha, by simpa using h.symm⟩
  · rintro ⟨f, hf, ha, he⟩
    exact ⟨f, (mem_sortedSet f files).mpr hf, by simp [ha, he]⟩

theorem toAppend_isStr (root : List Char) (oldT files : List (List Char)) : ∀ e ∈ toAppend root oldT files, e.isStr = true := by
  intro e he
  obtain ⟨f, _, _, h⟩ := (mem_toAppend root oldT files e).mp he
  rw [h]; rfl

theorem rmAll_subset (root : List Char) : ∀ (files : List (List Char)) (args : List Expr) (n : Nat) (x : Expr),
    x ∈ (rmAll root files args n).1 → x ∈ args := by
  intro files
  induction files with
  | nil => intro args n x h; exact h
  | cons f fs ih =>
    intro args n x h
    unfold rmAll at h
    exact removeFirst_subset _ args x (ih _ _ x h)

theorem rmAll_keeps (root : List Char) : ∀ (files : List (List Char)) (args : List Expr) (n : Nat) (x : Expr),
    x ∈ args → (∀ f ∈ files, srcMatches root f x = false) → x ∈ (rmAll root files args n).1 := by
  intro files
  induction files with
  | nil => intro args n x h _; exact h
  | cons f fs ih =>
    intro args n x h hm
    unfold rmAll
    exact ih _ _ x (removeFirst_keeps _ args x h (hm f (by simp))) (fun g hg => hm g (by simp [hg]))

/-- is `root / f` a file of the target, said with the test `find_node` uses -/
theorem alreadyThere_eq_any (root f : List Char) (R : List Expr) (h : ∀ e ∈ R, e.isStr = true) :
    alreadyThere root (R.map Expr.strVal) f = R.any (srcMatches root f) := by
  rw [alreadyThere, List.contains_eq_any_beq, List.map_map, List.any_map, Bool.eq_iff_iff]
  simp only [List.any_eq_true]
  -- element by element the two tests are the same comparison, written the other way round
  refine exists_congr fun e => and_congr_right fun he => ?_
  simp only [srcMatches, stringMatches, h e he, Function.comp, Bool.true_and]
  rw [BEq.comm]

end MesonModel.Rewrite
