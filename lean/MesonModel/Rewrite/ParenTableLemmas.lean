import MesonModel.Rewrite.ParenTable
/-
C17 — where the printer itself emits parentheses (`maybe_parentheses`, the two operands of an `ArithmeticNode`)
it writes the text of the same operand as a `ParenthesizedNode`, and `erase` does not see the difference: on those
positions of the operator table the two trees are read back alike.
-/
namespace MesonModel.Rewrite

theorem parensLeft_paren (op : List Char) (k : Nat) (e : Expr) : parensLeft op (.paren k e) = false := by
  simp [parensLeft, Expr.isParen]

theorem parensRight_paren (op : List Char) (k : Nat) (e : Expr) : parensRight op (.paren k e) = false := by
  simp [parensRight, Expr.isParen]

/-- `maybe_parentheses` with `parens = True` writes what `visit_ParenthesizedNode` would -/
theorem pr_arith_parensLeft (lvl : Nat) (op t : List Char) (l r : Expr) (st : PS) (h : parensLeft op l = true) :
    pr (.arith lvl op t l r) st = pr (.arith lvl op t (.paren l.lvl l) r) st := by
  simp only [pr, h, parensLeft_paren, if_true, Bool.false_eq_true, if_false]

theorem pr_arith_parensRight (lvl : Nat) (op t : List Char) (l r : Expr) (st : PS) (h : parensRight op r = true) :
    pr (.arith lvl op t l r) st = pr (.arith lvl op t l (.paren r.lvl r)) st := by
  simp only [pr, h, parensRight_paren, if_true, Bool.false_eq_true, if_false]

theorem Inner.lvl_tree (i : Inner) : i.tree.lvl = 0 := by
  cases i with
  | bin o => cases o <;> rfl
  | _ => rfl

theorem astPrint_of_emitsParens (s : Slot) (i : Inner) (h : emitsParens s i = true) :
    astPrint (s.place i.tree) = astPrint (s.place (.paren 0 i.tree)) := by
  cases s with
  | left o =>
    obtain ⟨ho, hp⟩ := Bool.and_eq_true_iff.mp h
    simp only [astPrint, Slot.place, BinOp.mk, ho, if_true]
    rw [pr_arith_parensLeft _ _ _ _ _ _ hp, Inner.lvl_tree]
  | right o =>
    obtain ⟨ho, hp⟩ := Bool.and_eq_true_iff.mp h
    simp only [astPrint, Slot.place, BinOp.mk, ho, if_true]
    rw [pr_arith_parensRight _ _ _ _ _ _ hp, Inner.lvl_tree]
  | _ => exact absurd h (by simp [emitsParens])

theorem BinOp.erase_mk (o : BinOp) (l r : Expr) : (o.mk l r).erase = o.mk l.erase r.erase := by
  cases o <;> rfl

theorem erase_place_paren (s : Slot) (e : Expr) : (s.place (.paren 0 e)).erase = (s.place e).erase := by
  cases s <;> simp [Slot.place, BinOp.erase_mk, Expr.erase]

theorem readsBack_of_emitsParens (s : Slot) (i : Inner) (h : emitsParens s i = true) :
    readsBack (s.place i.tree) = readsBack (s.place (.paren 0 i.tree)) := by
  unfold readsBack
  rw [astPrint_of_emitsParens s i h, erase_place_paren]

end MesonModel.Rewrite
