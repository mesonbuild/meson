import MesonModel.Rewrite.StrLit
/-
C17 — reading back what `AstPrinter.escape` wrote, as a statement about the translate TABLE. A table with `tableOk tbl`
(decidable) turns every value `v` into `v.flatMap escUnit` (`escapeWith_eq_units_of_ok`); one with `tableBsOk tbl`
(backslash entry right, no entries besides backslash and quote) does so for every `v` without a quote. The literal
`'` ++ v.flatMap escUnit ++ `'` is one string token whose decoded value is `v` (`lexString_units`). Props/C17 puts the
two together (`escape_roundtrip_of_table`, `escape_roundtrip_partial`).
-/
namespace MesonModel.Rewrite

def bs : Char := '\\'
def qt : Char := '\''

/-- the backslash is doubled and nothing but backslash / quote is translated -/
def tableBsOk (tbl : List (Char × List Char)) : Bool :=
  tbl.lookup bs == some [bs, bs] && tbl.all (fun p => p.1 == bs || p.1 == qt)

/-- … and the quote is written as backslash-quote -/
def tableOk (tbl : List (Char × List Char)) : Bool :=
  tableBsOk tbl && tbl.lookup qt == some [bs, qt]

theorem lookup_none_of_all {tbl : List (Char × List Char)} {c : Char}
    (h : tbl.all (fun p => p.1 == bs || p.1 == qt) = true) (h1 : c ≠ bs) (h2 : c ≠ qt) :
    tbl.lookup c = none := by
  induction tbl with
  | nil => rfl
  | cons p t ih =>
    obtain ⟨k, v⟩ := p
    simp only [List.all_cons, Bool.and_eq_true, Bool.or_eq_true, beq_iff_eq] at h
    have hk : (c == k) = false := by
      rcases h.1 with h' | h' <;> simp [h', h1, h2]
    simp [List.lookup, hk, ih h.2]

theorem escapeChar_bs {tbl} (h : tableBsOk tbl = true) : escapeChar tbl bs = [bs, bs] := by
  simp only [tableBsOk, Bool.and_eq_true, beq_iff_eq] at h
  simp [escapeChar, h.1]

theorem escapeChar_other {tbl} (h : tableBsOk tbl = true) {c : Char} (h1 : c ≠ bs) (h2 : c ≠ qt) :
    escapeChar tbl c = [c] := by
  simp only [tableBsOk, Bool.and_eq_true, beq_iff_eq] at h
  simp [escapeChar, lookup_none_of_all h.2 h1 h2]

theorem escapeChar_qt {tbl} (h : tableOk tbl = true) : escapeChar tbl qt = [bs, qt] := by
  simp only [tableOk, Bool.and_eq_true, beq_iff_eq] at h
  simp [escapeChar, h.2]

/-- what a well-formed table makes of one character -/
def escUnit (c : Char) : List Char := if c = bs then [bs, bs] else if c = qt then [bs, qt] else [c]

theorem escapeChar_of_bsOk {tbl} (h : tableBsOk tbl = true) {c : Char} (hc : c ≠ qt) : escapeChar tbl c = escUnit c := by
  by_cases h1 : c = bs
  · subst h1
    simp [escUnit, escapeChar_bs h]
  · simp [escUnit, h1, hc, escapeChar_other h h1 hc]

theorem escapeChar_of_ok {tbl} (h : tableOk tbl = true) (c : Char) : escapeChar tbl c = escUnit c := by
  by_cases h2 : c = qt
  · subst h2
    rw [escapeChar_qt h]
    decide
  · simp only [tableOk, Bool.and_eq_true] at h
    exact escapeChar_of_bsOk h.1 h2

theorem escapeWith_eq_units {tbl} (v : List Char) (h : ∀ c ∈ v, escapeChar tbl c = escUnit c) :
    escapeWith tbl v = v.flatMap escUnit := by
  induction v with
  | nil => rfl
  | cons c t ih =>
    rw [escapeWith, List.flatMap_cons, List.flatMap_cons, h c List.mem_cons_self]
    exact congrArg _ (ih (fun d hd => h d (List.mem_cons_of_mem c hd)))

theorem escapeWith_eq_units_of_ok {tbl} (h : tableOk tbl = true) (v : List Char) :
    escapeWith tbl v = v.flatMap escUnit :=
  escapeWith_eq_units v (fun c _ => escapeChar_of_ok h c)

theorem escapeWith_eq_units_of_bsOk {tbl} (hb : tableBsOk tbl = true) (v : List Char) (hv : qt ∉ v) :
    escapeWith tbl v = v.flatMap escUnit :=
  escapeWith_eq_units v (fun _ hc => escapeChar_of_bsOk hb (fun e => hv (e ▸ hc)))

/-- scanning: a unit is taken whole -/
theorem scanStr_escUnit (c : Char) (x : List Char) :
    scanStr (escUnit c ++ x) = (scanStr x).map (fun p => (escUnit c ++ p.1, p.2)) := by
  unfold escUnit
  split
  · rw [scanStr.eq_def]
    simp [bs]
  · split
    · rw [scanStr.eq_def]
      simp [bs, qt]
    · rename_i h1 h2
      rw [scanStr.eq_def]
      simp [show c ≠ '\\' from h1, show c ≠ '\'' from h2]

/-- … so the token ends exactly at the closing quote that the printer appended -/
theorem scanStr_units (v rest : List Char) :
    scanStr (v.flatMap escUnit ++ '\'' :: rest) = some (v.flatMap escUnit, rest) := by
  induction v with
  | nil =>
    rw [scanStr.eq_def]
    simp
  | cons c t ih =>
    rw [List.flatMap_cons, List.append_assoc, scanStr_escUnit, ih]
    rfl

/-- decoding: a unit comes back as the character it was made from -/
theorem decodeF_escUnit (f : Nat) (c : Char) (x : List Char) :
    decodeF (f + 1) (escUnit c ++ x) = (decodeF f x).map (c :: ·) := by
  unfold escUnit
  split
  · rename_i h
    subst h
    simp [decodeF, escAt, isOct, singleEsc, bs]
  · split
    · rename_i h
      subst h
      simp [decodeF, escAt, isOct, singleEsc, bs, qt]
    · rename_i h1 _
      simp [decodeF, show c ≠ '\\' from h1]

theorem decodeF_units (v : List Char) : ∀ f, v.length ≤ f → decodeF f (v.flatMap escUnit) = some v := by
  induction v with
  | nil => intro f _; cases f <;> rfl
  | cons c t ih =>
    intro f hf
    obtain ⟨g, rfl⟩ : ∃ g, f = g + 1 := ⟨f - 1, by simp at hf; omega⟩
    rw [List.flatMap_cons, decodeF_escUnit, ih g (by simpa using hf)]
    rfl

theorem length_le_flatMap_escUnit (v : List Char) : v.length ≤ (v.flatMap escUnit).length := by
  induction v with
  | nil => exact Nat.le_refl _
  | cons c t ih =>
    have hc : 1 ≤ (escUnit c).length := by
      unfold escUnit
      split
      · decide
      · split <;> simp
    rw [List.flatMap_cons, List.length_append, List.length_cons]
    omega

/-- the printed literal of `v` reads back as `v`, given what `escape` made of `v` is `v.flatMap escUnit` -/
theorem lexString_units (v : List Char) :
    lexString ('\'' :: (v.flatMap escUnit ++ ['\''])) = some v := by
  simp only [lexString, scanStr_units v [], decodeEscapes]
  exact decodeF_units v _ (length_le_flatMap_escUnit v)

end MesonModel.Rewrite
