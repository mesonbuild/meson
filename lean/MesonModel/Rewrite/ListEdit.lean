/-
C17 — list-valued keyword edits of `mesonbuild/rewriter.py`:
`MTypeList._remove_helper` (the loop behind `remove` / `remove_regex`), `MTypeList.add_value`, and the
key matching `process_default_options` builds on it (`remove_regex` with the pattern `<key>=.*`,
matched FROM THE START of the element by `re.match`). General regular expressions are not modelled;
the `<key>=.*` pattern is, for keys without regex metacharacters: `re.match(k + '=.*', e)` holds exactly
when `e` starts with `k` followed by `=` (`.*` matches any rest, and an element holds no newline here).
-/
namespace MesonModel.Rewrite

/-- `_remove_helper`: `for i in arguments: if not check_remove_node(i): removed_list += [i]` -/
def removeLoop {α : Type} (hit : α → Bool) : List α → List α → List α
  | acc, [] => acc
  | acc, i :: rest => if !hit i then removeLoop hit (acc ++ [i]) rest else removeLoop hit acc rest

def removeHelper {α : Type} (hit : α → Bool) (l : List α) : List α := removeLoop hit [] l

/-- `remove_value`: `equal_func(i, j)` for some requested `j` -/
def removeEqual (vals l : List (List Char)) : List (List Char) := removeHelper (fun e => vals.contains e) l

/-- `re.match(key + '=.*', e)` for a metacharacter-free key -/
def keyMatches (key e : List Char) : Bool := (key ++ ['=']).isPrefixOf e

/-- first half of `process_default_options`: `remove_regex` with `[f'{x}=.*' for x in options]` -/
def defaultOptionsDelete (keys : List (List Char)) (l : List (List Char)) : List (List Char) :=
  removeHelper (fun e => keys.any (fun k => keyMatches k e)) l

/-- second half for `set`: `add` of `f'{key}={val}'` for the sorted keys (`kvs` already sorted, values as validated) -/
def defaultOptionsSet (kvs : List (List Char × List Char)) (l : List (List Char)) : List (List Char) :=
  defaultOptionsDelete (kvs.map (·.1)) l ++ kvs.map (fun kv => kv.1 ++ '=' :: kv.2)

/-- `add_value` -/
def addValues (vals l : List (List Char)) : List (List Char) := l ++ vals

theorem removeLoop_eq_filter {α : Type} (hit : α → Bool) (l : List α) :
    ∀ acc, removeLoop hit acc l = acc ++ l.filter (fun i => !hit i) := by
  induction l with
  | nil => intro acc; simp [removeLoop]
  | cons i t ih =>
    intro acc
    cases h : hit i <;> simp [removeLoop, h, ih]

theorem removeHelper_eq_filter {α : Type} (hit : α → Bool) (l : List α) :
    removeHelper hit l = l.filter (fun i => !hit i) := by
  simp [removeHelper, removeLoop_eq_filter]

/-- the key is what stands before the first `=` -/
theorem takeWhile_key (k v : List Char) (hk : '=' ∉ k) : (k ++ '=' :: v).takeWhile (· != '=') = k := by
  have hp : ∀ a ∈ k, (a != '=') = true := fun a ha => bne_iff_ne.mpr fun e => hk (e ▸ ha)
  rw [List.takeWhile_append_of_pos hp, List.takeWhile_cons_of_neg (by simp), List.append_nil]

theorem keyMatches_own_key_only (k k' v : List Char) (hk : '=' ∉ k) (hk' : '=' ∉ k') :
    keyMatches k (k' ++ '=' :: v) = true → k = k' := by
  intro h
  obtain ⟨w, hw⟩ := List.isPrefixOf_iff_prefix.mp h
  have := congrArg (List.takeWhile (· != '=')) hw
  rwa [List.append_assoc, List.singleton_append, takeWhile_key k w hk, takeWhile_key k' v hk'] at this

theorem keyMatches_self (k v : List Char) : keyMatches k (k ++ '=' :: v) = true := by
  rw [keyMatches, List.isPrefixOf_iff_prefix]
  exact ⟨v, by simp⟩

theorem keyMatches_entry (k k' v : List Char) (hk : '=' ∉ k) (hk' : '=' ∉ k') :
    keyMatches k (k' ++ '=' :: v) = (k' == k) := by
  by_cases h : k = k'
  · subst h
    rw [keyMatches_self, BEq.rfl]
  · rw [beq_eq_false_iff_ne.mpr (Ne.symm h), Bool.eq_false_iff]
    exact fun hh => h (keyMatches_own_key_only k k' v hk hk' hh)

theorem keyMatches_no_equals (k e : List Char) (he : '=' ∉ e) : keyMatches k e = false := by
  rw [Bool.eq_false_iff, ne_eq, keyMatches, List.isPrefixOf_iff_prefix]
  exact fun h => he (h.subset (by simp))

end MesonModel.Rewrite
