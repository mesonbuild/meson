import MesonModel.Rewrite.Command
/-
C17 — facts about the whole-command model of `kwargs set / delete` (Command.lean): the keyword dictionary after the
command, what stays of the argument list, and the text of the file around the re-printed node.
-/
namespace MesonModel.Rewrite

theorem dictHas_eq (d : KwDict) (k : List Char) : dictHas d k = (dictGet d k).isSome := by
  induction d with
  | nil => rfl
  | cons p t ih => cases hp : (p.1 == k) <;> simp [dictHas, dictGet, hp, ih]

theorem dictGet_append (k : List Char) (a b : KwDict) : dictGet (a ++ b) k = (dictGet a k).or (dictGet b k) := by
  induction a with
  | nil => rfl
  | cons p t ih => cases hp : (p.1 == k) <;> simp [dictGet, hp, ih]

theorem dictGet_replace (d : KwDict) (k k' : List Char) (v : Expr) :
    dictGet (dictReplace d k v) k' = if k' = k then (dictGet d k).map (fun _ => v) else dictGet d k' := by
  induction d with
  | nil => simp [dictReplace, dictGet]
  | cons p t ih =>
    by_cases hk : k' = k
    · subst hk
      cases hp : (p.1 == k') <;> simp_all [dictReplace, dictGet]
    · cases hp : (p.1 == k)
      · simp [dictReplace, dictGet, hp, ih, hk]
      · obtain rfl : p.1 = k := eq_of_beq hp
        simp [dictReplace, dictGet, ih, hk, Ne.symm hk]

theorem dictGet_dictDel (d : KwDict) (k k' : List Char) :
    dictGet (dictDel d k) k' = if k' = k then none else dictGet d k' := by
  induction d with
  | nil => simp [dictDel, dictGet]
  | cons p t ih =>
    by_cases hk : k' = k
    · subst hk
      cases hp : (p.1 == k') <;> simp_all [dictDel, dictGet]
    · cases hp : (p.1 == k)
      · simp [dictDel, dictGet, hp, ih, hk]
      · obtain rfl : p.1 = k := eq_of_beq hp
        simp [dictDel, dictGet, ih, hk, Ne.symm hk]

theorem dictGet_dictSet (d : KwDict) (k k' : List Char) (v : Expr) :
    dictGet (dictSet d k v) k' = if k' = k then some v else dictGet d k' := by
  unfold dictSet
  rw [dictHas_eq]
  by_cases hk : k' = k
  · subst hk
    cases h : dictGet d k' <;> simp [dictGet_replace, dictGet_append, dictGet, h]
  · cases dictGet d k <;> simp [dictGet_replace, dictGet_append, dictGet, hk, Ne.symm hk]

theorem dictDel_of_not_has (k : List Char) (d : KwDict) (h : dictHas d k = false) : dictDel d k = d := by
  induction d with
  | nil => rfl
  | cons p t ih => cases hp : (p.1 == k) <;> simp_all [dictHas, dictDel]

theorem dictDel_append (k : List Char) (a b : KwDict) : dictDel (a ++ b) k = dictDel a k ++ dictDel b k := by
  induction a with
  | nil => rfl
  | cons p t ih => cases hp : (p.1 == k) <;> simp [dictDel, hp, ih]

theorem dictDel_dictSet_new (d : KwDict) (k : List Char) (v : Expr) (h : dictHas d k = false) :
    dictDel (dictSet d k v) k = d := by
  unfold dictSet
  rw [if_neg (by simp [h]), dictDel_append, dictDel_of_not_has k d h]
  simp [dictDel]

theorem editDict_other (del : Bool) (k' : List Char) : ∀ (kvs : List (List Char × NewVal)) (d : KwDict) (n : Nat),
    (∀ kv ∈ kvs, kv.1 ≠ k') → dictGet (editDict del kvs d n).1 k' = dictGet d k' := by
  intro kvs
  induction kvs with
  | nil => intro d n _; rfl
  | cons kv r ih =>
    intro d n h
    have hk : k' ≠ kv.1 := fun e => h kv List.mem_cons_self e.symm
    have hr : ∀ kv ∈ r, kv.1 ≠ k' := fun x hx => h x (List.mem_cons_of_mem _ hx)
    unfold editDict
    split
    · split
      · rw [ih _ _ hr, dictGet_dictDel, if_neg hk]
      · exact ih _ _ hr
    · rw [ih _ _ hr, dictGet_dictSet, if_neg hk]

theorem mem_insertKv (kv x : List Char × NewVal) : ∀ l, x ∈ insertKv kv l ↔ x = kv ∨ x ∈ l := by
  intro l
  induction l with
  | nil => simp [insertKv]
  | cons y ys ih =>
    unfold insertKv
    cases strLt kv.1 y.1 <;> simp [ih, or_left_comm]

theorem mem_sortKvs (x : List Char × NewVal) : ∀ l, x ∈ sortKvs l ↔ x ∈ l := by
  intro l
  induction l with
  | nil => simp [sortKvs]
  | cons y ys ih => simp [sortKvs, mem_insertKv, ih]

theorem posPart_append : ∀ (a b : Items), (a.append b).posPart = a.posPart ++ b.posPart
  | .nil, _ => rfl
  | .pos e r, b => by simp [Items.append, Items.posPart, posPart_append r b]
  | .kw k v r, b => by simp [Items.append, Items.posPart, posPart_append r b]

theorem kwPart_append : ∀ (a b : Items), (a.append b).kwPart = a.kwPart ++ b.kwPart
  | .nil, _ => rfl
  | .pos e r, b => by simp [Items.append, Items.kwPart, kwPart_append r b]
  | .kw k v r, b => by simp [Items.append, Items.kwPart, kwPart_append r b]

theorem posPart_itemsOfList (l : List Expr) : (itemsOfList l).posPart = l := by
  induction l with
  | nil => rfl
  | cons e r ih => simp [itemsOfList, Items.posPart, ih]

theorem kwPart_itemsOfList (l : List Expr) : (itemsOfList l).kwPart = [] := by
  induction l with
  | nil => rfl
  | cons e r ih => simp [itemsOfList, Items.kwPart, ih]

theorem posPart_kwItems (d : KwDict) : (kwItems d).posPart = [] := by
  induction d with
  | nil => rfl
  | cons p r ih =>
    obtain ⟨k, v⟩ := p
    simp [kwItems, Items.posPart, ih]

theorem kwPart_kwItems (d : KwDict) : (kwItems d).kwPart = d.map (fun p => (Expr.id p.2.lvl p.1, p.2)) := by
  induction d with
  | nil => rfl
  | cons p r ih =>
    obtain ⟨k, v⟩ := p
    simp [kwItems, Items.kwPart, ih]

theorem rebuild_posPart (items : Items) (d : KwDict) : (rebuild items d).posPart = items.posPart := by
  simp [rebuild, posPart_append, posPart_itemsOfList, posPart_kwItems]

/-- the keyword arguments are exactly the dictionary, in its order, under fresh `IdNode`s -/
theorem rebuild_kwPart (items : Items) (d : KwDict) :
    (rebuild items d).kwPart = d.map (fun p => (Expr.id p.2.lvl p.1, p.2)) := by
  simp [rebuild, kwPart_append, kwPart_itemsOfList, kwPart_kwItems]

theorem applyChanges_modify (raw : List Char) (sp : Span) (n' : Expr) (s e : Nat)
    (hs : startOf (lineOffsets raw) sp = .ok s) (he : endOf (lineOffsets raw) sp = .ok e) :
    applyChanges raw [⟨.modify, sp, .arrOrFunc, n'⟩] [] [] = .ok (raw.take s ++ newData n' ++ raw.drop e) := by
  simp [applyChanges, sortDesc, sortDescBy, insertDescBy, applyWork, removeNode, hs, he, splice, Work.str,
    bind, Except.bind, pure, Except.pure]

/-- a command that queues at most one node (`kwargs`, `target … add / rm`): nothing changes, or the text of the node's
span is replaced by the re-printed node — every character before `s` and from `e` on is what it was -/
theorem modify_local (raw : List Char) (sp : Span) (s e : Nat)
    (hs : startOf (lineOffsets raw) sp = .ok s) (he : endOf (lineOffsets raw) sp = .ok e) (edit : Option Expr) :
    let out : Except Err (List Char) := match edit with
      | none => .ok raw
      | some n' => applyChanges raw [⟨.modify, sp, .arrOrFunc, n'⟩] [] []
    (edit = none ∧ out = .ok raw) ∨ ∃ n', edit = some n' ∧ out = .ok (raw.take s ++ newData n' ++ raw.drop e) := by
  cases edit with
  | none => exact Or.inl ⟨rfl, rfl⟩
  | some n' => exact Or.inr ⟨n', rfl, applyChanges_modify raw sp n' s e hs he⟩

end MesonModel.Rewrite
