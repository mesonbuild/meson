import MesonModel.Rewrite.Splice
import MesonModel.Util.Sort
/-
C17 — locality of `raw[:start] + str + raw[end:]` and of a whole work list applied last-edit-first
with offsets of the ORIGINAL text.
-/
namespace MesonModel.Rewrite

/-- an edit: replace `[s, e)` by `r` -/
abbrev SpanEdit := Nat × Nat × List Char

/-- the loop of `apply_changes` on already computed offsets -/
def applySpans : List Char → List SpanEdit → List Char
  | raw, [] => raw
  | raw, (s, e, r) :: rest => applySpans (splice raw s e r) rest

/-- sorted by position descending and pairwise disjoint: every later edit ends before the earlier starts -/
def DescDisjoint : List SpanEdit → Prop
  | [] => True
  | (s, e, _) :: rest => s ≤ e ∧ (∀ x ∈ rest, x.2.1 ≤ s) ∧ DescDisjoint rest

/-- all untouched segments of `raw` in place, replacements in between (edits listed descending) -/
def simul : List Char → List SpanEdit → List Char
  | raw, [] => raw
  | raw, (s, e, r) :: rest => simul (raw.take s) rest ++ r ++ raw.drop e

theorem splice_parts (A B C r : List Char) :
    splice (A ++ B ++ C) A.length (A.length + B.length) r = A ++ r ++ C := by
  simp [splice, List.drop_append]

/-- the loop on `p ++ q`, all edits inside `p`: `q` stays behind, `p` gets the simultaneous replacement -/
theorem applySpans_append (edits : List SpanEdit) : ∀ (p q : List Char), DescDisjoint edits →
    (∀ x ∈ edits, x.2.1 ≤ p.length) → applySpans (p ++ q) edits = simul p edits ++ q := by
  induction edits with
  | nil => intros; rfl
  | cons x t ih =>
    intro p q hd hb
    obtain ⟨s, e, r⟩ := x
    obtain ⟨hse, hlt, hd'⟩ := hd
    have he : e ≤ p.length := hb (s, e, r) (by simp)
    have : splice (p ++ q) s e r = p.take s ++ (r ++ p.drop e ++ q) := by
      simp [splice, List.take_append_of_le_length (Nat.le_trans hse he), List.drop_append_of_le_length he]
    rw [applySpans, this, ih _ _ hd' (fun x hx => by
      have := hlt x hx
      simp [List.length_take]
      omega)]
    simp [simul]

theorem applySpans_eq_simul (edits : List SpanEdit) (raw : List Char) (hd : DescDisjoint edits)
    (hb : ∀ x ∈ edits, x.2.1 ≤ raw.length) : applySpans raw edits = simul raw edits := by
  simpa using applySpans_append edits raw [] hd hb

theorem simul_suffix (raw : List Char) (s e : Nat) (r : List Char) (rest : List SpanEdit) :
    ∃ pre, simul raw ((s, e, r) :: rest) = pre ++ raw.drop e := ⟨_, rfl⟩

/-- nothing before the first edit moves -/
theorem simul_eq_take_append (edits : List SpanEdit) : ∀ (raw : List Char) (p : Nat), (∀ x ∈ edits, p ≤ x.1) →
    ∃ suf, simul raw edits = raw.take p ++ suf := by
  induction edits with
  | nil => exact fun raw p _ => ⟨raw.drop p, (List.take_append_drop p raw).symm⟩
  | cons x t ih =>
    intro raw p hb
    obtain ⟨suf, h⟩ := ih (raw.take x.1) p (fun y hy => hb y (by simp [hy]))
    rw [List.take_take, Nat.min_eq_left (hb x (by simp))] at h
    exact ⟨suf ++ x.2.2 ++ raw.drop x.2.1, by simp [simul, h]⟩

theorem simul_prefix (edits : List SpanEdit) (raw : List Char) (p : Nat) (hp : p ≤ raw.length)
    (hb : ∀ x ∈ edits, p ≤ x.1) : (simul raw edits).take p = raw.take p := by
  obtain ⟨suf, h⟩ := simul_eq_take_append edits raw p hb
  rw [h, List.take_left' (by simp [hp])]

/-- two disjoint edits: the later one first with the original offsets = the earlier one first and the later one shifted
by the length change -/
theorem two_edits_commute (A B C D E r1 r2 : List Char) :
    splice (splice (A ++ B ++ C ++ D ++ E) (A.length + B.length + C.length) (A.length + B.length + C.length + D.length) r1)
        A.length (A.length + B.length) r2
      = A ++ r2 ++ C ++ r1 ++ E ∧
    splice (splice (A ++ B ++ C ++ D ++ E) A.length (A.length + B.length) r2)
        (A.length + r2.length + C.length) (A.length + r2.length + C.length + D.length) r1
      = A ++ r2 ++ C ++ r1 ++ E := by
  constructor
  · have h1 := splice_parts (A ++ B ++ C) D E r1
    simp only [List.length_append] at h1
    rw [h1]
    simpa only [List.append_assoc] using splice_parts A B (C ++ r1 ++ E) r2
  · have h2 := splice_parts A B (C ++ D ++ E) r2
    have h1 := splice_parts (A ++ r2 ++ C) D E r1
    simp only [← List.append_assoc, List.length_append] at h1 h2
    rw [h2, h1]

/-- `a` lies strictly before `b` in the file -/
def posLt (a b : Work) : Prop :=
  a.span.line < b.span.line ∨ (a.span.line = b.span.line ∧ a.span.col < b.span.col)

theorem keyLtWith_full_iff (a b : Work) : keyLtWith true true a b = true ↔ posLt a b := by
  simp [keyLtWith, posLt]

theorem isInsertionSort_desc (lt : Work → Work → Bool) : IsInsertionSort (fun w x => !lt w x) (insertDescBy lt) (sortDescBy lt) :=
  ⟨fun _ => rfl, fun w x xs => by rw [insertDescBy]; cases lt w x <;> rfl, rfl, fun _ _ => rfl⟩

theorem sortDescBy_perm (lt : Work → Work → Bool) (ws : List Work) : (sortDescBy lt ws).Perm ws :=
  (isInsertionSort_desc lt).perm ws

theorem sortDescBy_sorted (ws : List Work) :
    (sortDescBy (keyLtWith true true) ws).Pairwise (fun a b => ¬ posLt a b) := by
  refine (isInsertionSort_desc _).pairwise (fun w x h => ?_) (fun w x h => ?_) (fun a b c => ?_) ws
  · rw [← keyLtWith_full_iff]
    simpa using h
  · have : posLt w x := by
      rw [← keyLtWith_full_iff]
      simpa using h
    unfold posLt at this ⊢
    omega
  · unfold posLt
    omega

/-! line offsets: `str.splitlines(True)` against the lexer's `'\n'`-only line counting -/

theorem lineLens_eq_nlLineLens (s : List Char)
    (plain : ∀ c ∈ s, isLineSep c = true → c = '\n') : lineLens s = nlLineLens s := by
  induction s with
  | nil => rfl
  | cons c t ih =>
    have hc := plain c (by simp)
    -- among the separators only `'\n'` occurs, so the `'\r'` branch is dead and the second test is the lexer's
    have hr : c ≠ '\r' := by
      rintro rfl
      exact absurd (hc (by decide)) (by decide)
    have hs : isLineSep c = true ↔ c = '\n' := ⟨hc, by
      rintro rfl
      decide⟩
    simp [lineLens, nlLineLens, ih (fun d hd => plain d (by simp [hd])), hr, hs]

theorem lineOffsets_eq_lexLineOffsets (s : List Char)
    (plain : ∀ c ∈ s, isLineSep c = true → c = '\n') : lineOffsets s = lexLineOffsets s := by
  simp [lineOffsets, lexLineOffsets, lineLens_eq_nlLineLens s plain]

end MesonModel.Rewrite
