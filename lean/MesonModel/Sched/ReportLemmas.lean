/-
Lemmas about the reporting state (`Report`): totals, log, exit status and `collected_failures` for every sequence
of processed results and every point at which `maxfail_reached` comes on; and the link to the scheduler model.
-/
import MesonModel.Sched.Report
import MesonModel.Sched.TraceLemmas

namespace MesonModel.Sched
open TestResult

theorem Tally.add_eq_some {t t' : Tally} {r : TestResult} :
    t.add r = some t' ↔ r.isFinished = true ∧ t.add! r = t' := by
  cases r <;> simp [Tally.add, Tally.add!, TestResult.isFinished]

/-- dropping pairs whose second component is zero does not change the sum of the second components -/
theorem sum_filter_pos (l : List (Nat × Nat)) (q : Nat × Nat → Bool) :
    ((l.filter fun p => decide (p.2 > 0) || q p).map (·.2)).sum = (l.map (·.2)).sum := by
  induction l with
  | nil => rfl
  | cons x xs ih =>
    rw [List.filter_cons]
    split
    · simp [ih]
    · rename_i hp
      have : x.2 = 0 := by
        simp at hp
        omega
      simp [ih, this]

theorem Tally.printedTotal_eq_total (t : Tally) : t.printedTotal = t.total := by
  unfold Tally.printedTotal Tally.summaryRows
  simp only [Bool.or_assoc]
  rw [sum_filter_pos _ fun p => decide (p.1 = 0) || decide (p.1 = 2)]
  simp [Tally.total]
  omega

theorem Tally.total_add! (t : Tally) {r : TestResult} (h : r.isFinished = true) :
    (t.add! r).total = t.total + 1 := by
  cases r
  case PENDING | RUNNING => cases h
  -- in each class the `+ 1` of the bumped counter moves to the end of the sum
  all_goals simp only [Tally.add!, Tally.add, Option.getD_some, Tally.total, Nat.add_right_comm _ 1, ← Nat.add_assoc]

theorem total_foldl (rs : List TestResult) (t : Tally) (h : ∀ r ∈ rs, r.isFinished = true) :
    (rs.foldl Tally.add! t).total = t.total + rs.length := by
  induction rs generalizing t with
  | nil => simp
  | cons r rs ih =>
    rw [List.foldl_cons, ih _ (fun x hx => h x (List.mem_cons_of_mem _ hx)),
      Tally.total_add! t (h r (List.mem_cons_self ..))]
    simp
    omega

theorem total_tallyOf (rs : List TestResult) (h : ∀ r ∈ rs, r.isFinished = true) :
    (tallyOf rs).total = rs.length := by
  rw [tallyOf, total_foldl rs _ h]
  simp [Tally.total]

theorem Report.apply_result {m : Nat} {h h1 : Report} {r : TestResult} (hs : h.apply m (.result r) = some h1) :
    r.isFinished = true ∧ h1.tally = h.tally.add! r ∧ h1.logged = h.logged ++ [r] ∧
    h1.collected = (if isBadResult h.maxfailReached r then h.collected ++ [r] else h.collected) ∧
    h1.maxfailReached = (h.maxfailReached || decide (m > 0 ∧ h1.tally.fail ≥ m ∧ r.isBad = true)) := by
  simp only [Report.apply, Report.process] at hs
  cases hadd : h.tally.add r with
  | none =>
    rw [hadd] at hs
    simp at hs
  | some t =>
    rw [hadd] at hs
    obtain ⟨hf, ht⟩ := Tally.add_eq_some.mp hadd
    simp only [Option.map_some, Option.some.injEq] at hs
    subst hs
    unfold Report.afterResult
    by_cases hc : m > 0 ∧ t.fail ≥ m ∧ r.isBad = true
    · simp [hc, hf, ht]
    · simp [hc, hf, ht]

theorem Report.apply_reach {m : Nat} {h h1 : Report} (hs : h.apply m .reach = some h1) :
    h1 = { h with maxfailReached := true } := by
  simp only [Report.apply, Option.some.injEq] at hs
  exact hs.symm

theorem Report.apply_result_total (m : Nat) (h : Report) {r : TestResult} (hf : r.isFinished = true) :
    ∃ h1, h.apply m (.result r) = some h1 := by
  simp [Report.apply, Report.process, Tally.add_eq_some.mpr ⟨hf, rfl⟩]

theorem Report.run_append (m : Nat) (h : Report) (a b : List ROp) :
    Report.run m h (a ++ b) = (Report.run m h a).bind (fun h1 => Report.run m h1 b) := by
  induction a generalizing h with
  | nil => simp [Report.run]
  | cons x xs ih =>
    simp only [List.cons_append, Report.run]
    cases h.apply m x with
    | none => simp
    | some h1 => simp [ih]

theorem Report.run_cons {m : Nat} {h h' : Report} {op : ROp} {ops : List ROp} :
    Report.run m h (op :: ops) = some h' ↔ ∃ h1, h.apply m op = some h1 ∧ Report.run m h1 ops = some h' := by
  simp only [Report.run]
  cases h.apply m op <;> simp

theorem ropResults_append (a b : List ROp) : ropResults (a ++ b) = ropResults a ++ ropResults b := by
  induction a with
  | nil => rfl
  | cons x xs ih => cases x <;> simp [ropResults, ih]

theorem ropResults_map (rs : List TestResult) : ropResults (rs.map .result) = rs := by
  induction rs with
  | nil => rfl
  | cons r rs ih => simp [ropResults, ih]

theorem Report.run_tally {m : Nat} {ops : List ROp} {h h' : Report} (hr : Report.run m h ops = some h') :
    (∀ r ∈ ropResults ops, r.isFinished = true) ∧
    h'.tally = (ropResults ops).foldl Tally.add! h.tally ∧
    h'.logged = h.logged ++ ropResults ops := by
  induction ops generalizing h with
  | nil =>
    simp only [Report.run, Option.some.injEq] at hr
    subst hr
    simp [ropResults]
  | cons op ops ih =>
    replace hr := Report.run_cons.mp hr
    obtain ⟨h1, ha, hr⟩ := hr
    obtain ⟨f, t, l⟩ := ih hr
    cases op with
    | result r =>
      obtain ⟨hf, ht, hl, _, _⟩ := Report.apply_result ha
      refine ⟨?_, ?_, ?_⟩
      · intro x hx
        simp only [ropResults, List.mem_cons] at hx
        rcases hx with e | e
        · subst e
          exact hf
        · exact f x e
      · simp [ropResults, t, ht]
      · simp [ropResults, l, hl]
    | reach =>
      have := Report.apply_reach ha
      subst this
      exact ⟨by simpa [ropResults] using f, by simpa [ropResults] using t, by simpa [ropResults] using l⟩

theorem Report.run_total (m : Nat) (ops : List ROp) (h : Report) (hf : ∀ r ∈ ropResults ops, r.isFinished = true) :
    ∃ h', Report.run m h ops = some h' := by
  induction ops generalizing h with
  | nil => exact ⟨h, rfl⟩
  | cons op ops ih =>
    cases op with
    | result r =>
      obtain ⟨h1, e⟩ := Report.apply_result_total m h (hf r (List.mem_cons_self ..))
      obtain ⟨h2, e2⟩ := ih h1 fun x hx => hf x (List.mem_cons_of_mem _ hx)
      exact ⟨h2, Report.run_cons.mpr ⟨h1, e, e2⟩⟩
    | reach =>
      obtain ⟨h2, e2⟩ := ih { h with maxfailReached := true } hf
      exact ⟨h2, Report.run_cons.mpr ⟨_, rfl, e2⟩⟩

theorem isBadResult_bad {b : Bool} {r : TestResult} (h : isBadResult b r = true) : r.isBad = true := by
  simp only [isBadResult, Bool.and_eq_true] at h
  exact h.1

theorem isBadResult_of_bad_ne {b : Bool} {r : TestResult} (h : r.isBad = true) (hn : r ≠ INTERRUPT) :
    isBadResult b r = true := by
  cases r <;> simp_all [isBadResult, TestResult.isBad]

theorem isBadResult_false (r : TestResult) : isBadResult false r = r.isBad := by
  simp [isBadResult]

theorem Report.run_collected {m : Nat} {ops : List ROp} {h h' : Report} (hr : Report.run m h ops = some h') :
    ∃ l, h'.collected = h.collected ++ l ∧ (∀ r ∈ l, r ∈ ropResults ops ∧ r.isBad = true) ∧
      ∀ r ∈ ropResults ops, r.isBad = true → r ≠ INTERRUPT → r ∈ l := by
  induction ops generalizing h with
  | nil =>
    obtain rfl : h = h' := by simpa [Report.run] using hr
    exact ⟨[], by simp, by simp, by simp [ropResults]⟩
  | cons op ops ih =>
    obtain ⟨h1, ha, hr⟩ := Report.run_cons.mp hr
    obtain ⟨l, e, sub, sup⟩ := ih hr
    cases op with
    | reach =>
      obtain rfl := Report.apply_reach ha
      exact ⟨l, e, sub, sup⟩
    | result r0 =>
      obtain ⟨_, _, _, hc, _⟩ := Report.apply_result ha
      by_cases hb : isBadResult h.maxfailReached r0 = true
      · rw [if_pos hb] at hc
        refine ⟨r0 :: l, by rw [e, hc]; simp, ?_, ?_⟩
        · intro r hx
          rcases List.mem_cons.mp hx with rfl | hx
          · exact ⟨List.mem_cons_self .., isBadResult_bad hb⟩
          · exact ⟨List.mem_cons_of_mem _ (sub r hx).1, (sub r hx).2⟩
        · intro r hx hbad hn
          rcases List.mem_cons.mp hx with rfl | hx
          · exact List.mem_cons_self ..
          · exact List.mem_cons_of_mem _ (sup r hx hbad hn)
      · rw [if_neg hb] at hc
        refine ⟨l, by rw [e, hc], fun r hx => ⟨List.mem_cons_of_mem _ (sub r hx).1, (sub r hx).2⟩, ?_⟩
        intro r hx hbad hn
        rcases List.mem_cons.mp hx with rfl | hx
        · exact absurd (isBadResult_of_bad_ne hbad hn) hb
        · exact sup r hx hbad hn

/-- no `.reach` among the operations: as in `run_test`, the flag comes on only right after a bad result, which
is then in the list; so an empty list at the end means that no bad result was processed -/
theorem Report.run_results_collected {m : Nat} {rs : List TestResult} {h h' : Report}
    (hi : h.maxfailReached = true → h.collected ≠ [])
    (hr : Report.run m h (rs.map .result) = some h') (he : h'.collected = []) : ∀ r ∈ rs, r.isBad = false := by
  induction rs generalizing h with
  | nil => simp
  | cons r0 rs ih =>
    obtain ⟨h1, ha, hr⟩ := Report.run_cons.mp hr
    obtain ⟨_, _, _, hc, hfl⟩ := Report.apply_result ha
    obtain ⟨l, e, _⟩ := Report.run_collected hr
    -- the list only grows: it was empty before and after `r0`, so the flag was off and `r0` is not bad
    have e1 : h1.collected = [] := (List.append_eq_nil_iff.mp (e ▸ he)).1
    rw [hc] at e1
    split at e1
    · simp at e1
    · rename_i hb
      have hflag : h.maxfailReached = false := by
        cases hq : h.maxfailReached
        · rfl
        · exact absurd e1 (hi hq)
      have hb0 : r0.isBad = false := by simpa [hflag, isBadResult_false] using hb
      have hi1 : h1.maxfailReached = true → h1.collected ≠ [] := by
        intro hq
        simp [hfl, hflag, hb0] at hq
      simpa [hb0] using ih hi1 hr

/-- for every schedule: the scheduler state's counters and `maxfail_reached` are what the reporting state gets
when it is fed the processed results in order under the `run_test` rule -/
theorem Exec.report {c : Config} {tr : List Label} {s : State} (h : Exec c tr s) :
    ∃ rp, Report.run c.maxfail {} ((resultsOf tr).map .result) = some rp ∧
      rp.tally = s.tally ∧ rp.maxfailReached = s.maxfailReached ∧ rp.logged = resultsOf tr := by
  induction h with
  | nil => exact ⟨{}, rfl, rfl, rfl, rfl⟩
  | snoc hprev hs ih =>
    rename_i tr s l s'
    obtain ⟨rp, hrun, ht, hfl, hlg⟩ := ih
    have hc := step_counters hs
    rw [resultsOf_append, List.map_append, Report.run_append, hrun]
    simp only [Option.bind_some]
    cases l with
    | finish i r =>
      obtain ⟨hfin, htl, _, hfg⟩ := hc
      obtain ⟨h1, e1⟩ := Report.apply_result_total c.maxfail rp hfin
      obtain ⟨_, a2, a3, _, a5⟩ := Report.apply_result e1
      refine ⟨h1, by simp [resultsOf, Report.run, e1], ?_, ?_, ?_⟩
      · rw [a2, ht, htl]
      · rw [a5, a2, hfl, ht, hfg]
        rfl
      · rw [a3, hlg]
        simp [resultsOf]
    | _ =>
      obtain ⟨htl, _, hfg⟩ := hc
      exact ⟨rp, by simp [resultsOf, Report.run], by rw [ht, htl], by rw [hfl, hfg], by simp [resultsOf, hlg]⟩

theorem Exec.tally_eq {c : Config} {tr : List Label} {s : State} (h : Exec c tr s) :
    s.tally = tallyOf (resultsOf tr) := by
  obtain ⟨rp, hr, ht, _⟩ := h.report
  rw [← ht, (Report.run_tally hr).2.1, ropResults_map]
  rfl

theorem Exec.results_finished {c : Config} {tr : List Label} {s : State} (h : Exec c tr s) :
    ∀ r ∈ resultsOf tr, r.isFinished = true := by
  obtain ⟨rp, hr, _⟩ := h.report
  have := (Report.run_tally hr).1
  rwa [ropResults_map] at this

end MesonModel.Sched
