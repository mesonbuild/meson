/-
Tallies in closed form: one `add!` is seven conditional increments (`Tally.add!_eq`), a fold of them seven `countP`s
(`foldl_add!`); a bad result is counted under exactly one of `fail`, `unexpectedPass`, `timeout` (`countP_bad`), the
three counters of `total_failure_count`.
-/
import MesonModel.Sched.Classify

namespace MesonModel.Sched
open TestResult

/-- results counted under `fail_count` -/
def TestResult.countsAsFail : TestResult → Bool
  | FAIL | ERROR | INTERRUPT => true
  | _ => false

theorem completeBase_finished (ef : Bool) (r : TestResult) (h : r ≠ PENDING) : (completeBase ef r).isFinished = true := by
  cases ef <;> cases r <;> first | rfl | exact absurd rfl h

theorem Tally.add!_eq (t : Tally) (r : TestResult) :
    t.add! r =
      { ok := t.ok + (if r == OK then 1 else 0),
        expectedFail := t.expectedFail + (if r == EXPECTEDFAIL then 1 else 0),
        fail := t.fail + (if r.countsAsFail then 1 else 0),
        unexpectedPass := t.unexpectedPass + (if r == UNEXPECTEDPASS then 1 else 0),
        skip := t.skip + (if r == SKIP then 1 else 0),
        ignored := t.ignored + (if r == IGNORED then 1 else 0),
        timeout := t.timeout + (if r == TIMEOUT then 1 else 0) } := by
  cases r <;> rfl

theorem Tally.add!_fail (t : Tally) (r : TestResult) :
    (t.add! r).fail = t.fail + (if r.countsAsFail then 1 else 0) := by
  rw [Tally.add!_eq]

theorem Tally.add!_fail_ge (t : Tally) (r : TestResult) : t.fail ≤ (t.add! r).fail := by
  rw [Tally.add!_fail]
  exact Nat.le_add_right _ _

theorem countsAsFail_bad {r : TestResult} (h : r.countsAsFail = true) : r.isBad = true := by
  cases r <;> first | rfl | cases h

theorem foldl_add! (rs : List TestResult) (t : Tally) :
    rs.foldl Tally.add! t =
      { ok := t.ok + rs.countP (· == OK),
        expectedFail := t.expectedFail + rs.countP (· == EXPECTEDFAIL),
        fail := t.fail + rs.countP TestResult.countsAsFail,
        unexpectedPass := t.unexpectedPass + rs.countP (· == UNEXPECTEDPASS),
        skip := t.skip + rs.countP (· == SKIP),
        ignored := t.ignored + rs.countP (· == IGNORED),
        timeout := t.timeout + rs.countP (· == TIMEOUT) } := by
  induction rs generalizing t with
  | nil => rfl
  | cons r rs ih =>
    rw [List.foldl_cons, ih, Tally.add!_eq]
    simp only [List.countP_cons, Nat.add_assoc, Nat.add_comm (List.countP _ rs)]

theorem fail_tallyOf (rs : List TestResult) : (tallyOf rs).fail = rs.countP TestResult.countsAsFail := by
  rw [tallyOf, foldl_add!]
  exact Nat.zero_add _

theorem countP_bad (rs : List TestResult) :
    rs.countP TestResult.isBad =
      rs.countP TestResult.countsAsFail + rs.countP (· == UNEXPECTEDPASS) + rs.countP (· == TIMEOUT) := by
  induction rs with
  | nil => rfl
  | cons r rs ih =>
    -- a bad result is in exactly one of the three classes
    have : (if r.isBad then 1 else 0) =
        (if r.countsAsFail then 1 else 0) + (if r == UNEXPECTEDPASS then 1 else 0) + (if r == TIMEOUT then 1 else 0) := by
      cases r <;> rfl
    simp only [List.countP_cons, ih, this]
    omega

theorem totalFailures_tallyOf (rs : List TestResult) :
    (tallyOf rs).totalFailures = rs.countP TestResult.isBad := by
  rw [tallyOf, foldl_add!, countP_bad]
  simp [Tally.totalFailures]

end MesonModel.Sched
