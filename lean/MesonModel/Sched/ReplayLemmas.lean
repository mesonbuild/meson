/-
Soundness of the trace checker `replay` (driver command `trace`): an accepted event log is the observable
projection of a genuine execution of the transition system that ends with `_run_tests` returned.
-/
import MesonModel.Sched.Model

namespace MesonModel.Sched

def observe : List Label → List Event
  | [] => []
  | .acquireStart i :: tr => .start i :: observe tr
  | .finish i r :: tr => .result i r :: observe tr
  | _ :: tr => observe tr

theorem observe_append (a b : List Label) : observe (a ++ b) = observe a ++ observe b := by
  induction a with
  | nil => rfl
  | cons x xs ih => cases x <;> simp [observe, ih]

/-- a run between two arbitrary states, built from the front as the checker consumes its log (`Exec` starts at
`init c` and grows at the end); `Exec.append_path` puts one behind an execution -/
inductive Path (c : Config) : State → List Label → State → Prop where
  | nil (s : State) : Path c s [] s
  | cons {s s1 s2 : State} {l : Label} {ls : List Label} :
      step c s l = some s1 → Path c s1 ls s2 → Path c s (l :: ls) s2

theorem Path.trans {c : Config} {s s1 s2 : State} {a b : List Label} (h1 : Path c s a s1) (h2 : Path c s1 b s2) :
    Path c s (a ++ b) s2 := by
  induction h1 with
  | nil => simpa using h2
  | cons hs _ ih => exact .cons hs (ih h2)

theorem Path.single {c : Config} {s s' : State} {l : Label} (h : step c s l = some s') : Path c s [l] s' :=
  .cons h (.nil _)

theorem Exec.append_path {c : Config} {tr : List Label} {s s' : State} {ls : List Label}
    (h : Exec c tr s) (p : Path c s ls s') : Exec c (tr ++ ls) s' := by
  induction p generalizing tr with
  | nil => simpa using h
  | cons hs _ ih =>
    have := ih (h.snoc hs)
    simpa using this

/-- `s'` is reached from `s` by steps of which an observer sees exactly `evs` -/
def Obs (c : Config) (s : State) (evs : List Event) (s' : State) : Prop := ∃ ls, Path c s ls s' ∧ observe ls = evs

theorem Obs.refl (c : Config) (s : State) : Obs c s [] s := ⟨[], .nil _, rfl⟩

theorem Obs.trans {c : Config} {s s1 s2 : State} {a b : List Event} (h1 : Obs c s a s1) (h2 : Obs c s1 b s2) :
    Obs c s (a ++ b) s2 := by
  obtain ⟨la, pa, rfl⟩ := h1
  obtain ⟨lb, pb, rfl⟩ := h2
  exact ⟨la ++ lb, pa.trans pb, observe_append _ _⟩

theorem Obs.step {c : Config} {s s' : State} {l : Label} (h : step c s l = some s') : Obs c s (observe [l]) s' :=
  ⟨[l], .single h, rfl⟩

theorem mainStep_silent {c : Config} {s s' : State} (h : mainStep c s = some s') : Obs c s [] s' := by
  unfold mainStep at h
  split at h
  · rename_i s1 h1
    cases h
    exact Obs.step h1
  · split at h
    · rename_i s1 h1
      cases h
      exact Obs.step h1
    · split at h
      · rename_i s1 h1
        cases h
        exact Obs.step h1
      · exact Obs.step h

theorem skipAll_silent (c : Config) (s : State) (k : Nat) : Obs c s [] (skipAll c s k) := by
  induction k with
  | zero => exact .refl c s
  | succ k ih =>
    simp only [skipAll]
    split
    · rename_i s2 h2
      exact ih.trans (Obs.step h2)
    · exact ih

theorem advance_silent {c : Config} {i : Nat} (fuel : Nat) {s s' : State}
    (h : advanceUntilLaunched c i fuel s = some s') : Obs c s [] s' := by
  induction fuel generalizing s with
  | zero =>
    simp only [advanceUntilLaunched] at h
    split at h
    · cases h
    · cases h
      exact .refl c _
  | succ fuel ih =>
    simp only [advanceUntilLaunched] at h
    split at h
    · cases h
      exact .refl c _
    · split at h
      · rename_i s1 h1
        exact ((skipAll_silent c s c.n).trans (mainStep_silent h1)).trans (ih h)
      · cases h

theorem drain_silent (c : Config) (fuel : Nat) (s : State) : Obs c s [] (drain c fuel s) := by
  induction fuel generalizing s with
  | zero => exact .refl c s
  | succ fuel ih =>
    simp only [drain]
    split
    · rename_i s2 h2
      exact ((skipAll_silent c s c.n).trans (mainStep_silent h2)).trans (ih s2)
    · exact skipAll_silent c s c.n

theorem replayEvent_obs {c : Config} {s s' : State} {e : Event} (h : replayEvent c s e = .ok s') : Obs c s [e] s' := by
  cases e with
  | start i =>
    simp only [replayEvent] at h
    split at h
    · cases h
    · rename_i s1 h1
      split at h
      · rename_i s2 h2
        cases h
        exact (advance_silent _ h1).trans (Obs.step h2)
      · cases h
  | result i r =>
    simp only [replayEvent] at h
    split at h
    · rename_i s1 h1
      cases h
      exact Obs.step h1
    · cases h

theorem replay_go_obs {c : Config} (evs : List Event) {k : Nat} {s s' : State}
    (h : replay.go c k s evs = .ok s') : Obs c s evs s' ∧ s'.main = .finished := by
  induction evs generalizing k s with
  | nil =>
    simp only [replay.go] at h
    split at h
    · rename_i hm
      cases h
      exact ⟨drain_silent c (2 * c.n + 4) s, hm⟩
    · cases h
  | cons e es ih =>
    simp only [replay.go] at h
    split at h
    · rename_i s1 h1
      exact ⟨(replayEvent_obs h1).trans (ih h).1, (ih h).2⟩
    · cases h

theorem replay_sound {c : Config} {evs : List Event} {s : State} (h : replay c evs = .ok s) :
    ∃ tr, Exec c tr s ∧ observe tr = evs ∧ s.main = .finished := by
  obtain ⟨⟨ls, p, o⟩, hm⟩ := replay_go_obs evs h
  exact ⟨ls, by simpa using Exec.nil.append_path p, o, hm⟩

end MesonModel.Sched
