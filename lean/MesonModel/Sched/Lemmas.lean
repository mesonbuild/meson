/-
The transitions of the scheduler model by cases (`Step`), what a step can do to the status of one task (`Trans`),
the structural invariant with the serial discipline (`Inv`) and the semaphore accounting (`JobInv`).
-/
import MesonModel.Sched.Model

namespace MesonModel.Sched
open TestResult

theorem allTerminalBelow_iff (f : Nat → St) (k : Nat) :
    allTerminalBelow f k = true ↔ ∀ j, j < k → (f j).isTerminal = true := by
  induction k with
  | zero => simp [allTerminalBelow]
  | succ k ih => rw [allTerminalBelow, Bool.and_eq_true, ih, Nat.forall_lt_succ_right, and_comm]

theorem St.terminal_not_active {x : St} (h : x.isTerminal = true) : x.isActive = false := by
  cases x <;> simp_all [St.isTerminal, St.isActive]

theorem St.running_active {x : St} (h : x.isRunning = true) : x.isActive = true := by
  cases x <;> simp_all [St.isRunning, St.isActive]

theorem St.active_cases {x : St} (h : x.isActive = true) : x = .waiting ∨ x.isRunning = true := by
  cases x <;> simp_all [St.isRunning, St.isActive]

theorem St.not_terminal_cases (x : St) (h : x.isTerminal = false) : x = .notLaunched ∨ x.isActive = true := by
  cases x <;> simp_all [St.isTerminal, St.isActive]

@[simp] theorem cancelSt_notLaunched (x : St) : cancelSt x = .notLaunched ↔ x = .notLaunched := by
  cases x <;> simp [cancelSt]

theorem cancelSt_terminal (x : St) (h : x.isTerminal = true) : (cancelSt x).isTerminal = true := by
  cases x <;> simp_all [cancelSt, St.isTerminal]

theorem cancelSt_active (x : St) (h : (cancelSt x).isActive = true) : x.isActive = true := by
  cases x <;> simp_all [cancelSt, St.isActive]

@[simp] theorem cancelSt_running (x : St) : (cancelSt x).isRunning = x.isRunning := by
  cases x <;> simp [cancelSt, St.isRunning]

@[simp] theorem cancelSt_started (x : St) : (cancelSt x).started = x.started := by
  cases x <;> simp [cancelSt, St.started]

@[simp] theorem upd_same (f : Nat → St) (i : Nat) (v : St) : upd f i v i = v := by simp [upd]

theorem upd_ne (f : Nat → St) {i j : Nat} (v : St) (h : j ≠ i) : upd f i v j = f j := by simp [upd, h]

/-- the test of `run_test` after a result was processed; when it holds, everything is cancelled -/
def maxfailCut (c : Config) (s : State) (r : TestResult) : Bool :=
  decide (c.maxfail > 0 ∧ (s.tally.add! r).fail ≥ c.maxfail ∧ r.isBad = true)

/-- `cancel_all_tests()` when `b` holds -/
def cancelIf (b : Bool) (f : Nat → St) : Nat → St := fun j => if b then cancelSt (f j) else f j

@[simp] theorem cancelIf_false (f : Nat → St) : cancelIf false f = f := rfl

@[simp] theorem cancelIf_true (f : Nat → St) : cancelIf true f = fun j => cancelSt (f j) := rfl

theorem cancelIf_flag {α} (P : St → α) (hP : ∀ x, P (cancelSt x) = P x) (b : Bool) (f : Nat → St) (j : Nat) :
    P (cancelIf b f j) = P (f j) := by
  cases b
  · rfl
  · exact hP _

/-- the transitions of `step`, one constructor per label: the guard as hypotheses, then the successor state -/
inductive Step (c : Config) (s : State) : Label → State → Prop
  | launch (hm : s.main = .top) (hlt : s.next < c.n)
      (hall : c.isPar s.next = false → ∀ j, j < s.next → (s.st j).isTerminal = true) :
      Step c s .launch { s with st := upd s.st s.next .waiting, next := s.next + 1,
                                main := if c.isPar s.next then (if repeatFailed c s then .final else .top)
                                        else .waitSerial }
  | serialDone (hm : s.main = .waitSerial) (ht : (s.st (s.next - 1)).isTerminal = true) :
      Step c s .serialDone { s with main := if repeatFailed c s then .final else .top }
  | loopEnd (hm : s.main = .top) (hn : s.next = c.n) : Step c s .loopEnd { s with main := .final }
  | allDone (hm : s.main = .final) (hall : ∀ j, j < s.next → (s.st j).isTerminal = true) :
      Step c s .allDone { s with main := .finished }
  | acquireStart (i : Nat) (hw : s.st i = .waiting) (hsem : s.sem > 0) (hni : s.interrupted = false)
      (hnr : repeatFailed c s = false) :
      Step c s (.acquireStart i) { s with st := upd s.st i (.running false), sem := s.sem - 1 }
  | acquireSkip (i : Nat) (hw : s.st i = .waiting) (hsem : s.sem > 0)
      (hc : s.interrupted = true ∨ repeatFailed c s = true) :
      Step c s (.acquireSkip i) { s with st := upd s.st i .skipped }
  | finish (i : Nat) (r : TestResult) (creq : Bool) (hrun : s.st i = .running creq) (hfin : r.isFinished = true)
      (hreq : (r = INTERRUPT → creq = true) ∧ (creq = true → r = INTERRUPT ∨ r = TIMEOUT)) :
      Step c s (.finish i r) { s with tally := s.tally.add! r, sem := s.sem + 1,
                                      st := cancelIf (maxfailCut c s r) (upd s.st i (.done r)),
                                      interrupted := s.interrupted || maxfailCut c s r,
                                      maxfailReached := s.maxfailReached || maxfailCut c s r }

theorem Step.to_step {c : Config} {s s' : State} {l : Label} (h : Step c s l s') : step c s l = some s' := by
  cases h with
  | launch hm hlt hall =>
    cases hp : c.isPar s.next
    · simp [step, hm, hlt, hp, (allTerminalBelow_iff _ _).mpr (hall hp)]
    · cases hr : repeatFailed c s <;> simp [step, hm, hlt, hp, hr]
  | serialDone hm ht => simp [step, hm, ht]
  | loopEnd hm hn => simp [step, hm, hn]
  | allDone hm hall => simp [step, hm, (allTerminalBelow_iff _ _).mpr hall]
  | acquireStart i hw hsem hni hnr => simp [step, hw, hsem, hni, hnr]
  | acquireSkip i hw hsem hc => simp [step, hw, hsem, hc]
  | finish i r creq hrun hfin hreq =>
    simp only [step, hrun]
    rw [if_pos ⟨hfin, hreq⟩]
    cases hc : maxfailCut c s r
    · rw [if_neg (of_decide_eq_false hc)]
      simp
    · rw [if_pos (of_decide_eq_true hc)]
      simp

theorem Step.of_step {c : Config} {s s' : State} {l : Label} (hs : step c s l = some s') : Step c s l s' := by
  -- the guard of the branch taken gives some `Step c s l s''`; by `to_step` it is the step to `s'`
  suffices h : ∃ s'', Step c s l s'' by
    obtain ⟨s'', h⟩ := h
    exact Option.some.inj (h.to_step.symm.trans hs) ▸ h
  cases l with
  | launch =>
    simp only [step, Option.ite_none_right_eq_some] at hs
    refine ⟨_, .launch hs.1.1 hs.1.2 fun hp => ?_⟩
    simp only [hp, Bool.false_eq_true, if_false, Option.ite_none_right_eq_some] at hs
    exact (allTerminalBelow_iff _ _).mp hs.2.1
  | serialDone =>
    simp only [step, Option.ite_none_right_eq_some] at hs
    exact ⟨_, .serialDone hs.1.1 hs.1.2⟩
  | loopEnd =>
    simp only [step, Option.ite_none_right_eq_some] at hs
    exact ⟨_, .loopEnd hs.1.1 hs.1.2⟩
  | allDone =>
    simp only [step, Option.ite_none_right_eq_some] at hs
    exact ⟨_, .allDone hs.1.1 ((allTerminalBelow_iff _ _).mp hs.1.2)⟩
  | acquireStart i =>
    simp only [step, Option.ite_none_right_eq_some, not_or, Bool.not_eq_true] at hs
    exact ⟨_, .acquireStart i hs.1.1 hs.1.2.1 hs.1.2.2.1 hs.1.2.2.2⟩
  | acquireSkip i =>
    simp only [step, Option.ite_none_right_eq_some] at hs
    exact ⟨_, .acquireSkip i hs.1.1 hs.1.2.1 hs.1.2.2⟩
  | finish i r =>
    simp only [step] at hs
    split at hs
    · rename_i creq hrun
      simp only [Option.ite_none_right_eq_some] at hs
      exact ⟨_, .finish i r creq hrun hs.1.1 hs.1.2⟩
    · cases hs

/-- what one step can do to the status of one task -/
inductive Trans (c : Config) (s s' : State) (l : Label) : St → St → Prop
  | same (x : St) : Trans c s s' l x x
  | launch (x : St) : l = .launch → Trans c s s' l x .waiting
  | start : Trans c s s' l .waiting (.running false)
  | skip : (s.interrupted = true ∨ repeatFailed c s = true) → Trans c s s' l .waiting .skipped
  | finish (creq : Bool) (i : Nat) (r : TestResult) : l = .finish i r → r.isFinished = true →
      Trans c s s' l (.running creq) (.done r)
  | cancel (x : St) : s'.interrupted = true → Trans c s s' l x (cancelSt x)

theorem trans_upd {c : Config} {s s' : State} {l : Label} (f : Nat → St) (i : Nat) (v : St)
    (h : Trans c s s' l (f i) v) (j : Nat) : Trans c s s' l (f j) (upd f i v j) := by
  by_cases e : j = i
  · subst e
    simpa using h
  · rw [upd_ne _ _ e]
    exact .same _

theorem step_pointwise {c : Config} {s s' : State} {l : Label} (hs : step c s l = some s') (j : Nat) :
    Trans c s s' l (s.st j) (s'.st j) := by
  cases Step.of_step hs with
  | launch => exact trans_upd _ _ _ (.launch _ rfl) j
  | serialDone | loopEnd | allDone => exact .same _
  | acquireStart i hw => exact trans_upd _ _ _ (by rw [hw]; exact .start) j
  | acquireSkip i hw _ hc => exact trans_upd _ _ _ (by rw [hw]; exact .skip hc) j
  | finish i r creq hrun hfin =>
    cases hcut : maxfailCut c s r with
    | false => exact trans_upd _ _ _ (by rw [hrun]; exact .finish _ _ _ rfl hfin) j
    | true =>
      by_cases e : j = i
      · subst e
        simp only [cancelIf_true, upd_same, cancelSt]
        rw [hrun]
        exact .finish _ _ _ rfl hfin
      · simp only [cancelIf_true, upd_ne _ _ e]
        exact .cancel _ (Bool.or_true _)

/-- the status table before and after a step other than `launch`: no task is created or forgotten, a done future
stays done, and nothing becomes active that was not -/
def TaskMono (f g : Nat → St) : Prop :=
  ∀ j, (g j = .notLaunched ↔ f j = .notLaunched) ∧ ((f j).isTerminal = true → (g j).isTerminal = true) ∧
    ((g j).isActive = true → (f j).isActive = true)

theorem Trans.mono {c : Config} {s s' : State} {l : Label} {x y : St} (t : Trans c s s' l x y) (hl : l ≠ .launch) :
    (y = .notLaunched ↔ x = .notLaunched) ∧ (x.isTerminal = true → y.isTerminal = true) ∧
      (y.isActive = true → x.isActive = true) := by
  cases t with
  | same => exact ⟨Iff.rfl, id, id⟩
  | launch _ h => exact absurd h hl
  | start | skip | finish => simp [St.isTerminal, St.isActive]
  | cancel x => exact ⟨cancelSt_notLaunched x, cancelSt_terminal x, cancelSt_active x⟩

theorem step_taskMono {c : Config} {s s' : State} {l : Label} (hs : step c s l = some s') (hl : l ≠ .launch) :
    TaskMono s.st s'.st :=
  fun j => (step_pointwise hs j).mono hl

structure Inv (c : Config) (s : State) : Prop where
  next_le : s.next ≤ c.n
  notLaunched : ∀ j, s.next ≤ j → s.st j = .notLaunched
  launched : ∀ j, j < s.next → s.st j ≠ .notLaunched
  waitSerial : s.main = .waitSerial →
    1 ≤ s.next ∧ c.isPar (s.next - 1) = false ∧ ∀ j, j + 1 < s.next → (s.st j).isTerminal = true
  serialActive : ∀ j, j < s.next → c.isPar j = false → (s.st j).isActive = true →
    s.main = .waitSerial ∧ j + 1 = s.next

theorem Inv.init (c : Config) : Inv c (init c) := by
  refine ⟨?_, ?_, ?_, ?_, ?_⟩ <;> simp [Sched.init]

theorem Inv.lt_next {c : Config} {s : State} (h : Inv c s) {i : Nat} (hi : s.st i ≠ .notLaunched) : i < s.next :=
  Nat.lt_of_not_le fun hle => hi (h.notLaunched i hle)

theorem Inv.lt_n {c : Config} {s : State} (h : Inv c s) {i : Nat} (hi : s.st i ≠ .notLaunched) : i < c.n :=
  Nat.lt_of_lt_of_le (h.lt_next hi) h.next_le

theorem Inv.task {c : Config} {s s' : State} (h : Inv c s) (hn : s'.next = s.next) (hm : s'.main = s.main)
    (ht : TaskMono s.st s'.st) : Inv c s' := by
  refine ⟨?_, ?_, ?_, ?_, ?_⟩
  all_goals rw [hn]
  all_goals try rw [hm]
  · exact h.next_le
  · exact fun j hj => (ht j).1.2 (h.notLaunched j hj)
  · exact fun j hj hq => h.launched j hj ((ht j).1.1 hq)
  · intro hw
    obtain ⟨a, b, d⟩ := h.waitSerial hw
    exact ⟨a, b, fun j hj => (ht j).2.1 (d j hj)⟩
  · exact fun j hj hp ha => h.serialActive j hj hp ((ht j).2.2 ha)

/-- `launch`: at the head of the loop no non-parallel task is active, so creating task `next` keeps the
discipline provided a non-parallel one is waited for (`m = .waitSerial`) with everything before it done -/
theorem Inv.launch {c : Config} {s : State} (h : Inv c s) (hm : s.main = .top) (hlt : s.next < c.n) (m : Main)
    (hw : m = .waitSerial → c.isPar s.next = false ∧ ∀ j, j < s.next → (s.st j).isTerminal = true)
    (hp : c.isPar s.next = false → m = .waitSerial) :
    Inv c { s with st := upd s.st s.next .waiting, next := s.next + 1, main := m } := by
  have old : ∀ {j}, j < s.next → upd s.st s.next .waiting j = s.st j := fun hj => upd_ne _ _ (Nat.ne_of_lt hj)
  refine ⟨Nat.succ_le_of_lt hlt, fun j hj => ?_, fun j hj => ?_, fun hq => ?_, fun j hj hq ha => ?_⟩
  · exact (upd_ne _ _ (by simp only at hj; omega)).trans (h.notLaunched j (by simp only at hj; omega))
  · rcases Nat.lt_succ_iff_lt_or_eq.mp hj with hj | rfl
    · simp only [old hj]
      exact h.launched j hj
    · simp
  · obtain ⟨a, b⟩ := hw hq
    refine ⟨Nat.succ_pos _, a, fun j hj => ?_⟩
    simp only [old (Nat.lt_of_succ_lt_succ hj)]
    exact b j (Nat.lt_of_succ_lt_succ hj)
  · rcases Nat.lt_succ_iff_lt_or_eq.mp hj with hj | rfl
    · simp only [old hj] at ha
      have := (h.serialActive j hj hq ha).1
      rw [hm] at this
      cases this
    · exact ⟨hp hq, rfl⟩

theorem Inv.setMain {c : Config} {s : State} (h : Inv c s) (m : Main) (hm : m ≠ .waitSerial)
    (hs : ∀ j, j < s.next → c.isPar j = false → (s.st j).isActive = true → False) : Inv c { s with main := m } :=
  ⟨h.next_le, h.notLaunched, h.launched, fun hw => absurd hw hm, fun j hj hp ha => (hs j hj hp ha).elim⟩

theorem Inv.step {c : Config} {s s' : State} {l : Label} (h : Inv c s) (hs : step c s l = some s') : Inv c s' := by
  have notWait : ∀ b : Bool, (if b then Main.final else .top) ≠ .waitSerial := by
    intro b
    cases b <;> simp
  -- while the main coroutine is not in `await complete(future)`, no non-parallel task is active
  have quiet : s.main ≠ .waitSerial → ∀ j, j < s.next → c.isPar j = false → (s.st j).isActive = true → False :=
    fun hm j hj hp ha => hm (h.serialActive j hj hp ha).1
  cases Step.of_step hs with
  | acquireStart | acquireSkip | finish => exact h.task rfl rfl (step_taskMono hs nofun)
  | launch hm hlt hall =>
    refine h.launch hm hlt _ (fun hq => ?_) (fun hq => by simp [hq])
    cases hp : c.isPar s.next
    · exact ⟨rfl, hall hp⟩
    · rw [hp, if_pos rfl] at hq
      exact absurd hq (notWait _)
  | serialDone hm ht =>
    refine h.setMain _ (notWait _) ?_
    intro j hj hp ha
    have e : s.next - 1 = j := by
      have := (h.serialActive j hj hp ha).2
      omega
    rw [e] at ht
    rw [St.terminal_not_active ht] at ha
    cases ha
  | loopEnd hm => exact h.setMain _ (by simp) (quiet (by simp [hm]))
  | allDone hm => exact h.setMain _ (by simp) (quiet (by simp [hm]))

theorem Exec.inv {c : Config} {tr : List Label} {s : State} (h : Exec c tr s) : Inv c s := by
  induction h with
  | nil => exact Inv.init c
  | snoc _ hs ih => exact ih.step hs

/-- the heart of serial exclusion: an active non-parallel task is the only active task -/
theorem Inv.serial_alone {c : Config} {s : State} (h : Inv c s) {i j : Nat}
    (hp : c.isPar i = false) (hi : (s.st i).isActive = true) (hj : (s.st j).isActive = true) : i = j := by
  have li : i < s.next := h.lt_next fun e => by rw [e] at hi; cases hi
  have lj : j < s.next := h.lt_next fun e => by rw [e] at hj; cases hj
  obtain ⟨hw, e⟩ := h.serialActive i li hp hi
  obtain ⟨_, _, ht⟩ := h.waitSerial hw
  apply Classical.byContradiction
  intro hne
  have : j + 1 < s.next := by omega
  have := St.terminal_not_active (ht j this)
  rw [this] at hj
  cases hj

theorem cnt_congr {f g : Nat → St} {k : Nat} (h : ∀ j, j < k → (f j).isRunning = (g j).isRunning) :
    cnt f k = cnt g k := by
  induction k with
  | zero => rfl
  | succ k ih =>
    simp only [cnt]
    rw [ih (fun j hj => h j (by omega)), h k (by omega)]

theorem cnt_upd_ge (f : Nat → St) (i : Nat) (v : St) {k : Nat} (h : k ≤ i) : cnt (upd f i v) k = cnt f k := by
  apply cnt_congr
  intro j hj
  rw [upd_ne _ _ (by omega)]

theorem cnt_upd (f : Nat → St) (i : Nat) (v : St) {k : Nat} (h : i < k) :
    cnt (upd f i v) k + (if (f i).isRunning then 1 else 0) = cnt f k + (if v.isRunning then 1 else 0) := by
  induction k with
  | zero => omega
  | succ k ih =>
    simp only [cnt]
    by_cases e : i = k
    · subst e
      rw [cnt_upd_ge _ _ _ (Nat.le_refl _), upd_same]
      omega
    · rw [upd_ne _ _ (fun q => e q.symm)]
      have := ih (by omega)
      omega

theorem cnt_pos {f : Nat → St} {i k : Nat} (h : i < k) (hr : (f i).isRunning = true) : 1 ≤ cnt f k := by
  have := cnt_upd f i .notLaunched h
  rw [hr] at this
  have : cnt (upd f i .notLaunched) k + 1 = cnt f k + 0 := this
  omega

theorem cnt_le (f : Nat → St) (k : Nat) : cnt f k ≤ k := by
  induction k with
  | zero => simp [cnt]
  | succ k ih =>
    simp only [cnt]
    split <;> omega

theorem cnt_eq_zero {f : Nat → St} {k : Nat} (h : ∀ j, j < k → (f j).isRunning = false) : cnt f k = 0 := by
  induction k with
  | zero => rfl
  | succ k ih => simp [cnt, ih fun j hj => h j (by omega), h k (by omega)]

def JobInv (c : Config) (s : State) : Prop := cnt s.st c.n + s.sem = c.jobs

theorem JobInv.step {c : Config} {s s' : State} {l : Label} (hi : Inv c s) (h : JobInv c s)
    (hs : step c s l = some s') : JobInv c s' := by
  unfold JobInv at *
  -- a step takes the status of one task from `x` to `v`, and the count moves with the running status (the cancellation
  -- at a `--maxfail` cut changes other statuses too, but not whether they are running)
  have move : ∀ i x v, s.st i = x → i < c.n →
      cnt (upd s.st i v) c.n + (if x.isRunning then 1 else 0) = cnt s.st c.n + (if v.isRunning then 1 else 0) :=
    fun i x v hx hlt => hx ▸ cnt_upd s.st i v hlt
  have lt : ∀ {i x}, s.st i = x → x ≠ .notLaunched → i < c.n := fun hx hne => hi.lt_n (hx ▸ hne)
  cases Step.of_step hs with
  | launch _ hlt =>
    have : cnt (upd s.st s.next .waiting) c.n + 0 = cnt s.st c.n + 0 :=
      move _ .notLaunched _ (hi.notLaunched _ (Nat.le_refl _)) hlt
    simp only
    omega
  | serialDone | loopEnd | allDone => exact h
  | acquireStart i hw hsem =>
    have : cnt (upd s.st i (.running false)) c.n + 0 = cnt s.st c.n + 1 := move i .waiting _ hw (lt hw nofun)
    simp only
    omega
  | acquireSkip i hw =>
    have : cnt (upd s.st i .skipped) c.n + 0 = cnt s.st c.n + 0 := move i .waiting _ hw (lt hw nofun)
    simp only
    omega
  | finish i r creq hrun =>
    have : cnt (upd s.st i (.done r)) c.n + 1 = cnt s.st c.n + 0 := move i (.running creq) _ hrun (lt hrun nofun)
    simp only
    rw [cnt_congr (g := upd s.st i (.done r)) fun j _ => cancelIf_flag _ cancelSt_running _ _ j]
    omega

theorem Exec.jobInv {c : Config} {tr : List Label} {s : State} (h : Exec c tr s) : JobInv c s := by
  induction h with
  | nil => simp [JobInv, init, cnt_eq_zero (f := fun _ => .notLaunched) fun _ _ => rfl]
  | snoc hprev hs ih => exact ih.step hprev.inv hs

end MesonModel.Sched
