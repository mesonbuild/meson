/-
Lemmas about test selection: `--slice` (`pySlice`), suites, positional arguments.
-/
import MesonModel.Sched.Select
import MesonModel.Sched.Args

namespace MesonModel.Sched

theorem strideFrom_nil {α} (n k : Nat) : strideFrom n k ([] : List α) = [] := by
  cases k <;> rfl

theorem flatMap_strideFrom_nil {α} (n : Nat) (ks : List Nat) :
    ks.flatMap (fun k => strideFrom n k ([] : List α)) = [] := by
  induction ks with
  | nil => rfl
  | cons k ks ih => simp [List.flatMap_cons, strideFrom_nil, ih]

theorem strides_perm {α} (m : Nat) (l : List α) :
    ((List.range (m + 1)).flatMap (fun k => strideFrom (m + 1) k l)).Perm l := by
  induction l with
  | nil => rw [flatMap_strideFrom_nil]
  | cons x xs ih =>
    rw [List.range_succ_eq_map, List.flatMap_cons, List.flatMap_map]
    -- slice 0 takes `x`; every other slice just moves its countdown
    have h0 : strideFrom (m + 1) 0 (x :: xs) = x :: strideFrom (m + 1) m xs := by simp [strideFrom]
    have hk : (fun a => strideFrom (m + 1) (Nat.succ a) (x :: xs)) = (fun a => strideFrom (m + 1) a xs) := by
      funext a
      simp [strideFrom]
    rw [h0, hk, List.cons_append]
    apply List.Perm.cons
    rw [List.range_succ, List.flatMap_append] at ih
    simp only [List.flatMap_cons, List.flatMap_nil, List.append_nil] at ih
    exact List.perm_append_comm.trans ih

theorem strideFrom_map {α β} (f : α → β) (n k : Nat) (l : List α) :
    strideFrom n k (l.map f) = (strideFrom n k l).map f := by
  induction l generalizing k with
  | nil => simp [strideFrom_nil]
  | cons x xs ih =>
    cases k with
    | zero => simp [strideFrom, ih]
    | succ k => simp [strideFrom, ih]

theorem strideFrom_sublist {α} (n k : Nat) (l : List α) : (strideFrom n k l).Sublist l := by
  induction l generalizing k with
  | nil =>
    rw [strideFrom_nil]
    exact List.Sublist.refl _
  | cons x xs ih =>
    cases k with
    | zero =>
      simp only [strideFrom]
      exact (ih _).cons_cons _
    | succ k =>
      simp only [strideFrom]
      exact (ih _).cons _

theorem nodup_flatMap_disjoint {α β} (f : α → List β) (L : List α) (h : (L.flatMap f).Nodup) :
    ∀ a ∈ L, ∀ b ∈ L, a ≠ b → ∀ x, x ∈ f a → x ∉ f b := by
  -- members of `L` in list order have disjoint images; disjointness does not care about the order
  have hp := (List.pairwise_flatMap.mp h).2
  intro a ha b hb
  exact List.Pairwise.forall_of_forall_of_flip (R := fun a b => a ≠ b → ∀ x, x ∈ f a → x ∉ f b)
    (fun _ _ e => absurd rfl e) (hp.imp fun h _ x hx hy => h x hx x hy rfl)
    (hp.imp fun h _ x hx hy => h x hy x hx rfl) ha hb

theorem splitSuite_no_colon (s : Str) (h : ':' ∉ s) : splitSuite s = (s, []) := by
  induction s with
  | nil => rfl
  | cons c cs ih =>
    have hc : c ≠ ':' := fun e => h (by simp [e])
    have hcs : ':' ∉ cs := fun e => h (by simp [e])
    simp [splitSuite, hc, ih hcs]

theorem splitSuite_colon (a b : Str) (h : ':' ∉ a) : splitSuite (a ++ ':' :: b) = (a, b) := by
  induction a with
  | nil => simp [splitSuite]
  | cons c cs ih =>
    have hc : c ≠ ':' := fun e => h (by simp [e])
    have hcs : ':' ∉ cs := fun e => h (by simp [e])
    simp [splitSuite, hc, ih hcs]

theorem filterMap_find_eq_filter {α β} (m : α → β → Bool) (pats : List β) (tests : List α) :
    tests.filterMap (fun t => (pats.find? (fun p => m t p)).map (fun _ => t)) =
      tests.filter (fun t => pats.any (fun p => m t p)) := by
  induction tests with
  | nil => rfl
  | cons t ts ih =>
    have : (pats.find? fun p => m t p).isSome = pats.any fun p => m t p := by
      rw [Bool.eq_iff_iff]
      simp
    rw [List.filterMap_cons, List.filter_cons, ih, ← this]
    cases pats.find? fun p => m t p <;> rfl

theorem testsFromArgs_ok {α β} {m : α → β → Bool} {pats : List β} {tests out : List α}
    (h : testsFromArgs m pats tests = .ok out) : out = tests.filter (fun t => pats.any (fun p => m t p)) := by
  unfold testsFromArgs at h
  split at h
  · cases h
  · simp only [Except.ok.injEq] at h
    rw [← h, filterMap_find_eq_filter]

theorem testsFromArgs_error_iff {α β} (m : α → β → Bool) (pats : List β) (tests : List α) :
    testsFromArgs m pats tests = .error .noMatch ↔ ∃ p ∈ pats, ∀ t ∈ tests, m t p = false := by
  have : pats.any (fun p => !(tests.any fun t => m t p)) = true ↔ ∃ p ∈ pats, ∀ t ∈ tests, m t p = false := by
    simp
  rw [← this, testsFromArgs]
  split <;> simp [*]

theorem globMatch_star (s : Str) : globMatch ['*'] s = true := by
  induction s with
  | nil => simp [globMatch]
  | cons c s ih => simp [globMatch, ih]

theorem globMatch_literal (p : Str) (hp : ∀ c ∈ p, c ≠ '*' ∧ c ≠ '?') (s : Str) :
    globMatch p s = true ↔ p = s := by
  induction p generalizing s with
  | nil => cases s <;> simp [globMatch]
  | cons a p ih =>
    have ha := hp a (List.mem_cons_self ..)
    have ih' := ih (fun c hc => hp c (List.mem_cons_of_mem _ hc))
    cases s with
    | nil =>
      rw [globMatch]
      · simp
      · intro h
        exact ha.1 h
    | cons c s =>
      rw [globMatch]
      · simp [ha.2, ih']
      · intro h
        exact ha.1 h

theorem splitSuite_contains (a : Str) : a.contains ':' = true ↔ ':' ∈ a := by simp

end MesonModel.Sched
