/-
Facts about executions of the scheduler model: how often a test starts and is reported, what a step does to the
counters and the `--maxfail` flags, when a test may be left unstarted (`CutInv`: `interrupted`, `--maxfail`, the
failure cut of `--repeat`), and progress.
-/
import MesonModel.Sched.Lemmas
import MesonModel.Sched.ClassifyLemmas

namespace MesonModel.Sched
open TestResult

theorem Exec.snoc_inv {c : Config} {tr : List Label} {l : Label} {s' : State} (h : Exec c (tr ++ [l]) s') :
    ∃ s, Exec c tr s ∧ step c s l = some s' := by
  generalize ht : tr ++ [l] = t at h
  cases h with
  | nil => simp at ht
  | snoc hp hs =>
    rename_i tr0 s0 l0
    obtain ⟨e1, e2⟩ := List.append_inj' ht rfl
    simp only [List.cons.injEq, and_true] at e2
    subst e1
    subst e2
    exact ⟨s0, hp, hs⟩

theorem upd_flag (P : St → Bool) (f : Nat → St) (i : Nat) (v : St) (h : P v = P (f i)) (j : Nat) :
    P (upd f i v j) = P (f j) := by
  by_cases e : j = i
  · subst e
    simp [h]
  · rw [upd_ne _ _ e]

/-- a status flag `P` that is off before the task exists and is switched on by exactly the steps `L j`, which
need it off: such a step occurs at most once for each runner, and has occurred iff the flag is on -/
theorem Exec.count_eq {c : Config} (P : St → Bool) (L : Nat → Label → Bool) (h0 : P .notLaunched = false)
    (hstep : ∀ {s s' : State} {l : Label} (j : Nat), Inv c s → step c s l = some s' →
      P (s'.st j) = (P (s.st j) || L j l) ∧ (L j l = true → P (s.st j) = false))
    {tr : List Label} {s : State} (h : Exec c tr s) (i : Nat) :
    (tr.filter (L i)).length = if P (s.st i) then 1 else 0 := by
  induction h with
  | nil => simp [init, h0]
  | snoc hprev hs ih =>
    rename_i tr s l s'
    obtain ⟨a, b⟩ := hstep i hprev.inv hs
    rw [List.filter_append, List.length_append, ih, a]
    cases e : L i l
    · simp [e]
    · simp [e, b e]

theorem step_started {c : Config} {s s' : State} {l : Label} (hi : Inv c s) (hs : step c s l = some s') (j : Nat) :
    (s'.st j).started = ((s.st j).started || decide (l = .acquireStart j)) ∧
    (l = .acquireStart j → (s.st j).started = false) := by
  have hnl := hi.notLaunched s.next (Nat.le_refl _)
  cases Step.of_step hs with
  | launch => simp [upd_flag St.started s.st s.next .waiting (by rw [hnl]; rfl) j]
  | serialDone | loopEnd | allDone => simp
  | acquireStart i hw =>
    by_cases e : j = i
    · subst e
      simp [hw, St.started]
    · have : ¬ i = j := fun q => e q.symm
      simp [upd_ne _ _ e, this]
  | acquireSkip i hw => simp [upd_flag St.started s.st i .skipped (by rw [hw]; rfl) j]
  | finish i r creq hrun =>
    simp [cancelIf_flag _ cancelSt_started, upd_flag St.started s.st i (.done r) (by rw [hrun]; rfl) j]

theorem Exec.startCount_eq {c : Config} {tr : List Label} {s : State} (h : Exec c tr s) (i : Nat) :
    startCount i tr = if (s.st i).started then 1 else 0 :=
  h.count_eq St.started (fun i l => decide (l = .acquireStart i)) rfl
    (fun j hi hs => by simpa using step_started hi hs j) i

def St.isDone : St → Bool
  | .done _ => true
  | _ => false

def Label.isFinishOf (i : Nat) : Label → Bool
  | .finish j _ => j == i
  | _ => false

def finishCount (i : Nat) (tr : List Label) : Nat := (tr.filter (Label.isFinishOf i)).length

@[simp] theorem cancelSt_isDone (x : St) : (cancelSt x).isDone = x.isDone := by
  cases x <;> rfl

theorem St.isDone_eq (x : St) : x.isDone = (x.started && x.isTerminal) := by
  cases x <;> rfl

theorem step_isDone {c : Config} {s s' : State} {l : Label} (hi : Inv c s) (hs : step c s l = some s') (j : Nat) :
    (s'.st j).isDone = ((s.st j).isDone || l.isFinishOf j) ∧
    (l.isFinishOf j = true → (s.st j).isDone = false) := by
  have hnl := hi.notLaunched s.next (Nat.le_refl _)
  cases Step.of_step hs with
  | launch => simp [upd_flag St.isDone s.st s.next .waiting (by rw [hnl]; rfl) j, Label.isFinishOf]
  | serialDone | loopEnd | allDone => simp [Label.isFinishOf]
  | acquireStart i hw => simp [upd_flag St.isDone s.st i (.running false) (by rw [hw]; rfl) j, Label.isFinishOf]
  | acquireSkip i hw => simp [upd_flag St.isDone s.st i .skipped (by rw [hw]; rfl) j, Label.isFinishOf]
  | finish i r creq hrun =>
    simp only [cancelIf_flag _ cancelSt_isDone, Label.isFinishOf]
    by_cases e : j = i
    · subst e
      simp [St.isDone, hrun]
    · have : ¬ i = j := fun q => e q.symm
      simp [upd_ne _ _ e, this]

theorem Exec.finishCount_eq {c : Config} {tr : List Label} {s : State} (h : Exec c tr s) (i : Nat) :
    finishCount i tr = if (s.st i).isDone then 1 else 0 :=
  h.count_eq St.isDone (fun i l => l.isFinishOf i) rfl (fun j hi hs => step_isDone hi hs j) i

theorem resultsOf_append (a b : List Label) : resultsOf (a ++ b) = resultsOf a ++ resultsOf b := by
  induction a with
  | nil => rfl
  | cons x xs ih => cases x <;> simp [resultsOf, ih]

theorem step_counters {c : Config} {s s' : State} {l : Label} (hs : step c s l = some s') :
    match l with
    | .finish _ r =>
      r.isFinished = true ∧ s'.tally = s.tally.add! r ∧ s'.interrupted = (s.interrupted || maxfailCut c s r) ∧
      s'.maxfailReached = (s.maxfailReached || maxfailCut c s r)
    | _ => s'.tally = s.tally ∧ s'.interrupted = s.interrupted ∧ s'.maxfailReached = s.maxfailReached := by
  cases Step.of_step hs with
  | finish i r creq hrun hfin => exact ⟨hfin, rfl, rfl, rfl⟩
  | _ => exact ⟨rfl, rfl, rfl⟩

/-- the result that brings `fail_count` to `--maxfail` is FAIL, ERROR or INTERRUPT, hence bad: `cancel_all_tests` -/
theorem Exec.maxfail_interrupts {c : Config} {tr : List Label} {s : State} (h : Exec c tr s)
    (hm : c.maxfail > 0) (hf : s.tally.fail ≥ c.maxfail) : s.interrupted = true := by
  induction h with
  | nil =>
    simp [init] at hf
    omega
  | snoc hprev hs ih =>
    rename_i tr s l s'
    have hc := step_counters hs
    cases l with
    | finish i r =>
      obtain ⟨_, ht, hi, _⟩ := hc
      rw [hi]
      by_cases hb : r.countsAsFail = true
      · have : maxfailCut c s r = true := decide_eq_true ⟨hm, by rw [← ht]; exact hf, countsAsFail_bad hb⟩
        simp [this]
      · have e : (s.tally.add! r).fail = s.tally.fail := by rw [Tally.add!_fail]; simp [hb]
        rw [ht, e] at hf
        simp [ih hf]
    | _ =>
      obtain ⟨ht, hi, _⟩ := hc
      rw [hi]
      exact ih (by rw [← ht]; exact hf)

theorem step_acquireStart_guard {c : Config} {s s' : State} {i : Nat} (hs : step c s (.acquireStart i) = some s') :
    s.interrupted = false ∧ repeatFailed c s = false := by
  cases Step.of_step hs with
  | acquireStart _ _ _ hni hnr => exact ⟨hni, hnr⟩

theorem step_mono {c : Config} {s s' : State} {l : Label} (hs : step c s l = some s') :
    (s.interrupted = true → s'.interrupted = true) ∧ s.failCount ≤ s'.failCount ∧
    (s'.interrupted = true → s.interrupted = true ∨ (0 < c.maxfail ∧ c.maxfail ≤ s'.failCount)) := by
  have hc := step_counters hs
  unfold State.failCount
  cases l with
  | finish i r =>
    obtain ⟨_, ht, hi, _⟩ := hc
    rw [ht, hi]
    refine ⟨fun h => by rw [h]; rfl, Tally.add!_fail_ge _ _, fun h => ?_⟩
    rcases Bool.or_eq_true _ _ ▸ h with h | h
    · exact Or.inl h
    · exact Or.inr ⟨(of_decide_eq_true h).1, (of_decide_eq_true h).2.1⟩
  | _ =>
    obtain ⟨ht, hi, _⟩ := hc
    rw [ht, hi]
    exact ⟨id, Nat.le_refl _, Or.inl⟩

theorem repeatFailed_mono {c : Config} {s s' : State} (h : s.failCount ≤ s'.failCount)
    (hr : repeatFailed c s = true) : repeatFailed c s' = true := by
  simp only [repeatFailed, Bool.and_eq_true, decide_eq_true_eq] at hr ⊢
  exact ⟨hr.1, Nat.lt_of_lt_of_le hr.2 h⟩

theorem Trans.cancelled {c : Config} {s s' : State} {l : Label} {x y : St} (t : Trans c s s' l x y)
    (hy : y = .cancelled ∨ y = .running true) :
    (x = .cancelled ∨ x = .running true) ∨ s'.interrupted = true := by
  cases t with
  | same => exact Or.inl hy
  | cancel _ hint => exact Or.inr hint
  | _ => simp at hy

theorem Trans.skipped {c : Config} {s s' : State} {l : Label} {x y : St} (t : Trans c s s' l x y)
    (hy : y = .skipped) : x = .skipped ∨ s.interrupted = true ∨ repeatFailed c s = true := by
  cases t with
  | same => exact Or.inl hy
  | skip hg => exact Or.inr hg
  | cancel x => exact Or.inl (by cases x <;> simp [cancelSt] at hy ⊢)
  | _ => cases hy

theorem Trans.done {c : Config} {s s' : State} {l : Label} {x y : St} {r : TestResult} (t : Trans c s s' l x y)
    (hy : y = .done r) : x = .done r ∨ (r.isFinished = true ∧ ∃ i, l = .finish i r) := by
  cases t with
  | same => exact Or.inl hy
  | finish creq i r' hl hfin =>
    cases hy
    exact Or.inr ⟨hfin, i, hl⟩
  | cancel x => exact Or.inl (by cases x <;> simp [cancelSt] at hy ⊢; exact hy)
  | _ => cases hy

/-- how the main coroutine gets past its loop: into `final` at the end of the runner list or by the `--repeat`
`break`, into `finished` only with every created task done; once there, a step leaves `next` alone and treats the
status table as a task step does -/
theorem step_main {c : Config} {s s' : State} {l : Label} (hs : step c s l = some s') :
    ((s'.main = .final ∨ s'.main = .finished) →
      s'.next = c.n ∨ repeatFailed c s = true ∨ ((s.main = .final ∨ s.main = .finished) ∧ s'.next = s.next)) ∧
    (s'.main = .finished →
      (∀ j, j < s'.next → (s'.st j).isTerminal = true) ∨
      (s.main = .finished ∧ s'.next = s.next ∧ TaskMono s.st s'.st)) := by
  -- the `break` of the loop: `final` is entered from `top` / `waitSerial` only on a failure under `--repeat`
  have brk : (if repeatFailed c s = true then Main.final else Main.top) ≠ .finished ∧
      (((if repeatFailed c s = true then Main.final else Main.top) = .final ∨
        (if repeatFailed c s = true then Main.final else Main.top) = .finished) → repeatFailed c s = true) := by
    cases repeatFailed c s <;> simp
  cases Step.of_step hs with
  | acquireStart | acquireSkip | finish =>
    exact ⟨fun h => Or.inr (Or.inr ⟨h, rfl⟩), fun h => Or.inr ⟨h, rfl, step_taskMono hs nofun⟩⟩
  | serialDone => exact ⟨fun h => Or.inr (Or.inl (brk.2 h)), fun h => absurd h brk.1⟩
  | launch =>
    cases c.isPar s.next
    · exact ⟨fun h => by simp at h, fun h => by simp at h⟩
    · exact ⟨fun h => Or.inr (Or.inl (brk.2 h)), fun h => absurd h brk.1⟩
  | loopEnd _ hn => exact ⟨fun _ => Or.inl hn, fun h => by cases h⟩
  | allDone hm hall => exact ⟨fun _ => Or.inr (Or.inr ⟨Or.inl hm, rfl⟩), fun _ => Or.inl hall⟩

structure CutInv (c : Config) (s : State) : Prop where
  noMaxfail : c.maxfail = 0 →
    s.interrupted = false ∧ ∀ j, s.st j ≠ .cancelled ∧ s.st j ≠ .running true
  skipped : ∀ j, s.st j = .skipped → s.interrupted = true ∨ repeatFailed c s = true
  /-- the loop is only left at its end or by the `--repeat` failure `break` -/
  finalNext : (s.main = .final ∨ s.main = .finished) → s.next = c.n ∨ repeatFailed c s = true
  /-- `_run_tests` only returns when every created task is done -/
  finishedTerminal : s.main = .finished → ∀ j, j < s.next → (s.st j).isTerminal = true
  interruptedWhy : s.interrupted = true → 0 < c.maxfail ∧ c.maxfail ≤ s.failCount
  cancelledWhy : ∀ j, s.st j = .cancelled ∨ s.st j = .running true → s.interrupted = true

theorem CutInv.init (c : Config) : CutInv c (init c) := by
  refine ⟨?_, ?_, ?_, ?_, ?_, ?_⟩ <;> simp [Sched.init]

theorem CutInv.step {c : Config} {s s' : State} {l : Label} (h : CutInv c s)
    (hs : step c s l = some s') : CutInv c s' := by
  obtain ⟨mI, mF, pint⟩ := step_mono hs
  have mR := repeatFailed_mono (c := c) mF
  have pw := step_pointwise hs
  obtain ⟨pm1, pm2⟩ := step_main hs
  have why : s'.interrupted = true → 0 < c.maxfail ∧ c.maxfail ≤ s'.failCount := by
    intro hq
    rcases pint hq with h1 | h1
    · obtain ⟨a, b⟩ := h.interruptedWhy h1
      exact ⟨a, Nat.le_trans b mF⟩
    · exact h1
  have canc : ∀ j, s'.st j = .cancelled ∨ s'.st j = .running true → s'.interrupted = true := by
    intro j hj
    rcases (pw j).cancelled hj with h1 | h1
    · exact mI (h.cancelledWhy j h1)
    · exact h1
  refine ⟨fun hm => ?_, ?_, ?_, ?_, why, canc⟩
  · -- without `--maxfail` nothing is interrupted, hence nothing cancelled
    have ni : s'.interrupted = false := Bool.eq_false_iff.mpr fun hq => by have := why hq; omega
    exact ⟨ni, fun j => not_or.mp fun hy => by rw [canc j hy] at ni; cases ni⟩
  · intro j hj
    have : s.interrupted = true ∨ repeatFailed c s = true := by
      rcases (pw j).skipped hj with h1 | h1
      · exact h.skipped j h1
      · exact h1
    exact this.imp mI mR
  · intro hf
    rcases pm1 hf with h1 | h1 | ⟨h1, h2⟩
    · exact Or.inl h1
    · exact Or.inr (mR h1)
    · rcases h.finalNext h1 with h3 | h3
      · exact Or.inl (by rw [h2]; exact h3)
      · exact Or.inr (mR h3)
  · intro hf
    rcases pm2 hf with h1 | ⟨h1, h2, h3⟩
    · exact h1
    · intro j hj
      rw [h2] at hj
      exact (h3 j).2.1 (h.finishedTerminal h1 j hj)

theorem Exec.cutInv {c : Config} {tr : List Label} {s : State} (h : Exec c tr s) : CutInv c s := by
  induction h with
  | nil => exact CutInv.init c
  | snoc _ hs ih => exact ih.step hs

theorem Exec.done_processed {c : Config} {tr : List Label} {s : State} (h : Exec c tr s) :
    ∀ i r, s.st i = .done r → r.isFinished = true ∧ r ∈ resultsOf tr := by
  induction h with
  | nil => intro i r hq; simp [Sched.init] at hq
  | snoc hprev hs ih =>
    rename_i tr0 s0 l s1
    intro i r hq
    rw [resultsOf_append]
    rcases (step_pointwise hs i).done hq with hx | ⟨hfin, i', rfl⟩
    · exact ⟨(ih i r hx).1, List.mem_append_left _ (ih i r hx).2⟩
    · exact ⟨hfin, List.mem_append_right _ (by simp [resultsOf])⟩

/-- a complete run splits the runners in two: those started once, each with a processed result, and those never
started, which for a runner of the list only a cut (`interrupted`, a failure under `--repeat`) excuses -/
theorem Exec.finished_dichotomy {c : Config} {tr : List Label} {s : State} (h : Exec c tr s) (hf : s.main = .finished)
    (i : Nat) :
    (startCount i tr = 1 ∧ ∃ r, s.st i = .done r ∧ r.isFinished = true ∧ r ∈ resultsOf tr) ∨
    (startCount i tr = 0 ∧ (i < c.n → s.interrupted = true ∨ repeatFailed c s = true)) := by
  have ci := h.cutInv
  rw [h.startCount_eq]
  cases hx : s.st i with
  | done r => exact Or.inl ⟨rfl, r, rfl, h.done_processed i r hx⟩
  | skipped => exact Or.inr ⟨rfl, fun _ => ci.skipped i hx⟩
  | cancelled => exact Or.inr ⟨rfl, fun _ => Or.inl (ci.cancelledWhy i (Or.inl hx))⟩
  | notLaunched =>
    -- no task was created for `i`: the loop was left early
    refine Or.inr ⟨rfl, fun hi => (ci.finalNext (Or.inr hf)).elim (fun hn => ?_) Or.inr⟩
    exact absurd hx (h.inv.launched i (hn ▸ hi))
  | waiting | running b =>
    have ht := ci.finishedTerminal hf i (h.inv.lt_next (by rw [hx]; nofun))
    rw [hx] at ht
    cases ht

theorem forall_lt_or_exists (p : Nat → Bool) (k : Nat) :
    (∀ j, j < k → p j = true) ∨ ∃ j, j < k ∧ p j = false := by
  by_cases h : ∀ j, j < k → p j = true
  · exact Or.inl h
  · exact Or.inr (by simpa using h)

theorem exists_running_or_none (f : Nat → St) (k : Nat) :
    (∃ j, j < k ∧ (f j).isRunning = true) ∨ cnt f k = 0 := by
  rcases forall_lt_or_exists (fun j => !(f j).isRunning) k with h | ⟨j, hj, h⟩
  · exact Or.inr (cnt_eq_zero fun j hj => by simpa using h j hj)
  · exact Or.inl ⟨j, hj, by simpa using h⟩

theorem active_progress {c : Config} {s : State} (hi : Inv c s) (hj : JobInv c s) (hjobs : 1 ≤ c.jobs)
    {i : Nat} (ha : (s.st i).isActive = true) : ∃ l s', step c s l = some s' := by
  rcases exists_running_or_none s.st c.n with ⟨j, _, hr⟩ | h0
  · -- a running test can always finish: with INTERRUPT if it was cancelled, with OK if not
    cases hx : s.st j with
    | running creq =>
      cases creq with
      | true => exact ⟨_, _, (Step.finish j INTERRUPT true hx rfl ⟨fun _ => rfl, fun _ => Or.inl rfl⟩).to_step⟩
      | false => exact ⟨_, _, (Step.finish j OK false hx rfl ⟨fun h => (by cases h), fun h => (by cases h)⟩).to_step⟩
    | _ =>
      rw [hx] at hr
      cases hr
  · -- nobody runs: all slots are free, the waiting task can take one
    have hsem : s.sem > 0 := by
      unfold JobInv at hj
      omega
    rcases St.active_cases ha with hw | hr
    · cases hni : s.interrupted with
      | true => exact ⟨_, _, (Step.acquireSkip i hw hsem (Or.inl hni)).to_step⟩
      | false =>
        cases hnr : repeatFailed c s with
        | true => exact ⟨_, _, (Step.acquireSkip i hw hsem (Or.inr hnr)).to_step⟩
        | false => exact ⟨_, _, (Step.acquireStart i hw hsem hni hnr).to_step⟩
    · have li : i < c.n := hi.lt_n fun e => by rw [e] at hr; cases hr
      have := cnt_pos li hr
      omega

end MesonModel.Sched
