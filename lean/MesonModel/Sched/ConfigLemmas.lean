/-
The configuration `doit` builds: runner `k` of the repeated list is test `k % len`.
-/
import MesonModel.Sched.Model

namespace MesonModel.Sched

theorem length_flatten_replicate {α} (l : List α) (r : Nat) :
    (List.replicate r l).flatten.length = r * l.length := by
  induction r with
  | zero => simp
  | succ r ih => simp [List.replicate_succ, ih, Nat.succ_mul, Nat.add_comm]

theorem flatten_replicate_getElem? {α} (l : List α) (r k : Nat) (h : k < r * l.length) :
    (List.replicate r l).flatten[k]? = l[k % l.length]? := by
  induction r generalizing k with
  | zero => simp at h
  | succ r ih =>
    rw [List.replicate_succ, List.flatten_cons, List.getElem?_append]
    split
    · rename_i hk
      rw [Nat.mod_eq_of_lt hk]
    · rename_i hk
      have hk' : l.length ≤ k := Nat.le_of_not_lt hk
      rw [ih (k - l.length) (by rw [Nat.succ_mul] at h; omega), ← Nat.mod_eq_sub_mod hk']

theorem mkConfig_n (j r m : Nat) (d : List Bool) : (mkConfig j r m d).n = r * d.length := by
  simp [mkConfig, Config.n, length_flatten_replicate]

theorem mkConfig_jobs_le (j r m : Nat) (d : List Bool) : (mkConfig j r m d).jobs ≤ j := by
  simp [mkConfig]
  exact Nat.min_le_left _ _

theorem mkConfig_isPar_false (j r m : Nat) (d : List Bool) (k : Nat) (hk : k < (mkConfig j r m d).n)
    (hd : d[k % d.length]? = some false) : (mkConfig j r m d).isPar k = false := by
  rw [mkConfig_n] at hk
  simp only [Config.isPar, mkConfig, List.getD_eq_getElem?_getD, List.getElem?_map,
    flatten_replicate_getElem? d r k hk, hd]
  simp

theorem mkConfig_isPar_jobs1 (j r m : Nat) (d : List Bool) (k : Nat) (hk : k < (mkConfig j r m d).n)
    (hj : (mkConfig j r m d).jobs ≤ 1) : (mkConfig j r m d).isPar k = false := by
  have hk' := hk
  rw [mkConfig_n] at hk'
  have : ¬ (min j (d.length * r) > 1) := by
    simp [mkConfig] at hj
    omega
  have hlt : k % d.length < d.length := Nat.mod_lt _ (by
    rcases Nat.eq_zero_or_pos d.length with h0 | h0
    · rw [h0] at hk'
      simp at hk'
    · exact h0)
  simp only [Config.isPar, mkConfig, List.getD_eq_getElem?_getD, List.getElem?_map,
    flatten_replicate_getElem? d r k hk', List.getElem?_eq_getElem hlt]
  simp [this]

end MesonModel.Sched
