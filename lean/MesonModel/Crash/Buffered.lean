/-
C09, the buffered dimension: a `write()` into a Python file object reaches the file only at `flush`/`close`
(or when the buffer spills on its own).

A finer model than `Crash/Model.lean`:

* a directory maps a path to the bytes that are *in the file* (what a killed process leaves behind);
* a handle (keyed by the path it was opened with, which is what the recorder logs) knows where the inode it
  writes to is linked *now* — `os.replace` moves the inode, the handle follows it — and holds the bytes accepted
  by `write()` that have not been handed to the kernel yet; a kill loses them;
* `open`, `write`, `spill` (the buffered writer emptying part of its buffer by itself: large writes), `flush`,
  `fsync` (`os.fsync(fd)`: does *not* flush the Python buffer), `close`, `replace`, `unlink` are separate effects.

The atomic-replace protocol `open(tmp,'w'); <handle ops>; os.replace(tmp, dst); <handle ops>` is analysed for
every sequence of handle operations on both sides of the rename.
-/
import MesonModel.Crash.Model

namespace MesonModel.Crash.Buf
open MesonModel.Crash

variable {β : Type}

def upd {γ : Type} (f : Path → γ) (p : Path) (v : γ) : Path → γ := fun q => if q = p then v else f q

@[simp] theorem upd_same {γ : Type} (f : Path → γ) (p : Path) (v : γ) : upd f p v p = v := by simp [upd]
@[simp] theorem upd_other {γ : Type} (f : Path → γ) (p q : Path) (v : γ) (h : q ≠ p) : upd f p v q = f q := by
  simp [upd, h]

/-- bytes in the files of the directory -/
abbrev Files (β : Type) := Path → Option (List β)

structure Hnd (β : Type) where
  /-- where the inode this handle writes to is linked now (`none`: unlinked or replaced) -/
  loc : Option Path
  /-- accepted by `write()`, not yet handed to the kernel -/
  buf : List β

structure St (β : Type) where
  file : Files β
  hnd : Path → Option (Hnd β)

inductive Eff (β : Type) where
  | openW (p : Path)
  | openA (p : Path)
  | write (p : Path) (d : List β)
  | spill (p : Path) (n : Nat)
  | flush (p : Path)
  | fsync (p : Path)
  | close (p : Path)
  | replace (s d : Path)
  | unlink (p : Path)
  | copy (s d : Path)           -- shutil.copyfile, completed

/-- the kernel appends `d` to the inode linked at `loc` -/
def push (f : Files β) : Option Path → List β → Files β
  | none, _ => f
  | some q, d => fun r => if r = q then (f r).map (· ++ d) else f r

/-- where an inode linked at `l` is linked after `os.replace(a, b)`: the one at `a` moves to `b`, the one that
    was at `b` has lost its name -/
def reloc (a b : Path) (l : Option Path) : Option Path :=
  if l = some a then some b else if l = some b then none else l

def step (s : St β) : Eff β → St β
  | .openW p => { file := upd s.file p (some []), hnd := upd s.hnd p (some ⟨some p, []⟩) }
  | .openA p => { file := upd s.file p (some ((s.file p).getD [])), hnd := upd s.hnd p (some ⟨some p, []⟩) }
  | .write p d => match s.hnd p with
      | none => s
      | some h => { s with hnd := upd s.hnd p (some ⟨h.loc, h.buf ++ d⟩) }
  | .spill p n => match s.hnd p with
      | none => s
      | some h => { file := push s.file h.loc (h.buf.take n), hnd := upd s.hnd p (some ⟨h.loc, h.buf.drop n⟩) }
  | .flush p => match s.hnd p with
      | none => s
      | some h => { file := push s.file h.loc h.buf, hnd := upd s.hnd p (some ⟨h.loc, []⟩) }
  | .fsync _ => s
  | .close p => match s.hnd p with
      | none => s
      | some h => { file := push s.file h.loc h.buf, hnd := upd s.hnd p none }
  | .replace a b => match s.file a with
      | none => s
      | some c => { file := upd (upd s.file b (some c)) a none,
                    hnd := fun q => (s.hnd q).map (fun h => ⟨reloc a b h.loc, h.buf⟩) }
  | .unlink p => { file := upd s.file p none,
                   hnd := fun q => (s.hnd q).map (fun h => ⟨if h.loc = some p then none else h.loc, h.buf⟩) }
  | .copy a b => match s.file a with
      | none => s
      | some c => { s with file := upd s.file b (some c) }

def runS (s : St β) : List (Eff β) → St β
  | [] => s
  | e :: es => runS (step s e) es

/-- what a kill leaves: the files at every effect boundary (buffers are lost).  A kill inside a `write(2)` of the
    kernel is the boundary after a shorter `spill`; the theorems quantify over all spills. -/
def crashFiles (s : St β) : List (Eff β) → List (Files β)
  | [] => [s.file]
  | e :: es => s.file :: crashFiles (step s e) es

/-- the same trace when the buffered writer hands every write to the kernel at once (write-through): the upper
    bound of what can be in a file at a kill; the trace as it is (no spill) is the lower bound -/
def writeThrough : List (Eff β) → List (Eff β)
  | [] => []
  | .write p d :: es => .write p d :: .spill p d.length :: writeThrough es
  | e :: es => e :: writeThrough es

theorem head_mem_crashFiles (s : St β) (t : List (Eff β)) : s.file ∈ crashFiles s t := by
  cases t <;> simp [crashFiles]

theorem runS_append (s : St β) (a b : List (Eff β)) : runS s (a ++ b) = runS (runS s a) b := by
  induction a generalizing s with
  | nil => rfl
  | cons e es ih => simp [runS, ih]

/-- the boundaries of `a`, then those from `e` on -/
theorem crashFiles_append_cons (s : St β) (a : List (Eff β)) (e : Eff β) (b : List (Eff β)) :
    crashFiles s (a ++ e :: b) = crashFiles s a ++ crashFiles (step (runS s a) e) b := by
  induction a generalizing s with
  | nil => rfl
  | cons x xs ih => simp [crashFiles, runS, ih]

/-- what the program does with one open handle -/
inductive HOp (β : Type) where
  | write (d : List β)
  | spill (n : Nat)
  | flush
  | fsync
  | close

def HOp.eff (h : Path) : HOp β → Eff β
  | .write d => .write h d
  | .spill n => .spill h n
  | .flush => .flush h
  | .fsync => .fsync h
  | .close => .close h

/-- the inode's bytes and the handle's buffer (`none`: the handle is closed) -/
structure One (β : Type) where
  c : List β
  h : Option (List β)

def One.step (o : One β) : HOp β → One β
  | .write d => match o.h with
      | none => o
      | some b => ⟨o.c, some (b ++ d)⟩
  | .spill n => match o.h with
      | none => o
      | some b => ⟨o.c ++ b.take n, some (b.drop n)⟩
  | .flush => match o.h with
      | none => o
      | some b => ⟨o.c ++ b, some []⟩
  | .fsync => o
  | .close => match o.h with
      | none => o
      | some b => ⟨o.c ++ b, none⟩

def One.run (o : One β) : List (HOp β) → One β
  | [] => o
  | op :: ops => One.run (o.step op) ops

/-- the inode's bytes at every boundary -/
def One.trail (o : One β) : List (HOp β) → List (List β)
  | [] => [o.c]
  | op :: ops => o.c :: One.trail (o.step op) ops

def One.pending (o : One β) : List β := o.h.getD []

/-- everything the program has handed over so far -/
def One.total (o : One β) : List β := o.c ++ o.pending

theorem One.run_append (o : One β) (a b : List (HOp β)) : One.run o (a ++ b) = One.run (One.run o a) b := by
  induction a generalizing o with
  | nil => rfl
  | cons e es ih => simp [One.run, ih]

theorem One.run_c_mem_trail (o : One β) (ops : List (HOp β)) : (o.run ops).c ∈ o.trail ops := by
  induction ops generalizing o with
  | nil => simp [One.trail, One.run]
  | cons op ops ih => simp [One.trail, One.run, ih (o.step op)]

/-- state `s` has the inode at `q` with handle `h` on it as `o` describes; every other path is as in `f0` -/
structure Rep (s : St β) (h q : Path) (o : One β) (f0 : Files β) : Prop where
  fq : s.file q = some o.c
  fr : ∀ r, r ≠ q → s.file r = f0 r
  hh : s.hnd h = o.h.map (fun b => ⟨some q, b⟩)

theorem sim_step (s : St β) (h q : Path) (o : One β) (f0 : Files β) (R : Rep s h q o f0) (op : HOp β) :
    Rep (step s (op.eff h)) h q (o.step op) f0 := by
  obtain ⟨fq, fr, hh⟩ := R
  obtain ⟨c, _ | b⟩ := o
  · -- a closed handle: no operation does anything
    have e : step s (op.eff h) = s := by
      cases op <;> simp [HOp.eff, step, show s.hnd h = none from hh]
    rw [e]
    cases op <;> exact ⟨fq, fr, hh⟩
  · replace hh : s.hnd h = some ⟨some q, b⟩ := hh
    cases op with
    | fsync => exact ⟨fq, fr, hh⟩
    | write d | spill n | flush | close =>
      -- what leaves the buffer is appended to the inode at `q` and to nothing else
      refine ⟨?_, fun r hr => ?_, ?_⟩
      · simp [HOp.eff, step, One.step, hh, push, fq]
      · simp [HOp.eff, step, hh, push, hr, fr r hr]
      · simp [HOp.eff, step, One.step, hh]

theorem sim_run (s : St β) (h q : Path) (o : One β) (f0 : Files β) (R : Rep s h q o f0) (ops : List (HOp β)) :
    Rep (runS s (ops.map (HOp.eff h))) h q (o.run ops) f0 := by
  induction ops generalizing s o with
  | nil => simpa [runS, One.run] using R
  | cons op ops ih => simpa [runS, One.run] using ih _ _ (sim_step s h q o f0 R op)

theorem sim_crash (s : St β) (h q : Path) (o : One β) (f0 : Files β) (R : Rep s h q o f0) (ops : List (HOp β)) :
    ∀ f ∈ crashFiles s (ops.map (HOp.eff h)), ∃ c ∈ o.trail ops, f q = some c ∧ ∀ r, r ≠ q → f r = f0 r := by
  induction ops generalizing s o with
  | nil => simpa [crashFiles, One.trail] using ⟨R.fq, R.fr⟩
  | cons op ops ih =>
    intro f hf
    simp only [List.map_cons, crashFiles, List.mem_cons] at hf
    rcases hf with rfl | hf
    · exact ⟨o.c, by simp [One.trail], R.fq, R.fr⟩
    · obtain ⟨c, hc, hf⟩ := ih _ _ (sim_step s h q o f0 R op) f hf
      exact ⟨c, by simp [One.trail, hc], hf⟩

theorem One.total_step (o : One β) (op : HOp β) : ∃ y, (o.step op).total = o.total ++ y := by
  obtain ⟨c, _ | b⟩ := o
  · cases op <;> exact ⟨[], (List.append_nil _).symm⟩
  · cases op with
    | write d => exact ⟨d, by simp [One.step, One.total, One.pending]⟩
    | _ => exact ⟨[], by simp [One.step, One.total, One.pending]⟩

theorem One.total_run (o : One β) (ops : List (HOp β)) : ∃ y, (o.run ops).total = o.total ++ y := by
  induction ops generalizing o with
  | nil => exact ⟨[], by simp [One.run]⟩
  | cons op ops ih =>
    obtain ⟨y1, h1⟩ := o.total_step op
    obtain ⟨y2, h2⟩ := ih (o.step op)
    exact ⟨y1 ++ y2, by simp [One.run, h2, h1, List.append_assoc]⟩

def HOp.isWrite : HOp β → Bool
  | .write _ => true
  | _ => false

theorem One.step_clean (o : One β) (op : HOp β) (hp : o.pending = []) (hw : op.isWrite = false) :
    (o.step op).c = o.c ∧ (o.step op).pending = [] := by
  obtain ⟨c, _ | b⟩ := o
  · cases op <;> exact ⟨rfl, rfl⟩
  · obtain rfl : b = [] := hp
    cases op <;> simp [One.step, One.pending, HOp.isWrite] at hw ⊢

theorem One.trail_const (o : One β) (ops : List (HOp β)) (hp : o.pending = [])
    (hw : ops.all (fun op => !op.isWrite) = true) :
    (∀ c ∈ o.trail ops, c = o.c) ∧ (o.run ops).c = o.c ∧ (o.run ops).pending = [] := by
  induction ops generalizing o with
  | nil => simp [One.trail, One.run, hp]
  | cons op ops ih =>
    simp only [List.all_cons, Bool.and_eq_true, Bool.not_eq_true'] at hw
    obtain ⟨hc, hp'⟩ := o.step_clean op hp hw.1
    obtain ⟨i1, i2, i3⟩ := ih (o.step op) hp' hw.2
    refine ⟨?_, i2.trans hc, i3⟩
    intro c hc'
    simp only [One.trail, List.mem_cons] at hc'
    rcases hc' with rfl | hc'
    · rfl
    · exact (i1 c hc').trans hc

/-- may the buffer hold something after these operations?  (`spill` empties only part of it) -/
def dirtyAfter : Bool → List (HOp β) → Bool
  | d, [] => d
  | _, .write _ :: ops => dirtyAfter true ops
  | _, .flush :: ops => dirtyAfter false ops
  | _, .close :: ops => dirtyAfter false ops
  | d, _ :: ops => dirtyAfter d ops

theorem clean_pending (o : One β) (d : Bool) (ops : List (HOp β)) (h0 : d = false → o.pending = [])
    (hc : dirtyAfter d ops = false) : (o.run ops).pending = [] := by
  induction ops generalizing o d with
  | nil => exact h0 hc
  | cons op ops ih =>
    cases op with
    | write x => exact ih (o.step _) true (by simp) hc
    | flush | close =>
      refine ih (o.step _) false (fun _ => ?_) hc
      cases hb : o.h <;> simp [One.step, One.pending, hb]
    | fsync | spill n => exact ih (o.step _) d (fun hd => (o.step_clean _ (h0 hd) rfl).2) hc

/-- `open(tmp,'w')`, handle operations, `os.replace(tmp, dst)`, more handle operations (the handle may still be
    open: the `with` block may end after the rename) -/
def proto (tmp dst : Path) (ops1 ops2 : List (HOp β)) : List (Eff β) :=
  .openW tmp :: (ops1.map (HOp.eff tmp) ++ .replace tmp dst :: ops2.map (HOp.eff tmp))

def One.init : One β := ⟨[], some []⟩

def atReplace (ops1 : List (HOp β)) : One β := One.init.run ops1

/-- what the target holds once the program is through and the handle is closed -/
def finalContent (ops1 ops2 : List (HOp β)) : List β := ((atReplace ops1).run (ops2 ++ [.close])).c

theorem rep_open (s : St β) (tmp : Path) : Rep (step s (.openW tmp)) tmp tmp One.init (upd s.file tmp (some [])) :=
  ⟨by simp [step, One.init], fun r hr => by simp [step, hr], by simp [step, One.init]⟩

theorem rep_replace (s : St β) (tmp dst : Path) (o : One β) (f0 : Files β) (hne : tmp ≠ dst)
    (R : Rep s tmp tmp o f0) :
    Rep (step s (.replace tmp dst)) tmp dst o (upd f0 tmp none) := by
  obtain ⟨fq, fr, hh⟩ := R
  have hne' : dst ≠ tmp := fun e => hne e.symm
  refine ⟨?_, ?_, ?_⟩
  · simp [step, fq, hne']
  · intro r hr
    by_cases hrt : r = tmp
    · subst hrt
      simp [step, fq]
    · simp [step, fq, hr, hrt, fr r hrt]
  · cases hb : o.h <;> simp [step, fq, hh, hb, reloc]

theorem proto_crash_dst (s : St β) (tmp dst : Path) (ops1 ops2 : List (HOp β)) (hne : tmp ≠ dst) :
    ∀ f ∈ crashFiles s (proto tmp dst ops1 ops2),
      f dst = s.file dst ∨ ∃ c ∈ (atReplace ops1).trail ops2, f dst = some c := by
  have hne' : dst ≠ tmp := fun e => hne e.symm
  have R1 := rep_open s tmp
  have R3 := rep_replace _ tmp dst _ _ hne (sim_run _ tmp tmp One.init _ R1 ops1)
  intro f hf
  -- before `open`; while the handle writes to `tmp`; from the rename on
  simp only [proto, crashFiles, crashFiles_append_cons, List.mem_cons, List.mem_append] at hf
  rcases hf with rfl | hf | hf
  · exact Or.inl rfl
  · obtain ⟨_, _, _, h2⟩ := sim_crash _ tmp tmp One.init _ R1 ops1 f hf
    left
    rw [h2 dst hne']
    simp [hne']
  · obtain ⟨c, hc, h1, _⟩ := sim_crash _ tmp dst _ _ R3 ops2 f hf
    exact Or.inr ⟨c, hc, h1⟩

theorem proto_crash_after_replace (s : St β) (tmp dst : Path) (ops1 ops2 : List (HOp β)) (hne : tmp ≠ dst) :
    ∃ f ∈ crashFiles s (proto tmp dst ops1 ops2), f dst = some (atReplace ops1).c := by
  have R3 := rep_replace _ tmp dst _ _ hne (sim_run _ tmp tmp One.init _ (rep_open s tmp) ops1)
  refine ⟨_, ?_, R3.fq⟩
  simp only [proto, crashFiles, crashFiles_append_cons]
  exact List.mem_cons_of_mem _ (List.mem_append_right _ (head_mem_crashFiles _ _))

theorem One.pending_after_close (o : One β) (ops : List (HOp β)) : (o.run (ops ++ [.close])).pending = [] := by
  rw [One.run_append]
  generalize o.run ops = o'
  cases hb : o'.h <;> simp [One.run, One.step, One.pending, hb]

/-- the inode never changes from the rename on -/
theorem proto_clean_safe (s : St β) (tmp dst : Path) (ops1 ops2 : List (HOp β)) (hne : tmp ≠ dst)
    (hp : (atReplace ops1).pending = []) (hw : ops2.all (fun op => !op.isWrite) = true) :
    ∀ f ∈ crashFiles s (proto tmp dst ops1 ops2), f dst = s.file dst ∨ f dst = some (finalContent ops1 ops2) := by
  have hw' : (ops2 ++ [HOp.close]).all (fun op => !op.isWrite) = true := by
    rw [List.all_append, hw]
    rfl
  have hfin : finalContent ops1 ops2 = (atReplace ops1).c := (One.trail_const _ _ hp hw').2.1
  intro f hf
  rcases proto_crash_dst s tmp dst ops1 ops2 hne f hf with h | ⟨c, hc, h⟩
  · exact Or.inl h
  · right
    rw [h, hfin, (One.trail_const _ _ hp hw).1 c hc]

/-! ### the discipline on recorded traces (alphabet of `Crash/Model.lean`: a `write` carries no data)

`dirty`: handles (by the path they were opened with) that accepted a `write` and were not flushed or closed since;
`moved`: paths renamed away since they were last opened — a handle opened before that still points at the inode
that now sits at the destination.  Demanded: (i) no `os.replace` of a path whose handle is dirty, (ii) no `write`
through a handle whose inode has been renamed into place. -/

def flushedReplaces {α : Type} : (dirty moved : List Path) → List (Effect α) → Bool
  | _, _, [] => true
  | d, m, .openW p :: es => flushedReplaces (d.filter (· != p)) (m.filter (· != p)) es
  | d, m, .openA p :: es => flushedReplaces (d.filter (· != p)) (m.filter (· != p)) es
  | d, m, .write p :: es => !m.contains p && flushedReplaces (p :: d) m es
  | d, m, .flush p :: es => flushedReplaces (d.filter (· != p)) m es
  | d, m, .close p _ :: es => flushedReplaces (d.filter (· != p)) m es
  | d, m, .replace s _ :: es => !d.contains s && flushedReplaces d (s :: m) es
  | d, m, _ :: es => flushedReplaces d m es

/-- the recorder's view of a handle operation (a spill is not visible to it) -/
def HOp.coarse (h : Path) : HOp β → Effect Unit
  | .write _ => .write h
  | .spill _ => .other h
  | .flush => .flush h
  | .fsync => .fsync h
  | .close => .close h ()

def protoCoarse (tmp dst : Path) (ops1 ops2 : List (HOp β)) : List (Effect Unit) :=
  .openW tmp :: (ops1.map (HOp.coarse tmp) ++ .replace tmp dst :: ops2.map (HOp.coarse tmp))

theorem contains_filter_ne (l : List Path) (p : Path) : (l.filter (· != p)).contains p = false := by
  simp

theorem flushed_ops1 (tmp : Path) (ops : List (HOp β)) (d m : List Path) (rest : List (Effect Unit))
    (h : flushedReplaces d m (ops.map (HOp.coarse tmp) ++ rest) = true) :
    ∃ d', d'.contains tmp = dirtyAfter (d.contains tmp) ops ∧ flushedReplaces d' m rest = true := by
  induction ops generalizing d with
  | nil => exact ⟨d, rfl, h⟩
  | cons op ops ih =>
    cases op with
    | write x =>
      simp only [List.map_cons, HOp.coarse, List.cons_append, flushedReplaces, Bool.and_eq_true] at h
      simpa only [dirtyAfter, List.contains_cons, BEq.rfl, Bool.true_or] using ih (tmp :: d) h.2
    | flush | close => simpa only [dirtyAfter, contains_filter_ne] using ih _ h
    | fsync | spill n => exact ih _ h

theorem flushed_ops2 (tmp : Path) (ops : List (HOp β)) (d m : List Path)
    (hm : m.contains tmp = true)
    (h : flushedReplaces d m (ops.map (HOp.coarse tmp)) = true) :
    ops.all (fun op => !op.isWrite) = true := by
  induction ops generalizing d with
  | nil => rfl
  | cons op ops ih =>
    cases op with
    | write x =>
      simp [HOp.coarse, flushedReplaces] at h
      exact absurd (by simpa using hm) h.1
    | _ => exact ih _ h

theorem flushed_proto (tmp dst : Path) (ops1 ops2 : List (HOp β))
    (h : flushedReplaces [] [] (protoCoarse tmp dst ops1 ops2) = true) :
    dirtyAfter false ops1 = false ∧ ops2.all (fun op => !op.isWrite) = true := by
  simp only [protoCoarse, flushedReplaces, List.filter_nil] at h
  obtain ⟨d', h1, h2⟩ := flushed_ops1 tmp ops1 [] [] _ h
  simp only [flushedReplaces, Bool.and_eq_true, Bool.not_eq_true'] at h2
  refine ⟨?_, flushed_ops2 tmp ops2 d' [tmp] (by simp) h2.2⟩
  have : ([] : List Path).contains tmp = false := rfl
  rw [this] at h1
  rw [← h1]
  exact h2.1

end MesonModel.Crash.Buf
