/-
Lemmas for C09.  An effect changes only the paths it touches (`Effect.touches` and the frame lemmas), so an observer
of a few paths sees only a few of the crash states (`touchedStates`, `forall_crashStates_observed`); and every
invariant of crash states goes through one walk over the trace (`forall_crashStates`).  On these rest the soundness
of the static checks of a trace (`neverTornCheck`, `alwaysPresentCheck`, `replacesFresh`, `repairs`) and of the
checker of a recorded scenario built from them (`writesRecoverable`).
-/
import MesonModel.Crash.Model

namespace MesonModel.Crash

variable {α : Type}

@[simp] theorem FS.set_same (fs : FS α) (p : Path) (s : FileSt α) : (fs.set p s) p = s := by
  simp [FS.set]

@[simp] theorem FS.set_other (fs : FS α) (p q : Path) (s : FileSt α) (h : q ≠ p) : (fs.set p s) q = fs q := by
  simp [FS.set, h]

/-- `e` can change the state of `p` (a rename changes both ends) -/
def Effect.touches : Effect α → Path → Bool
  | .openW q, p => p == q
  | .write q, p => p == q
  | .close q _, p => p == q
  | .unlink q, p => p == q
  | .rmdir q, p => p == q
  | .mkdir q, p => p == q
  | .copyfile _ d, p => p == d
  | .replace s d, p => p == s || p == d
  | _, _ => false

theorem step_of_not_touches (fs : FS α) (e : Effect α) (p : Path) (h : e.touches p = false) :
    step fs e p = fs p := by
  cases e with
  | write q | close q _ | mkdir q | replace q _ | copyfile q _ =>
    simp [Effect.touches] at h
    cases hq : fs q <;> simp [step, hq, FS.set, h]
  | openW q | unlink q | rmdir q =>
    simp [Effect.touches] at h
    simp [step, FS.set, h]
  | _ => rfl

theorem mid_eq_some (fs m : FS α) (e : Effect α) (h : mid fs e = some m) :
    ∃ q, m = fs.set q .torn ∧ (e = .write q ∨ ∃ s, e = .copyfile s q) := by
  cases e <;>
  simp only [mid] at h <;>
  (try split at h) <;>
  simp at h
  · exact ⟨_, h.symm, Or.inl rfl⟩
  · exact ⟨_, h.symm, Or.inr ⟨_, rfl⟩⟩

theorem mid_of_not_touches (fs m : FS α) (e : Effect α) (p : Path) (h : e.touches p = false)
    (hm : mid fs e = some m) : m p = fs p := by
  obtain ⟨q, rfl, rfl | ⟨s, rfl⟩⟩ := mid_eq_some fs m e hm <;>
  simp [Effect.touches] at h <;>
  simp [FS.set, h]

theorem mem_crashStates_cons (fs s : FS α) (e : Effect α) (es : List (Effect α)) :
    s ∈ crashStates fs (e :: es) ↔ s = fs ∨ mid fs e = some s ∨ s ∈ crashStates (step fs e) es := by
  simp only [crashStates]
  split <;> simp [*, eq_comm]

theorem start_mem_crashStates (fs : FS α) (t : List (Effect α)) : fs ∈ crashStates fs t := by
  cases t with
  | nil => simp [crashStates]
  | cons e es => exact (mem_crashStates_cons ..).mpr (Or.inl rfl)

theorem crashStates_tail_subset (fs : FS α) (e : Effect α) (es : List (Effect α)) :
    ∀ s ∈ crashStates (step fs e) es, s ∈ crashStates fs (e :: es) :=
  fun _ hs => (mem_crashStates_cons ..).mpr (Or.inr (Or.inr hs))

/-- one walk for every invariant `P` of crash states; `C` is what is checked of the trace still to come -/
theorem forall_crashStates {P : FS α → Prop} {C : FS α → List (Effect α) → Prop}
    (hC : ∀ fs e es, C fs (e :: es) → P fs → C (step fs e) es ∧ P (step fs e) ∧ ∀ m, mid fs e = some m → P m)
    (fs : FS α) (t : List (Effect α)) (hc : C fs t) (h0 : P fs) : ∀ s ∈ crashStates fs t, P s := by
  induction t generalizing fs with
  | nil =>
    intro s hs
    rwa [List.mem_singleton.mp hs]
  | cons e es ih =>
    obtain ⟨hc', hs', hm⟩ := hC fs e es hc h0
    intro s hs
    rcases (mem_crashStates_cons ..).mp hs with rfl | h | h
    · exact h0
    · exact hm s h
    · exact ih _ hc' hs' s h

/-- the index-based view used by the driver and the harness lands in the list-based view used by the theorems -/
theorem crashAt_mem_crashStates (fs : FS α) (t : List (Effect α)) (k : Nat) (torn : Bool) :
    crashAt fs t k torn ∈ crashStates fs t := by
  induction t generalizing fs k with
  | nil => cases torn <;> simp [crashAt, run, crashStates]
  | cons e es ih =>
    rw [mem_crashStates_cons]
    cases k with
    | zero =>
      cases torn
      · exact Or.inl rfl
      · cases hm : mid fs e <;> simp [crashAt, run, hm]
    | succ k => exact Or.inr (Or.inr (ih (step fs e) k))

theorem crashStates_append_right (fs : FS α) (pre post : List (Effect α)) :
    ∀ s ∈ crashStates (run fs pre) post, s ∈ crashStates fs (pre ++ post) := by
  induction pre generalizing fs with
  | nil => exact fun _ hs => hs
  | cons e es ih => exact fun s hs => crashStates_tail_subset fs e (es ++ post) s (ih (step fs e) s hs)

/-- the crash states in which a path of `ps` may differ from the state before: what an effect touching `ps`
    leaves, completed or not -/
def touchedStates (ps : List Path) : FS α → List (Effect α) → List (FS α)
  | _, [] => []
  | fs, e :: es =>
    if ps.any e.touches then (mid fs e).toList ++ step fs e :: touchedStates ps (step fs e) es
    else touchedStates ps (step fs e) es

/-- an observer of the paths `ps` alone need look only at the start and at what the effects touching `ps` leave -/
theorem forall_crashStates_observed (ps : List Path) {P : FS α → Prop}
    (hP : ∀ s s', (∀ p ∈ ps, s p = s' p) → P s' → P s)
    (fs : FS α) (t : List (Effect α)) (h : ∀ s' ∈ fs :: touchedStates ps fs t, P s') :
    ∀ s ∈ crashStates fs t, P s := by
  refine forall_crashStates (C := fun fs t => ∀ s' ∈ touchedStates ps fs t, P s') ?_ fs t
    (fun s' hs' => h s' (List.mem_cons_of_mem _ hs')) (h fs List.mem_cons_self)
  intro fs e es hc h0
  unfold touchedStates at hc
  split at hc
  · simp only [List.mem_append, List.mem_cons, Option.mem_toList] at hc
    exact ⟨fun s' hs' => hc s' (.inr (.inr hs')), hc _ (.inr (.inl rfl)), fun m hm => hc m (.inl hm)⟩
  · rename_i ht
    have hf : ∀ p ∈ ps, e.touches p = false := by simpa using ht
    exact ⟨hc, hP _ fs (fun p hp => step_of_not_touches fs e p (hf p hp)) h0,
      fun m hm => hP m fs (fun p hp => mid_of_not_touches fs m e p (hf p hp) hm) h0⟩

def FileSt.isTorn : FileSt α → Bool
  | .torn => true
  | _ => false

def FileSt.isAbsent : FileSt α → Bool
  | .absent => true
  | _ => false

theorem isTorn_false_iff (s : FileSt α) : s.isTorn = false ↔ s ≠ .torn := by
  cases s <;> simp [FileSt.isTorn]

theorem isAbsent_false_iff (s : FileSt α) : s.isAbsent = false ↔ s ≠ .absent := by
  cases s <;> simp [FileSt.isAbsent]

/-- effect `e`, issued in state `fs`, cannot leave `p` torn — neither when it completes nor when the process
    dies inside it -/
def safeFor (p : Path) (fs : FS α) : Effect α → Bool
  | .openW q => q != p
  | .write q => q != p
  | .copyfile _ d => d != p
  | .replace s d => if d = p then !(fs s).isTorn else true
  | _ => true

def neverTornCheck (p : Path) : FS α → List (Effect α) → Bool
  | _, [] => true
  | fs, e :: es => safeFor p fs e && neverTornCheck p (step fs e) es

theorem step_preserves_not_torn (p : Path) (fs : FS α) (e : Effect α)
    (hs : safeFor p fs e = true) (h : fs p ≠ .torn) : (step fs e) p ≠ .torn := by
  cases ht : e.touches p
  · rwa [step_of_not_touches fs e p ht]
  · cases e with
    | openA _ | flush _ | fsync _ | other _ => cases ht
    | openW q | write q | copyfile _ q => simp_all [Effect.touches, safeFor]
    | close q _ | mkdir q | unlink q | rmdir q =>
      obtain rfl : p = q := by simpa [Effect.touches] using ht
      simp only [step]
      cases hq : fs p <;> simp_all
    | replace s d =>
      simp only [step]
      by_cases hps : p = s <;> cases hst : fs s <;> simp_all [Effect.touches, safeFor, FS.set, FileSt.isTorn]

theorem mid_preserves_not_torn (p : Path) (fs : FS α) (e : Effect α) (m : FS α)
    (hs : safeFor p fs e = true) (h : fs p ≠ .torn) (hm : mid fs e = some m) : m p ≠ .torn := by
  obtain ⟨q, rfl, rfl | ⟨s, rfl⟩⟩ := mid_eq_some fs m e hm <;> simp [safeFor] at hs <;>
    simp [FS.set, Ne.symm hs, h]

theorem neverTornCheck_sound (p : Path) (fs : FS α) (t : List (Effect α))
    (hc : neverTornCheck p fs t = true) (h0 : fs p ≠ .torn) :
    ∀ s ∈ crashStates fs t, s p ≠ .torn := by
  refine forall_crashStates (P := fun s => s p ≠ .torn) (C := fun fs t => neverTornCheck p fs t = true) ?_ fs t hc h0
  intro fs e es hc h
  simp only [neverTornCheck, Bool.and_eq_true] at hc
  exact ⟨hc.2, step_preserves_not_torn p fs e hc.1 h, fun m => mid_preserves_not_torn p fs e m hc.1 h⟩

def keepsPresent (p : Path) : Effect α → Bool
  | .unlink q => q != p
  | .rmdir q => q != p
  | .replace s _ => s != p
  | _ => true

def alwaysPresentCheck (p : Path) (t : List (Effect α)) : Bool := t.all (keepsPresent p)

theorem step_preserves_present (p : Path) (fs : FS α) (e : Effect α)
    (hs : keepsPresent p e = true) (h : fs p ≠ .absent) : (step fs e) p ≠ .absent := by
  cases ht : e.touches p
  · rwa [step_of_not_touches fs e p ht]
  · cases e with
    | openA _ | flush _ | fsync _ | other _ => cases ht
    | unlink q | rmdir q => simp_all [Effect.touches, keepsPresent]
    | openW q | write q | close q _ | mkdir q =>
      obtain rfl : p = q := by simpa [Effect.touches] using ht
      simp only [step]
      cases hq : fs p <;> simp_all
    | copyfile s d =>
      obtain rfl : p = d := by simpa [Effect.touches] using ht
      simp only [step]
      cases hst : fs s <;> simp_all
    | replace s d =>
      simp only [step]
      by_cases hps : p = s <;> cases hst : fs s <;> simp_all [Effect.touches, keepsPresent, FS.set]

theorem mid_preserves_present (p : Path) (fs : FS α) (e : Effect α) (m : FS α)
    (h : fs p ≠ .absent) (hm : mid fs e = some m) : m p ≠ .absent := by
  obtain ⟨q, rfl, _⟩ := mid_eq_some fs m e hm
  by_cases hq : p = q <;> simp [FS.set, hq, h]

theorem alwaysPresentCheck_sound (p : Path) (fs : FS α) (t : List (Effect α))
    (hc : alwaysPresentCheck p t = true) (h0 : fs p ≠ .absent) :
    ∀ s ∈ crashStates fs t, s p ≠ .absent := by
  refine forall_crashStates (P := fun s => s p ≠ .absent) (C := fun _ t => alwaysPresentCheck p t = true) ?_ fs t hc h0
  intro fs e es hc h
  simp only [alwaysPresentCheck, List.all_cons, Bool.and_eq_true] at hc
  exact ⟨hc.2, step_preserves_present p fs e hc.1 h, fun m => mid_preserves_present p fs e m h⟩

theorem Stale.set_mono (st st' : Stale) (hle : ∀ p, st' p = true → st p = true) (q : Path) (b b' : Bool)
    (hb : b' = true → b = true) : ∀ p, st'.set q b' p = true → st.set q b p = true := by
  intro p
  simp only [Stale.set]
  split
  · exact hb
  · exact hle p

theorem staleStep_mono (st st' : Stale) (hle : ∀ p, st' p = true → st p = true) (e : Effect α) :
    ∀ p, staleStep st' e p = true → staleStep st e p = true := by
  cases e with
  | openW q | unlink q | rmdir q => exact Stale.set_mono st st' hle q _ _ id
  | copyfile s d => exact Stale.set_mono st st' hle d _ _ (hle s)
  | replace s d => exact Stale.set_mono _ _ (Stale.set_mono st st' hle d _ _ (hle s)) s _ _ id
  | _ => exact hle

theorem replacesFresh_mono (t : List (Effect α)) (st st' : Stale)
    (hle : ∀ p, st' p = true → st p = true) (h : replacesFresh st t = true) : replacesFresh st' t = true := by
  induction t generalizing st st' with
  | nil => rfl
  | cons e es ih =>
    cases e with
    | replace s d =>
      simp only [replacesFresh, Bool.and_eq_true, Bool.not_eq_true'] at h ⊢
      refine ⟨?_, ih _ _ (staleStep_mono st st' hle (.replace s d)) h.2⟩
      cases hs : st' s with
      | false => rfl
      | true =>
        rw [hle s hs] at h
        cases h.1
    | _ => exact ih _ _ (staleStep_mono st st' hle _) h

def AFS.describes (a : AFS) (fs : FS α) : Prop := ∀ p, (a p).describes (fs p)

theorem absStep_of_not_touches (a : AFS) (e : Effect α) (p : Path) (h : e.touches p = false) :
    absStep a e p = a p := by
  cases e with
  | write q | close q _ | mkdir q | replace q _ | copyfile q _ =>
    simp [Effect.touches] at h
    cases hq : a q <;> simp [absStep, hq, AFS.set, h]
  | openW q | unlink q | rmdir q =>
    simp [Effect.touches] at h
    simp [absStep, AFS.set, h]
  | _ => rfl

/-- Off the paths an effect touches both sides keep what they had; at a touched path the two `match`es are compared
    value by value.  A rename is a copy that also takes the source away. -/
theorem absStep_sound (a : AFS) (fs : FS α) (h : a.describes fs) (e : Effect α) :
    (absStep a e).describes (step fs e) := by
  have copy : ∀ s d, (absStep a (.copyfile s d : Effect α) d).describes (step fs (.copyfile s d) d) := by
    intro s d
    have hd := h d
    have hs := h s
    revert hs hd
    simp only [absStep, step]
    cases a s <;> cases fs s <;> simp [Abs.describes, AFS.set, FS.set]
  intro q
  cases ht : e.touches q
  · rw [absStep_of_not_touches a e q ht, step_of_not_touches fs e q ht]
    exact h q
  · cases e with
    | openA _ | flush _ | fsync _ | other _ => cases ht
    | openW p | unlink p | rmdir p =>
      obtain rfl : q = p := by simpa [Effect.touches] using ht
      simp [absStep, step, AFS.set, FS.set, Abs.describes]
    | write p | close p _ | mkdir p =>
      obtain rfl : q = p := by simpa [Effect.touches] using ht
      have hq := h q
      revert hq
      simp only [absStep, step]
      cases ha : a q <;> cases hf : fs q <;> simp [Abs.describes, AFS.set, FS.set, ha, hf]
    | copyfile s d =>
      obtain rfl : q = d := by simpa [Effect.touches] using ht
      exact copy s q
    | replace s d =>
      by_cases hqs : q = s
      · subst hqs
        have hq := h q
        revert hq
        simp only [absStep, step]
        cases ha : a q <;> cases hf : fs q <;> simp [Abs.describes, AFS.set, FS.set, ha, hf]
      · obtain rfl : q = d := by simpa [Effect.touches, hqs] using ht
        have := copy s q
        revert this
        simp only [absStep, step]
        cases a s <;> cases fs s <;> simp [AFS.set, FS.set, hqs]

theorem absRun_sound (a : AFS) (fs : FS α) (h : a.describes fs) (t : List (Effect α)) :
    (absRun a t).describes (run fs t) := by
  induction t generalizing a fs with
  | nil => exact h
  | cons e es ih => exact ih _ _ (absStep_sound a fs h e)

/-- whatever the killed command left (within `a0`), after the follow-up run the file is not torn -/
theorem repairs_sound (a0 : AFS) (p : Path) (rt : List (Effect α)) (h : repairs a0 p rt = true) (fs : FS α)
    (h0 : a0.describes fs) : (run fs rt) p ≠ .torn := by
  have hd := absRun_sound a0 fs h0 rt p
  unfold repairs at h
  cases ha : absRun a0 rt p <;> simp [ha] at h <;> simp [Abs.describes, ha] at hd
  · rcases hd with ⟨c, hc⟩ | hc <;> simp [hc]
  · simp [hd]

theorem AFS.top_describes (fs : FS α) : AFS.top.describes fs := fun _ => trivial

/-- the abstract run evaluated by need, most recent effect first: an effect that does not touch the path asked
    for is passed over.  (`absRun` builds the whole abstract directory, and each of its steps looks up the path
    *it* writes: asked about one path, it evaluates all of them.) -/
def absAt (a0 : AFS) : List (Effect α) → AFS
  | [], p => a0 p
  | e :: r, p => if e.touches p then absStep (absAt a0 r) e p else absAt a0 r p

theorem absAt_cons (a0 : AFS) (e : Effect α) (r : List (Effect α)) :
    absAt a0 (e :: r) = absStep (absAt a0 r) e := by
  funext p
  simp only [absAt]
  split
  · rfl
  · exact (absStep_of_not_touches _ e p (Bool.eq_false_iff.mpr ‹_›)).symm

theorem absAt_reverse (a0 : AFS) (t : List (Effect α)) : absAt a0 t.reverse = absRun a0 t := by
  induction t generalizing a0 with
  | nil => rfl
  | cons e es ih =>
    rw [absRun, ← ih, List.reverse_cons]
    generalize es.reverse = r
    induction r with
    | nil =>
      rw [List.nil_append, absAt_cons]
      rfl
    | cons e' r ih' => rw [List.cons_append, absAt_cons, absAt_cons, ih']

/-- `repairs`, decided by need -/
def repairedBy (a0 : AFS) (p : Path) (rt : List (Effect α)) : Bool :=
  match absAt a0 rt.reverse p with
  | .good => true
  | .gone => true
  | _ => false

theorem repairedBy_eq_repairs (a0 : AFS) (p : Path) (rt : List (Effect α)) : repairedBy a0 p rt = repairs a0 p rt := by
  rw [repairedBy, absAt_reverse]
  rfl

def FileSt.isWhole : FileSt α → Bool
  | .ok _ => true
  | .dir => true
  | _ => false

/-- what the two static disciplines establish about a scenario's crash states -/
def Scenario.known (sc : Scenario) : AFS := fun p =>
  if (sc.fs0 p).isWhole && alwaysPresentCheck p sc.trace && neverTornCheck p sc.fs0 sc.trace then .good else .unk

theorem Scenario.known_describes (sc : Scenario) :
    ∀ s ∈ crashStates sc.fs0 sc.trace, sc.known.describes s := by
  intro s hs p
  unfold Scenario.known
  split
  · rename_i h
    simp only [Bool.and_eq_true] at h
    obtain ⟨⟨h3, h2⟩, h1⟩ := h
    have w0 : sc.fs0 p ≠ .torn ∧ sc.fs0 p ≠ .absent := by
      cases hf : sc.fs0 p <;> simp [hf, FileSt.isWhole] at h3 <;> simp
    have nt := neverTornCheck_sound p sc.fs0 sc.trace h1 w0.1 s hs
    have na := alwaysPresentCheck_sound p sc.fs0 sc.trace h2 w0.2 s hs
    cases hsp : s p <;> simp_all [Abs.describes]
  · trivial

/-- the follow-up run recorded from the state where `p` was left torn rewrites `p`, whatever else it finds -/
def repairedWhenTorn (sc : Scenario) (p : Path) : Bool :=
  match sc.tornRecovery.lookup p with
  | some rt => repairedBy AFS.top p rt
  | none => false

/-- a written file is fine if no meson command reads it, or it is a temp file (renamed away; leftovers are covered by
    C09 `recorded_temps_truncated`), or the follow-up run rewrites it whatever it finds, or — for a writer that keeps a
    whole file — the follow-up run that finds it torn rewrites it, or no kill can tear it -/
def writesRecoverable (sc : Scenario) : Bool :=
  (writeSet sc.trace).all (fun p =>
    sc.ignored.contains p ||
    (replaceSources sc.trace).contains p ||
    repairedBy sc.known p sc.recovery ||
    repairedWhenTorn sc p ||
    (neverTornCheck p sc.fs0 sc.trace && !(sc.fs0 p).isTorn))

theorem writesRecoverable_sound (sc : Scenario) (h : writesRecoverable sc = true) :
    ∀ p ∈ writeSet sc.trace, p ∉ sc.ignored → p ∉ replaceSources sc.trace →
      ∀ s ∈ crashStates sc.fs0 sc.trace,
        s p ≠ .torn ∨ (run s sc.recovery) p ≠ .torn ∨
        ∃ rt, sc.tornRecovery.lookup p = some rt ∧ ∀ fs : FS Gen, (run fs rt) p ≠ .torn := by
  intro p hp hign htmp s hs
  have h := List.all_eq_true.mp h p hp
  simp only [Bool.or_eq_true, Bool.and_eq_true, Bool.not_eq_true', repairedBy_eq_repairs] at h
  rcases h with (((hc | hc) | hr) | ht) | ⟨hn, h0⟩
  · exact absurd (List.contains_iff_mem.mp hc) hign
  · exact absurd (List.contains_iff_mem.mp hc) htmp
  · exact Or.inr (Or.inl (repairs_sound sc.known p sc.recovery hr s (sc.known_describes s hs)))
  · right
    right
    unfold repairedWhenTorn at ht
    cases hl : sc.tornRecovery.lookup p with
    | none => simp [hl] at ht
    | some rt =>
      simp only [hl, repairedBy_eq_repairs] at ht
      exact ⟨rt, rfl, fun fs => repairs_sound AFS.top p rt ht fs (AFS.top_describes fs)⟩
  · exact Or.inl (neverTornCheck_sound p sc.fs0 sc.trace hn ((isTorn_false_iff _).mp h0) s hs)

theorem recover_internal_iff (fs : FS α) : recover fs = .internalError ↔ fs pCmdline = .torn := by
  unfold recover
  cases h0 : fs pCoredata <;> cases h1 : fs pCmdline <;> simp

theorem recover_rejected_iff (fs : FS α) :
    recover fs = .rejectedCleanly ↔
      fs pCoredata = .torn ∧ (fs pCmdline = .absent ∨ fs pCmdline = .dir) := by
  unfold recover
  cases h0 : fs pCoredata <;> cases h1 : fs pCmdline <;> simp

theorem recover_usable_of_not_torn (fs : FS α) (h0 : fs pCoredata ≠ .torn) (h1 : fs pCmdline ≠ .torn) :
    ∃ src, recover fs = .usable src := by
  cases h : recover fs with
  | usable src => exact ⟨src, rfl⟩
  | rejectedCleanly => exact absurd ((recover_rejected_iff fs).mp h).1 h0
  | internalError => exact absurd ((recover_internal_iff fs).mp h) h1

theorem usable_of_acceptable {c : Cmd} {co : Bool} {v : Verdict Gen} (h : acceptable c co v = true) :
    ∃ src, v = .usable src := by
  cases v <;> first | exact ⟨_, rfl⟩ | cases h

theorem recover_congr (s s' : FS α) (h0 : s pCoredata = s' pCoredata) (h1 : s pCmdline = s' pCmdline) :
    recover s = recover s' := by
  unfold recover
  rw [h0, h1]

theorem forall_crashStates_recover (Q : Verdict α → Prop) (fs : FS α) (t : List (Effect α))
    (h : ∀ s' ∈ fs :: touchedStates [pCoredata, pCmdline] fs t, Q (recover s')) :
    ∀ s ∈ crashStates fs t, Q (recover s) :=
  forall_crashStates_observed [pCoredata, pCmdline]
    (fun s s' e => by
      rw [recover_congr s s' (e _ (by simp)) (e _ (by simp))]
      exact id) fs t h

end MesonModel.Crash
