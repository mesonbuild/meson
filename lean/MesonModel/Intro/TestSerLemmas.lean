import MesonModel.Intro.TestSer
import MesonModel.Util.Sort
/-
Frame reasoning for `create_test_serialisation` (C15): with `copy.deepcopy` the function only writes to cells it
allocated itself, so it is a function of the *values* the test table reaches (`serPure`).
-/
namespace MesonModel.Intro.TestSer
open MesonModel.Intro

/-- `h'` is `h` after some allocations and writes to fresh cells: every old reference denotes what it denoted -/
def Frame (h h' : Heap) : Prop :=
  h'.wf ∧ h.nObjs ≤ h'.nObjs ∧ ∀ r, r < h.nObjs → h'.envOf r = h.envOf r

theorem Frame.refl {h : Heap} (hw : h.wf) : Frame h h := ⟨hw, Nat.le_refl _, fun _ _ => rfl⟩

theorem Frame.trans {a b c : Heap} (h1 : Frame a b) (h2 : Frame b c) : Frame a c :=
  ⟨h2.1, Nat.le_trans h1.2.1 h2.2.1, fun r hr => by rw [h2.2.2 r (Nat.lt_of_lt_of_le hr h1.2.1), h1.2.2 r hr]⟩

/-- a new object whose two attributes are one fresh cell holding `v` -/
def Heap.alloc (h : Heap) (v : List EnvOp × List Str) : Heap :=
  { nObjs := h.nObjs + 1, nCells := h.nCells + 1,
    obj := fun i => if i = h.nObjs then ⟨h.nCells, h.nCells⟩ else h.obj i,
    ops := fun i => if i = h.nCells then v.1 else h.ops i,
    uns := fun i => if i = h.nCells then v.2 else h.uns i }

theorem alloc_frame {h : Heap} (hw : h.wf) (v : List EnvOp × List Str) : Frame h (h.alloc v) := by
  refine ⟨fun i hi => ?_, Nat.le_succ _, fun r hr => ?_⟩
  · simp only [Heap.alloc] at hi ⊢
    split
    · simp
    · have := hw i (by omega)
      omega
  · have := hw r hr
    simp only [Heap.envOf, Heap.alloc, if_neg (Nat.ne_of_lt hr), if_neg (Nat.ne_of_lt this.1), if_neg (Nat.ne_of_lt this.2)]

theorem alloc_envOf (h : Heap) (v : List EnvOp × List Str) : (h.alloc v).envOf h.nObjs = v := by
  simp [Heap.envOf, Heap.alloc]

/-- the loop of `prepend` calls in closed form: it raises when one of the names is unset, else it appends all the
operations to the one cell the object's `envvars` refers to -/
theorem prependAll_eq (ops : List EnvOp) (h : Heap) (r : Nat) :
    prependAll h r ops =
      if ops.any (fun op => decide (op.name ∈ h.uns (h.obj r).unset)) then .error .prependToUnset
      else .ok { h with ops := fun i => if i = (h.obj r).envvars then h.ops i ++ ops else h.ops i } := by
  induction ops generalizing h with
  | nil => simp [prependAll]
  | cons op rest ih =>
    unfold prependAll prependOp
    by_cases hn : op.name ∈ h.uns (h.obj r).unset
    · simp [hn]
    · simp only [hn, if_false]
      rw [ih]
      simp only [List.any_cons, hn, decide_false, Bool.false_or]
      cases rest.any fun op => decide (op.name ∈ h.uns (h.obj r).unset) with
      | true => rfl
      | false =>
        simp only [Bool.false_eq_true, if_false]
        congr 2
        funext i
        split <;> simp [*]

/-- `copy.deepcopy`, then prepends in place on the copy: nothing but the allocation of an object holding the final
value, since no other object shares the copy's cells -/
theorem copy_prependAll (h : Heap) (r : Nat) (ops : List EnvOp) :
    prependAll (copyEnv .deep h r).2 (copyEnv .deep h r).1 ops =
      if ops.any (fun op => decide (op.name ∈ (h.envOf r).2)) then .error .prependToUnset
      else .ok (h.alloc ((h.envOf r).1 ++ ops, (h.envOf r).2)) := by
  rw [prependAll_eq]
  simp only [copyEnv, Heap.envOf, Heap.alloc, if_true]
  congr 3
  funext i
  split <;> rfl

theorem serPure_congr (bd : Str) (darwin : Bool) (e1 e2 : Nat → List EnvOp × List Str) (t : Test)
    (h : e1 t.env = e2 t.env) : serPure bd darwin e1 t = serPure bd darwin e2 t := by
  simp [serPure, h]

theorem mapE_congr {α β ε} (f g : α → Except ε β) : ∀ (l : List α), (∀ a ∈ l, f a = g a) → mapE f l = mapE g l
  | [], _ => rfl
  | a :: r, h => by
    have h1 : f a = g a := h a (by simp)
    have h2 := mapE_congr f g r (fun x hx => h x (by simp [hx]))
    simp [mapE, h1, h2]

/-- `createOne` with the pair `copyEnv` returns taken apart by projections -/
theorem createOne_eq (mode : CopyMode) (bd : Str) (darwin : Bool) (t : Test) (h : Heap) :
    createOne mode bd darwin t h =
      match serCore bd t with
      | .error e => .error e
      | .ok core =>
        match prependAll (copyEnv mode h t.env).2 (copyEnv mode h t.env).1 (ldOps darwin (ldPath bd (dependsOf t))) with
        | .error e => .error e
        | .ok h2 => .ok (⟨core, (copyEnv mode h t.env).1⟩, h2) := by
  unfold createOne
  -- with the operations left opaque `rfl` does not unfold `ldPath` at every comparison
  generalize ldOps darwin (ldPath bd (dependsOf t)) = ops
  rfl

/-- one loop iteration, with deepcopy: the exception or the record `serPure` computes from the value of the test's
environment; old references keep their meaning -/
theorem createOne_deep (bd : Str) (darwin : Bool) (t : Test) (h : Heap) (hw : h.wf) :
    match serPure bd darwin h.envOf t with
    | .error e => createOne .deep bd darwin t h = .error e
    | .ok v => ∃ s h', createOne .deep bd darwin t h = .ok (s, h') ∧ Frame h h' ∧ s.env < h'.nObjs ∧ pickleOne h' s = v := by
  rw [createOne_eq]
  unfold serPure
  -- opaque again: nothing below depends on them
  generalize ldOps darwin (ldPath bd (dependsOf t)) = ops
  rw [copy_prependAll]
  cases serCore bd t with
  | error e => rfl
  | ok core =>
    dsimp only
    cases ops.any (fun op => decide (op.name ∈ (h.envOf t.env).2)) with
    | true => rfl
    | false => exact ⟨⟨core, h.nObjs⟩, _, rfl, alloc_frame hw _, Nat.lt_succ_self _, by rw [pickleOne, alloc_envOf]⟩

theorem pickleOne_frame {h h' : Heap} (f : Frame h h') (s : Ser) (hs : s.env < h.nObjs) :
    pickleOne h' s = pickleOne h s := by
  simp [pickleOne, f.2.2 s.env hs]

theorem createAll_deep (bd : Str) (darwin : Bool) : ∀ (ts : List Test) (h : Heap), h.wf → (∀ t ∈ ts, t.env < h.nObjs) →
    match mapE (serPure bd darwin h.envOf) ts with
    | .error e => createAll .deep bd darwin ts h = .error e
    | .ok vs => ∃ ss h', createAll .deep bd darwin ts h = .ok (ss, h') ∧ Frame h h' ∧ (∀ s ∈ ss, s.env < h'.nObjs) ∧
        pickle h' ss = vs := by
  intro ts
  induction ts with
  | nil =>
    intro h hw _
    exact ⟨[], h, rfl, Frame.refl hw, by simp, rfl⟩
  | cons t rest ih =>
    intro h hw hts
    have h1 := createOne_deep bd darwin t h hw
    simp only [mapE]
    cases hp : serPure bd darwin h.envOf t with
    | error e =>
      rw [hp] at h1
      simp [createAll, h1]
    | ok v =>
      rw [hp] at h1
      obtain ⟨s, ha, e1, fr, hs, pv⟩ := h1
      have hrest : ∀ t' ∈ rest, t'.env < ha.nObjs := fun t' ht' =>
        Nat.lt_of_lt_of_le (hts t' (by simp [ht'])) fr.2.1
      have ih' := ih ha fr.1 hrest
      have hcongr : mapE (serPure bd darwin ha.envOf) rest = mapE (serPure bd darwin h.envOf) rest :=
        mapE_congr _ _ rest (fun t' ht' => serPure_congr bd darwin _ _ t' (fr.2.2 t'.env (hts t' (by simp [ht']))))
      rw [hcongr] at ih'
      cases hm : mapE (serPure bd darwin h.envOf) rest with
      | error e =>
        rw [hm] at ih'
        simp [createAll, e1, ih']
      | ok vs =>
        rw [hm] at ih'
        obtain ⟨ss, hb, e2, fr2, hss, pvs⟩ := ih'
        refine ⟨s :: ss, hb, by simp [createAll, e1, e2], fr.trans fr2, ?_, ?_⟩
        · intro s' hs'
          rcases List.mem_cons.mp hs' with rfl | hm'
          · exact Nat.lt_of_lt_of_le hs fr2.2.1
          · exact hss s' hm'
        · simp only [pickle, List.map_cons]
          rw [pickleOne_frame fr2 s hs, pv]
          exact congrArg _ pvs

theorem isInsertionSort {α} (le : α → α → Bool) : IsInsertionSort le (insertBy le) (sortBy le) :=
  ⟨fun _ => rfl, fun _ _ _ => rfl, rfl, fun _ _ => rfl⟩

theorem mem_sortBy {α} (le : α → α → Bool) (y : α) (l : List α) : y ∈ sortBy le l ↔ y ∈ l :=
  (isInsertionSort le).mem

theorem getTestList_eq (h : Heap) (ss : List Ser) : getTestList h ss = (pickle h ss).map introOfPickled := by
  simp [getTestList, pickle, introOfPickled, introOne, pickleOne]

theorem envUsed_nil (ops : List EnvOp) : envUsed ops [] = getEnv ops [] := by
  simp [envUsed]

end MesonModel.Intro.TestSer
