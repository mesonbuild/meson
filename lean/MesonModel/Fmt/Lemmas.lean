import MesonModel.Fmt.Tree
/- C16 — the two string-literal simplification rules of `meson format` keep what a literal denotes; `erase` ignores trivia. -/
namespace MesonModel.Fmt

theorem decodeAux_no_backslash (f : Nat) (s : List Char) (h : '\\' ∉ s) : decodeAux f s = s := by
  fun_induction decodeAux f s with
  | case1 | case2 => rfl
  | case3 | case4 => exact absurd List.mem_cons_self h
  | case5 f c rest hc ih => rw [ih (List.not_mem_of_not_mem_cons h)]

theorem decodeEscapes_no_backslash (s : List Char) (h : '\\' ∉ s) : decodeEscapes s = s :=
  decodeAux_no_backslash _ _ h

theorem plainLexable_of_clean (s : List Char) (hq : '\'' ∉ s) (hb : '\\' ∉ s) : plainLexable s = true := by
  fun_induction plainLexable s with
  | case1 => rfl
  | case2 c rest ih => exact absurd List.mem_cons_self hb
  | case3 c rest hne ih =>
    rw [List.mem_cons, not_or] at hq hb
    simp [Ne.symm hq.1, Ne.symm hb.1, ih hq.2 hb.2]

theorem substAt_no_at (s : List Char) (h : '@' ∉ s) : substAt s = false := by
  fun_cases substAt s with
  | case1 c rest => exact absurd List.mem_cons_self h
  | case2 => rfl

theorem hasSubst_no_at (s : List Char) (h : '@' ∉ s) : hasSubst s = false := by
  induction s with
  | nil => rfl
  | cons c rest ih =>
    simp [hasSubst, substAt_no_at _ h, ih (fun m => h (List.mem_cons_of_mem _ m))]

mutual
theorem erase_mapWs (f : List Char → List Char) : ∀ t : Tree, erase (mapWs f t) = erase t
  | .node k fl tx kids ws => by
    simp only [mapWs, erase]
    rw [eraseList_mapWs f kids]
theorem eraseList_mapWs (f : List Char → List Char) : ∀ ts : List Tree, eraseList (mapWsList f ts) = eraseList ts
  | [] => by simp [mapWsList, eraseList]
  | t :: ts => by
    simp only [mapWsList, eraseList]
    rw [erase_mapWs f t, eraseList_mapWs f ts]
end

theorem eraseList_append (a b : List Tree) : eraseList (a ++ b) = eraseList a ++ eraseList b := by
  induction a with
  | nil => simp [eraseList]
  | cons t ts ih => simp [eraseList, ih]

theorem erase_symbol (fl : Nat) (tx : List Char) (kids : List Tree) (ws : List Char) :
    erase (.node .symbol fl tx kids ws) = [] := by
  simp [erase]

theorem keyLe_trans (a b c : List Nat) (h1 : keyLe a b = true) (h2 : keyLe b c = true) : keyLe a c = true := by
  simp only [keyLe, decide_eq_true_eq] at *
  exact List.le_trans h1 h2

theorem keyLe_total (a b : List Nat) : (keyLe a b || keyLe b a) = true := by
  simp only [keyLe, Bool.or_eq_true, decide_eq_true_eq]
  exact List.le_total a b

/-- value of the literal obtained by printing a node and lexing it again -/
def reVal (n : StrNode) : List Char := if n.multi then n.value else decodeEscapes n.raw

theorem denote_reparse (n : StrNode) : denote (reparse n) = (reVal n, n.fstr && hasSubst (reVal n)) := by
  cases n with
  | mk raw value multi fstr => cases multi <;> simp [reparse, parseStr, denote, reVal]

/-- a node whose `value` is what its printed form denotes (true of every parsed node and kept by rule 1) -/
def Consistent (n : StrNode) : Prop := n.value = reVal n

theorem consistent_parseStr (raw : List Char) (multi fstr : Bool) : Consistent (parseStr raw multi fstr) := by
  cases multi <;> simp [Consistent, parseStr, reVal]

theorem consistent_simplifyMulti (excl : List Char) (n : StrNode) (h : Consistent n) :
    Consistent (simplifyMulti excl n) := by
  unfold simplifyMulti
  split
  · simp [Consistent, reVal]
  · exact h

/-- rule 2 never changes what the literal denotes, for EVERY recogniser that accepts at least the values the
interpreter substitutes into (`hasSubst`, the regex of `InterpreterBase.evaluate_fstring`) -/
theorem simplifyFWith_denote (keep : List Char → Bool) (hk : ∀ v, hasSubst v = true → keep v = true)
    (n : StrNode) (h : Consistent n) :
    denote (reparse (simplifyFWith keep n)) = denote (reparse n) ∧
    (simplifyFWith keep n).multi = n.multi ∧ (simplifyFWith keep n).raw = n.raw := by
  unfold simplifyFWith
  split
  · rename_i hc
    -- the recogniser said no, so the interpreter would not have substituted either
    have hno : hasSubst n.value = false := by
      cases hs : hasSubst n.value with
      | false => rfl
      | true => simp [hk _ hs] at hc
    rw [h] at hno
    refine ⟨?_, rfl, rfl⟩
    rw [denote_reparse, denote_reparse]
    have e : reVal { n with fstr := false } = reVal n := by simp [reVal]
    simp [e, hno]
  · exact ⟨rfl, rfl, rfl⟩

theorem mem_at_of_hasSubst (v : List Char) (h : hasSubst v = true) : '@' ∈ v :=
  Decidable.byContradiction fun hn => by
    rw [hasSubst_no_at v hn] at h
    cases h

/-- the coded recogniser (`'@' in value`) accepts everything the interpreter substitutes into -/
theorem markerKeep_of_hasSubst (fmark : List Char) (hat : '@' ∈ fmark) (v : List Char)
    (h : hasSubst v = true) : markerKeep fmark v = true := by
  have hm := mem_at_of_hasSubst v h
  simp only [markerKeep, List.any_eq_true]
  exact ⟨'@', hat, by simp [hm]⟩

theorem simplifyF_denote (fmark : List Char) (hat : '@' ∈ fmark) (n : StrNode) (h : Consistent n) :
    denote (reparse (simplifyF fmark n)) = denote (reparse n) ∧
    (simplifyF fmark n).multi = n.multi ∧ (simplifyF fmark n).raw = n.raw :=
  simplifyFWith_denote (markerKeep fmark) (markerKeep_of_hasSubst fmark hat) n h

/-- rule 1 on a parsed node, when the excluded list holds quote and backslash -/
theorem simplifyMulti_denote (excl : List Char) (hq : '\'' ∈ excl) (hb : '\\' ∈ excl)
    (raw : List Char) (multi fstr : Bool) (hlex : multi = false → plainLexable raw = true) :
    denote (reparse (simplifyMulti excl (parseStr raw multi fstr))) = denote (parseStr raw multi fstr) ∧
    ((simplifyMulti excl (parseStr raw multi fstr)).multi = false →
      plainLexable (simplifyMulti excl (parseStr raw multi fstr)).raw = true) := by
  unfold simplifyMulti
  split
  · -- the rule fires: a triple-quoted literal, so `value` is `raw`, and `raw` has no quote and no backslash
    rename_i hc
    cases multi with
    | false => simp [parseStr] at hc
    | true =>
      have hx : ∀ x ∈ excl, x ∉ raw := by simpa [parseStr] using hc
      refine ⟨?_, fun _ => plainLexable_of_clean raw (hx _ hq) (hx _ hb)⟩
      rw [denote_reparse]
      simp [parseStr, reVal, denote, decodeEscapes_no_backslash raw (hx _ hb)]
  · have h : (parseStr raw multi fstr).value = reVal _ := consistent_parseStr raw multi fstr
    rw [denote_reparse, ← h]
    exact ⟨rfl, hlex⟩

end MesonModel.Fmt
