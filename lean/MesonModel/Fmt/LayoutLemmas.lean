import MesonModel.Fmt.Layout
/- the argument-list layout model (`MesonModel/Fmt/Layout.lean`): induction principles along `fmt` and `fmtArgs`; formatting keeps
the multi-line decision, the comments and the leaves of a node, and a formatted node is a fixed point. -/
namespace MesonModel.Fmt.Layout

theorem isEmpty_of_length_eq {α β : Type} (a : List α) (b : List β) (h : a.length = b.length) :
    a.isEmpty = b.isEmpty := by
  cases a <;> cases b <;> simp_all

theorem hasCmtL_eq_any (l : List Node) : hasCmtL l = l.any hasCmt := by
  induction l with
  | nil => simp [hasCmtL]
  | cons n r ih => simp [hasCmtL, ih]

theorem detL_eq_any (cfg : Cfg) (ch : Bool) (l : List Node) : detL cfg ch l = l.any (det cfg ch) := by
  induction l with
  | nil => simp [detL]
  | cons n r ih => simp [detL, ih]

theorem fmtL_eq_map (cfg : Cfg) (l : List Node) : fmtL cfg l = l.map (fmt cfg) := by
  induction l with
  | nil => simp [fmtL]
  | cons n r ih => simp [fmtL, ih]

theorem any_fmtL (cfg : Cfg) (p : Node → Bool) (l : List Node) (h : ∀ n ∈ l, p (fmt cfg n) = p n) :
    (fmtL cfg l).any p = l.any p := by
  induction l with
  | nil => rw [fmtL]
  | cons n r ih =>
    rw [fmtL, List.any_cons, List.any_cons, h n List.mem_cons_self, ih (fun m hm => h m (List.mem_cons_of_mem n hm))]

theorem leavesL_eq (l : List Node) : leavesL l = (l.map leaves).flatten := by
  induction l with
  | nil => simp [leavesL]
  | cons n r ih => simp [leavesL, ih]

theorem sortNodes_perm (l : List Node) : (sortNodes l).Perm l := List.mergeSort_perm l _

theorem sortIf_perm (b : Bool) (l : List Node) : (sortIf b l).Perm l := by
  unfold sortIf
  split
  · exact sortNodes_perm l
  · exact List.Perm.refl _

theorem sortIf_length (b : Bool) (l : List Node) : (sortIf b l).length = l.length := (sortIf_perm b l).length_eq

theorem any_sortIf (b : Bool) (l : List Node) (p : Node → Bool) : (sortIf b l).any p = l.any p :=
  (sortIf_perm b l).any_eq

theorem sortIf_singleton (b : Bool) (n : Node) : sortIf b [n] = [n] := by
  unfold sortIf sortNodes
  split <;> simp

theorem sortIf_nil (b : Bool) : sortIf b [] = [] := by
  unfold sortIf sortNodes
  split <;> simp

theorem sortIf_off (b : Bool) (l : List Node) (h : b = false) : sortIf b l = l := by
  subst h
  rfl

theorem length_sortIf_fmtL (cfg : Cfg) (b : Bool) (l : List Node) : (sortIf b (fmtL cfg l)).length = l.length := by
  rw [sortIf_length, fmtL_eq_map, List.length_map]

theorem isEmpty_sortIf_fmtL (cfg : Cfg) (b : Bool) (l : List Node) : (sortIf b (fmtL cfg l)).isEmpty = l.isEmpty :=
  isEmpty_of_length_eq _ _ (length_sortIf_fmtL cfg b l)

theorem nodeLe_trans (a b c : Node) (h1 : nodeLe a b = true) (h2 : nodeLe b c = true) : nodeLe a c = true := by
  unfold nodeLe at *
  cases ha : isKw a <;> cases hb : isKw b <;> cases hc : isKw c <;> simp_all
  omega

theorem nodeLe_total (a b : Node) : (nodeLe a b || nodeLe b a) = true := by
  unfold nodeLe
  cases ha : isKw a <;> cases hb : isKw b <;> simp
  omega

theorem sortNodes_sorted (l : List Node) : (sortNodes l).Pairwise (fun a b => nodeLe a b = true) :=
  List.pairwise_mergeSort (fun a b c => nodeLe_trans a b c) (fun a b => nodeLe_total a b) l

theorem sortNodes_of_sorted (l : List Node) (h : l.Pairwise (fun a b => nodeLe a b = true)) : sortNodes l = l :=
  List.mergeSort_of_pairwise h

theorem not_continues_of (items : List Node) (ci : Bool)
    (h : ∀ (its : List Node) (tr' ci' co' : Bool), items = [Node.coll Cont.array its tr' ci' co'] → False) :
    continues items ci = false := by
  unfold continues
  split
  · rename_i its tr' ci' co'
    exact absurd rfl (h its tr' ci' co')
  · rfl

theorem fmtArgs_chain (cfg : Cfg) (co : Bool) (its : List Node) (tr' ci' co' tr ci : Bool)
    (h : continues [.coll .array its tr' ci' co'] ci = true) :
    fmtArgs cfg .files co [.coll .array its tr' ci' co'] tr ci = fmtArgs cfg .files co its tr' ci' := by
  simp only [continues] at h
  rw [fmtArgs, if_pos]
  rw [h]
  rfl

theorem fmtArgs_final (cfg : Cfg) (c : Cont) (co : Bool) (items : List Node) (tr ci : Bool)
    (h : (c == .files && continues items ci) = false) :
    fmtArgs cfg c co items tr ci = build cfg c co items tr ci (fmtL cfg items) := by
  unfold fmtArgs
  split
  · rename_i its tr' ci' co'
    simp only [continues] at h
    rw [if_neg (by rw [h]; simp)]
    simp [fmtL, fmt]
  · rfl

theorem decided_chain (cfg : Cfg) (co : Bool) (its : List Node) (tr' ci' co' tr ci : Bool)
    (h : continues [.coll .array its tr' ci' co'] ci = true) :
    decided cfg .files co [.coll .array its tr' ci' co'] tr ci = decided cfg .files co its tr' ci' := by
  simp only [continues] at h
  rw [decided, if_pos]
  rw [h]
  rfl

theorem decided_final (cfg : Cfg) (c : Cont) (co : Bool) (items : List Node) (tr ci : Bool)
    (h : (c == .files && continues items ci) = false) :
    decided cfg c co items tr ci = det cfg false (.coll c items tr ci co) := by
  unfold decided
  split
  · simp only [continues] at h
    rw [if_neg (by rw [h]; simp)]
  · rfl

/-- induction along `fmt`, with the two outcomes of `fmtArgs` named: one turn of the `files([...])` loop
(`fmtArgs_chain`), or the list is final and goes to `build` with its items formatted (`fmtArgs_final`) -/
@[elab_as_elim]
theorem fmt_induct (cfg : Cfg) {P : Node → Prop}
    (leaf : ∀ k, P (.leaf k)) (mstr : ∀ k p, P (.mstr k p)) (kw : ∀ k v, P v → P (.kw k v))
    (chain : ∀ co its tr' ci' co' tr ci, continues [.coll .array its tr' ci' co'] ci = true →
      P (.coll .files its tr' ci' co) → P (.coll .files [.coll .array its tr' ci' co'] tr ci co))
    (final : ∀ c co items tr ci, (c == .files && continues items ci) = false → (∀ n ∈ items, P n) →
      P (.coll c items tr ci co))
    (n : Node) : P n := by
  refine (fmt.mutual_induct cfg P (fun c co items tr ci => P (.coll c items tr ci co)) (fun l => ∀ n ∈ l, P n)
    leaf (fun k p _ => mstr k p) (fun k p _ => mstr k p) kw (fun _ _ _ _ _ h => h) ?_ ?_ ?_
    (fun _ h => nomatch h) (fun _ _ hn hr => List.forall_mem_cons.mpr ⟨hn, hr⟩)).1 n
  · intro c co its tr' ci' co' tr ci h ih
    obtain ⟨hc, hcont⟩ := Bool.and_eq_true_iff.mp h
    obtain rfl : c = .files := eq_of_beq hc
    exact chain co its tr' ci' co' tr ci hcont ih
  · intro c co its tr' ci' co' tr ci h ih
    exact final c co _ tr ci (Bool.eq_false_iff.mpr h) (List.forall_mem_singleton.mpr ih)
  · intro c co items tr ci h ih
    exact final c co items tr ci (by rw [not_continues_of items ci h, Bool.and_false]) ih

/-- the loop alone, for statements about argument lists: it is the recursion of `decided` -/
@[elab_as_elim]
theorem fmtArgs_induct {Q : Cont → Bool → List Node → Bool → Bool → Prop}
    (chain : ∀ co its tr' ci' co' tr ci, continues [.coll .array its tr' ci' co'] ci = true →
      Q .files co its tr' ci' → Q .files co [.coll .array its tr' ci' co'] tr ci)
    (final : ∀ c co items tr ci, (c == .files && continues items ci) = false → Q c co items tr ci)
    (c : Cont) (co : Bool) (items : List Node) (tr ci : Bool) : Q c co items tr ci := by
  induction c, items, tr, ci using decided.induct with
  | case1 c its tr' ci' co' tr ci h ih =>
    obtain ⟨hc, hcont⟩ := Bool.and_eq_true_iff.mp h
    obtain rfl : c = .files := eq_of_beq hc
    exact chain co its tr' ci' co' tr ci hcont ih
  | case2 c its tr' ci' co' tr ci h => exact final c co _ tr ci (Bool.eq_false_iff.mpr h)
  | case3 c items tr ci h => exact final c co items tr ci (by rw [not_continues_of items ci h, Bool.and_false])

theorem fmt_chain (cfg : Cfg) (co : Bool) (its : List Node) (tr' ci' co' tr ci : Bool)
    (h : continues [.coll .array its tr' ci' co'] ci = true) :
    fmt cfg (.coll .files [.coll .array its tr' ci' co'] tr ci co) = fmt cfg (.coll .files its tr' ci' co) := by
  rw [fmt, fmt, fmtArgs_chain cfg co its tr' ci' co' tr ci h]

theorem fmt_final (cfg : Cfg) (c : Cont) (co : Bool) (items : List Node) (tr ci : Bool)
    (h : (c == .files && continues items ci) = false) :
    fmt cfg (.coll c items tr ci co) = build cfg c co items tr ci (fmtL cfg items) := by
  rw [fmt, fmtArgs_final cfg c co items tr ci h]

/-- a turn of the loop is only taken past an array without comments of its own -/
theorem continues_no_comment {its : List Node} {tr' ci' co' ci : Bool}
    (h : continues [.coll .array its tr' ci' co'] ci = true) : ci = false ∧ co' = false := by
  cases ci <;> cases co' <;> simp_all [continues]

/-- the form of a formatted container: same kind, same comment after the opening bracket -/
theorem fmtArgs_shape (cfg : Cfg) (c : Cont) (co : Bool) (items : List Node) (tr ci : Bool) :
    ∃ S t i, fmtArgs cfg c co items tr ci = .coll c S t i co := by
  induction c, co, items, tr, ci using fmtArgs_induct with
  | chain co its tr' ci' co' tr ci h ih =>
    rw [fmtArgs_chain cfg co its tr' ci' co' tr ci h]
    exact ih
  | final c co items tr ci h =>
    rw [fmtArgs_final cfg c co items tr ci h]
    exact ⟨_, _, _, rfl⟩

/-- what `continues` reads of a node -/
def arrInfo : Node → Option (Bool × Bool × Bool)
  | .coll .array its _ ci' co' => some (its.isEmpty, ci', co')
  | _ => none

theorem continues_singleton (n : Node) (ci : Bool) :
    continues [n] ci = (match arrInfo n with
      | some (e, ci', co') => !ci && !co' && !(e && ci')
      | none => false) := by
  cases n with
  | coll c its tr' ci' co' => cases c <;> rfl
  | _ => rfl

theorem continues_of_length_ne_one (l : List Node) (ci : Bool) (h : l.length ≠ 1) : continues l ci = false :=
  not_continues_of l ci (fun _ _ _ _ e => h (by rw [e]; rfl))

theorem arrInfo_fmt (cfg : Cfg) (n : Node) : arrInfo (fmt cfg n) = arrInfo n := by
  fun_cases fmt cfg n with
  | case1 | case2 | case3 | case4 => rfl
  | case5 c items tr ci co =>
    cases c with
    | array =>
      rw [fmtArgs_final cfg .array co items tr ci rfl]
      simp only [build, arrInfo, isEmpty_sortIf_fmtL]
    | _ =>
      obtain ⟨S, t, i, h⟩ := fmtArgs_shape cfg _ co items tr ci
      rw [h]
      rfl

theorem isKw_fmt (cfg : Cfg) (n : Node) : isKw (fmt cfg n) = isKw n := by
  fun_cases fmt cfg n with
  | case1 | case2 | case3 | case4 => rfl
  | case5 c items tr ci co =>
    obtain ⟨S, t, i, h⟩ := fmtArgs_shape cfg c co items tr ci
    rw [h]
    rfl

theorem rank_fmt (cfg : Cfg) (n : Node) : rank (fmt cfg n) = rank n := by
  fun_cases fmt cfg n with
  | case1 | case2 | case3 | case4 => rfl
  | case5 c items tr ci co =>
    obtain ⟨S, t, i, h⟩ := fmtArgs_shape cfg c co items tr ci
    rw [h]
    rfl

theorem hasKw_fmtL (cfg : Cfg) (l : List Node) : hasKw (fmtL cfg l) = hasKw l :=
  any_fmtL cfg isKw l (fun n _ => isKw_fmt cfg n)

theorem continues_fmt (cfg : Cfg) (b : Bool) (items : List Node) (ci : Bool) :
    continues (sortIf b (fmtL cfg items)) ci = continues items ci := by
  match items with
  | [] => rw [fmtL, sortIf_nil]
  | [n] => rw [fmtL, fmtL, sortIf_singleton, continues_singleton, continues_singleton, arrInfo_fmt]
  | _ :: _ :: r =>
    rw [continues_of_length_ne_one, continues_of_length_ne_one]
    · simp
    · simp [length_sortIf_fmtL]

/-- the Boolean core of "the layout decided is the layout the formatted text shows" -/
theorem layout_core (co ci tr kwf noS fn e one dI dS : Bool)
    (hA : dS = true → dI = true) (hB : noS = true → dI = true → dS = true)
    (hE : e = true → dI = false ∧ dS = false) :
    (co || ci || (((co || ci || (tr && (!e && !(noS && one && fn))) || kwf || dI) && (!e && !(noS && one && fn)))
        && (!e && !(noS && one && fn))) || kwf || dS)
      = (co || ci || (tr && (!e && !(noS && one && fn))) || kwf || dI) := by
  revert hA hB hE
  revert co ci tr kwf noS fn e one dI dS
  decide +kernel

/-- formatting a node creates no reason for a multi-line layout of the enclosing list -/
def DetA (cfg : Cfg) (n : Node) : Prop := det cfg false (fmt cfg n) = true → det cfg false n = true
/-- with `no_single_comma_function` it loses none either (without the option the trailing comma of a list that
`files([...])` flattening removes is such a reason: the enclosing list is then kept multi-line by its own trailing comma) -/
def DetB (cfg : Cfg) (n : Node) : Prop :=
  cfg.noSingle = true → det cfg false n = true → det cfg false (fmt cfg n) = true

theorem length_ne_zero_eq (l : List Node) : (l.length != 0) = !l.isEmpty := by
  cases l <;> simp

theorem any_imp (l : List Node) (p q : Node → Bool) (h : ∀ n ∈ l, p n = true → q n = true) :
    l.any p = true → l.any q = true := by
  simp only [List.any_eq_true]
  rintro ⟨x, hx, hp⟩
  exact ⟨x, hx, h x hx hp⟩

theorem build_stable (cfg : Cfg) (c : Cont) (co : Bool) (items : List Node) (tr ci : Bool)
    (hstop : (c == .files && continues items ci) = false)
    (hA : ∀ n ∈ items, DetA cfg n) (hB : ∀ n ∈ items, DetB cfg n) :
    det cfg false (build cfg c co items tr ci (fmtL cfg items)) = det cfg false (.coll c items tr ci co) := by
  have h3 : ∀ b, hasKw (sortIf b (fmtL cfg items)) = hasKw items := fun b => by
    unfold hasKw
    rw [any_sortIf]
    exact hasKw_fmtL cfg items
  have h4 : ∀ b, detL cfg false (sortIf b (fmtL cfg items)) = items.any (fun x => det cfg false (fmt cfg x)) := fun b => by
    rw [detL_eq_any, any_sortIf, fmtL_eq_map, List.any_map]
    rfl
  have hE : items.isEmpty = true → items.any (det cfg false) = false ∧
      items.any (fun x => det cfg false (fmt cfg x)) = false := by
    intro h
    cases items <;> simp_all
  simp only [build, det, trailingAfter, isEmpty_sortIf_fmtL, length_sortIf_fmtL, h3, continues_fmt, hstop, h4, detL_eq_any,
    length_ne_zero_eq, Bool.and_false, Bool.or_false]
  simpa only [Bool.and_assoc] using layout_core co ci tr (cfg.kwargsForce && hasKw items) cfg.noSingle (isFn c) items.isEmpty
    (items.length == 1) _ _ (any_imp items _ _ hA) (fun hn => any_imp items _ _ (fun n hm => hB n hm hn)) hE

theorem det_chain_step (cfg : Cfg) (co : Bool) (its : List Node) (tr' ci' co' tr ci : Bool)
    (h : continues [.coll .array its tr' ci' co'] ci = true) :
    det cfg false (.coll .files [.coll .array its tr' ci' co'] tr ci co) =
      ((tr && !cfg.noSingle) || det cfg false (.coll .files its tr' ci' co)) := by
  obtain ⟨rfl, rfl⟩ := continues_no_comment h
  simp only [det, detL, h, hasKw, isKw, isFn, List.any_cons, List.any_nil, List.length_singleton,
    List.isEmpty_cons, BEq.rfl, Bool.and_true, Bool.true_and, Bool.or_false, Bool.false_or, Bool.and_false,
    Bool.not_false, Bool.or_true]
  ac_rfl

theorem det_fmt (cfg : Cfg) (n : Node) : DetA cfg n ∧ DetB cfg n := by
  induction n using fmt_induct cfg with
  | leaf k => simp [DetA, DetB, fmt]
  | mstr k p => by_cases h : (cfg.simplify && p) = true <;> simp [DetA, DetB, fmt, h, det]
  | kw k v ih => simpa [DetA, DetB, fmt, det] using ih
  | chain co its tr' ci' co' tr ci h ih =>
    unfold DetA DetB at ih ⊢
    rw [fmt_chain cfg co its tr' ci' co' tr ci h, det_chain_step cfg co its tr' ci' co' tr ci h]
    refine ⟨fun hd => ?_, fun hn hd => ?_⟩
    · simp [ih.1 hd]
    · apply ih.2 hn
      simpa [hn] using hd
  | final c co items tr ci h ih =>
    unfold DetA DetB
    rw [fmt_final cfg c co items tr ci h, build_stable cfg c co items tr ci h (fun n hn => (ih n hn).1) (fun n hn => (ih n hn).2)]
    exact ⟨id, fun _ => id⟩

theorem detA (cfg : Cfg) (n : Node) : DetA cfg n := (det_fmt cfg n).1
theorem detB (cfg : Cfg) (n : Node) : DetB cfg n := (det_fmt cfg n).2

/-- **the layout decided in the run that formats the text is the layout the formatted text shows** (what a second
run reads back) -/
theorem decided_eq_readback (cfg : Cfg) (c : Cont) (co : Bool) (items : List Node) (tr ci : Bool) :
    decided cfg c co items tr ci = det cfg false (fmtArgs cfg c co items tr ci) := by
  induction c, co, items, tr, ci using fmtArgs_induct with
  | chain co its tr' ci' co' tr ci h ih =>
    rw [decided_chain cfg co its tr' ci' co' tr ci h, fmtArgs_chain cfg co its tr' ci' co' tr ci h]
    exact ih
  | final c co items tr ci h =>
    rw [decided_final cfg c co items tr ci h, fmtArgs_final cfg c co items tr ci h]
    exact (build_stable cfg c co items tr ci h (fun n _ => detA cfg n) (fun n _ => detB cfg n)).symm

theorem hasCmt_fmt (cfg : Cfg) (n : Node) : hasCmt (fmt cfg n) = hasCmt n := by
  induction n using fmt_induct cfg with
  | leaf k => rw [fmt]
  | mstr k p => rw [fmt]; split <;> rfl
  | kw k v ih => rw [fmt]; exact ih
  | chain co its tr' ci' co' tr ci h ih =>
    obtain ⟨rfl, rfl⟩ := continues_no_comment h
    rw [fmt_chain cfg co its tr' ci' false tr false h, ih]
    simp only [hasCmt, hasCmtL, Bool.or_false, Bool.false_or]
    ac_rfl
  | final c co items tr ci h ih =>
    rw [fmt_final cfg c co items tr ci h]
    simp only [build, hasCmt, hasCmtL_eq_any, any_sortIf, any_fmtL cfg hasCmt items ih]

theorem hasCmtL_fmtL (cfg : Cfg) (l : List Node) : hasCmtL (fmtL cfg l) = hasCmtL l := by
  rw [hasCmtL_eq_any, hasCmtL_eq_any, any_fmtL cfg hasCmt l (fun n _ => hasCmt_fmt cfg n)]

theorem sortIf_idem (b : Bool) (l : List Node) : sortIf b (sortIf b l) = sortIf b l := by
  cases b
  · rfl
  · exact sortNodes_of_sorted _ (sortNodes_sorted l)

/-- a final list formatted once more: the loop does not start again, the items are fixed points, and the order and the
trailing comma are those of the first run because the comment test and the detector read the same -/
theorem fmt_build (cfg : Cfg) (c : Cont) (co : Bool) (items : List Node) (tr ci : Bool)
    (hstop : (c == .files && continues items ci) = false) (ih : ∀ n ∈ items, fmt cfg (fmt cfg n) = fmt cfg n) :
    fmt cfg (build cfg c co items tr ci (fmtL cfg items)) = build cfg c co items tr ci (fmtL cfg items) := by
  have hst := build_stable cfg c co items tr ci hstop (fun n _ => detA cfg n) (fun n _ => detB cfg n)
  generalize hb : (c == .files && cfg.sortFiles && !(ci || hasCmtL items)) = b at *
  simp only [build, hb] at hst ⊢
  have hfix : fmtL cfg (sortIf b (fmtL cfg items)) = sortIf b (fmtL cfg items) := by
    rw [fmtL_eq_map, List.map_congr_left (g := id), List.map_id]
    intro m hm
    obtain ⟨n, hn, rfl⟩ := List.mem_map.mp (fmtL_eq_map cfg items ▸ (sortIf_perm b _).mem_iff.mp hm)
    exact ih n hn
  have hc : hasCmtL (sortIf b (fmtL cfg items)) = hasCmtL items := by
    rw [hasCmtL_eq_any, any_sortIf, ← hasCmtL_eq_any, hasCmtL_fmtL]
  rw [fmt_final cfg c co _ _ ci (by rw [continues_fmt]; exact hstop)]
  simp only [build, hfix, hc, hb, sortIf_idem, hst, length_sortIf_fmtL]

theorem fmt_idempotent (cfg : Cfg) (n : Node) : fmt cfg (fmt cfg n) = fmt cfg n := by
  induction n using fmt_induct cfg with
  | leaf k => simp only [fmt]
  | mstr k p => by_cases h : (cfg.simplify && p) = true <;> simp [fmt, h]
  | kw k v ih => simp only [fmt, ih]
  | chain co its tr' ci' co' tr ci h ih =>
    rw [fmt_chain cfg co its tr' ci' co' tr ci h]
    exact ih
  | final c co items tr ci h ih =>
    rw [fmt_final cfg c co items tr ci h]
    exact fmt_build cfg c co items tr ci h ih

theorem leavesL_perm (a b : List Node) (h : a.Perm b) : (leavesL a).Perm (leavesL b) := by
  rw [leavesL_eq, leavesL_eq, ← List.flatMap_def, ← List.flatMap_def]
  exact h.flatMap_right _

theorem leavesL_fmtL (cfg : Cfg) (l : List Node)
    (h : ∀ n ∈ l, (leaves (fmt cfg n)).Perm (leaves n) ∧ (cfg.sortFiles = false → leaves (fmt cfg n) = leaves n)) :
    (leavesL (fmtL cfg l)).Perm (leavesL l) ∧ (cfg.sortFiles = false → leavesL (fmtL cfg l) = leavesL l) := by
  induction l with
  | nil => simp [fmtL]
  | cons n r ihr =>
    have hn := h n List.mem_cons_self
    have hr := ihr (fun m hm => h m (List.mem_cons_of_mem n hm))
    simp only [fmtL, leavesL]
    exact ⟨hn.1.append hr.1, fun hs => by rw [hn.2 hs, hr.2 hs]⟩

/-- with `sort_files` on only the positional arguments of `files()` move -/
theorem leaves_fmt (cfg : Cfg) (n : Node) :
    (leaves (fmt cfg n)).Perm (leaves n) ∧ (cfg.sortFiles = false → leaves (fmt cfg n) = leaves n) := by
  induction n using fmt_induct cfg with
  | leaf k => simp [fmt]
  | mstr k p => rw [fmt]; split <;> simp [leaves]
  | kw k v ih =>
    simp only [fmt, leaves]
    exact ⟨ih.1.cons k, fun hs => by rw [ih.2 hs]⟩
  | chain co its tr' ci' co' tr ci h ih =>
    rw [fmt_chain cfg co its tr' ci' co' tr ci h]
    simpa [leavesL, leaves] using ih
  | final c co items tr ci h ih =>
    rw [fmt_final cfg c co items tr ci h]
    simp only [build, leaves]
    have hl := leavesL_fmtL cfg items ih
    refine ⟨(leavesL_perm _ _ (sortIf_perm _ _)).trans hl.1, fun hs => ?_⟩
    rw [sortIf_off _ _ (by simp [hs]), hl.2 hs]

theorem leaves_fmt_both (cfg : Cfg) :
    (∀ n, (leaves (fmt cfg n)).Perm (leaves n) ∧ (cfg.sortFiles = false → leaves (fmt cfg n) = leaves n)) ∧
    (∀ c co items tr ci, (leaves (fmtArgs cfg c co items tr ci)).Perm (leavesL items) ∧
      (cfg.sortFiles = false → leaves (fmtArgs cfg c co items tr ci) = leavesL items)) ∧
    (∀ l : List Node, (leavesL (fmtL cfg l)).Perm (leavesL l) ∧ (cfg.sortFiles = false → leavesL (fmtL cfg l) = leavesL l)) :=
  ⟨leaves_fmt cfg, fun c co items tr ci => by simpa only [fmt, leaves] using leaves_fmt cfg (.coll c items tr ci co),
    fun l => leavesL_fmtL cfg l (fun n _ => leaves_fmt cfg n)⟩

end MesonModel.Fmt.Layout
