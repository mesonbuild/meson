import MesonModel.Rewrite.SrcCommand
/-
`pathname_sort_key` (mesonbuild/utils/universal.py) as the key of `sort_files`: does comparing two keys ever fail?

The key is a tuple of `(bool, tuple of int | str)`.  Python compares tuples element by element with `==` (which
never raises) up to the first difference and applies `<` there: `int < str` raises TypeError.  The construct-by-
construct model of the key is the one of C17 (`MesonModel.Rewrite.pathKey`, `alphanumKey`: `re.split('([0-9]+)', x)`
gives text, digits, text, …, text); here the comparison is modelled with its failure (`none`), and it is proved
that no two keys of the function as coded ever reach it: text and number pieces alternate from a text in EVERY
key, so the pieces at the first difference have the same type.  (A chunking that drops the empty texts —
`re.findall('[0-9]+|[^0-9]+')` — breaks exactly this: `'7zip'` starts with a number, `'main'` with a text.)
-/
namespace MesonModel.Fmt.SortKey
open MesonModel.Rewrite

/-- `<` between two pieces; `none` = TypeError ('<' not supported between 'int' and 'str') -/
def partLt? : KeyPart → KeyPart → Option Bool
  | .txt a, .txt b => some (strLt a b)
  | .num a, .num b => some (decide (a < b))
  | _, _ => none

/-- tuple `<` on `alphanum_key` tuples -/
def tupLt? : List KeyPart → List KeyPart → Option Bool
  | [], [] => some false
  | [], _ :: _ => some true
  | _ :: _, [] => some false
  | a :: as, b :: bs => if a = b then tupLt? as bs else partLt? a b

/-- `<` on the pairs `(is last component, alphanum_key)` -/
def compLt? (a b : Bool × List KeyPart) : Option Bool :=
  if a.1 == b.1 then tupLt? a.2 b.2 else some (!a.1 && b.1)

/-- tuple `<` on whole keys -/
def keyLt? : List (Bool × List KeyPart) → List (Bool × List KeyPart) → Option Bool
  | [], [] => some false
  | [], _ :: _ => some true
  | _ :: _, [] => some false
  | a :: as, b :: bs => if a = b then keyLt? as bs else compLt? a b

/-- `pathname_sort_key(a) < pathname_sort_key(b)` with its failure -/
def pathLt? (a b : List Char) : Option Bool := keyLt? (pathKey a) (pathKey b)

/-- pieces alternate: text, number, text, … (`p`: a text is expected next) -/
def Alt : Bool → List KeyPart → Prop
  | _, [] => True
  | true, .txt _ :: r => Alt false r
  | false, .num _ :: r => Alt true r
  | _, _ => False

theorem alphanumKeyF_alt (f : Nat) (s : List Char) : Alt true (alphanumKeyF f s) := by
  induction f generalizing s with
  | zero => simp [alphanumKeyF, Alt]
  | succ f ih =>
    simp only [alphanumKeyF]
    split
    · simp [Alt]
    · simp only [Alt]
      exact ih _

theorem alphanumKey_alt (s : List Char) : Alt true (alphanumKey s) := alphanumKeyF_alt _ s

def isTxt : KeyPart → Bool
  | .txt _ => true
  | .num _ => false

theorem alt_cons (p : Bool) (x : KeyPart) (r : List KeyPart) : Alt p (x :: r) ↔ isTxt x = p ∧ Alt (!p) r := by
  cases p <;> cases x <;> simp [Alt, isTxt]

theorem partLt?_eq {x y : KeyPart} (h : isTxt x = isTxt y) : partLt? x y = some (partLt x y) := by
  cases x <;> cases y <;> simp_all [partLt?, partLt, isTxt]

/-- Two alternating tuples have pieces of the same kind at every position, in particular at the first difference: the
comparison succeeds, and its value is that of the C17 model's order (`partLt`, which leaves the mixed case unspecified). -/
theorem tupLt?_eq (p : Bool) (a b : List KeyPart) (ha : Alt p a) (hb : Alt p b) :
    tupLt? a b = some (lexLt (fun x y => decide (x = y)) partLt a b) := by
  fun_induction tupLt? a b generalizing p with
  | case1 | case2 | case3 => rfl
  | case4 x as bs ih =>
    rw [alt_cons] at ha hb
    simpa [lexLt] using ih _ ha.2 hb.2
  | case5 x as y bs he =>
    rw [alt_cons] at ha hb
    simpa [lexLt, he] using partLt?_eq (ha.1.trans hb.1.symm)

theorem compLt?_eq {x y : Bool × List KeyPart} (hx : Alt true x.2) (hy : Alt true y.2) :
    compLt? x y = some (compLt x y) := by
  unfold compLt? compLt
  split
  · exact tupLt?_eq true _ _ hx hy
  · rfl

def AllAlt (k : List (Bool × List KeyPart)) : Prop := ∀ c ∈ k, Alt true c.2

theorem flagComps_alt (l : List (List Char)) : AllAlt (flagComps l) := by
  unfold AllAlt
  fun_induction flagComps l <;> simp_all [alphanumKey_alt]

theorem keyLt?_eq (a b : List (Bool × List KeyPart)) (ha : AllAlt a) (hb : AllAlt b) :
    keyLt? a b = some (lexLt (fun x y => decide (x = y)) compLt a b) := by
  fun_induction keyLt? a b with
  | case1 | case2 | case3 => rfl
  | case4 x as bs ih => simpa [lexLt] using ih (List.forall_mem_cons.mp ha).2 (List.forall_mem_cons.mp hb).2
  | case5 x as y bs he =>
    simpa [lexLt, he] using compLt?_eq (List.forall_mem_cons.mp ha).1 (List.forall_mem_cons.mp hb).1

theorem pathLt?_eq (a b : List Char) : pathLt? a b = some (pathKeyLt a b) :=
  keyLt?_eq _ _ (flagComps_alt _) (flagComps_alt _)

theorem pathLt?_never_fails (a b : List Char) : (pathLt? a b).isSome = true := by
  rw [pathLt?_eq]
  rfl

/-- `<` on keys is irreflexive: equal keys keep their order (the sort is stable), so sorting is a function of the keys -/
theorem keyLt?_irrefl (a : List (Bool × List KeyPart)) : keyLt? a a = some false := by
  induction a with
  | nil => simp [keyLt?]
  | cons x as ih => simp [keyLt?, ih]

theorem pathLt?_irrefl (a : List Char) : pathLt? a a = some false := keyLt?_irrefl _

end MesonModel.Fmt.SortKey
