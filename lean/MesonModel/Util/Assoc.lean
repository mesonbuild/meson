/-
Python's insertion-ordered `dict` as the models have it: an association list with a first-match lookup and an
update that replaces the entry under the key in place or appends one.  Each model writes the two functions out
at its own key and value types, so the laws are stated for any functions with the same defining equations
(`IsLookup`, `IsUpdate`); a model's pair is an instance by `rfl`.
-/
namespace MesonModel

universe u v
variable {κ : Type u} {β : Type v} [DecidableEq κ]

structure IsLookup (f : κ → List (κ × β) → Option β) : Prop where
  nil : ∀ k, f k [] = none
  cons : ∀ k k' v rest, f k ((k', v) :: rest) = if k' = k then some v else f k rest

structure IsUpdate (g : κ → β → List (κ × β) → List (κ × β)) : Prop where
  nil : ∀ k v, g k v [] = [(k, v)]
  cons : ∀ k v k' v' rest, g k v ((k', v') :: rest) = if k' = k then (k, v) :: rest else (k', v') :: g k v rest

theorem isLookup_lookup [BEq κ] [LawfulBEq κ] : IsLookup (List.lookup (α := κ) (β := β)) where
  nil _ := rfl
  cons k k' v rest := by
    rw [List.lookup_cons]
    by_cases h : k' = k
    · simp [h]
    · have : (k == k') = false := by simpa using Ne.symm h
      simp [h, this]

namespace IsLookup
variable {f : κ → List (κ × β) → Option β} (hf : IsLookup f)
include hf

theorem append (k : κ) (l l' : List (κ × β)) : f k (l ++ l') = (f k l).or (f k l') := by
  induction l with
  | nil =>
    rw [hf.nil]
    rfl
  | cons p rest ih =>
    rw [List.cons_append, hf.cons, hf.cons]
    split
    · rfl
    · exact ih

theorem mem (k : κ) (v : β) (l : List (κ × β)) (h : f k l = some v) : (k, v) ∈ l := by
  induction l with
  | nil =>
    rw [hf.nil] at h
    cases h
  | cons p rest ih =>
    rw [hf.cons] at h
    split at h
    · next hk =>
      cases h
      cases hk
      exact List.mem_cons_self
    · exact List.mem_cons_of_mem _ (ih h)

theorem eq_none_iff (k : κ) (l : List (κ × β)) : f k l = none ↔ k ∉ l.map (·.1) := by
  induction l with
  | nil => simp [hf.nil]
  | cons p rest ih =>
    rw [hf.cons, List.map_cons, List.mem_cons, not_or, ← ih]
    split
    · next hk => simp [hk]
    · next hk => simp [Ne.symm hk]

theorem of_mem_nodup {k : κ} {v : β} {l : List (κ × β)} (hn : (l.map (·.1)).Nodup) (h : (k, v) ∈ l) :
    f k l = some v := by
  induction l with
  | nil => cases h
  | cons p rest ih =>
    rw [List.map_cons, List.nodup_cons] at hn
    rw [hf.cons]
    rcases List.mem_cons.mp h with rfl | h
    · rw [if_pos rfl]
    · rw [if_neg fun e => hn.1 (by rw [e]; exact List.mem_map_of_mem (f := (·.1)) h), ih hn.2 h]

theorem filter_key (q : κ → Bool) (k : κ) (l : List (κ × β)) :
    f k (l.filter fun e => q e.1) = if q k then f k l else none := by
  induction l with
  | nil => simp [hf.nil]
  | cons p rest ih =>
    rw [List.filter_cons, hf.cons]
    by_cases hk : p.1 = k
    · subst hk
      by_cases hq : q p.1 = true
      · simp [hq, hf.cons]
      · simp [hq, ih]
    · by_cases hq : q p.1 = true
      · simp [hq, hf.cons, hk, ih]
      · simp [hq, hk, ih]

theorem update {g : κ → β → List (κ × β) → List (κ × β)} (hg : IsUpdate g) (k k' : κ) (v : β) (l : List (κ × β)) :
    f k (g k' v l) = if k' = k then some v else f k l := by
  induction l with
  | nil => rw [hg.nil, hf.cons, hf.nil]
  | cons p rest ih =>
    rw [hg.cons]
    by_cases hp : p.1 = k'
    · rw [if_pos hp, hf.cons, hf.cons, hp]
      split <;> rfl
    · rw [if_neg hp, hf.cons, hf.cons, ih]
      by_cases hk : k' = k
      · subst hk
        simp [hp]
      · simp [hk]

end IsLookup

namespace IsUpdate
variable {g : κ → β → List (κ × β) → List (κ × β)} (hg : IsUpdate g)
include hg

theorem mem (k : κ) (v : β) (e : κ × β) (l : List (κ × β)) (h : e ∈ g k v l) : e = (k, v) ∨ e ∈ l := by
  induction l with
  | nil =>
    rw [hg.nil] at h
    exact Or.inl (List.mem_singleton.mp h)
  | cons p rest ih =>
    rw [hg.cons] at h
    split at h
    · exact (List.mem_cons.mp h).imp_right (List.mem_cons_of_mem _)
    · rcases List.mem_cons.mp h with h | h
      · exact Or.inr (h ▸ List.mem_cons_self)
      · exact (ih h).imp_right (List.mem_cons_of_mem _)

theorem keys (k : κ) (v : β) (l : List (κ × β)) :
    (g k v l).map (·.1) = if k ∈ l.map (·.1) then l.map (·.1) else l.map (·.1) ++ [k] := by
  induction l with
  | nil => simp [hg.nil]
  | cons p rest ih =>
    rw [hg.cons]
    by_cases hp : p.1 = k
    · simp [hp]
    · simp only [hp, if_false, List.map_cons, ih, List.mem_cons, Ne.symm hp, false_or]
      split <;> rfl

theorem mem_keys {k k' : κ} {v : β} {l : List (κ × β)} (h : k' ∈ (g k v l).map (·.1)) :
    k' = k ∨ k' ∈ l.map (·.1) := by
  rw [hg.keys] at h
  split at h
  · exact .inr h
  · exact (List.mem_append.mp h).symm.imp_left List.mem_singleton.mp

theorem nodup_keys (k : κ) (v : β) {l : List (κ × β)} (h : (l.map (·.1)).Nodup) : ((g k v l).map (·.1)).Nodup := by
  rw [hg.keys]
  split
  · exact h
  · next hk => exact List.nodup_append.mpr ⟨h, List.pairwise_singleton _ k, fun a ha b hb => by
      rw [List.mem_singleton.mp hb]
      exact fun e => hk (e ▸ ha)⟩

end IsUpdate

end MesonModel
