/-
What the lexer lemmas need of the entries of the two generated tables, checked once per table; from it and the
shapes of the matches: the token of a step prints back as its own text (`printed t = t.text`) and is not `eof`, and
a `)` / `]` / `}` token is one character long and that character is not a newline.
-/
import MesonModel.Lang.LexLemmas
import MesonModel.Lang.ParserLemmas

namespace MesonModel.Lang

/-- a keyword token prints as its own text and is not `eof` -/
def kwEntryOk (p : Str × Tid) : Bool :=
  (printed { tid := p.2, lineStart := 0, lineno := 0, colno := 0, spanStart := 0, spanEnd := 0,
             value := p.1, text := p.1 } == p.1) && p.2 != .eof

def kwNotCloser (p : Str × Tid) : Bool := p.2 != .rparen && p.2 != .rbracket && p.2 != .rcurl

/-- All that the lemmas about `lexStep` need of the entries of the generated keyword table, in one evaluation:
most of the work of an evaluation goes into building the table (the string comparisons of `Tid.ofName`). -/
theorem keywordTable_entries : keywordTable.all (fun p => kwEntryOk p && kwNotCloser p) = true := by decide +kernel

theorem all_of_all_and {α : Type} {l : List α} {f g : α → Bool} (h : l.all (fun p => f p && g p) = true) :
    l.all f = true :=
  List.all_eq_true.mpr fun p hp => (Bool.and_eq_true_iff.mp (List.all_eq_true.mp h p hp)).1

theorem keywordTable_ok : keywordTable.all kwEntryOk = true := all_of_all_and keywordTable_entries

theorem lookupKeyword_entry {v : Str} {k : Tid} (h : lookupKeyword v = some k) :
    kwEntryOk (v, k) = true ∧ kwNotCloser (v, k) = true :=
  Bool.and_eq_true_iff.mp (List.all_eq_true.mp keywordTable_entries _ (lookupKeyword_mem h))

theorem printed_congr (a b : Token) (h1 : a.tid = b.tid) (h2 : a.value = b.value) : printed a = printed b := by
  unfold printed
  rw [h1, h2]

theorem lookupKeyword_spec {v : Str} {k : Tid} (h : lookupKeyword v = some k) :
    k ≠ .eof ∧ ∀ t : Token, t.tid = k → t.value = v → printed t = v := by
  have := (lookupKeyword_entry h).1
  simp only [kwEntryOk, Bool.and_eq_true, beq_iff_eq, bne_iff_ne] at this
  refine ⟨this.2, fun t ht hv => ?_⟩
  rw [← this.1]
  exact printed_congr _ _ ht hv

/-- the id is none of those `printed` treats apart: such a token prints as its value -/
def singleEntryOk (p : Nat × Tid) : Bool :=
  p.2 != .eof && p.2 != .string && p.2 != .fstring && p.2 != .multilineString && p.2 != .multilineFstring &&
    p.2 != .kTrue && p.2 != .kFalse && p.2 != .kContinue && p.2 != .kBreak

/-- the newline is the one character with id `eol` -/
def singleEolOk (p : Nat × Tid) : Bool := (p.2 == .eol) == (p.1 == 10)

def singleNoKw (p : Nat × Tid) : Bool := p.2 != .kIn && p.2 != .kNot

/-- the same for the single-character table -/
theorem singleCharTable_entries :
    singleCharTable.all (fun p => singleEntryOk p && (singleEolOk p && singleNoKw p)) = true := by
  decide +kernel

theorem singleCharTable_ok : singleCharTable.all singleEntryOk = true := all_of_all_and singleCharTable_entries

theorem lookupSingle_entry {c : Char} {k : Tid} (h : lookupSingle c = some k) :
    singleEntryOk (c.toNat, k) = true ∧ singleEolOk (c.toNat, k) = true ∧ singleNoKw (c.toNat, k) = true := by
  have := List.all_eq_true.mp singleCharTable_entries _ (lookupSingle_mem h)
  simpa only [Bool.and_eq_true] using this

theorem lookupSingle_eol {c : Char} {k : Tid} (h : lookupSingle c = some k) : k = .eol ↔ c = '\n' := by
  have := (lookupSingle_entry h).2.1
  simp only [singleEolOk, beq_iff_eq] at this
  rw [← beq_iff_eq (a := k), this, beq_iff_eq]
  exact ⟨fun h10 => (Char.ofNat_toNat c).symm.trans (congrArg Char.ofNat h10), fun hc => hc ▸ rfl⟩

theorem printed_of_ok {t : Token} {n : Nat} (h : singleEntryOk (n, t.tid) = true) : t.tid ≠ .eof ∧ printed t = t.value := by
  simp [singleEntryOk] at h
  refine ⟨h.1.1.1.1.1.1.1.1, ?_⟩
  unfold printed
  split <;> simp_all

theorem specTok_printed {tid : Tid} {s : Str} {n : Nat} (h : matchSpec tid s = some n) {t : Token}
    (ht : (t.tid, t.value) = specTok tid (s.take n)) : t.tid ≠ .eof ∧ printed t = s.take n := by
  have hT := (matchSpec_shape h).take
  obtain ⟨ttid, _, _, _, _, _, tvalue, _⟩ := t
  cases tid <;> try (cases h; done)
  case id =>
    rw [specTok] at ht
    cases hk : lookupKeyword (s.take n) with
    | none =>
      rw [hk] at ht
      cases ht
      exact ⟨nofun, rfl⟩
    | some k =>
      rw [hk] at ht
      cases ht
      exact ⟨(lookupKeyword_spec hk).1, (lookupKeyword_spec hk).2 _ rfl rfl⟩
  case string | fstring | multilineString | multilineFstring =>
    -- `printed` puts the quotes of `Shape` back around the value the loop body slices out
    cases ht
    exact ⟨nofun, (hT.value (by decide) (by decide)).symm⟩
  all_goals
    cases ht
    exact ⟨nofun, rfl⟩

theorem lexStep_printed {s : Str} {st : LexSt} {t : Token} {st' : LexSt} {n : Nat}
    (h : lexStep s st = .tok t st' n) : t.tid ≠ .eof ∧ printed t = t.text := by
  obtain ⟨_, ht, _, _, _, ⟨tid, hm, htv, _⟩ | ⟨c, cs, tid, rfl, rfl, hl, hv, htid, _⟩⟩ := lexStep_tok h
  · rw [ht]
    exact specTok_printed (firstMatch_spec hm) htv
  · rw [ht]
    show _ ∧ printed t = [c]
    rw [← hv]
    rcases htid with htid | ⟨_, htid⟩
    · exact printed_of_ok (n := c.toNat) (htid ▸ (lookupSingle_entry hl).1)
    · exact printed_of_ok (n := 0) (htid ▸ rfl)

def isCloser (t : Tid) : Prop := t = .rparen ∨ t = .rbracket ∨ t = .rcurl

theorem lookupKeyword_notCloser {v : Str} {k : Tid} (h : lookupKeyword v = some k) : ¬ isCloser k := by
  have := (lookupKeyword_entry h).2
  simp only [kwNotCloser, Bool.and_eq_true, bne_iff_ne] at this
  rintro (h | h | h)
  · exact this.1.1 h
  · exact this.1.2 h
  · exact this.2 h

theorem specTok_notCloser {tid : Tid} {s : Str} {n : Nat} (h : matchSpec tid s = some n) (T : Str) :
    ¬ isCloser (specTok tid T).1 := by
  intro hc
  unfold specTok at hc
  split at hc
  · cases hk : lookupKeyword T with
    | none =>
      rw [hk] at hc
      exact absurd hc nofun
    | some k =>
      rw [hk] at hc
      exact lookupKeyword_notCloser hk hc
  -- the four string kinds and `eol_cont`
  iterate 5 exact absurd hc nofun
  · -- an entry that is itself a closer has no matcher
    rcases hc with rfl | rfl | rfl <;> cases h

/-- a closer comes from the single-character branch -/
theorem lexStep_closer {s : Str} {st : LexSt} {t : Token} {st' : LexSt} {n : Nat}
    (h : lexStep s st = .tok t st' n) (hc : isCloser t.tid) : t.text.length = 1 ∧ countNl t.text = 0 := by
  obtain ⟨_, ht, _, _, _, ⟨tid, hm, htv, _⟩ | ⟨c, cs, tid, rfl, rfl, hl, _, htid, _⟩⟩ := lexStep_tok h
  · exact absurd ((Prod.mk.inj htv).1 ▸ hc) (specTok_notCloser (firstMatch_spec hm) _)
  · rw [ht]
    refine ⟨rfl, ?_⟩
    have hne : c ≠ '\n' := by
      rintro rfl
      rcases htid with htid | ⟨_, htid⟩
      · rw [htid, (lookupSingle_eol hl).mpr rfl] at hc
        exact absurd hc nofun
      · rw [htid] at hc
        exact absurd hc nofun
    simp [countNl, hne]

end MesonModel.Lang
