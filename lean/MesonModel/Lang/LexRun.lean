/-
A run of the lexer as a relation: `LexRun p r ts e rem` lists what `lex` can do from the suffix `r` of the text
`p ++ r` on. It is proved once against `lexGo` / `lex`; what holds of the token list is then an induction over
`LexRun`, what holds of one token a statement about one `lexStep`.
-/
import MesonModel.Lang.LexPos

namespace MesonModel.Lang

/-- the tokens `ts` the loop yields from the suffix `r` of `p ++ r` on, the exception `e` it raises and the text
`rem` it leaves; every step is taken in a state that describes the text before it (`LI`) -/
inductive LexRun : Str → Str → List Token → Option (Nat × Nat) → Str → Prop
  | done (p : Str) : LexRun p [] [] none []
  | bomErr {r : Str} : r.head? = some bom → LexRun [] r [] (some (0, 0)) r
  | err {p r : Str} {st : LexSt} {l c : Nat} : LI p st → lexStep r st = .err l c → LexRun p r [] (some (l, c)) r
  | tok {p r : Str} {st st' : LexSt} {t : Token} {n : Nat} {ts : List Token} {e : Option (Nat × Nat)} {rem : Str} :
      LI p st → lexStep r st = .tok t st' n → LexRun (p ++ r.take n) (r.drop n) ts e rem → LexRun p r (t :: ts) e rem

theorem lexGo_run (fuel : Nat) (s : Str) (st : LexSt) : ∀ p, LI p st → s.length < fuel →
    LexRun p s (lexGo fuel s st).toks (lexGo fuel s st).err (lexGo fuel s st).rem ∧
      (lexGo fuel s st).fuelOut = false := by
  fun_induction lexGo fuel s st with
  | case1 => exact fun _ _ h => nomatch h
  | case2 => exact fun p _ _ => ⟨.done p, rfl⟩
  | case3 k st c cs l col hstep =>
    intro p hi _
    simp only [hstep]
    exact ⟨.err hi hstep, trivial⟩
  | case4 k st c cs t st' n hstep ih =>
    intro p hi hf
    simp only [hstep]
    -- every step consumes at least one character
    have := (lexStep_len hstep).1
    rw [List.length_cons] at hf
    obtain ⟨h1, h2⟩ := ih _ (LI_step hi hstep) (by rw [List.length_drop, List.length_cons]; omega)
    exact ⟨.tok hi hstep h1, h2⟩

theorem lex_run (s : Str) : LexRun [] s (lex s).toks (lex s).err (lex s).rem ∧ (lex s).fuelOut = false := by
  unfold lex
  split
  · split
    · rename_i hb
      exact ⟨.bomErr (by simpa using hb), rfl⟩
    · exact lexGo_run _ _ _ [] ⟨rfl, rfl, rfl⟩ (Nat.lt_succ_self _)
  · exact lexGo_run _ _ _ [] ⟨rfl, rfl, rfl⟩ (Nat.lt_succ_self _)

/-- token `t` is the outcome of one step at some point of the text `s`, taken in the state that describes the text
before it -/
def StepAt (s : Str) (t : Token) : Prop :=
  ∃ q r st st' n, q ++ r = s ∧ LI q st ∧ lexStep r st = .tok t st' n

namespace LexRun

variable {p r rem : Str} {ts : List Token} {e : Option (Nat × Nat)}

theorem partition (h : LexRun p r ts e rem) : (ts.map (·.text)).flatten ++ rem = r := by
  induction h with
  | done | bomErr | err => rfl
  | tok _ hstep _ ih =>
    rw [List.map_cons, List.flatten_cons, List.append_assoc, ih, (lexStep_tok hstep).2.1, List.take_append_drop]

theorem rem_nil (h : LexRun p r ts e rem) (he : e = none) : rem = [] := by
  induction h with
  | done => rfl
  | bomErr | err => cases he
  | tok _ _ _ ih => exact ih he

/-- a run that raises nothing yields tokens that print the text -/
theorem prints (h : LexRun p r ts e rem) (he : e = none) : restText ts = r := by
  induction h with
  | done => rfl
  | bomErr | err => cases he
  | tok _ hstep _ ih =>
    rw [restText, List.map_cons, List.flatten_cons, ← restText, ih he, (lexStep_printed hstep).2,
      (lexStep_tok hstep).2.1, List.take_append_drop]

theorem toks (h : LexRun p r ts e rem) : ∀ t ∈ ts, StepAt (p ++ r) t := by
  induction h with
  | done | bomErr | err => exact fun _ ht => nomatch ht
  | tok hi hstep _ ih =>
    intro x hx
    rw [List.append_assoc, List.take_append_drop] at ih
    rcases List.mem_cons.mp hx with rfl | hx
    · exact ⟨_, _, _, _, _, rfl, hi, hstep⟩
    · exact ih x hx

/-- the position the lexer raises at is the address of an offset of the text (a BOM is reported at `0:0`) -/
theorem err_addr {l c : Nat} (h : LexRun p r ts e rem) (he : e = some (l, c)) :
    (l = 0 ∧ c = 0 ∧ (p ++ r).head? = some bom) ∨ ∃ off, Addr (p ++ r) l c off := by
  induction h with
  | done => cases he
  | bomErr hb =>
    cases he
    exact .inl ⟨rfl, rfl, hb⟩
  | err hi hstep =>
    cases he
    obtain ⟨rfl, rfl⟩ := lexStep_err_pos hstep
    exact .inr ⟨_, hi.addr _⟩
  | tok _ _ _ ih =>
    rw [List.append_assoc, List.take_append_drop] at ih
    exact ih he

end LexRun

def LexResult.texts (r : LexResult) : Str := (r.toks.map (·.text)).flatten

theorem lex_printed (s : Str) : ∀ t ∈ (lex s).toks, t.tid ≠ .eof ∧ printed t = t.text := by
  intro t ht
  obtain ⟨_, _, _, _, _, _, _, hstep⟩ := (lex_run s).1.toks t ht
  exact lexStep_printed hstep

theorem lex_err_addr {s : Str} {l c : Nat} (h : (lex s).err = some (l, c)) :
    (l = 0 ∧ c = 0 ∧ s.head? = some bom) ∨ ∃ off, Addr s l c off :=
  (lex_run s).1.err_addr h

theorem lex_tok_span (s : Str) : ∀ t ∈ (lex s).toks,
    Addr s t.lineno t.colno t.spanStart ∧ t.spanEnd = t.spanStart + t.text.length ∧ t.spanEnd ≤ s.length := by
  intro t ht
  obtain ⟨q, r, st, st', n, rfl, hi, hstep⟩ := (lex_run s).1.toks t ht
  obtain ⟨⟨p1, p2, p3, p4⟩, hx, _⟩ := lexStep_tok hstep
  have hn := (lexStep_len hstep).2
  rw [p1, p2, p3, p4, hx, List.length_take_of_le hn]
  exact ⟨hi.addr r, rfl, by rw [hi.1, List.length_append]; omega⟩

theorem lex_pos (s : Str) :
    (∀ t ∈ (lex s).toks, InText s (t.lineno, t.colno) ∧ InText s (t.lineno, t.colno + t.spanEnd - t.spanStart)) ∧
    (∀ l c, (lex s).err = some (l, c) → InText s (l, c)) := by
  refine ⟨fun t ht => ?_, fun l c h => ?_⟩
  · obtain ⟨ha, he, hle⟩ := lex_tok_span s t ht
    refine ⟨ha.inText, ?_⟩
    rw [show t.colno + t.spanEnd - t.spanStart = t.colno + t.text.length by omega]
    exact ha.inText_add (he ▸ hle)
  · rcases lex_err_addr h with ⟨rfl, rfl, _⟩ | ⟨_, ha⟩
    · exact ⟨Nat.zero_le _, by simp [lineOff]⟩
    · exact ha.inText

theorem lex_token_offsets (s : Str) : ∀ t ∈ (lex s).toks,
    lineOff s t.lineno + t.colno = t.spanStart ∧ t.spanEnd = t.spanStart + t.text.length :=
  fun t ht => ⟨(lex_tok_span s t ht).1.offset, (lex_tok_span s t ht).2.1⟩

/-- Line bookkeeping of the lexer, stated against the text alone (DESIGN §4 C02, "position-accurate"); it holds for
every token kind, also after multi-line tokens, and a `'\r'` is an ordinary character. -/
theorem lex_token_linecol (s : Str) : ∀ t ∈ (lex s).toks, Addr s t.lineno t.colno t.spanStart :=
  fun t ht => (lex_tok_span s t ht).1

theorem lex_close (s : Str) :
    ∀ t ∈ (lex s).toks, (t.tid = .rparen ∨ t.tid = .rbracket) → t.text.length = 1 := by
  intro t ht hc
  obtain ⟨_, _, _, _, _, _, _, hstep⟩ := (lex_run s).1.toks t ht
  exact (lexStep_closer hstep (hc.elim .inl (.inr ∘ .inl))).1

end MesonModel.Lang
