/-
A state invariant every production preserves: once the current token is `eof` the stream is exhausted
(for token lists that contain no `eof` token, as the lexer's never do). An instance of the walk of `Walk.lean`.
-/
import MesonModel.Lang.Walk

namespace MesonModel.Lang

def NoEofTok (ts : List Token) : Prop := ∀ t ∈ ts, t.tid ≠ .eof

def StreamInv (e : Option (Nat × Nat)) (st : PState) : Prop :=
  st.lexErr = e ∧ NoEofTok st.rest ∧ (st.cur.tid = .eof → st.rest = [] ∧ e = none)

def Pres {α} (f : P α) : Prop := ∀ e st a st', f st = .ok (a, st') → StreamInv e st → StreamInv e st'

theorem Pres.of_triple {α} {f : P α} {Q : α → Prop} (h : ∀ e, Triple (fun _ => True) (StreamInv e) f Q) :
    Pres f :=
  fun e st a st' hf hi => ((h e st hi).2 a st' hf).1

theorem Pres.triple {α} {f : P α} (h : Pres f) (e : Option (Nat × Nat)) :
    Triple (fun _ => True) (StreamInv e) f fun _ => True :=
  fun st hi => ⟨fun e' _ => errOk_univ e', fun a st' hf => ⟨h e st a st' hf hi, trivial⟩⟩

theorem advance_inv {lexErr : Option (Nat × Nat)} {last : Token} {rest ws : List Token}
    {c : Token} {rest' ws' : List Token}
    (h : advance lexErr last rest ws = .ok (c, rest', ws')) (hn : NoEofTok rest) :
    NoEofTok rest' ∧ (c.tid = .eof → rest' = [] ∧ lexErr = none) := by
  obtain ⟨tr, -, ⟨rfl, -⟩ | ⟨-, rfl, -, rfl, -⟩⟩ := advance_ok h
  · have hsub : ∀ t ∈ c :: rest', t ∈ tr ++ c :: rest' := fun t ht => List.mem_append_right _ ht
    exact ⟨fun t ht => hn t (hsub t (List.mem_cons_of_mem _ ht)),
      fun he => absurd he (hn c (hsub c List.mem_cons_self))⟩
  · exact ⟨(fun _ h => nomatch h), fun _ => ⟨rfl, rfl⟩⟩

theorem StreamInv.walkable (e : Option (Nat × Nat)) : Walkable (fun _ => True) (StreamInv e) where
  tokCur _ _ := trivial
  tokPrev _ _ := trivial
  ws _ _ hi := hi
  lossy _ _ hi := hi
  getsym := by
    intro st ⟨he, hn, _⟩
    refine ⟨fun e' _ => errOk_univ e', fun u st' h => ?_⟩
    obtain ⟨hadv, -, hf⟩ := getsym_ok h
    obtain ⟨h1, h2⟩ := advance_inv hadv hn
    exact ⟨⟨hf.lexErr.trans he, h1, fun ht => ⟨(h2 ht).1, he ▸ (h2 ht).2⟩⟩, trivial⟩

theorem StreamInv.inTernary {e : Option (Nat × Nat)} (st : PState) (b : Bool) (hi : StreamInv e st) :
    StreamInv e { st with inTernary := b } := hi

theorem Pres.bind {α β} {m : P α} {f : α → P β} (hm : Pres m) (hf : ∀ a, Pres (f a)) : Pres (m >>= f) :=
  .of_triple fun e => .bind (hm.triple e) fun a _ => (hf a).triple e

theorem Pres.pure {α} (a : α) : Pres (Pure.pure a : P α) :=
  .of_triple (Q := fun _ => True) fun _ => .pure trivial

theorem Pres.raiseAt {α} (n : Node) : Pres (raiseAt n : P α) :=
  .of_triple (Q := fun _ => True) fun _ => .raiseAt trivial

theorem Pres.create (n : Node) : Pres (create n) :=
  .of_triple fun e => (StreamInv.walkable e).create trivial

theorem Pres.createSymbol (t : Token) : Pres (createSymbol t) := Pres.create _

theorem Pres.flushWs (n : Node) : Pres (flushWs n) := Pres.create n

theorem Pres.accept (t : Tid) : Pres (accept t) :=
  .of_triple fun e => (StreamInv.walkable e).accept t

theorem Pres.expect (t : Tid) : Pres (expect t) :=
  .of_triple fun e => (StreamInv.walkable e).expect t

theorem Pres.methodCall {stmt : P Node} (hs : Pres stmt) (k : Nat) (j : Nat) : ∀ src, Pres (methodCall stmt k j src) :=
  fun src => .of_triple fun e =>
    methodCall_walk (StreamInv.walkable e) (hs.triple e) k j src trivial

theorem Pres.indexCall {stmt : P Node} (hs : Pres stmt) (src : Node) : Pres (indexCall stmt src) :=
  .of_triple fun e => indexCall_walk (StreamInv.walkable e) (hs.triple e) src trivial

theorem Pres.statement (fuel : Nat) : Pres (statement fuel) :=
  .of_triple fun e => statement_walk (StreamInv.walkable e) StreamInv.inTernary fuel

theorem Pres.foreachBlock {stmt cb : P Node} (hs : Pres stmt) (hcb : Pres cb) : Pres (foreachBlock stmt cb) :=
  .of_triple fun e =>
    foreachBlock_walk (StreamInv.walkable e) (hs.triple e) (hcb.triple e)

theorem Pres.elseBlock {cb : P Node} (hcb : Pres cb) : Pres (elseBlock cb) :=
  .of_triple fun e => elseBlock_walk (StreamInv.walkable e) (hcb.triple e)

theorem Pres.ifBlock {stmt cb : P Node} (hs : Pres stmt) (hcb : Pres cb) (k : Nat) : Pres (ifBlock stmt cb k) :=
  .of_triple fun e =>
    ifBlock_walk (StreamInv.walkable e) (hs.triple e) (hcb.triple e) k

theorem Pres.line {stmt cb : P Node} (hs : Pres stmt) (hcb : Pres cb) (k : Nat) : Pres (line stmt cb k) :=
  .of_triple fun e =>
    line_walk (StreamInv.walkable e) (hs.triple e) (hcb.triple e) k

theorem Pres.codeblock (fuel : Nat) : Pres (codeblock fuel) :=
  .of_triple fun e => codeblock_walk (StreamInv.walkable e) StreamInv.inTernary fuel

attribute [irreducible] Pres

end MesonModel.Lang
