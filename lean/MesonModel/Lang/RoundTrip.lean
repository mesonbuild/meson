/-
`raw_roundtrip` and `span_exact` (DESIGN §4 C02), production by production, in the logic of `Run.lean` with the
assertions of `Here.lean`: a production entered when `out` has left the stream returns a node `n` when
`out ++ emit n` has (`Production`); if the stream is in sync with the source, every extent in `n` is exact (`Ok`).
The walk follows `mparser.py` from `e10` up to `codeblock`.
-/
import MesonModel.Lang.Here
import MesonModel.Lang.SpanLemmas
import MesonModel.Lang.ArgsLemmas
import MesonModel.Lang.OpLoops

namespace MesonModel.Lang

theorem stringTids_eq : stringTids = [.fstring, .multilineFstring, .multilineString, .string] := by decide +kernel

/-- a token whose node prints its `value` verbatim is neither `eol` nor `eof` -/
theorem plain_ne {ts : List Tid} (hp : ∀ x ∈ ts, plainTid x = true) : Tid.eol ∉ ts ∧ Tid.eof ∉ ts :=
  ⟨fun h => absurd (hp _ h) (by decide), fun h => absurd (hp _ h) (by decide)⟩

theorem muldiv_plain : ∀ x ∈ muldivTids, plainTid x = true := by decide +kernel

theorem addsub_plain : ∀ x ∈ addsubTids, plainTid x = true := by decide +kernel

theorem comparison_plain : ∀ x ∈ comparisonTids, plainTid x = true := by decide +kernel

theorem slice_mid (a m r : Str) : slice (a ++ m ++ r) a.length (a.length + m.length) = m := by
  unfold slice
  rw [List.append_assoc, List.drop_left, Nat.add_sub_cancel_left, List.take_left]

section
variable {s : Str}

theorem argsHasKw_addComma (a c : Node) : argsHasKw (argsAddComma a c) = argsHasKw a := by
  cases a <;> rfl

/-- `ArgumentNode.append` with no keyword argument present: `order_error` stays unset -/
theorem spans_argsAppend {a x : Node} (ha : Spans s a) (hx : Spans s x) (hk : argsHasKw a = false) :
    Spans s (argsAppend a x) := by
  cases a <;> simp only [argsAppend] <;> try exact ha
  rw [spans_args] at ha ⊢
  simp only [argsHasKw] at hk
  have hoe : ∀ oe : Bool, oe = false → (oe || decide (_ > 0)) = false := fun oe h => by rw [h, hk]; rfl
  split
  · exact ⟨ha.1, hoe _ ha.2.1, ha.2.2⟩
  · exact ⟨ha.1, hoe _ ha.2.1, (spansL_snoc _ _).mpr ⟨ha.2.2.1, hx⟩, ha.2.2.2⟩

theorem spans_argsAddComma {a c : Node} (ha : Spans s a) (hc : Spans s c) : Spans s (argsAddComma a c) := by
  cases a <;> simp only [argsAddComma] <;> try exact ha
  rw [spans_args] at ha ⊢
  exact ⟨ha.1, ha.2.1, ha.2.2.1, (spansL_snoc _ _).mpr ⟨ha.2.2.2.1, hc⟩, ha.2.2.2.2⟩

theorem spans_argsAddColon {a c : Node} (ha : Spans s a) (hc : Spans s c) : Spans s (argsAddColon a c) := by
  cases a <;> simp only [argsAddColon] <;> try exact ha
  rw [spans_args] at ha ⊢
  exact ⟨ha.1, ha.2.1, ha.2.2.1, ha.2.2.2.1, (spansL_snoc _ _).mpr ⟨ha.2.2.2.2.1, hc⟩, ha.2.2.2.2.2⟩

theorem spans_argsSetKw {a k v : Node} (ha : Spans s a) (hk : Spans s k) (hv : Spans s v) :
    Spans s (argsSetKw a k v) := by
  cases a <;> simp only [argsSetKw] <;> try exact ha
  rw [spans_args] at ha ⊢
  exact ⟨ha.1, ha.2.1, ha.2.2.1, ha.2.2.2.1, ha.2.2.2.2.1, (spansL_snoc _ _).mpr ⟨ha.2.2.2.2.2.1, hk⟩,
    (spansL_snoc _ _).mpr ⟨ha.2.2.2.2.2.2, hv⟩⟩

theorem spans_emptyArgs (b : Base) (hb : NoEnd b) : Spans s (.args b [] [] [] [] [] false) :=
  (spans_args _ _ _ _ _ _ _).mpr ⟨hb, rfl, spansL_nil, spansL_nil, spansL_nil, spansL_nil, spansL_nil⟩

theorem spans_blockAppendLine {block l : Node} (hb : Spans s block) (hl : Spans s l) :
    Spans s (blockAppendLine block l) := by
  cases block <;> simp only [blockAppendLine] <;> try exact hb
  split
  · exact hb
  · rw [spans_codeblock] at hb ⊢
    exact ⟨hb.1, (spansL_snoc _ _).mpr ⟨hb.2, hl⟩⟩

end

/-- what a production promises of the node it returns, having started with `out` consumed -/
structure Ok (sync : Prop) (T out : Str) (n : Node) : Prop where
  emp : n.isEmpty = true → emit n = []
  spans : sync → Spans T n
  start : sync → n.isId = true → Addr T n.lineno n.colno out.length

/-- a production: entered with nothing pending, it leaves nothing pending, and the node it returns prints as the
text it has taken from the stream -/
def Production (sync : Prop) (f : P Node) : Prop :=
  ∀ T out K, Run (Here sync T out true K) f fun n => Here sync T (out ++ emit n) true (K ∧ Ok sync T out n)

variable {sync : Prop} {T out : Str} {K : Prop}

/-- `return self.create_node(Leaf, t)` for the token `t` just accepted -/
theorem Hoare.leaf {t : Tid} {c : Token} {nd : Node} (hbc : nd.blockClean) (he : nd.isEmpty = false)
    (hp : c.tid = t → emit nd = printed c) (hs : Spans T nd)
    (hl : nd.isId = true → nd.lineno = c.lineno ∧ nd.colno = c.colno) :
    Run (Held sync T out t c K) (Lang.create nd) fun n => Here sync T (out ++ emit n) true (K ∧ Ok sync T out n) := by
  refine .assume (fun st ha => ha.1.2) fun ht => ?_
  refine .pre (.last <| .flush fun ws => .pure fun st ha => ha.imp fun hk _ _ => ?_) fun st ha => ha.done
  rw [emit_addWs _ _ hbc, hp ht, List.append_assoc]
  refine ⟨rfl, hk.1, fun h => ?_, fun _ => (spans_addWs _ _).mpr hs, fun hb hi => ?_⟩
  · rw [isEmpty_addWs, he] at h
    cases h
  · rw [isId_addWs] at hi
    rw [(lineno_addWs nd ws).1, (lineno_addWs nd ws).2, (hl hi).1, (hl hi).2]
    exact (hk.2 hb).1

theorem IsSym.spans {c : Token} {o : Node} (h : IsSym c o) : Spans T o := by
  obtain ⟨ws, rfl⟩ := h
  exact (spans_addWs _ _).mpr ((spans_symbol _ _).mpr (noEnd_ofTok _))

theorem IsSym.pos {c : Token} {o : Node} (h : IsSym c o) :
    o.lineno = c.lineno ∧ o.colno = c.colno ∧ o.base.endLineno = c.lineno ∧ o.base.endColno = c.colno ∧
      symValue o = c.value := by
  obtain ⟨ws, rfl⟩ := h
  exact ⟨rfl, rfl, rfl, rfl, rfl⟩

/-- The extent of a bracketed construct. It starts where `out` ends, and `X` is what it prints before its closing
token `c`. -/
theorem extent_site {T out X R : Str} {c : Token} {l0 c0 : Nat} (a0 : Addr T l0 c0 out.length)
    (hc : TokAt T (out ++ X) c) (hcl : isCloser c.tid) (hT : T = out ++ X ++ (c.value ++ R)) :
    ExtentIs T { lineno := l0, colno := c0, endLineno := c.lineno, endColno := c.colno + 1 } (X ++ c.value) := by
  obtain ⟨a5, h5⟩ := hc
  obtain ⟨cl, cn⟩ := h5 hcl
  have pv : printed c = c.value := printed_plain (by rcases hcl with h | h | h <;> rw [h] <;> decide)
  rw [pv] at cl cn
  have a6 := addr_succ hT cl cn a5
  refine ⟨?_, ?_, ?_⟩
  · show Addr T l0 c0 (lineOff T l0 + c0)
    rw [a0.offset]
    exact a0
  · show Addr T c.lineno (c.colno + 1) (lineOff T c.lineno + (c.colno + 1))
    rw [← Nat.add_assoc, a5.offset]
    exact a6
  · show slice T (lineOff T l0 + c0) (lineOff T c.lineno + (c.colno + 1)) = _
    rw [a0.offset, ← Nat.add_assoc, a5.offset, hT]
    simpa only [List.append_assoc, List.length_append, cl, Nat.add_assoc] using slice_mid out (X ++ c.value) R

/-- `ArrayNode`, `DictNode`, `ParenthesizedNode`: from the opening to the closing bracket -/
theorem bracket_extent {T out R : Str} {t c : Token} {lb a rb : Node} (hl : IsSym t lb) (hr : IsSym c rb)
    (ht : TokAt T out t) (hc : TokAt T (out ++ emit lb ++ emit a) c) (hcl : isCloser c.tid)
    (hT : T = out ++ emit lb ++ emit a ++ emit rb ++ R) :
    ExtentIs T { lineno := lb.lineno, colno := lb.colno, endLineno := rb.lineno, endColno := rb.colno + 1 }
      (emit lb ++ emit a ++ symValue rb) := by
  rw [hl.pos.1, hl.pos.2.1, hr.pos.1, hr.pos.2.1, hr.pos.2.2.2.2]
  obtain ⟨ws, hrb⟩ := emit_isSym hr
  exact extent_site (X := emit lb ++ emit a) (R := wsText ws ++ R) ht.1 (by rw [← List.append_assoc]; exact hc) hcl
    (by rw [hT, hrb]; simp only [List.append_assoc])

/-- a node built by the production itself, with whatever whitespace `create_node` attached -/
theorem Ok.nodeWs {n : Node} {ws : List Token} (he : n.isEmpty = false) (hi : n.isId = false)
    (hs : sync → Spans T n) : Ok sync T out (n.addWs ws) :=
  ⟨fun h => absurd ((isEmpty_addWs n ws ▸ he).symm.trans h) nofun, fun hb => (spans_addWs _ _).mpr (hs hb),
    fun _ h => absurd ((isId_addWs n ws ▸ hi).symm.trans h) nofun⟩

/-- a node built by the production itself -/
theorem Ok.node {n : Node} (he : n.isEmpty = false) (hi : n.isId = false) (hs : sync → Spans T n) : Ok sync T out n :=
  ⟨fun h => absurd (he.symm.trans h) nofun, hs, fun _ h => absurd (hi.symm.trans h) nofun⟩

/-- `return self.create_node(Node, …)` with nothing pending: what has been consumed since `out` is the node's print -/
theorem Hoare.created {nd : Node} {out' : Str} {K' : Prop}
    (h : K' → ∀ R, T = out' ++ R → out' = out ++ emit nd ∧ K ∧ Ok sync T out nd) :
    Run (Here sync T out' true K') (Lang.create nd) fun n => Here sync T (out ++ emit n) true (K ∧ Ok sync T out n) :=
  .last <| .create <| .pure fun _ ha => ha.imp h

theorem Hoare.emptyAtCur :
    Run (Here sync T out true K) Lang.emptyAtCur fun n => Here sync T (out ++ emit n) true (K ∧ Ok sync T out n) :=
  .total (fun st => .empty (Base.at st.cur.lineno st.cur.colno)) id (fun _ => rfl) fun _ ha => ha.imp fun hk _ _ =>
    ⟨(List.append_nil _).symm, hk, fun _ => rfl, fun _ => (spans_empty _).mpr (noEnd_at _ _), fun _ h => nomatch h⟩

/-- whatever the decoded value, a string node prints its raw text between the quotes of its kind -/
theorem emit_stringNode {t : Token} (hm : t.tid ∈ stringTids) {v : Str}
    (hv : (t.tid == .multilineString || t.tid == .multilineFstring) = false ∨ v = t.value) :
    emit (.string (Base.ofTok t) t.value v (t.tid == .multilineString || t.tid == .multilineFstring)
      (t.tid == .fstring || t.tid == .multilineFstring)) = printed t := by
  rw [stringTids_eq] at hm
  simp only [List.mem_cons, List.mem_nil_iff, or_false] at hm
  rcases hm with h | h | h | h <;> rw [h] at hv ⊢ <;> rcases hv with hv | rfl <;>
    first | exact absurd hv (by decide) | simp +decide [printed, h, emit_string, Base.ofTok]

theorem e10_prod : Production sync e10 := by
  intro T out K
  unfold e10
  refine .cur fun t => ?_
  refine .ifAcceptC (.leaf (nd := .boolean _ _) trivial rfl (fun ht => by simp [printed, ht, emit_boolean, Base.ofTok])
    ((spans_boolean _ _).mpr (noEnd_ofTok _)) fun _ => ⟨rfl, rfl⟩) ?_
  refine .ifAcceptC (.leaf (nd := .boolean _ _) trivial rfl (fun ht => by simp [printed, ht, emit_boolean, Base.ofTok])
    ((spans_boolean _ _).mpr (noEnd_ofTok _)) fun _ => ⟨rfl, rfl⟩) ?_
  refine .ifAcceptC (.leaf (nd := .id _ _) trivial rfl (fun ht => by simp [printed, ht, emit_id, Base.ofTok])
    ((spans_id _ _).mpr (noEnd_ofTok _)) fun _ => ⟨rfl, rfl⟩) ?_
  refine .ifAcceptC (.leaf (nd := .number _ _ _) trivial rfl (fun ht => by simp [printed, ht, emit_number, Base.ofTok])
    ((spans_number _ _ _).mpr (noEnd_ofTok _)) fun _ => ⟨rfl, rfl⟩) ?_
  refine .acceptAnyC (fun hm => ?_) ?_
  · refine .iteH (fun _ => .leaf trivial rfl (fun _ => emit_stringNode hm (.inr rfl))
      ((spans_string _ _ _ _ _).mpr (noEnd_ofTok _)) nofun) fun hmulti => .peek (fun _ => rfl) fun s => ?_
    split
    · exact .fail
    · exact .leaf trivial rfl (fun _ => emit_stringNode hm (.inl (by simpa using hmulti)))
        ((spans_string _ _ _ _ _).mpr (noEnd_ofTok _)) nofun
  · exact Hoare.emptyAtCur.pre fun _ ha => ha.1

variable {stmt : P Node} {k : Nat}

theorem e7_prod (h8 : Production sync (e8 stmt k)) : Production sync (e7 stmt k) := by
  intro T out K
  unfold e7
  refine .ifAccept (fun c =>
    .sym rfl fun op hop =>
    .peek (fun _ => rfl) fun t =>
    .bind (h8 _ _ _) fun v =>
    .created fun ⟨hk, hv⟩ _ _ =>
      ⟨by simp [emit_unop, Base.at], hk, .node rfl rfl fun hb =>
        (spans_unop _ _ _ _).mpr ⟨noEnd_at _ _, hop.spans, hv.spans hb⟩⟩) ?_
  exact .ifAccept (fun c =>
    .sym rfl fun op hop =>
    .peek (fun _ => rfl) fun t =>
    .bind (h8 _ _ _) fun v =>
    .created fun ⟨hk, hv⟩ _ _ =>
      ⟨by simp [emit_unop, Base.at], hk, .node rfl rfl fun hb =>
        (spans_unop _ _ _ _).mpr ⟨noEnd_at _ _, hop.spans, hv.spans hb⟩⟩) (h8 _ _ _)

/-- `create_node(BinOp, left, op, right)` once `left`, `op`, `right` have been consumed; `R` and the equation are the
arguments `Here.imp` hands over -/
theorem binop_ok {kind : BinKind} {l o r : Node} {c : Token} {out' : Str} {x y : Nat} (ho : IsSym c o)
    (h : (K ∧ Ok sync T out l) ∧ Ok sync T out' r) (R : Str) (_ : T = out ++ emit l ++ emit o ++ emit r ++ R) :
    out ++ emit l ++ emit o ++ emit r = out ++ emit (.binop kind (Base.at x y) l o r) ∧ K ∧
      Ok sync T out (.binop kind (Base.at x y) l o r) :=
  ⟨by simp [emit_binop, Base.at], h.1.1, .node rfl rfl fun hb =>
    (spans_binop _ _ _ _ _).mpr ⟨noEnd_at _ _, h.1.2.spans hb, ho.spans, h.2.spans hb⟩⟩

/-- a `while self.accept(op): left = Node(left, …)` loop: what it returns prints as `left` and what it consumed -/
def LoopProd (sync : Prop) (loop : Node → P Node) : Prop :=
  ∀ T out K left, Run (Here sync T (out ++ emit left) true (K ∧ Ok sync T out left)) (loop left)
    fun n => Here sync T (out ++ emit n) true (K ∧ Ok sync T out n)

theorem Production.loop {first : P Node} {loop : Node → P Node} (h1 : Production sync first) (h2 : LoopProd sync loop) :
    Production sync (do let left ← first; loop left) :=
  fun T out K => .bind (h1 T out K) (h2 T out K)

theorem arithLoop_prod {ts : List Tid} {m : List (String × String)} {operand : P Node}
    (hp : ∀ x ∈ ts, plainTid x = true) (ho : Production sync operand) (j : Nat) :
    LoopProd sync (arithLoop ts m operand j) := by
  induction j with
  | zero => exact fun _ _ _ _ => .fail
  | succ j ih =>
    intro T out K left
    unfold arithLoop
    refine .acceptAny (fun c hm =>
        .sym (hp _ hm) fun o hs =>
        .bind (ho _ _ _) fun r =>
        .create ?_)
      (.pure fun _ ha => ha) (plain_ne hp).1 (plain_ne hp).2
    exact (ih _ _ _ _).pre fun _ ha => ha.imp (binop_ok hs)

theorem e6_prod (h7 : Production sync (e7 stmt k)) : Production sync (e6 stmt k) := by
  unfold e6
  rw [e6Loop_eq]
  exact h7.loop (arithLoop_prod muldiv_plain h7 k)

/-- the `ArgumentNode` under construction: every argument so far has its comma, and it prints as what `args()` has
consumed between `out` and `mid` -/
def ArgsOk (sync : Prop) (T out mid : Str) (a : Node) : Prop :=
  ∃ bb pos C1 C2 colons keys vals, a = .args bb pos (C1 ++ C2) colons keys vals false ∧ bb.ws = [] ∧
    C1.length = pos.length ∧ C2.length = keys.length ∧ colons.length = keys.length ∧ vals.length = keys.length ∧
    mid = out ++ (zipcat (emitL pos) (emitL C1) ++ zipcat (kwTexts (emitL keys) (emitL colons) (emitL vals)) (emitL C2)) ∧
    (sync → Spans T a)

theorem ArgsOk.empty (l c : Nat) : ArgsOk sync T out out (.args (Base.at l c) [] [] [] [] [] false) :=
  ⟨Base.at l c, [], [], [], [], [], [], rfl, rfl, rfl, rfl, rfl, rfl, by simp [zipcat, kwTexts, emitL_nil],
    fun _ => spans_emptyArgs _ (noEnd_at _ _)⟩

theorem ArgsOk.done {mid : Str} {a : Node} (h : ArgsOk sync T out mid a) : mid = out ++ emit a ∧ Ok sync T out a := by
  obtain ⟨bb, pos, C1, C2, colons, keys, vals, rfl, hb, h1, h2, h3, h4, rfl, hsp⟩ := h
  refine ⟨?_, .node rfl rfl hsp⟩
  rw [emit_args, emitL_append, interleavePos_balanced _ _ _ (by simp [emitL_length, h1])]
  simp only
  rw [interleaveKw_balanced _ _ _ _ (by simp [emitL_length, h3]) (by simp [emitL_length, h4])
    (by simp [emitL_length, h2]), hb]
  simp

theorem ArgsOk.noKw {mid : Str} {a : Node} (h : ArgsOk sync T out mid a) (hk : argsHasKw a = false) :
    ∃ bb pos C1, a = .args bb pos C1 [] [] [] false ∧ bb.ws = [] ∧ C1.length = pos.length ∧
      mid = out ++ zipcat (emitL pos) (emitL C1) ∧ (sync → Spans T a) := by
  obtain ⟨bb, pos, C1, C2, colons, keys, vals, rfl, hb, h1, h2, h3, h4, rfl, hsp⟩ := h
  have hkeys : keys = [] := by
    cases keys with
    | nil => rfl
    | cons k ks => simp [argsHasKw] at hk
  subst hkeys
  cases List.eq_nil_of_length_eq_zero h2
  cases List.eq_nil_of_length_eq_zero h3
  cases List.eq_nil_of_length_eq_zero h4
  exact ⟨bb, pos, C1, by simp, hb, h1, by simp [zipcat, kwTexts, emitL_nil], by simpa using hsp⟩

/-- `a.commas.append(c); a.append(s)` -/
theorem ArgsOk.appendPos {mid : Str} {a s c : Node} {t : Token} (h : ArgsOk sync T out mid a) (hk : argsHasKw a = false)
    (hs : s.isEmpty = false) (hss : sync → Spans T s) (hc : IsSym t c) :
    ArgsOk sync T out (mid ++ emit s ++ emit c) (argsAppend (argsAddComma a c) s) := by
  obtain ⟨bb, pos, C1, rfl, hb, h1, rfl, hsp⟩ := h.noKw hk
  refine ⟨bb, pos ++ [s], C1 ++ [c], [], [], [], [], ?_, hb, by simp [h1], rfl, rfl, rfl, ?_, fun hb' =>
    spans_argsAppend (spans_argsAddComma (hsp hb') hc.spans) (hss hb') rfl⟩
  · simp [argsAppend, argsAddComma, hs]
  · simp [emitL_snoc, zipcat_snoc _ _ _ _ (by simp [emitL_length, h1] : (emitL C1).length = (emitL pos).length),
      kwTexts, emitL_nil, List.append_assoc]
    rfl

/-- `a.append(s)` for the last argument, which has no comma -/
theorem ArgsOk.appendLast {mid : Str} {a s : Node} (h : ArgsOk sync T out mid a) (hk : argsHasKw a = false)
    (hs : s.isEmpty = false) (hss : sync → Spans T s) :
    mid ++ emit s = out ++ emit (argsAppend a s) ∧ Ok sync T out (argsAppend a s) := by
  obtain ⟨bb, pos, C1, rfl, hb, h1, rfl, hsp⟩ := h.noKw hk
  refine ⟨?_, .node rfl rfl fun hb' => spans_argsAppend (hsp hb') (hss hb') hk⟩
  simp only [argsAppend, hs, Bool.false_eq_true, if_false]
  rw [emit_args, emitL_snoc, interleavePos_last _ _ _ (by simp [emitL_length, h1])]
  simp [interleaveKw, emitL_nil, hb]

/-- `a.colons.append(c); a.set_kwarg(s, v); a.commas.append(c2)` -/
theorem ArgsOk.kw {mid : Str} {a s c v c2 : Node} {t t2 : Token} (h : ArgsOk sync T out mid a) (hss : sync → Spans T s)
    (hc : IsSym t c) (hv : sync → Spans T v) (hc2 : IsSym t2 c2) :
    ArgsOk sync T out (mid ++ emit s ++ emit c ++ emit v ++ emit c2)
      (argsAddComma (argsSetKw (argsAddColon a c) s v) c2) := by
  obtain ⟨bb, pos, C1, C2, colons, keys, vals, rfl, hb, h1, h2, h3, h4, rfl, hsp⟩ := h
  refine ⟨bb, pos, C1, C2 ++ [c2], colons ++ [c], keys ++ [s], vals ++ [v], ?_, hb, h1,
    by simp [h2], by simp [h3], by simp [h4], ?_, fun hb' =>
      spans_argsAddComma (spans_argsSetKw (spans_argsAddColon (hsp hb') hc.spans) (hss hb') (hv hb')) hc2.spans⟩
  · simp [argsAddComma, argsSetKw, argsAddColon, List.append_assoc]
  · rw [emitL_snoc, emitL_snoc, emitL_snoc, emitL_snoc,
      kwTexts_snoc _ _ _ _ _ _ (by simp [emitL_length, h3]) (by simp [emitL_length, h4]),
      zipcat_snoc _ _ _ _ (by simp [kwTexts, emitL_length, h2, h3, h4])]
    simp [List.append_assoc]

/-- the same for the last keyword argument, which has no comma -/
theorem ArgsOk.kwLast {mid : Str} {a s c v : Node} {t : Token} (h : ArgsOk sync T out mid a) (hss : sync → Spans T s)
    (hc : IsSym t c) (hv : sync → Spans T v) :
    mid ++ emit s ++ emit c ++ emit v = out ++ emit (argsSetKw (argsAddColon a c) s v) ∧
      Ok sync T out (argsSetKw (argsAddColon a c) s v) := by
  obtain ⟨bb, pos, C1, C2, colons, keys, vals, rfl, hb, h1, h2, h3, h4, rfl, hsp⟩ := h
  refine ⟨?_, .node rfl rfl fun hb' => spans_argsSetKw (spans_argsAddColon (hsp hb') hc.spans) (hss hb') (hv hb')⟩
  simp only [argsSetKw, argsAddColon]
  rw [emit_args, emitL_append, interleavePos_balanced _ _ _ (by simp [emitL_length, h1])]
  simp only
  rw [emitL_snoc, emitL_snoc, emitL_snoc,
    interleaveKw_last _ _ _ _ _ _ _ (by simp [emitL_length, h3]) (by simp [emitL_length, h4])
      (by simp [emitL_length, h2]), hb]
  simp [List.append_assoc]

/-- the loops of `args()` and `key_values()`: the `ArgumentNode` so far and the statement parsed after it stand for
the text between `out` and `mid ++ emit s` -/
def ArgsLoopProd (sync : Prop) (loop : Node → Node → P Node) : Prop :=
  ∀ T out mid K a s, Run (Here sync T (mid ++ emit s) true (K ∧ ArgsOk sync T out mid a ∧ Ok sync T mid s)) (loop a s)
    fun n => Here sync T (out ++ emit n) true (K ∧ Ok sync T out n)

/-- what `args()` and `key_values()` share after a keyword argument -/
def kwTail (stmt : P Node) (loop : Node → Node → P Node) (a : Node) : P Node := do
  if !(← accept .comma) then pure a
  else
    let c ← createSymbol (← prev)
    let s' ← stmt
    loop (argsAddComma a c) s'

theorem kwTail_prod (hs : Production sync stmt) {loop : Node → Node → P Node} (hl : ArgsLoopProd sync loop) {mid : Str}
    {a c s v : Node} {t : Token} (hc : IsSym t c) :
    Run (Here sync T (mid ++ emit s ++ emit c ++ emit v) true
        (K ∧ ArgsOk sync T out mid a ∧ (sync → Spans T s) ∧ (sync → Spans T v)))
      (kwTail stmt loop (argsSetKw (argsAddColon a c) s v))
      fun n => Here sync T (out ++ emit n) true (K ∧ Ok sync T out n) := by
  unfold kwTail
  refine .ifNotAccept (.pure fun _ h => h.imp fun ⟨hk, ha, hss, hv⟩ _ _ => ?_) fun c2 =>
    .sym rfl fun c2 hc2 =>
    .bind (hs _ _ _) fun s' =>
    (hl _ _ _ _ _ _).pre fun _ h => h.imp fun ⟨⟨hk, ha, hss, hv⟩, hs'⟩ _ _ =>
      ⟨rfl, hk, ha.kw hss hc hv hc2, hs'⟩
  exact ⟨(ha.kwLast hss hc hv).1, hk, (ha.kwLast hss hc hv).2⟩

theorem argsLoop_prod (hs : Production sync stmt) (j : Nat) : ArgsLoopProd sync (argsLoop stmt j) := by
  induction j with
  | zero => exact fun _ _ _ _ _ _ => .fail
  | succ j ih =>
    intro T out mid K a s
    unfold argsLoop
    refine .iteH (fun he => .pure fun _ h => h.imp fun ⟨hk, ha, hs⟩ _ _ =>
      ⟨by rw [hs.emp he, List.append_nil]; exact ha.done.1, hk, ha.done.2⟩) fun he => ?_
    have he : s.isEmpty = false := by simpa using he
    refine .ifAccept (fun _ =>
      .sym rfl fun c hc =>
      .noteOrder <|
      .bind (hs _ _ _) fun s' =>
      (ih _ _ _ _ _ _).pre fun _ h => h.imp fun ⟨⟨⟨hk, ha, hs⟩, hno⟩, hs'⟩ _ _ =>
        ⟨rfl, hk, ha.appendPos hno he hs.spans hc, hs'⟩) ?_
    refine .ifAccept (fun _ =>
        .sym rfl fun c hc =>
        .ite .fail <|
        .bind (hs _ _ _) fun v => ?_)
      (.noteOrder <|
        .pure fun _ h => h.imp fun ⟨⟨hk, ha, hs⟩, hno⟩ _ _ =>
          ⟨(ha.appendLast hno he hs.spans).1, hk, (ha.appendLast hno he hs.spans).2⟩)
    exact (kwTail_prod hs ih hc).pre fun _ h => h.imp fun ⟨⟨hk, ha, hs⟩, hv⟩ _ _ =>
      ⟨rfl, hk, ha, hs.spans, hv.spans⟩

/-- `args()` and `key_values()`: the first statement, the empty `ArgumentNode`, then the loop -/
theorem argsHead_prod (hs : Production sync stmt) {loop : Node → Node → P Node} (hl : ArgsLoopProd sync loop) :
    Production sync (do
      let x ← stmt
      let c ← cur
      let a ← create (.args (Base.at c.lineno c.colno) [] [] [] [] [] false)
      loop a x) :=
  fun _ _ _ =>
    .bind (hs _ _ _) fun x =>
    .peek (fun _ => rfl) fun c =>
    .create <|
    (hl _ _ _ _ _ _).pre fun _ h => h.imp fun ⟨hk, hx⟩ _ _ => ⟨rfl, hk, .empty _ _, hx⟩

theorem args_prod (hs : Production sync stmt) (k : Nat) : Production sync (args stmt k) :=
  argsHead_prod hs (argsLoop_prod hs k)

theorem kvLoop_prod (hs : Production sync stmt) (j : Nat) : ArgsLoopProd sync (kvLoop stmt j) := by
  induction j with
  | zero => exact fun _ _ _ _ _ _ => .fail
  | succ j ih =>
    intro T out mid K a s
    unfold kvLoop
    refine .iteH (fun he => .pure fun _ h => h.imp fun ⟨hk, ha, hs⟩ _ _ =>
      ⟨by rw [hs.emp he, List.append_nil]; exact ha.done.1, hk, ha.done.2⟩) fun _ => ?_
    refine .ifAccept (fun _ =>
        .sym rfl fun c hc =>
        .bind (hs _ _ _) fun v =>
        .ite .fail ?_)
      .fail
    exact (kwTail_prod hs ih hc).pre fun _ h => h.imp fun ⟨⟨hk, ha, hs⟩, hv⟩ _ _ =>
      ⟨rfl, hk, ha, hs.spans, hv.spans⟩

theorem keyValues_prod (hs : Production sync stmt) (k : Nat) : Production sync (keyValues stmt k) :=
  argsHead_prod hs (kvLoop_prod hs k)

theorem e9_prod (hs : Production sync stmt) (ha : Production sync (args stmt k)) (hkv : Production sync (keyValues stmt k)) :
    Production sync (e9 stmt k) := by
  intro T out K
  unfold e9
  refine .cur fun t => ?_
  refine .ifAcceptC
    (.createSymbol rfl fun lb hl =>
      .bind (hs _ _ _) fun e =>
      .blockExpect fun c => .tid fun hc =>
      .prev <| .createSymbol rfl fun rb hr =>
      .pure fun _ h => h.imp fun ⟨⟨⟨hk, ht⟩, he⟩, hat⟩ R hT =>
        ⟨by simp [emit_paren], hk, .node rfl rfl fun hb => (spans_paren _ _ _ _).mpr
          ⟨bracket_extent hl hr (ht hb) (hat hb) (.inl hc) hT, hl.spans, he.spans hb, hr.spans⟩⟩) ?_
  refine .ifAcceptC
    (.createSymbol rfl fun lb hl =>
      .bind (ha _ _ _) fun e =>
      .blockExpect fun c => .tid fun hc =>
      .prev <| .createSymbol rfl fun rb hr =>
      .created fun ⟨⟨⟨hk, ht⟩, he⟩, hat⟩ R hT =>
        ⟨by simp [emit_array], hk, .node rfl rfl fun hb => (spans_array _ _ _ _).mpr
          ⟨bracket_extent hl hr (ht hb) (hat hb) (.inr (.inl hc)) hT, hl.spans, he.spans hb, hr.spans⟩⟩) ?_
  exact .ifAcceptC
    (.createSymbol rfl fun lb hl =>
      .bind (hkv _ _ _) fun e =>
      .blockExpect fun c => .tid fun hc =>
      .prev <| .createSymbol rfl fun rb hr =>
      .created fun ⟨⟨⟨hk, ht⟩, he⟩, hat⟩ R hT =>
        ⟨by simp [emit_dict], hk, .node rfl rfl fun hb => (spans_dict _ _ _ _).mpr
          ⟨bracket_extent hl hr (ht hb) (hat hb) (.inr (.inr hc)) hT, hl.spans, he.spans hb, hr.spans⟩⟩)
    ((e10_prod _ _ _).pre fun _ h => h.1)

/-- a postfix step (`.name(args)`, `[index]`), entered just after its first token: the result prints as `src` and
what the step consumed -/
def PostfixProd (sync : Prop) (t : Tid) (f : Node → P Node) : Prop :=
  ∀ T out K src c, Run (Held sync T (out ++ emit src) t c (K ∧ Ok sync T out src)) (f src)
    fun n => Here sync T (out ++ emit n) true (K ∧ Ok sync T out n)

/-- The `)` symbol is created while the token is still current; the trivia after it goes to the method node. -/
theorem methodCall_prod (ha : Production sync (args stmt k)) (j : Nat) : PostfixProd sync .dot (methodCall stmt k j) := by
  induction j with
  | zero => exact fun _ _ _ _ _ => .fail
  | succ j ih =>
    intro T out K src c
    unfold methodCall
    refine
      .sym rfl fun dot hd =>
      .bind (e10_prod _ _ _) fun name =>
      .iteH (fun _ => .ite .fail (.peek (fun _ => rfl) fun _ => .fail)) fun hid => ?_
    have hid : name.isId = true := by simpa using hid
    refine
      .expect fun _ =>
      .sym rfl fun lpar hlp =>
      .bind (ha _ _ _) fun a =>
      .cur fun cr => .createC <|
      .expectC <| .tid fun hcr =>
      .flushHeld fun ws => ?_
    refine (fun hm => .ifAccept (fun _ => (ih _ _ _ _ _).pre fun _ h => h.imp hm) (.pure fun _ h => h.imp hm)) ?_
    rintro ⟨⟨⟨⟨hk, hsrc⟩, hname⟩, harg⟩, hat⟩ R hT
    have hp : printed cr = cr.value := printed_plain (by rw [hcr]; decide)
    refine ⟨?_, hk, .nodeWs rfl rfl fun hb => (spans_method _ _ _ _ _ _ _).mpr
      ⟨extent_site (X := emit name ++ emit lpar ++ emit a) (R := wsText ws ++ R) (hname.start hb hid)
        (by simpa only [List.append_assoc] using hat hb) (.inl hcr) (by rw [hT, hp]; simp only [List.append_assoc]),
        hsrc.spans hb, hd.spans, hname.spans hb, hlp.spans, harg.spans hb, (spans_symbol _ _).mpr (noEnd_ofTok _)⟩⟩
    rw [emit_addWs (Node.method ..) _ trivial, hp]
    simp [emit_method, emit_symbolOf]

theorem indexCall_prod (hs : Production sync stmt) : PostfixProd sync .lbracket (indexCall stmt) :=
  fun _ _ _ src _ =>
    .sym rfl fun lb hl =>
    .bind (hs _ _ _) fun idx =>
    .expect fun _ =>
    .sym rfl fun rb hr =>
    .created fun ⟨⟨hk, hsrc⟩, hi⟩ _ _ =>
      ⟨by simp [emit_index, Base.at], hk, .node rfl rfl fun hb =>
        (spans_index _ _ _ _ _).mpr ⟨noEnd_at _ _, hsrc.spans hb, hl.spans, hi.spans hb, hr.spans⟩⟩

theorem e8Loop_prod (hs : Production sync stmt) (ha : Production sync (args stmt k)) (j : Nat) :
    LoopProd sync (e8Loop stmt k j) := by
  induction j with
  | zero => exact fun _ _ _ _ => .fail
  | succ j ih =>
    intro T out K left
    unfold e8Loop
    have index : ∀ left (d : Bool), Run (Here sync T (out ++ emit left) true (K ∧ Ok sync T out left))
        (do
          let b ← accept .lbracket
          let left ← if b = true then indexCall stmt left else pure left
          if (d || b) = true then e8Loop stmt k j left else pure left)
        fun n => Here sync T (out ++ emit n) true (K ∧ Ok sync T out n) := fun left d =>
      .accept (fun _ => .bind (indexCall_prod hs _ _ _ _ _) fun left => by
          rw [Bool.or_true]
          exact ih _ _ _ _)
        (.bind (.pure fun _ h => h) fun left => .ite (ih _ _ _ _) (.pure fun _ h => h))
    exact .accept (fun _ => .bind (methodCall_prod ha k _ _ _ _ _) fun left => index left true)
      (.bind (.pure fun _ h => h) fun left => index left false)

theorem e8_prod (hs : Production sync stmt) (ha : Production sync (args stmt k)) (h9 : Production sync (e9 stmt k)) :
    Production sync (e8 stmt k) := by
  intro T out K
  unfold e8
  refine
    .bind (h9 _ _ _) fun left =>
    .cur fun t =>
    .ifAcceptC ?_ (.bind (.pure fun _ h => h.1) (e8Loop_prod hs ha k _ _ _))
  refine
    .createSymbol rfl fun lpar hl =>
    .bind (ha _ _ _) fun a =>
    .blockExpect fun c => .tid fun hc =>
    .prev <| .createSymbol rfl fun rpar hr =>
    .iteH (fun _ => .fail_bind) fun hid =>
    .create <|
    (e8Loop_prod hs ha k _ _ _ _).pre fun _ h => h.imp ?_
  have hid : left.isId = true := by simpa using hid
  rintro ⟨⟨⟨⟨hk, hleft⟩, _⟩, harg⟩, hat⟩ R hT
  refine ⟨by simp [emit_function], hk, .node rfl rfl fun hb => (spans_function _ _ _ _ _).mpr
    ⟨?_, hleft.spans hb, hl.spans, harg.spans hb, hr.spans⟩⟩
  obtain ⟨ws, hrb⟩ := emit_isSym hr
  show ExtentIs T _ (emit left ++ emit lpar ++ emit a ++ symValue rpar)
  rw [hr.pos.2.2.1, hr.pos.2.2.2.1, hr.pos.2.2.2.2]
  exact extent_site (X := emit left ++ emit lpar ++ emit a) (R := wsText ws ++ R) (hleft.start hb hid)
    (by simpa only [List.append_assoc] using hat hb) (.inl hc) (by rw [hT, hrb]; simp only [List.append_assoc])

/-- `getsym` only adds to the pending whitespace -/
theorem accept_ws_prefix {t : Tid} {st st' : PState} (h : accept t st = .ok (true, st')) :
    ∃ extra, st'.ws = st.ws ++ extra := by
  obtain ⟨tr, -, ⟨-, hws⟩ | ⟨-, -, hws, -⟩⟩ := advance_ok (getsym_ok (accept_true h).2).1
  · exact ⟨_, by rw [hws, List.append_assoc]⟩
  · exact ⟨tr, hws⟩

/-- `not in`: the two tokens and the whitespace between them become one symbol -/
theorem Hoare.notIn {β : Type} {C : β → PState → Prop} {c1 : Token} {f : Node → P β} {g : P β}
    (h : ∀ o, (∃ tok, IsSym tok o) → Run (Here sync T (out ++ emit o) true K) (f o) C)
    (hg : Run (fun _ => True) g C) :
    Run (Held sync T out .kNot c1 K)
      (do
        let ws := (← P.get).ws
        let notTok ← Lang.prev
        if ← Lang.accept .kIn then
          let inTok ← Lang.prev
          P.modify (fun s => { s with ws := s.ws.drop ws.length })
          if ws.isEmpty then P.fail .notInNoWs
          else
            let tok : Token := { notTok with spanEnd := inTok.spanEnd,
                                             value := notTok.value ++ wsText ws ++ inTok.value }
            let o ← Lang.createSymbol tok
            f o
        else g) C := by
  refine .runs fun s1 r st' hr ⟨⟨rfl, hc1⟩, ha⟩ => ?_
  simp only [bind_ok, get_ok, prev_ok] at hr
  obtain ⟨_, _, hg, _, _, hp, x, s2, hin, hr⟩ := hr
  cases hg
  cases hp
  cases x
  · exact hg.run hr trivial
  · simp only [if_true, bind_ok, prev_ok, modify_ok] at hr
    obtain ⟨_, _, hp, _, _, hm, hr⟩ := hr
    cases hp
    cases hm
    split at hr
    · cases hr
    · rcases accept_spec hin with ⟨h', -⟩ | ⟨-, htid, hG, hprev, hfl⟩
      · cases h'
      obtain ⟨extra, hex⟩ := accept_ws_prefix hin
      refine (Hoare.flush (out := out ++ (s1.prev.value ++ wsText s1.ws ++ s2.prev.value)) (w := false)
        fun ws => (h _ ⟨_, ws, rfl⟩).pre fun _ h => h.imp fun hk _ _ => ⟨?_, hk⟩).run hr ⟨nofun, fun hd => ?_⟩
      · rw [emit_addWs (symbolOf _) ws trivial, emit_symbolOf, List.append_assoc]
      · obtain ⟨hT, hy, hk, -⟩ := ha.2 (hfl.dropped ▸ hd)
        refine ⟨?_, fun hb => sync_congr (st := s2) rfl rfl (accept_sync hin (hy hb)), hk⟩
        have e3 : restText s1.rest = wsText extra ++ rem s2 := by
          have : wsText s1.ws ++ restText s1.rest = wsText s1.ws ++ (wsText extra ++ rem s2) := by
            rw [← hG, G, hex, wsText_append, List.append_assoc]
          exact List.append_cancel_left this
        rw [hT, printed_plain (by rw [hc1]; decide), G, rem, hprev, ← printed_plain (t := s1.cur) (by rw [htid]; decide),
          e3]
        simp [G, hex, htid, List.append_assoc]
        rfl

theorem e5_prod (h6 : Production sync (e6 stmt k)) : Production sync (e5 stmt k) := by
  unfold e5
  rw [e5Loop_eq]
  exact h6.loop (arithLoop_prod addsub_plain h6 k)

theorem e4_prod (h5 : Production sync (e5 stmt k)) : Production sync (e4 stmt k) := by
  intro T out K
  unfold e4
  refine
    .bind (h5 _ _ _) fun left =>
    .acceptAny (fun _ hm =>
        .sym (comparison_plain _ hm) fun o ho =>
        .bind (h5 _ _ _) fun r =>
        .created (binop_ok ho))
      ?_ (plain_ne comparison_plain).1 (plain_ne comparison_plain).2
  exact .ifAccept (fun _ =>
      .notIn (fun o ⟨_, ho⟩ =>
          .bind (h5 _ _ _) fun r =>
          .created (binop_ok ho))
        (.peek (fun _ => rfl) fun _ => .fail))
    (.pure fun _ h => h)

theorem logicLoop_prod {t : Tid} {kind : BinKind} {operand : P Node} (hp : plainTid t = true) (hl : t ≠ .eol)
    (he : t ≠ .eof) (ho : Production sync operand) (j : Nat) : LoopProd sync (logicLoop t kind operand j) := by
  induction j with
  | zero => exact fun _ _ _ _ => .fail
  | succ j ih =>
    intro T out K left
    unfold logicLoop
    refine .ifAccept (fun c =>
        .sym hp fun o hs =>
        .ite .fail <|
        .bind (ho _ _ _) fun r =>
        .create ?_)
      (.pure fun _ ha => ha) hl he
    exact (ih _ _ _ _).pre fun _ ha => ha.imp (binop_ok hs)

theorem e3_prod (h4 : Production sync (e4 stmt k)) : Production sync (e3 stmt k) := by
  unfold e3
  rw [e3Loop_eq]
  exact h4.loop (logicLoop_prod rfl (by decide) (by decide) h4 k)

theorem e2_prod (h3 : Production sync (e3 stmt k)) : Production sync (e2 stmt k) := by
  unfold e2
  rw [e2Loop_eq]
  exact h3.loop (logicLoop_prod rfl (by decide) (by decide) h3 k)

theorem e1_prod (hs : Production sync stmt) (h2 : Production sync (e2 stmt k)) : Production sync (e1 stmt k) := by
  intro T out K
  unfold e1
  refine .bind (h2 _ _ _) fun left => ?_
  refine .ifAccept (fun _ =>
    .sym rfl fun o ho =>
    .bind (hs _ _ _) fun v =>
    .ite .fail <|
    .created fun ⟨⟨hk, hl⟩, hv⟩ _ _ =>
      ⟨by simp [emit_assign, Base.at], hk, .node rfl rfl fun hb =>
        (spans_assign _ _ _ _ _).mpr ⟨noEnd_at _ _, hl.spans hb, ho.spans, hv.spans hb⟩⟩) ?_
  refine .ifAccept (fun _ =>
    .sym rfl fun o ho =>
    .bind (hs _ _ _) fun v =>
    .ite .fail <|
    .created fun ⟨⟨hk, hl⟩, hv⟩ _ _ =>
      ⟨by simp [emit_assign, Base.at], hk, .node rfl rfl fun hb =>
        (spans_assign _ _ _ _ _).mpr ⟨noEnd_at _ _, hl.spans hb, ho.spans, hv.spans hb⟩⟩) ?_
  refine .ifAccept (fun _ =>
      .peek (fun _ => rfl) fun s =>
      .ite .fail <|
      .sym rfl fun q hq =>
      .setTernary <|
      .bind (hs _ _ _) fun t =>
      .expect fun _ =>
      .sym rfl fun c hc =>
      .bind (hs _ _ _) fun f =>
      .setTernary <|
      .created fun ⟨⟨⟨hk, hl⟩, ht⟩, hf⟩ _ _ =>
        ⟨by simp [emit_ternary, Base.at], hk, .node rfl rfl fun hb =>
          (spans_ternary _ _ _ _ _ _).mpr
            ⟨noEnd_at _ _, hl.spans hb, hq.spans, ht.spans hb, hc.spans, hf.spans hb⟩⟩)
    (.pure fun _ h => h)

theorem statement_prod (fuel : Nat) : Production sync (statement fuel) := by
  induction fuel with
  | zero => exact fun _ _ _ => .fail
  | succ m ih =>
    have ha := args_prod ih m
    exact e1_prod ih (e2_prod (e3_prod (e4_prod (e5_prod (e6_prod (e7_prod
      (e8_prod ih ha (e9_prod ih ha (keyValues_prod ih m)))))))))

/-- `codeblock()`: entered with anything pending -/
def BlockProd (sync : Prop) (cb : P Node) : Prop :=
  ∀ T out K, Run (Here sync T out false K) cb fun n => Here sync T (out ++ emit n) true (K ∧ Ok sync T out n)

/-- a block statement whose closing keyword is still the current token -/
def Opened (sync : Prop) (T out : Str) (K : Prop) (n : Node) (st : PState) : Prop :=
  ∃ pre, Here sync T (out ++ pre) true (K ∧ emit n = pre ++ st.cur.value ∧ Ok sync T out n) st

variable {cb : P Node}

theorem foreachBlock_prod (hs : Production sync stmt) (hcb : BlockProd sync cb) (c : Token) :
    Run (Held sync T out .kForeach c K) (foreachBlock stmt cb) (Opened sync T out K) := by
  unfold foreachBlock
  refine
    .sym rfl fun kw hkw =>
    .expect fun c1 =>
    .prev <| .createHeld trivial (fun ht => by simp [printed, ht, emit_id, Base.ofTok]) fun ws1 => ?_
  have rest : ∀ (x : List Node × List Node) out', Run (Here sync T out' true (K ∧
        (out' = out ++ emit kw ++ interleaveVars (emitL x.1) (emitL x.2) ∧ (sync → SpansL T x.1 ∧ SpansL T x.2))))
      (match x with
        | (vars, commas) => do
          expect Tid.colon
          let colon ← createSymbol (← prev)
          let items ← stmt
          let block ← cb
          let endkw ← createSymbol (← cur)
          create (Node.foreach (Base.at kw.lineno kw.colno) kw vars commas colon items block endkw))
      (Opened sync T out K) := by
    rintro ⟨vars, commas⟩ out'
    refine
      .expect fun _ =>
      .sym rfl fun colon hcol =>
      .bind (hs _ _ _) fun items =>
      .bind ((hcb _ _ _).pre fun _ h => h.weak) fun block =>
      .cur fun ce => .createC <|
      .last <| .createC <|
      .pure fun st h =>
        ⟨emit kw ++ interleaveVars (emitL vars) (emitL commas) ++ emit colon ++ emit items ++ emit block,
          h.1.imp fun ⟨⟨⟨hk, ho, hv⟩, hi⟩, hb⟩ _ _ =>
            ⟨by rw [ho]; simp only [List.append_assoc], hk,
              by rw [h.2]; simp [emit_foreach, emit_symbolOf, Base.at],
              .node rfl rfl fun hb' => (spans_foreach _ _ _ _ _ _ _ _).mpr
                ⟨noEnd_at _ _, hkw.spans, (hv hb').1, (hv hb').2, hcol.spans, hi.spans hb', hb.spans hb',
                  (spans_symbol _ _).mpr (noEnd_ofTok _)⟩⟩⟩
  have hid : ∀ (c : Token) ws, Spans T (Node.addWs ws (.id (Base.ofTok c) c.value)) := fun _ _ =>
    (spans_addWs _ _).mpr ((spans_id _ _).mpr (noEnd_ofTok _))
  refine .ifAccept (fun _ =>
      .sym rfl fun cm hcm =>
      .expect fun c2 =>
      .prev <| .createHeld trivial (fun ht => by simp [printed, ht, emit_id, Base.ofTok]) fun ws2 =>
      .pure_bind <|
      (rest ([_, _], [cm]) _).pre fun _ h => h.imp fun ⟨⟨hk, _⟩, _⟩ _ _ =>
        ⟨rfl, hk, by simp [interleaveVars, emitL_cons, emitL_nil, List.append_assoc], fun _ =>
          ⟨(spansL_cons _ _).mpr ⟨hid _ _, (spansL_cons _ _).mpr ⟨hid _ _, spansL_nil⟩⟩,
            (spansL_cons _ _).mpr ⟨hcm.spans, spansL_nil⟩⟩⟩)
    (.pure_bind <|
      (rest ([_], []) _).pre fun _ h => h.imp fun ⟨hk, _⟩ _ _ =>
        ⟨rfl, hk, by simp [interleaveVars, emitL_cons, emitL_nil, List.append_assoc], fun _ =>
          ⟨(spansL_cons _ _).mpr ⟨hid _ _, spansL_nil⟩, spansL_nil⟩⟩)

theorem elseifLoop_prod (hs : Production sync stmt) (hcb : BlockProd sync cb) (j : Nat) :
    ∀ T out K ifs, Run (Here sync T (out ++ (emitL ifs).flatten) true (K ∧ (sync → SpansL T ifs)))
      (elseifLoop stmt cb j ifs)
      fun ifs' => Here sync T (out ++ (emitL ifs').flatten) true (K ∧ (sync → SpansL T ifs')) := by
  induction j with
  | zero => exact fun _ _ _ _ => .fail
  | succ j ih =>
    intro T out K ifs
    unfold elseifLoop
    refine .ifAccept (fun _ =>
        .sym rfl fun kw hkw =>
        .bind (hs _ _ _) fun s =>
        .expectEol <|
        .bind (hcb _ _ _) fun bl =>
        .create <|
        (ih _ _ _ _).pre fun _ h => h.imp fun ⟨⟨⟨hk, hi⟩, hs⟩, hb⟩ _ _ =>
          ⟨by simp [emitL_snoc, emit_ifnode, Base.at], hk, fun hb' => (spansL_snoc _ _).mpr ⟨hi hb',
            (spans_ifnode _ _ _ _).mpr ⟨noEnd_at _ _, hkw.spans, hs.spans hb', hb.spans hb'⟩⟩⟩)
      (.pure fun _ h => h)

theorem elseBlock_prod (hcb : BlockProd sync cb) : Production sync (elseBlock cb) :=
  fun _ _ _ => .ifAccept (fun _ =>
      .sym rfl fun kw hkw =>
      .expectEol <|
      .bind (hcb _ _ _) fun bl =>
      .pure fun _ h => h.imp fun ⟨hk, hb⟩ _ _ =>
        ⟨by simp [emit_elsenode, Base.at], hk, .node rfl rfl fun hb' =>
          (spans_elsenode _ _ _).mpr ⟨noEnd_at _ _, hkw.spans, hb.spans hb'⟩⟩)
    .emptyAtCur

theorem ifBlock_prod (hs : Production sync stmt) (hcb : BlockProd sync cb) (k : Nat) (c : Token) :
    Run (Held sync T out .kIf c K) (ifBlock stmt cb k) (Opened sync T out K) := by
  unfold ifBlock
  refine
    .sym rfl fun kw hkw =>
    .bind (hs _ _ _) fun cond =>
    .create <|
    .expectEol <|
    .bind (hcb _ _ _) fun bl =>
    .create <|
    .bind ((elseifLoop_prod hs hcb k _ out _ _).pre fun _ h => h.imp fun hk _ _ =>
      ⟨by simp [emitL_cons, emitL_nil, emit_ifnode, Base.at], hk, fun hb' =>
        (spansL_cons _ _).mpr
          ⟨(spans_ifnode _ _ _ _).mpr ⟨noEnd_at _ _, hkw.spans, hk.1.2.spans hb', hk.2.spans hb'⟩, spansL_nil⟩⟩)
      fun ifs =>
    .bind (elseBlock_prod hcb _ _ _) fun elseb =>
    .cur fun ce => .createC <|
    .pure fun st h =>
      ⟨(emitL ifs).flatten ++ emit elseb, h.1.imp fun ⟨⟨⟨⟨hk, _⟩, _⟩, hi⟩, he⟩ _ _ =>
        ⟨by rw [List.append_assoc], hk,
          by rw [h.2]; simp [emit_ifclause, emit_symbolOf, Node.base, Base.at],
          .node rfl rfl fun hb' => (spans_ifclause _ _ _ _).mpr
            ⟨noEnd_at _ _, hi hb', he.spans hb', (spans_symbol _ _).mpr (noEnd_ofTok _)⟩⟩⟩

/-- `self.block_expect(t); return block`: the closing keyword is in the node already, the trivia after it stays
pending -/
theorem Hoare.closeBlock {t : Tid} {n : Node} (hp : plainTid t = true) (hl : t ≠ .eol := by decide)
    (he : t ≠ .eof := by decide) :
    Run (Opened sync T out K n) (Lang.blockExpect t >>= fun _ => Pure.pure n)
      fun n => Here sync T (out ++ emit n) false (K ∧ Ok sync T out n) := by
  intro st ⟨pre, h⟩
  refine Hoare.blockExpectC (c := st.cur) (f := fun _ => Pure.pure n)
    (C := fun n => Here sync T (out ++ emit n) false (K ∧ Ok sync T out n))
    (.tid fun ht => .pure fun _ h' => h'.done.imp ?_) hl he st ⟨h, rfl⟩
  exact fun ⟨⟨hk, hn, ho⟩, _⟩ _ _ => ⟨by rw [hn, printed_plain (ht ▸ hp), List.append_assoc], hk, ho⟩

/-- a line may leave the trivia after its closing keyword pending -/
def LineProd (sync : Prop) (f : P Node) : Prop :=
  ∀ T out K, Run (Here sync T out true K) f fun n => Here sync T (out ++ emit n) false (K ∧ Ok sync T out n)

theorem line_prod (hs : Production sync stmt) (hcb : BlockProd sync cb) (k : Nat) : LineProd sync (line stmt cb k) := by
  intro T out K
  unfold line
  refine .peek (fun _ => rfl) fun _ => .ite (.weak .emptyAtCur) ?_
  refine .ifAccept (fun c => .bind (ifBlock_prod hs hcb k c) fun n => .closeBlock rfl) ?_
  refine .ifAccept (fun c => .bind (foreachBlock_prod hs hcb c) fun n => .closeBlock rfl) ?_
  refine .ifAccept (fun _ =>
    .peek (fun _ => rfl) fun _ =>
    .weak <| .leaf (nd := .continue_ _) trivial rfl (fun ht => by simp [printed, ht, emit_continue, Base.ofTok])
      ((spans_continue _).mpr (noEnd_ofTok _)) nofun) ?_
  exact .ifAccept (fun _ =>
      .peek (fun _ => rfl) fun _ =>
      .weak <| .leaf (nd := .break_ _) trivial rfl (fun ht => by simp [printed, ht, emit_break, Base.ofTok])
        ((spans_break _).mpr (noEnd_ofTok _)) nofun)
    (.weak (hs _ _ _))

/-- the `CodeBlockNode` under construction -/
def BlockShape (n : Node) : Prop := ∃ b pre lines, n = .codeblock b pre lines ∧ b.ws = []

theorem BlockShape.clean {n : Node} (h : BlockShape n) : n.blockClean := by
  obtain ⟨b, pre, lines, rfl, hb⟩ := h
  exact hb

theorem BlockShape.addWs {n : Node} (h : BlockShape n) (ws : List Token) : BlockShape (n.addWs ws) := by
  obtain ⟨b, pre, lines, rfl, hb⟩ := h
  simp only [Node.addWs]
  split
  · exact ⟨b, _, _, rfl, hb⟩
  · exact ⟨b, _, _, rfl, hb⟩

theorem emit_blockAppendLine {block l : Node} (hb : BlockShape block) (he : l.isEmpty = true → emit l = []) :
    emit (blockAppendLine block l) = emit block ++ emit l := by
  obtain ⟨b, pre, lines, rfl, hbw⟩ := hb
  simp only [blockAppendLine]
  split
  · rename_i hl
    rw [he hl, List.append_nil]
  · simp [emit_codeblock, emitL_snoc, hbw, List.append_assoc]

theorem BlockShape.appendLine {block : Node} (h : BlockShape block) (l : Node) :
    BlockShape (blockAppendLine block l) := by
  obtain ⟨bb, pre, lines, rfl, hb⟩ := h
  simp only [blockAppendLine]
  split
  · exact ⟨bb, pre, lines, rfl, hb⟩
  · exact ⟨bb, pre, _, rfl, hb⟩

theorem BlockShape.ok {block : Node} (h : BlockShape block) (hs : sync → Spans T block) : Ok sync T out block := by
  obtain ⟨_, _, _, rfl, _⟩ := h
  exact .node rfl rfl hs

theorem codeblockLoop_prod (hs : Production sync stmt) (hcb : BlockProd sync cb) (k j : Nat) :
    ∀ T out K block, BlockShape block → Run (Here sync T (out ++ emit block) false (K ∧ (sync → Spans T block)))
      (codeblockLoop stmt cb k j block) fun n => Here sync T (out ++ emit n) true (K ∧ Ok sync T out n) := by
  induction j with
  | zero => exact fun _ _ _ _ _ => .fail
  | succ j ih =>
    intro T out K block hb
    unfold codeblockLoop
    refine .flush fun ws => .bind (line_prod hs hcb k _ _ _) fun l => ?_
    have hb2 := (hb.addWs ws).appendLine l
    refine .pre (A := Here sync T (out ++ emit (blockAppendLine (block.addWs ws) l)) false
        (K ∧ (sync → Spans T (blockAppendLine (block.addWs ws) l)))) ?_ fun _ h => h.imp fun ⟨⟨hk, hsb⟩, hl⟩ _ _ =>
      ⟨by rw [emit_blockAppendLine (hb.addWs ws) hl.emp, emit_addWs _ _ hb.clean]; simp only [List.append_assoc],
        hk, fun hb' => spans_blockAppendLine ((spans_addWs _ _).mpr (hsb hb')) (hl.spans hb')⟩
    exact .ifAcceptEol (ih _ _ _ _ hb2) (.last <| .flush fun ws2 => .pure fun _ h =>
      h.imp fun ⟨hk, hsb⟩ _ _ => ⟨by rw [emit_addWs _ _ hb2.clean, List.append_assoc], hk,
        (hb2.addWs ws2).ok fun hb' => (spans_addWs _ _).mpr (hsb hb')⟩)

theorem codeblock_prod (fuel : Nat) : BlockProd sync (codeblock fuel) := by
  induction fuel with
  | zero => exact fun _ _ _ => .fail
  | succ m ih =>
    intro T out K
    unfold codeblock
    refine .peek (fun _ => rfl) fun c => .flush fun ws => ?_
    have hb : BlockShape (Node.addWs ws (.codeblock (Base.at c.lineno c.colno) [] [])) :=
      BlockShape.addWs ⟨_, _, _, rfl, rfl⟩ ws
    exact (codeblockLoop_prod (statement_prod m) ih m m _ out _ _ hb).pre fun _ h => (h.weak (w := false)).imp
      fun hk _ _ => ⟨by
          rw [emit_addWs (.codeblock (Base.at c.lineno c.colno) [] []) ws rfl]
          simp [emit_codeblock, emitL_nil, Base.at],
        hk, fun _ => (spans_addWs _ _).mpr ((spans_codeblock _ _ _).mpr ⟨noEnd_at _ _, spansL_nil⟩)⟩

/-- the ghost-output-stream invariant of a production -/
def Emits (f : P Node) : Prop :=
  ∀ st n st', f st = .ok (n, st') → st'.lossy = 0 →
    st.lossy = 0 ∧ (n.isEmpty = true → emit n = []) ∧
    (st.ws = [] → st'.ws = [] ∧ rem st = emit n ++ rem st')

/-- `Emits` without the clause about empty nodes (for productions that never return an `EmptyNode`) -/
def EmitsT (f : P Node) : Prop :=
  ∀ st n st', f st = .ok (n, st') → st'.lossy = 0 →
    st.lossy = 0 ∧ (st.ws = [] → st'.ws = [] ∧ rem st = emit n ++ rem st')

theorem Emits.toT {f : P Node} (h : Emits f) : EmitsT f :=
  fun st n st' hf hd => ⟨(h st n st' hf hd).1, (h st n st' hf hd).2.2⟩

theorem create_spec {n n' : Node} {st st' : PState} (h : create n st = .ok (n', st')) :
    n' = n.addWs st.ws ∧ st'.ws = [] ∧ rem st' = rem st ∧ st'.lossy = st.lossy := by
  simp [create] at h
  obtain ⟨rfl, rfl⟩ := h
  exact ⟨rfl, rfl, rfl, rfl⟩

/-- closing tactic for a leaf: the node built from the accepted token prints as the token -/
macro "leaf_close" h1:ident h2:ident h4:ident h5:ident h6:ident h7:ident : tactic => `(tactic|
  (refine ⟨by omega, ?_, fun hws => ⟨$h5, ?_⟩⟩
   · rw [$h6:ident]; simp [Node.isEmpty]
   · rw [$h7:ident hws, $h4:ident]
     try simp only [show (Tid.fstring == Tid.fstring || Tid.fstring == Tid.multilineFstring) = true from rfl,
       show (Tid.multilineFstring == Tid.fstring || Tid.multilineFstring == Tid.multilineFstring) = true from rfl,
       show (Tid.multilineString == Tid.fstring || Tid.multilineString == Tid.multilineFstring) = false from rfl,
       show (Tid.string == Tid.fstring || Tid.string == Tid.multilineFstring) = false from rfl]
     simp [printed, $h2:ident, emit_boolean, emit_id, emit_number, emit_string, emit_symbol, Base.ofTok,
       List.append_assoc]))

end MesonModel.Lang
