/-
The matchers of the lexer's `token_specification`, one characterisation each: the match is a prefix `T` of the
input of the returned length, and `T` has the shape of the regular expression as far as the lexer's clients
need it (`Shape`): the quotes around the value of the four string kinds, the one newline that ends a
continuation, no newline anywhere else, never empty.
-/
import MesonModel.Lang.LinePos

namespace MesonModel.Lang
open MesonModel.Py

/-- `s` starts with a text `T` of length `n` that satisfies `P` -/
def Match (s : Str) (n : Nat) (P : Str → Prop) : Prop := ∃ T r, s = T ++ r ∧ T.length = n ∧ P T

theorem Match.le {s : Str} {n : Nat} {P : Str → Prop} (h : Match s n P) : n ≤ s.length := by
  obtain ⟨T, r, rfl, rfl, _⟩ := h
  simp

theorem Match.take {s : Str} {n : Nat} {P : Str → Prop} (h : Match s n P) : P (s.take n) := by
  obtain ⟨T, r, rfl, rfl, hP⟩ := h
  rwa [List.take_left]

theorem Match.mono {s : Str} {n : Nat} {P Q : Str → Prop} (h : Match s n P) (hPQ : ∀ T, P T → Q T) :
    Match s n Q := by
  obtain ⟨T, r, hs, hn, hP⟩ := h
  exact ⟨T, r, hs, hn, hPQ T hP⟩

theorem Match.cons {s : Str} {n : Nat} {P : Str → Prop} (c : Char) (h : Match s n P) :
    Match (c :: s) (n + 1) fun T => ∃ T', T = c :: T' ∧ P T' := by
  obtain ⟨T, r, rfl, rfl, hP⟩ := h
  exact ⟨c :: T, r, rfl, rfl, T, rfl, hP⟩

theorem match_takeWhile (p : Char → Bool) (l : Str) : Match l (l.takeWhile p).length (· = l.takeWhile p) :=
  ⟨_, l.dropWhile p, List.takeWhile_append_dropWhile.symm, rfl, rfl⟩

def Plain (T : Str) : Prop := T ≠ [] ∧ countNl T = 0

theorem plain_cons {c : Char} (hc : c ≠ '\n') {T : Str} (h : countNl T = 0) : Plain (c :: T) :=
  ⟨List.cons_ne_nil _ _, by rw [countNl_cons_ne hc, h]⟩

/-- the text `T` is a value between the opening `A` and the closing `B` -/
def Quoted (A B T : Str) : Prop := ∃ v, T = A ++ v ++ B

/-- `value[a:-b]` of a text with `a` characters before the value and `b` after it -/
theorem Quoted.value {A B T : Str} (h : Quoted A B T) {a b : Nat} (hA : A.length = a) (hB : B.length = b) :
    T = A ++ sliceMid a b T ++ B := by
  obtain ⟨v, rfl⟩ := h
  subst hA hB
  simp [sliceMid]

/-- what the text matched by an entry of `token_specification` looks like: the value of a string between its
quotes (as `printed` puts them back), a continuation up to its newline, anything else without a newline -/
def Shape : Tid → Str → Prop
  | .string => Quoted ['\''] ['\'']
  | .fstring => Quoted ['f', '\''] ['\'']
  | .multilineString => Quoted "'''".toList "'''".toList
  | .multilineFstring => Quoted ('f' :: "'''".toList) "'''".toList
  | .eolCont => fun T => ∃ K, T = K ++ ['\n'] ∧ countNl K = 0
  | _ => Plain

theorem match_cons_takeWhile {p : Char → Bool} (hp : p '\n' = false) {c : Char} (hc : c ≠ '\n')
    (cs : Str) : Match (c :: cs) (1 + (cs.takeWhile p).length) Plain := by
  rw [Nat.add_comm]
  refine ((match_takeWhile p cs).cons c).mono ?_
  rintro _ ⟨T', rfl, rfl⟩
  exact plain_cons hc (countNl_takeWhile _ hp)

theorem mWhitespace_match {s : Str} {n : Nat} (h : mWhitespace s = some n) : Match s n Plain := by
  simp only [mWhitespace] at h
  split at h
  · cases h
  · rename_i h0
    cases h
    refine (match_takeWhile isBlank s).mono ?_
    rintro _ rfl
    exact ⟨fun e => h0 (by rw [e]; rfl), countNl_takeWhile _ (by decide)⟩

theorem mId_spec {s : Str} {n : Nat} (h : mId s = some n) :
    ∃ c cs, s = c :: cs ∧ isIdStart c = true ∧ n = 1 + (cs.takeWhile isWord).length := by
  unfold mId at h
  split at h
  · split at h
    · cases h
      exact ⟨_, _, rfl, ‹_›, rfl⟩
    · cases h
  · cases h

theorem mId_match {s : Str} {n : Nat} (h : mId s = some n) : Match s n Plain := by
  obtain ⟨c, cs, rfl, hc, rfl⟩ := mId_spec h
  exact match_cons_takeWhile (p := isWord) (by decide) (ne_nl (p := isIdStart) (by decide) hc) _

theorem mComment_match {s : Str} {n : Nat} (h : mComment s = some n) : Match s n Plain := by
  unfold mComment at h
  split at h
  · split at h
    · rename_i hc
      cases h
      exact match_cons_takeWhile (p := notNl) (by decide) (by rintro rfl; simp at hc) _
    · cases h
  · cases h

theorem mLit2_match {a b : Char} {s : Str} {n : Nat} (h : mLit2 a b s = some n) : Match s n (· = [a, b]) := by
  unfold mLit2 at h
  split at h
  · split at h
    · rename_i c d r hc
      cases h
      obtain ⟨rfl, rfl⟩ : c = a ∧ d = b := by simpa using hc
      exact ⟨[c, d], r, rfl, rfl, rfl⟩
    · cases h
  · cases h

/-- the digits after `0b` / `0o` / `0x`, when there are any -/
theorem radix_run (c : Char) (cs : Str) {k : Nat}
    (hk : (if c == 'b' || c == 'B' then (cs.takeWhile isBin).length
      else if c == 'o' || c == 'O' then (cs.takeWhile isOct).length
      else if c == 'x' || c == 'X' then (cs.takeWhile isHex).length else 0) = k) (h0 : k ≠ 0) :
    c ≠ '\n' ∧ Match cs k (countNl · = 0) := by
  have run (p : Char → Bool) (hp : p '\n' = false) :
      Match cs (cs.takeWhile p).length (countNl · = 0) :=
    (match_takeWhile p cs).mono (by rintro _ rfl; exact countNl_takeWhile _ hp)
  subst hk
  refine ⟨by rintro rfl; exact h0 rfl, ?_⟩
  split
  · exact run isBin (by decide)
  · split
    · exact run isOct (by decide)
    · split
      · exact run isHex (by decide)
      · exact ⟨[], cs, rfl, rfl, rfl⟩

theorem mNumber_match {s : Str} {n : Nat} (h : mNumber s = some n) : Match s n Plain := by
  unfold mNumber at h
  split at h
  · rename_i c cs
    dsimp only at h
    generalize hk : ite (c == 'b' || c == 'B') _ _ = k at h
    split at h
    · cases h
      exact ⟨['0'], _, rfl, rfl, plain_cons (by decide) rfl⟩
    · rename_i hk0
      cases h
      obtain ⟨hc, hm⟩ := radix_run c cs hk hk0
      rw [Nat.add_comm]
      refine ((hm.cons c).cons '0').mono ?_
      rintro _ ⟨_, rfl, _, rfl, h0⟩
      exact plain_cons (by decide) (by rw [countNl_cons_ne hc, h0])
  · rename_i c cs _
    split at h
    · rename_i hc
      cases h
      exact ⟨[c], cs, rfl, rfl, plain_cons (by rintro rfl; simp at hc) rfl⟩
    · split at h
      · cases h
        exact match_cons_takeWhile (p := isDigit) (by decide) (ne_nl (p := isDigit) (by decide) ‹_›) _
      · cases h
  · cases h

theorem takeWhile_append_of_drop {p : Char → Bool} {l : Str} {d : Char} {r : Str}
    (h : l.drop (l.takeWhile p).length = d :: r) : l = l.takeWhile p ++ d :: r := by
  rw [← h]
  exact (List.prefix_iff_eq_append.mp (List.takeWhile_prefix p)).symm

/-- `\\[ \t]*(#.*)?\n`: one newline, at the end -/
theorem mEolCont_match {s : Str} {n : Nat} (h : mEolCont s = some n) : Match s n (Shape .eolCont) := by
  unfold mEolCont at h
  split at h
  · rename_i c cs
    split at h
    · rename_i hc
      have hc : c ≠ '\n' := by
        rintro rfl
        simp at hc
      have hB := countNl_takeWhile (p := isBlank) cs (by decide)
      dsimp only at h
      split at h
      · rename_i d r hdrop
        have hcs := takeWhile_append_of_drop hdrop
        generalize cs.takeWhile isBlank = B at hcs hB h
        subst hcs
        split at h
        · rename_i hd
          obtain rfl : d = '\n' := by simpa using hd
          cases h
          exact ⟨c :: B ++ ['\n'], r, by simp, by simp, c :: B, rfl, by rw [countNl_cons_ne hc, hB]⟩
        · split at h
          · rename_i hd
            obtain rfl : d = '#' := by simpa using hd
            have hK := countNl_takeWhile (p := notNl) r (by decide)
            split at h
            · rename_i e r' hdrop'
              have hr := takeWhile_append_of_drop hdrop'
              generalize r.takeWhile notNl = K at hr hK h
              subst hr
              split at h
              · rename_i he
                obtain rfl : e = '\n' := by simpa using he
                cases h
                refine ⟨c :: B ++ '#' :: K ++ ['\n'], r', by simp, by simp; omega, c :: B ++ '#' :: K, rfl, ?_⟩
                rw [List.cons_append, countNl_cons_ne hc, countNl_append, hB, countNl_cons_ne (by decide), hK]
              · cases h
            · cases h
          · cases h
      · cases h
    · cases h
  · cases h

theorem scanStr_match (cs : Str) : ∀ {m : Nat}, scanStr cs = some m → Match cs m fun T => ∃ v, T = v ++ ['\''] := by
  fun_induction scanStr cs with
  | case1 => exact nofun
  | case2 c cs hc =>
    intro m h
    cases h
    obtain rfl : c = '\'' := by simpa using hc
    exact ⟨['\''], cs, rfl, rfl, [], rfl⟩
  | case3 => exact nofun
  | case4 => exact nofun
  | case5 c _ _ d ds _ ih =>
    intro m h
    obtain ⟨a, ha, rfl⟩ := Option.map_eq_some_iff.mp h
    refine (((ih ha).cons d).cons c).mono ?_
    rintro _ ⟨_, rfl, _, rfl, v, rfl⟩
    exact ⟨c :: d :: v, rfl⟩
  | case6 c cs _ _ ih =>
    intro m h
    obtain ⟨a, ha, rfl⟩ := Option.map_eq_some_iff.mp h
    refine ((ih ha).cons c).mono ?_
    rintro _ ⟨_, rfl, v, rfl⟩
    exact ⟨c :: v, rfl⟩

theorem quotes_eq : "'''".toList = ['\'', '\'', '\''] := by decide

theorem findTriple_match (cs : Str) : ∀ {i : Nat}, findTriple cs = some i →
    Match cs (i + 3) fun T => ∃ v, T = v ++ "'''".toList := by
  fun_induction findTriple cs with
  | case1 => exact nofun
  | case2 c cs hc =>
    intro i h
    cases h
    obtain ⟨rfl, h2⟩ : c = '\'' ∧ cs.take 2 = ['\'', '\''] := by simpa using hc
    rw [← List.take_append_drop 2 cs, h2]
    exact ⟨_, cs.drop 2, rfl, rfl, [], quotes_eq.symm⟩
  | case3 c cs _ ih =>
    intro i h
    obtain ⟨a, ha, rfl⟩ := Option.map_eq_some_iff.mp h
    refine ((ih ha).cons c).mono ?_
    rintro _ ⟨_, rfl, v, rfl⟩
    exact ⟨c :: v, rfl⟩

theorem mString_match {s : Str} {n : Nat} (h : mString s = some n) : Match s n (Shape .string) := by
  unfold mString at h
  split at h
  · split at h
    · rename_i c cs hc
      obtain rfl : c = '\'' := by simpa using hc
      obtain ⟨a, ha, rfl⟩ := Option.map_eq_some_iff.mp h
      refine ((scanStr_match cs ha).cons _).mono ?_
      rintro _ ⟨_, rfl, v, rfl⟩
      exact ⟨v, rfl⟩
    · cases h
  · cases h

theorem mFstring_match {s : Str} {n : Nat} (h : mFstring s = some n) : Match s n (Shape .fstring) := by
  unfold mFstring at h
  split at h
  · split at h
    · rename_i c d cs hc
      obtain ⟨rfl, rfl⟩ : c = 'f' ∧ d = '\'' := by simpa using hc
      obtain ⟨a, ha, rfl⟩ := Option.map_eq_some_iff.mp h
      refine (((scanStr_match cs ha).cons _).cons _).mono ?_
      rintro _ ⟨_, rfl, _, rfl, v, rfl⟩
      exact ⟨v, rfl⟩
    · cases h
  · cases h

theorem mMultiline_match {s : Str} {n : Nat} (h : mMultiline s = some n) :
    Match s n (Shape .multilineString) := by
  unfold mMultiline at h
  split at h
  · rename_i hc
    obtain ⟨i, hi, rfl⟩ := Option.map_eq_some_iff.mp h
    rw [← List.take_append_drop 3 s, eq_of_beq hc]
    refine ((((findTriple_match _ hi).cons _).cons _).cons _).mono ?_
    rintro _ ⟨_, rfl, _, rfl, _, rfl, v, rfl⟩
    exact ⟨v, by rw [quotes_eq]; rfl⟩
  · cases h

theorem mMultilineF_match {s : Str} {n : Nat} (h : mMultilineF s = some n) :
    Match s n (Shape .multilineFstring) := by
  unfold mMultilineF at h
  split at h
  · split at h
    · rename_i c cs hc
      obtain rfl : c = 'f' := by simpa using hc
      obtain ⟨a, ha, rfl⟩ := Option.map_eq_some_iff.mp h
      refine ((mMultiline_match ha).cons _).mono ?_
      rintro _ ⟨_, rfl, v, rfl⟩
      exact ⟨v, rfl⟩
    · cases h
  · cases h

theorem plain_pair {a b : Char} (ha : a ≠ '\n') (hb : b ≠ '\n') {T : Str} (h : T = [a, b]) : Plain T :=
  h ▸ plain_cons ha (by rw [countNl_cons_ne hb]; rfl)

theorem matchSpec_shape {tid : Tid} {s : Str} {n : Nat} (h : matchSpec tid s = some n) :
    Match s n (Shape tid) := by
  cases tid <;> try (cases h; done)
  case whitespace => exact mWhitespace_match h
  case multilineFstring => exact mMultilineF_match h
  case fstring => exact mFstring_match h
  case id => exact mId_match h
  case number => exact mNumber_match h
  case eolCont => exact mEolCont_match h
  case multilineString => exact mMultiline_match h
  case comment => exact mComment_match h
  case string => exact mString_match h
  all_goals exact (mLit2_match h).mono fun _ => plain_pair (by decide) (by decide)

theorem Shape.ne_nil {tid : Tid} {T : Str} (h : Shape tid T) : T ≠ [] := by
  cases tid
  case string | fstring | multilineString | multilineFstring =>
    obtain ⟨v, rfl⟩ := h
    exact nofun
  case eolCont =>
    obtain ⟨K, rfl, _⟩ := h
    exact List.append_ne_nil_of_right_ne_nil _ nofun
  all_goals exact h.1

theorem matchSpec_len {t : Tid} {s : Str} {n : Nat} (h : matchSpec t s = some n) : 1 ≤ n ∧ n ≤ s.length := by
  refine ⟨?_, (matchSpec_shape h).le⟩
  obtain ⟨T, _, _, rfl, hT⟩ := matchSpec_shape h
  exact List.length_pos_iff.mpr hT.ne_nil

end MesonModel.Lang
