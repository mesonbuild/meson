/-
The state invariant of `span_exact` (DESIGN §4 C02). `Sync s st`: the unconsumed tokens `st.cur :: st.rest` print a
suffix of the input `s`, each token's line/column addresses the offset at which that suffix starts, and a `)` / `]` /
`}` token prints as one character (established by the lexer, `LexRun.streamOk`; preserved by `getsym`).
-/
import MesonModel.Lang.LexPrinted
import MesonModel.Lang.LinePos

namespace MesonModel.Lang

section
variable (s : Str)

/-- the token `t`, followed by `rest`, prints the suffix of `s` that starts at the offset its line/column denote -/
def TokOk (t : Token) (rest : List Token) : Prop :=
  ∃ pre, s = pre ++ (printed t ++ restText rest) ∧ Addr s t.lineno t.colno pre.length ∧
    (isCloser t.tid → (printed t).length = 1 ∧ countNl (printed t) = 0)

def StreamOk : List Token → Prop
  | [] => True
  | t :: rest => TokOk s t rest ∧ StreamOk rest

def Sync (st : PState) : Prop :=
  (st.cur.tid ≠ .eof → TokOk s st.cur st.rest) ∧ StreamOk s st.rest

variable {s}

theorem StreamOk.suffix : ∀ (l₁ : List Token) {l₂ : List Token}, StreamOk s (l₁ ++ l₂) → StreamOk s l₂
  | [], _, h => h
  | _ :: l₁, _, h => StreamOk.suffix l₁ h.2

theorem advance_sync {lexErr : Option (Nat × Nat)} {last : Token} {rest ws : List Token}
    {c : Token} {rest' ws' : List Token}
    (h : advance lexErr last rest ws = .ok (c, rest', ws')) (hr : StreamOk s rest) :
    (c.tid ≠ .eof → TokOk s c rest') ∧ StreamOk s rest' := by
  obtain ⟨tr, -, ⟨rfl, -⟩ | ⟨-, rfl, -, -, l, -, rfl⟩⟩ := advance_ok h
  · have := StreamOk.suffix tr hr
    exact ⟨fun _ => this.1, this.2⟩
  · exact ⟨fun hne => absurd rfl hne, trivial⟩

theorem getsym_sync {st st' : PState} {u : Unit} (h : getsym st = .ok (u, st')) (hy : Sync s st) : Sync s st' :=
  advance_sync (getsym_ok h).1 hy.2

theorem accept_sync {t : Tid} {st st' : PState} {b : Bool} (h : accept t st = .ok (b, st')) (hy : Sync s st) :
    Sync s st' := by
  rcases guarded_ok (accept_eq t ▸ h) with ⟨-, -, rfl⟩ | ⟨-, -, hg⟩
  · exact hy
  · exact getsym_sync hg hy

theorem sync_congr {st st' : PState} (hc : st'.cur = st.cur) (hr : st'.rest = st.rest) (hy : Sync s st) :
    Sync s st' := by
  unfold Sync at *
  rw [hc, hr]
  exact hy

end

end MesonModel.Lang
