/-
`parser_error_located`: every `ParseException` / `BlockParseException` the model can raise carries a
line/column inside the text.
-/
import MesonModel.Lang.PosInv
import MesonModel.Lang.LexRun

namespace MesonModel.Lang

theorem parse_error_inText {s : Str} {names : List (Str × Nat)} {e : Err}
    (h : parseWith names s = .error e) : ErrOk (InText s) e := by
  obtain ⟨ht, he⟩ := lex_pos s
  refine parseToks_errOk (V := InText s) ⟨by simp, by simp [lineOff]⟩ (fun t hmem => ht t hmem)
    (fun p hp => he p.1 p.2 hp) h

end MesonModel.Lang
