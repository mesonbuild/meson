/-
The lexer's line bookkeeping is exact. For the token produced from state `st` on input `s` with consumed text
`T = s.take n`: either `T` contains no newline and `lineno`/`line_start` are unchanged, or they advance by the
number of newlines in `T` to just after its last newline (`lexStep_line`). So a step keeps the state describing the
consumed prefix (`LI`, `LI_step`), and line and column of such a state are the address of its offset (`LI.addr`).
-/
import MesonModel.Lang.LinePos
import MesonModel.Lang.LexPrinted

namespace MesonModel.Lang
open MesonModel.Py

/-- `p` is what the loop body may count for the text `T`: its newlines and, if there are any, the number of
characters after the last -/
def Counts (p : Nat × Nat) (T : Str) : Prop := p.1 = countNl T ∧ (0 < countNl T → p.2 = lastLineLen T)

theorem counts_nonl {T : Str} (h : countNl T = 0) : Counts (0, 0) T :=
  ⟨h.symm, fun hp => absurd hp (by omega)⟩

theorem quotes_nonl : countNl "'''".toList = 0 := by decide

/-- for a triple-quoted string the loop body counts in the value and adds the closing quotes -/
theorem counts_triple {a T v : Str} (ha : countNl a = 0) (hT : T = a ++ v ++ "'''".toList) :
    Counts (countNl v, lastLineLen v + 3) T := by
  have hc : countNl T = countNl v := by
    rw [hT, countNl_append, countNl_append, ha, quotes_nonl]
    omega
  refine ⟨hc.symm, fun hp => ?_⟩
  rw [hT, lastLineLen_append_nonl _ _ quotes_nonl, lastLineLen_append_nl _ _ (hc ▸ hp)]
  rfl

theorem specLines_counts {tid : Tid} {s : Str} {n : Nat} (h : matchSpec tid s = some n) :
    Counts (specLines tid (s.take n)) (s.take n) := by
  have hT := (matchSpec_shape h).take
  cases tid <;> try (cases h; done)
  case string => exact ⟨rfl, fun _ => rfl⟩
  case fstring => exact ⟨rfl, fun _ => rfl⟩
  case multilineString => exact counts_triple quotes_nonl (hT.value (by decide) (by decide))
  case multilineFstring => exact counts_triple (by decide) (hT.value (by decide) (by decide))
  case eolCont =>
    obtain ⟨K, hK, h0⟩ := hT
    rw [hK]
    refine ⟨?_, fun _ => (lastLineLen_append_nl K ['\n'] (by decide)).symm⟩
    rw [countNl_append, h0]
    rfl
  all_goals exact counts_nonl hT.2

theorem lexStep_line {s : Str} {st : LexSt} {t : Token} {st' : LexSt} {n : Nat}
    (h : lexStep s st = .tok t st' n) : Moved st st' n (countNl (s.take n)) (lastLineLen (s.take n)) := by
  obtain ⟨_, _, nl, back, hm, hb⟩ := lexStep_tok h
  obtain ⟨hc1, hc2⟩ : nl = countNl (s.take n) ∧ (0 < countNl (s.take n) → back = lastLineLen (s.take n)) := by
    show Counts (nl, back) (s.take n)
    rcases hb with ⟨tid, hf, _, hl⟩ | ⟨c, cs, tid, rfl, rfl, hl, _, _, hnl⟩
    · exact hl ▸ specLines_counts (firstMatch_spec hf)
    · rw [hnl]
      by_cases hc : c = '\n'
      · rw [if_pos ((lookupSingle_eol hl).mpr hc), hc]
        exact ⟨rfl, fun _ => rfl⟩
      · rw [if_neg (fun e => hc ((lookupSingle_eol hl).mp e))]
        exact counts_nonl (by simp [hc, countNl])
  obtain ⟨m1, m2, m3⟩ := hm
  refine ⟨m1, hc1 ▸ m2, ?_⟩
  rw [m3, hc1]
  split
  · rw [hc2 ‹_›]
  · rfl

/-- lexer state after consuming the prefix `pre` -/
def LI (pre : Str) (st : LexSt) : Prop :=
  st.loc = pre.length ∧ st.lineno = countNl pre + 1 ∧ st.lineStart + lastLineLen pre = st.loc

theorem LI_step {p r : Str} {st : LexSt} {t : Token} {st' : LexSt} {n : Nat} (hi : LI p st)
    (h : lexStep r st = .tok t st' n) : LI (p ++ r.take n) st' := by
  obtain ⟨h1, h2, h3⟩ := hi
  obtain ⟨e1, e2, e3⟩ := lexStep_line h
  have hn : (r.take n).length = n := List.length_take_of_le (lexStep_len h).2
  refine ⟨by rw [e1, h1, List.length_append, hn], ?_, ?_⟩
  · rw [e2, h2, countNl_append]
    omega
  · rw [e3, e1]
    split
    · have := lastLineLen_le (r.take n)
      rw [lastLineLen_append_nl _ _ ‹_›]
      omega
    · rw [lastLineLen_append_nonl _ _ (by omega), hn]
      omega

theorem LI.addr {p : Str} {st : LexSt} (hi : LI p st) (r : Str) :
    Addr (p ++ r) st.lineno (st.loc - st.lineStart) st.loc := by
  obtain ⟨h1, h2, h3⟩ := hi
  rw [h2, ← h3, Nat.add_sub_cancel_left, h3, h1]
  exact addr_of_prefix p r

end MesonModel.Lang
