/-
What the primitives of the parser monad compute, stated once: inversion of `>>=` and of the primitives that never
raise; `advance` (the body of `getsym`) as "move a run of trivia to the pending whitespace and stop at the next
token, or make up `eof`"; `accept` and `accept_any` as one `getsym` under a test, `expect` and `block_expect` as one
`acceptOr`.

The ghost output stream (DESIGN §4 C02, proof method of `raw_roundtrip`): `printed t` is what `RawPrinter` emits
for the node built from token `t`; `rem st` is the printed form of the tokens the parser has not consumed yet;
`st.ws` (pending whitespace) is text that has been consumed but is not attached to a node yet; `G st` is the two
together, and `getsym` takes nothing but the current token out of it (`getsym_spec`).
-/
import MesonModel.Lang.Parser

namespace MesonModel.Lang

def printed (t : Token) : Str :=
  match t.tid with
  | .string => ['\''] ++ t.value ++ ['\'']
  | .fstring => ['f'] ++ (['\''] ++ t.value ++ ['\''])
  | .multilineString => "'''".toList ++ t.value ++ "'''".toList
  | .multilineFstring => ['f'] ++ ("'''".toList ++ t.value ++ "'''".toList)
  | .kTrue => "true".toList
  | .kFalse => "false".toList
  | .kContinue => "continue".toList
  | .kBreak => "break".toList
  | .eof => []
  | _ => t.value

def restText (ts : List Token) : Str := (ts.map printed).flatten

/-- an `eol` that is current has already been pushed on `current_ws` -/
def rem (st : PState) : Str :=
  (if st.cur.tid == .eol then [] else printed st.cur) ++ restText st.rest

def G (st : PState) : Str := wsText st.ws ++ rem st

theorem wsText_append (a b : List Token) : wsText (a ++ b) = wsText a ++ wsText b := by
  simp [wsText]

@[simp] theorem wsText_nil : wsText [] = [] := rfl

theorem printed_trivia {t : Token} (h : isTrivia t.tid = true) : printed t = t.value := by
  unfold isTrivia at h
  unfold printed
  split <;> simp_all

theorem printed_eofFrom (c : Token) : printed (eofFrom c) = [] := rfl

theorem bind_run {α β} (m : P α) (f : α → P β) (st : PState) :
    (m >>= f) st = match m st with | .error e => .error e | .ok (a, s') => f a s' := rfl

theorem bind_ok {α β} (m : P α) (f : α → P β) (st : PState) (r : β × PState) :
    (m >>= f) st = .ok r ↔ ∃ a s1, m st = .ok (a, s1) ∧ f a s1 = .ok r := by
  rw [bind_run]
  cases m st with
  | error e => simp
  | ok p =>
    obtain ⟨a, s1⟩ := p
    exact ⟨fun h => ⟨a, s1, rfl, h⟩, fun ⟨_, _, hp, h⟩ => by cases hp; exact h⟩

theorem bind_err {α β} (m : P α) (f : α → P β) (st : PState) (e : Err) :
    (m >>= f) st = .error e ↔ m st = .error e ∨ ∃ a s1, m st = .ok (a, s1) ∧ f a s1 = .error e := by
  rw [bind_run]
  cases m st with
  | error e' => simp
  | ok p =>
    obtain ⟨a, s1⟩ := p
    refine ⟨fun h => .inr ⟨a, s1, rfl, h⟩, fun h => ?_⟩
    obtain ⟨_, _, hp, h⟩ := h.resolve_left nofun
    cases hp
    exact h

theorem ok_iff {α} {a : α} {s : PState} {r : α × PState} :
    (Except.ok (a, s) : Except Err (α × PState)) = .ok r ↔ r = (a, s) :=
  ⟨fun h => by cases h; rfl, fun h => by rw [h]⟩

theorem pure_ok {α} (a : α) (st : PState) (r : α × PState) : (pure a : P α) st = .ok r ↔ r = (a, st) :=
  ok_iff

theorem fail_ok {α} (e : Err) (st : PState) (r : α × PState) : (P.fail e : P α) st = .ok r ↔ False :=
  ⟨nofun, False.elim⟩

theorem get_ok (st : PState) (r : PState × PState) : P.get st = .ok r ↔ r = (st, st) :=
  ok_iff

theorem modify_ok (g : PState → PState) (st : PState) (r : Unit × PState) :
    P.modify g st = .ok r ↔ r = ((), g st) :=
  ok_iff

theorem cur_ok (st : PState) (r : Token × PState) : cur st = .ok r ↔ r = (st.cur, st) :=
  ok_iff

theorem prev_ok (st : PState) (r : Token × PState) : prev st = .ok r ↔ r = (st.prev, st) :=
  ok_iff

theorem advance_err {lexErr : Option (Nat × Nat)} {last : Token} {rest ws : List Token} {e : Err}
    (h : advance lexErr last rest ws = .error e) : ∃ l c, lexErr = some (l, c) ∧ e = .parse l c := by
  induction rest generalizing last ws with
  | nil =>
    unfold advance at h
    split at h
    · cases h
      exact ⟨_, _, rfl, rfl⟩
    · cases h
  | cons t rest ih =>
    unfold advance at h
    split at h
    · cases h
    · split at h
      · exact ih h
      · cases h

theorem advance_ok {lexErr : Option (Nat × Nat)} {last : Token} {rest ws : List Token}
    {c : Token} {rest' ws' : List Token} (h : advance lexErr last rest ws = .ok (c, rest', ws')) :
    ∃ tr, (∀ t ∈ tr, isTrivia t.tid = true) ∧
      ((rest = tr ++ c :: rest' ∧ ws' = ws ++ tr ++ if c.tid == .eol then [c] else []) ∨
       (rest = tr ∧ rest' = [] ∧ ws' = ws ++ tr ∧ lexErr = none ∧ ∃ l ∈ last :: tr, c = eofFrom l)) := by
  induction rest generalizing last ws with
  | nil =>
    unfold advance at h
    split at h
    · cases h
    · cases h
      exact ⟨[], (fun _ h => nomatch h),
        .inr ⟨rfl, rfl, (List.append_nil _).symm, rfl, last, List.mem_singleton_self _, rfl⟩⟩
  | cons t rest ih =>
    unfold advance at h
    split at h
    · rename_i he
      cases h
      exact ⟨[], (fun _ h => nomatch h), .inl ⟨rfl, by rw [if_pos he, List.append_nil]⟩⟩
    · rename_i he
      split at h
      · rename_i ht
        obtain ⟨tr, htr, hc⟩ := ih h
        refine ⟨t :: tr, List.forall_mem_cons.mpr ⟨ht, htr⟩, ?_⟩
        rw [List.append_assoc ws [t] tr] at hc
        exact hc.imp (fun ⟨h1, h2⟩ => ⟨congrArg (t :: ·) h1, h2⟩)
          fun ⟨h1, h2, h3, h4, l, hl, h5⟩ =>
            ⟨congrArg (t :: ·) h1, h2, h3, h4, l, List.mem_cons_of_mem _ hl, h5⟩
      · cases h
        exact ⟨[], (fun _ h => nomatch h), .inl ⟨rfl, by rw [if_neg he, List.append_nil, List.append_nil]⟩⟩

theorem restText_append (a b : List Token) : restText (a ++ b) = restText a ++ restText b := by
  simp [restText]

theorem restText_trivia {tr : List Token} (h : ∀ t ∈ tr, isTrivia t.tid = true) : restText tr = wsText tr := by
  unfold restText wsText
  rw [List.map_congr_left fun t ht => printed_trivia (h t ht)]

theorem advance_text {lexErr : Option (Nat × Nat)} {last : Token} {rest ws : List Token}
    {c : Token} {rest' ws' : List Token}
    (h : advance lexErr last rest ws = .ok (c, rest', ws')) :
    wsText ws' ++ ((if c.tid == .eol then [] else printed c) ++ restText rest') = wsText ws ++ restText rest := by
  obtain ⟨tr, htr, ⟨rfl, rfl⟩ | ⟨rfl, rfl, rfl, -, l, -, rfl⟩⟩ := advance_ok h
  · rw [restText_append, restText_trivia htr]
    split
    · rename_i he
      have : printed c = c.value := printed_trivia (by simp [isTrivia, he])
      simp [restText, wsText, this]
    · simp [wsText_append, restText]
  · rw [restText_trivia htr]
    simp [wsText_append, restText, eofFrom, printed]

structure SameFlags (st st' : PState) : Prop where
  dropped : st'.lossy = st.lossy
  tern : st'.inTernary = st.inTernary
  names : st'.names = st.names
  lexErr : st'.lexErr = st.lexErr

theorem SameFlags.refl (st : PState) : SameFlags st st := ⟨rfl, rfl, rfl, rfl⟩

theorem getsym_err {st : PState} {e : Err} (h : getsym st = .error e) :
    advance st.lexErr st.cur st.rest st.ws = .error e := by
  unfold getsym at h
  split at h
  · cases h
    assumption
  · cases h

theorem getsym_ok {st st' : PState} {u : Unit} (h : getsym st = .ok (u, st')) :
    advance st.lexErr st.cur st.rest st.ws = .ok (st'.cur, st'.rest, st'.ws) ∧ st'.prev = st.cur ∧
      SameFlags st st' := by
  unfold getsym at h
  split at h
  · cases h
  · cases h
    exact ⟨by assumption, rfl, rfl, rfl, rfl, rfl⟩

theorem getsym_spec {st st' : PState} {u : Unit} (h : getsym st = .ok (u, st')) :
    G st' = wsText st.ws ++ restText st.rest ∧ st'.prev = st.cur ∧ SameFlags st st' :=
  ⟨advance_text (getsym_ok h).1, (getsym_ok h).2⟩

def guarded {α} (c : PState → Bool) (yes : PState → α) (no : α) : P α := fun s =>
  if c s then
    match getsym s with
    | .error e => .error e
    | .ok (_, s') => .ok (yes s, s')
  else .ok (no, s)

theorem accept_eq (t : Tid) : accept t = guarded (fun s => s.cur.tid == t) (fun _ => true) false := rfl

theorem acceptAny_eq (ts : List Tid) :
    acceptAny ts = guarded (fun s => ts.contains s.cur.tid) (fun s => some s.cur.tid) none := rfl

theorem guarded_err {α} {c : PState → Bool} {yes : PState → α} {no : α} {st : PState} {e : Err}
    (h : guarded c yes no st = .error e) : getsym st = .error e := by
  unfold guarded at h
  split at h
  · split at h
    · cases h
      assumption
    · cases h
  · cases h

theorem guarded_ok {α} {c : PState → Bool} {yes : PState → α} {no : α} {st st' : PState} {a : α}
    (h : guarded c yes no st = .ok (a, st')) :
    (c st = false ∧ a = no ∧ st' = st) ∨ (c st = true ∧ a = yes st ∧ getsym st = .ok ((), st')) := by
  unfold guarded at h
  split at h
  · rename_i hc
    split at h
    · cases h
    · cases h
      exact .inr ⟨hc, rfl, by assumption⟩
  · rename_i hc
    cases h
    exact .inl ⟨by simpa using hc, rfl, rfl⟩

theorem accept_spec {t : Tid} {st st' : PState} {b : Bool} (h : accept t st = .ok (b, st')) :
    (b = false ∧ st' = st ∧ st.cur.tid ≠ t) ∨
    (b = true ∧ st.cur.tid = t ∧ G st' = wsText st.ws ++ restText st.rest ∧ st'.prev = st.cur ∧
      SameFlags st st') := by
  rw [accept_eq] at h
  rcases guarded_ok h with ⟨hc, rfl, rfl⟩ | ⟨hc, rfl, hg⟩
  · exact .inl ⟨rfl, rfl, by simpa using hc⟩
  · exact .inr ⟨rfl, by simpa using hc, getsym_spec hg⟩

theorem accept_true {t : Tid} {st s1 : PState} (h : accept t st = .ok (true, s1)) :
    st.cur.tid = t ∧ getsym st = .ok ((), s1) := by
  rcases guarded_ok (accept_eq t ▸ h) with ⟨-, h, -⟩ | ⟨hc, -, hg⟩
  · cases h
  · exact ⟨by simpa using hc, hg⟩

theorem accept_false {t : Tid} {st s1 : PState} (ha : accept t st = .ok (false, s1)) : s1 = st := by
  rcases accept_spec ha with ⟨_, h, _⟩ | ⟨h, _⟩
  · exact h
  · cases h

theorem G_consume {st st' : PState} (hws : st.ws = []) (hne : st.cur.tid ≠ .eol)
    (hG : G st' = wsText st.ws ++ restText st.rest) : rem st = printed st.cur ++ G st' := by
  simp [rem, hG, hws, hne]

def acceptOr (t : Tid) (mk : PState → Err) : P Unit := do
  if ← accept t then pure ()
  else do
    let s ← P.get
    P.fail (mk s)

theorem expect_eq (t : Tid) : expect t = acceptOr t fun s => .parse s.cur.lineno s.cur.colno := rfl

theorem blockExpect_eq (t : Tid) : blockExpect t = acceptOr t fun s => .block s.cur.lineno s.cur.colno := rfl

theorem acceptOr_spec {t : Tid} {mk : PState → Err} {st st' : PState} {u : Unit}
    (h : acceptOr t mk st = .ok (u, st')) : accept t st = .ok (true, st') := by
  simp only [acceptOr, bind_ok] at h
  obtain ⟨b, s1, ha, h⟩ := h
  cases b
  · simp [bind_ok, get_ok, fail_ok] at h
  · simp only [if_true, pure_ok] at h
    cases h
    exact ha

theorem acceptOr_err {t : Tid} {mk : PState → Err} {st : PState} {e : Err} (h : acceptOr t mk st = .error e) :
    accept t st = .error e ∨ ∃ s1, e = mk s1 := by
  simp only [acceptOr, bind_err] at h
  rcases h with h | ⟨b, s1, _, h⟩
  · exact .inl h
  · cases b
    · simp only [Bool.false_eq_true, if_false, bind_err, get_ok] at h
      rcases h with h | ⟨_, _, hg, h⟩
      · cases h
      · cases hg
        cases h
        exact .inr ⟨s1, rfl⟩
    · simp only [if_true] at h
      cases h

theorem expect_spec {t : Tid} {st st' : PState} {u : Unit} (h : expect t st = .ok (u, st')) :
    accept t st = .ok (true, st') := acceptOr_spec h

theorem blockExpect_spec {t : Tid} {st st' : PState} {u : Unit} (h : blockExpect t st = .ok (u, st')) :
    accept t st = .ok (true, st') := acceptOr_spec h

/-- the state in which `Parser.__init__` calls `getsym` for the first time -/
def parseStart (names : List (Str × Nat)) (lr : LexResult) : PState :=
  { cur := initialTok, prev := initialTok, ws := [], rest := lr.toks, lexErr := lr.err, names := names }

theorem parseToks_err {names : List (Str × Nat)} {lr : LexResult} {fuel : Nat} {e : Err}
    (h : parseToks names lr fuel = .error e) :
    (getsym >>= fun _ => codeblock fuel >>= fun _ => expect .eof) (parseStart names lr) = .error e := by
  unfold parseToks at h
  simp only at h
  simp only [bind_run, parseStart]
  split at h
  · rename_i hg
    cases h
    rw [hg]
  · rename_i hg
    rw [hg]
    split at h
    · rename_i hc
      cases h
      simp only [hc]
    · rename_i hc
      simp only [hc]
      split at h
      · rename_i hx
        cases h
        exact hx
      · cases h

/-- token ids whose node prints the token's `value` verbatim -/
def plainTid (x : Tid) : Bool :=
  !(x == .string || x == .fstring || x == .multilineString || x == .multilineFstring || x == .kTrue ||
    x == .kFalse || x == .kContinue || x == .kBreak || x == .eof || x == .eol)

end MesonModel.Lang
