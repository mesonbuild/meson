/-
The one invariant from which `raw_roundtrip` and `span_exact` follow — the parser eats its input from left to
right — as assertions of the logic of `Run.lean`, and what each primitive of the parser does to them.

`Here sync T out w K st`: of the text `T` that was to be produced, `out` has left the stream and the rest is still
in it (`G st`: pending whitespace, then the tokens); if `sync`, `T` is the source and the stream is in sync with it
(`Sync`), so that the current token sits at offset `out.length`. All this is known only while the ghost counter
`lossy` is `0`, and so is `K`, what has been learnt on the way (results of sub-productions print as the text they
consumed, no keyword argument precedes a positional one). `w` says that no whitespace is pending (`current_ws` is
empty), as it is on entry to a production and after every `create_node`. Every production is specified for all `T`,
`out`, `K`.
-/
import MesonModel.Lang.Run
import MesonModel.Lang.SpanInv
import MesonModel.Lang.EmitLemmas

namespace MesonModel.Lang

theorem G_of_ws_nil {st : PState} (h : st.ws = []) : G st = rem st := by simp [G, h]

theorem printed_plain {t : Token} (h : plainTid t.tid = true) : printed t = t.value := by
  unfold printed
  split
  case h_10 => rfl   -- the catch-all arm; each of the other nine contradicts `h`
  all_goals
    rename_i ht
    rw [ht] at h
    cases h

theorem emit_symbolOf (t : Token) : emit (symbolOf t) = t.value := by
  simp [symbolOf, emit_symbol, Base.ofTok]

theorem noteOrder_spec {a : Node} {st st' : PState} {u : Unit} (h : noteOrder a st = .ok (u, st'))
    (hd : st'.lossy = 0) : argsHasKw a = false ∧ st' = st := by
  simp only [noteOrder, modify_ok] at h
  cases h
  split at hd
  · simp at hd
  · rename_i hk
    exact ⟨by simpa using hk, by simp [hk]⟩

/-- the token `c` sits at offset `out.length` of the source `T` -/
def TokAt (T out : Str) (c : Token) : Prop :=
  Addr T c.lineno c.colno out.length ∧ (isCloser c.tid → (printed c).length = 1 ∧ countNl (printed c) = 0)

def Here (sync : Prop) (T out : Str) (w : Bool) (K : Prop) (st : PState) : Prop :=
  (w = true → st.ws = []) ∧ (st.lossy = 0 → T = out ++ G st ∧ (sync → Sync T st) ∧ K)

/-- just after `accept(t)`: the token `c` has left the stream and is not in a node yet; its text is consumed, the
trivia after it is pending -/
def Held (sync : Prop) (T out : Str) (t : Tid) (c : Token) (K : Prop) (st : PState) : Prop :=
  (st.prev = c ∧ c.tid = t) ∧ Here sync T (out ++ printed c) false (K ∧ (sync → TokAt T out c)) st

/-- `o` is the `SymbolNode` of token `c`, with some whitespace attached -/
def IsSym (c : Token) (o : Node) : Prop := ∃ ws, o = (symbolOf c).addWs ws

section
variable {β : Type} {sync : Prop} {T out : Str} {K : Prop} {C : β → PState → Prop}

theorem Here.imp {w : Bool} {out' : Str} {K' : Prop} {st : PState} (ha : Here sync T out w K st)
    (h : K → ∀ R, T = out ++ R → out = out' ∧ K') : Here sync T out' w K' st :=
  ⟨ha.1, fun hd => by
    obtain ⟨hT, hy, hk⟩ := ha.2 hd
    obtain ⟨rfl, hk'⟩ := h hk _ hT
    exact ⟨hT, hy, hk'⟩⟩

theorem Held.imp {t : Tid} {c : Token} {out' : Str} {K' : Prop} {st : PState} (ha : Held sync T out t c K st)
    (h : K → ∀ R, T = out ++ R → out = out' ∧ K') : Held sync T out' t c K' st :=
  ⟨ha.1, ha.2.imp fun hk R hT => by
    obtain ⟨rfl, hk'⟩ := h hk.1 _ (hT.trans (List.append_assoc ..))
    exact ⟨rfl, hk', hk.2⟩⟩

theorem Here.weak {w : Bool} {st : PState} (ha : Here sync T out true K st) : Here sync T out w K st :=
  ⟨fun _ => ha.1 rfl, ha.2⟩

theorem Hoare.weak {α : Type} {A : PState → Prop} {f : P α} {o : α → Str} {Kf : α → Prop}
    (h : Run A f fun a => Here sync T (o a) true (Kf a)) : Run A f fun a => Here sync T (o a) false (Kf a) :=
  h.post fun _ _ ha => ha.weak

/-- `self.expect('eol')` and the `accept('eol')` of `codeblock()`: the newline is pending already -/
theorem Here.eol {w : Bool} {st s1 : PState} (hacc : accept .eol st = .ok (true, s1)) (ha : Here sync T out w K st) :
    Here sync T out false K s1 := by
  rcases accept_spec hacc with ⟨h, -⟩ | ⟨-, htid, hG, -, hfl⟩
  · cases h
  · refine ⟨nofun, fun hd => ?_⟩
    obtain ⟨hT, hy, hk⟩ := ha.2 (hfl.dropped ▸ hd)
    exact ⟨by rw [hT, hG]; simp [G, rem, htid], fun hb => accept_sync hacc (hy hb), hk⟩

/-- `getsym` with nothing pending: the current token leaves the stream -/
theorem Here.getsym {st s1 : PState} (hg : getsym st = .ok ((), s1)) (ha : Here sync T out true K st)
    (hl : st.cur.tid ≠ .eol) (he : st.cur.tid ≠ .eof) : Held sync T out st.cur.tid st.cur K s1 := by
  obtain ⟨hG, hprev, hfl⟩ := getsym_spec hg
  refine ⟨⟨hprev, rfl⟩, nofun, fun hd => ?_⟩
  obtain ⟨hT, hy, hk⟩ := ha.2 (hfl.dropped ▸ hd)
  have hws := ha.1 rfl
  rw [G_of_ws_nil hws, G_consume hws hl hG] at hT
  refine ⟨hT.trans (List.append_assoc ..).symm, fun hb => getsym_sync hg (hy hb), hk, fun hb => ?_⟩
  obtain ⟨pre, e1, a1, c1⟩ := (hy hb).1 he
  rw [hG, hws, wsText_nil, List.nil_append, ← List.append_assoc, e1, ← List.append_assoc] at hT
  rw [← List.append_cancel_right (List.append_cancel_right hT)]
  exact ⟨a1, c1⟩

theorem Here.accepted {t : Tid} {st s1 : PState} (hacc : accept t st = .ok (true, s1)) (ha : Here sync T out true K st)
    (hl : t ≠ .eol) (he : t ≠ .eof) : Held sync T out t st.cur K s1 := by
  obtain ⟨rfl, hg⟩ := accept_true hacc
  exact ha.getsym hg hl he

/-- `Here`, with the current token named (for `block_start = self.current; if self.accept(..)`) -/
def HereC (sync : Prop) (T out : Str) (K : Prop) (c : Token) (st : PState) : Prop :=
  Here sync T out true K st ∧ st.cur = c

theorem Hoare.cur {f : Token → P β} (h : ∀ c, Run (HereC sync T out K c) (f c) C) :
    Run (Here sync T out true K) (Lang.cur >>= f) C :=
  .read (fun _ => rfl) h

theorem Hoare.withCur {f : P β} (h : ∀ c, Run (HereC sync T out K c) f C) : Run (Here sync T out true K) f C :=
  fun st ha => h st.cur st ⟨ha, rfl⟩

theorem Hoare.acceptC {t : Tid} {c : Token} {f : Bool → P β} (h1 : Run (Held sync T out t c K) (f true) C)
    (h0 : Run (HereC sync T out K c) (f false) C) (hl : t ≠ .eol := by decide) (he : t ≠ .eof := by decide) :
    Run (HereC sync T out K c) (Lang.accept t >>= f) C :=
  .step (B := fun x => if x = true then Held sync T out t c K else HereC sync T out K c)
    (fun st x s1 hacc ha => by
      cases x
      · cases accept_false hacc
        exact ha
      · exact ha.2 ▸ ha.1.accepted hacc hl he)
    fun x => by
      cases x
      · exact h0
      · exact h1

theorem Hoare.accept {t : Tid} {f : Bool → P β} (h1 : ∀ c, Run (Held sync T out t c K) (f true) C)
    (h0 : Run (Here sync T out true K) (f false) C) (hl : t ≠ .eol := by decide) (he : t ≠ .eof := by decide) :
    Run (Here sync T out true K) (Lang.accept t >>= f) C :=
  .withCur fun c => .acceptC (h1 c) (h0.pre fun _ hc => hc.1) hl he

/-- `if self.accept(t): … else: …` -/
theorem Hoare.ifAccept {t : Tid} {x y : P β} (h1 : ∀ c, Run (Held sync T out t c K) x C)
    (h0 : Run (Here sync T out true K) y C) (hl : t ≠ .eol := by decide) (he : t ≠ .eof := by decide) :
    Run (Here sync T out true K) (Lang.accept t >>= fun r => if r = true then x else y) C :=
  Hoare.accept h1 h0 hl he

theorem Hoare.ifNotAccept {t : Tid} {x y : P β} (h0 : Run (Here sync T out true K) x C)
    (h1 : ∀ c, Run (Held sync T out t c K) y C) (hl : t ≠ .eol := by decide) (he : t ≠ .eof := by decide) :
    Run (Here sync T out true K) (Lang.accept t >>= fun r => if (!r) = true then x else y) C :=
  Hoare.accept h1 h0 hl he

theorem Hoare.ifAcceptC {t : Tid} {c : Token} {x y : P β} (h1 : Run (Held sync T out t c K) x C)
    (h0 : Run (HereC sync T out K c) y C) (hl : t ≠ .eol := by decide) (he : t ≠ .eof := by decide) :
    Run (HereC sync T out K c) (Lang.accept t >>= fun r => if r = true then x else y) C :=
  Hoare.acceptC h1 h0 hl he

theorem Hoare.acceptAnyC {ts : List Tid} {c : Token} {f : Option Tid → P β}
    (h1 : c.tid ∈ ts → Run (Held sync T out c.tid c K) (f (some c.tid)) C) (h0 : Run (HereC sync T out K c) (f none) C)
    (hl : Tid.eol ∉ ts := by decide) (he : Tid.eof ∉ ts := by decide) :
    Run (HereC sync T out K c) (Lang.acceptAny ts >>= f) C :=
  .step (B := fun x s1 => (x = none ∧ HereC sync T out K c s1) ∨
      (x = some c.tid ∧ c.tid ∈ ts ∧ Held sync T out c.tid c K s1))
    (fun st x s1 hacc ⟨ha, hc⟩ => by
      rw [acceptAny_eq] at hacc
      rcases guarded_ok hacc with ⟨-, rfl, rfl⟩ | ⟨hm, rfl, hg⟩
      · exact .inl ⟨rfl, ha, hc⟩
      · cases hc
        have hm : st.cur.tid ∈ ts := by simpa using hm
        exact .inr ⟨rfl, hm, ha.getsym hg (fun h => hl (h ▸ hm)) (fun h => he (h ▸ hm))⟩)
    fun x st ha => by
      rcases ha with ⟨rfl, ha⟩ | ⟨rfl, hm, ha⟩
      · exact h0 st ha
      · exact h1 hm st ha

theorem Hoare.acceptAny {ts : List Tid} {f : Option Tid → P β}
    (h1 : ∀ c, c.tid ∈ ts → Run (Held sync T out c.tid c K) (f (some c.tid)) C)
    (h0 : Run (Here sync T out true K) (f none) C)
    (hl : Tid.eol ∉ ts := by decide) (he : Tid.eof ∉ ts := by decide) :
    Run (Here sync T out true K) (Lang.acceptAny ts >>= f) C :=
  .withCur fun c => .acceptAnyC (h1 c) (h0.pre fun _ hc => hc.1) hl he

/-- `expect` and `block_expect`: the token is accepted, or nothing is returned -/
theorem Hoare.acceptOrC {t : Tid} {mk : PState → Err} {c : Token} {f : Unit → P β}
    (h : Run (Held sync T out t c K) (f ()) C) (hl : t ≠ .eol := by decide) (he : t ≠ .eof := by decide) :
    Run (HereC sync T out K c) (acceptOr t mk >>= f) C :=
  .step (fun _ _ _ hx ha => ha.2 ▸ ha.1.accepted (acceptOr_spec hx) hl he) fun _ => h

theorem Hoare.expectC {t : Tid} {c : Token} {f : Unit → P β} (h : Run (Held sync T out t c K) (f ()) C)
    (hl : t ≠ .eol := by decide) (he : t ≠ .eof := by decide) : Run (HereC sync T out K c) (Lang.expect t >>= f) C :=
  Hoare.acceptOrC h hl he

theorem Hoare.blockExpectC {t : Tid} {c : Token} {f : Unit → P β} (h : Run (Held sync T out t c K) (f ()) C)
    (hl : t ≠ .eol := by decide) (he : t ≠ .eof := by decide) :
    Run (HereC sync T out K c) (Lang.blockExpect t >>= f) C :=
  Hoare.acceptOrC h hl he

theorem Hoare.expect {t : Tid} {f : Unit → P β} (h : ∀ c, Run (Held sync T out t c K) (f ()) C)
    (hl : t ≠ .eol := by decide) (he : t ≠ .eof := by decide) : Run (Here sync T out true K) (Lang.expect t >>= f) C :=
  .withCur fun c => .expectC (h c) hl he

theorem Hoare.blockExpect {t : Tid} {f : Unit → P β} (h : ∀ c, Run (Held sync T out t c K) (f ()) C)
    (hl : t ≠ .eol := by decide) (he : t ≠ .eof := by decide) :
    Run (Here sync T out true K) (Lang.blockExpect t >>= f) C :=
  .withCur fun c => .blockExpectC (h c) hl he

theorem Hoare.expectEol {w : Bool} {f : Unit → P β} (h : Run (Here sync T out false K) (f ()) C) :
    Run (Here sync T out w K) (Lang.expect .eol >>= f) C :=
  .step (fun _ _ _ hx ha => ha.eol (expect_spec hx)) fun _ => h

theorem Hoare.ifAcceptEol {w : Bool} {x y : P β} (h1 : Run (Here sync T out false K) x C)
    (h0 : Run (Here sync T out w K) y C) :
    Run (Here sync T out w K) (Lang.accept .eol >>= fun r => if r = true then x else y) C :=
  .step (B := fun r => if r = true then Here sync T out false K else Here sync T out w K)
    (fun st r s1 hacc ha => by
      cases r
      · cases accept_false hacc
        exact ha
      · exact ha.eol hacc)
    fun r => by
      cases r
      · exact h0
      · exact h1

theorem Hoare.prev {t : Tid} {c : Token} {f : Token → P β} (h : Run (Held sync T out t c K) (f c) C) :
    Run (Held sync T out t c K) (Lang.prev >>= f) C :=
  .read (fun _ => rfl) fun p => .assume (fun _ ha => ha.1.1.1.symm.trans ha.2) fun hp =>
    hp ▸ h.pre fun _ ha => ha.1

theorem Hoare.tid {t : Tid} {c : Token} {f : P β} (h : c.tid = t → Run (Held sync T out t c K) f C) :
    Run (Held sync T out t c K) f C :=
  .assume (fun _ ha => ha.1.2) h

/-- the token goes into no node of its own: its text and the trivia after it stay pending -/
theorem Held.done {t : Tid} {c : Token} {st : PState} (ha : Held sync T out t c K st) :
    Here sync T (out ++ printed c) false (K ∧ (sync → TokAt T out c)) st :=
  ha.2

/-- `self.in_ternary = …` -/
theorem Hoare.setTernary {w : Bool} {v : Bool} {f : Unit → P β} (h : Run (Here sync T out w K) (f ()) C) :
    Run (Here sync T out w K) (P.modify (fun s => { s with inTernary := v }) >>= f) C :=
  .step (fun _ _ _ hm ha => by cases (modify_ok ..).mp hm; exact ha) fun _ => h

/-- the ghost counter is still `0` afterwards only if `ArgumentNode.append` does not set `order_error` -/
theorem Hoare.noteOrder {w : Bool} {a : Node} {f : Unit → P β}
    (h : Run (Here sync T out w (K ∧ argsHasKw a = false)) (f ()) C) :
    Run (Here sync T out w K) (Lang.noteOrder a >>= f) C :=
  .step (fun st _ s1 hn ha =>
      ⟨by
        cases (modify_ok ..).mp hn
        split <;> exact ha.1,
      fun hd => by
        obtain ⟨hk, rfl⟩ := noteOrder_spec hn hd
        obtain ⟨hT, hy, hK⟩ := ha.2 hd
        exact ⟨hT, hy, hK, hk⟩⟩)
    fun _ => h

/-- `create_node` when something may be pending -/
theorem Hoare.flush {w : Bool} {nd : Node} {f : Node → P β}
    (h : ∀ ws, Run (Here sync T (out ++ wsText ws) true K) (f (nd.addWs ws)) C) :
    Run (Here sync T out w K) (Lang.create nd >>= f) C :=
  .step (B := fun n st => ∃ ws, n = nd.addWs ws ∧ Here sync T (out ++ wsText ws) true K st)
    (fun st n s1 hc ha => by
      cases hc
      exact ⟨st.ws, rfl, fun _ => rfl, fun hd => by
        obtain ⟨hT, hy, hk⟩ := ha.2 hd
        exact ⟨by rw [List.append_assoc]; exact hT, hy, hk⟩⟩)
    fun n st ⟨ws, hn, ha⟩ => hn ▸ h ws st ha

/-- `create_node` when nothing is pending returns the node as it is -/
theorem Hoare.create_nop {A : PState → Prop} {nd : Node} {f : Node → P β} (hA : ∀ st, A st → st.ws = [])
    (h : Run A (f nd) C) : Run A (Lang.create nd >>= f) C :=
  .step (B := fun n st => n = nd ∧ A st)
    (fun st n s1 hc ha => by
      have hws := hA st ha
      cases hc
      rw [hws, Node.addWs_nil]
      cases st
      cases hws
      exact ⟨rfl, ha⟩)
    fun n st ha => ha.1 ▸ h st ha.2

theorem Hoare.create {nd : Node} {f : Node → P β} (h : Run (Here sync T out true K) (f nd) C) :
    Run (Here sync T out true K) (Lang.create nd >>= f) C :=
  .create_nop (fun _ ha => ha.1 rfl) h

theorem Hoare.createC {c : Token} {nd : Node} {f : Node → P β} (h : Run (HereC sync T out K c) (f nd) C) :
    Run (HereC sync T out K c) (Lang.create nd >>= f) C :=
  .create_nop (fun _ ha => ha.1.1 rfl) h

/-- `create_node` just after a token that went into no node of its own: the trivia after it goes to the new node -/
theorem Hoare.flushHeld {t : Tid} {c : Token} {nd : Node} {f : Node → P β}
    (h : ∀ ws, Run (Here sync T (out ++ printed c ++ wsText ws) true (K ∧ (sync → TokAt T out c))) (f (nd.addWs ws)) C) :
    Run (Held sync T out t c K) (Lang.create nd >>= f) C :=
  (Hoare.flush h).pre fun _ ha => ha.done

theorem emit_isSym {c : Token} {o : Node} (h : IsSym c o) : ∃ ws, emit o = c.value ++ wsText ws := by
  obtain ⟨ws, rfl⟩ := h
  exact ⟨ws, by rw [emit_addWs (symbolOf c) ws trivial, emit_symbolOf]⟩

/-- `create_node` of a node that prints as the token just accepted -/
theorem Hoare.createHeld {t : Tid} {c : Token} {nd : Node} {f : Node → P β} (hbc : nd.blockClean)
    (hp : c.tid = t → emit nd = printed c)
    (h : ∀ ws, Run (Here sync T (out ++ emit (nd.addWs ws)) true (K ∧ (sync → TokAt T out c))) (f (nd.addWs ws)) C) :
    Run (Held sync T out t c K) (Lang.create nd >>= f) C :=
  .tid fun ht => .flushHeld fun ws => (h ws).pre fun _ ha => ha.imp fun hk _ _ =>
    ⟨by rw [emit_addWs _ _ hbc, hp ht, List.append_assoc], hk⟩

/-- `sym = self.create_node(SymbolNode, tok)` for the token just accepted -/
theorem Hoare.createSymbol {t : Tid} {c : Token} {f : Node → P β} (hp : plainTid t = true)
    (h : ∀ o, IsSym c o → Run (Here sync T (out ++ emit o) true (K ∧ (sync → TokAt T out c))) (f o) C) :
    Run (Held sync T out t c K) (Lang.createSymbol c >>= f) C :=
  .createHeld trivial (fun ht => (emit_symbolOf c).trans (printed_plain (ht ▸ hp)).symm) fun ws => h _ ⟨ws, rfl⟩

/-- `sym = self.create_node(SymbolNode, self.previous)` -/
theorem Hoare.sym {t : Tid} {c : Token} {f : Node → P β} (hp : plainTid t = true)
    (h : ∀ o, IsSym c o → Run (Here sync T (out ++ emit o) true K) (f o) C) :
    Run (Held sync T out t c K) (Lang.prev >>= fun p => Lang.createSymbol p >>= f) C :=
  .prev (.createSymbol hp fun o ho => (h o ho).pre fun _ ha => ha.imp fun hk _ _ => ⟨rfl, hk.1⟩)

end

end MesonModel.Lang
