/-
A Hoare logic for the parser monad. `Hoare E A f B`: from a state that satisfies `A`, `f` raises only errors that
satisfy `E`, and returns only `a`, in a state that satisfies `B a`. Every walk through the productions is stated in
it, each with assertions of its own: `Triple` (`Walk.lean`: one state invariant before and after, errors positioned),
`Fits` (`Safe.lean`: a token budget, errors located), `Run` (successful runs only; `Here.lean`, `RoundTrip.lean`: the
consumed prefix) and `Ret` (`ShapeLemmas.lean`: the returned node alone).
-/
import MesonModel.Lang.ParserLemmas

namespace MesonModel.Lang

def Hoare {α} (E : Err → Prop) (A : PState → Prop) (f : P α) (B : α → PState → Prop) : Prop :=
  ∀ st, A st → (∀ e, f st = .error e → E e) ∧ ∀ a st', f st = .ok (a, st') → B a st'

namespace Hoare
variable {α β : Type} {E : Err → Prop} {A A' : PState → Prop} {B B' : α → PState → Prop} {C : β → PState → Prop}

theorem bind {m : P α} {f : α → P β} (hm : Hoare E A m B) (hf : ∀ a, Hoare E (B a) (f a) C) :
    Hoare E A (m >>= f) C := by
  intro st hs
  obtain ⟨m1, m2⟩ := hm st hs
  rw [bind_run]
  cases hms : m st with
  | error e => exact ⟨fun e' he => by cases he; exact m1 e hms, fun b st' he => nomatch he⟩
  | ok p => exact hf p.1 p.2 (m2 p.1 p.2 hms)

/-- an action that always succeeds -/
theorem total {f : P α} (r : PState → α) (g : PState → PState) (hf : ∀ st, f st = .ok (r st, g st))
    (h : ∀ st, A st → B (r st) (g st)) : Hoare E A f B := by
  intro st hs
  rw [hf]
  exact ⟨fun e he => (nomatch he), fun a st' he => by cases he; exact h st hs⟩

theorem pure {a : α} (h : ∀ st, A st → B a st) : Hoare E A (Pure.pure a : P α) B :=
  total (fun _ => a) id (fun _ => rfl) h

theorem pure_bind {a : α} {f : α → P β} (h : Hoare E A (f a) C) : Hoare E A (Pure.pure a >>= f) C :=
  h

theorem fail {e : Err} (he : E e := by trivial) : Hoare E A (P.fail e : P α) B :=
  fun _ _ => ⟨fun e' h => by cases h; exact he, fun _ _ h => nomatch h⟩

theorem fail_bind {e : Err} {f : α → P β} (he : E e := by trivial) : Hoare E A (P.fail e >>= f) C :=
  fun _ _ => ⟨fun e' h => by cases h; exact he, fun _ _ h => nomatch h⟩

theorem ite {c : Prop} [Decidable c] {t e : P α} (ht : Hoare E A t B) (he : Hoare E A e B) :
    Hoare E A (if c then t else e) B := by
  split <;> assumption

/-- `ite`, where a branch needs to know how the test came out -/
theorem iteH {c : Prop} [Decidable c] {t e : P α} (ht : c → Hoare E A t B) (he : ¬c → Hoare E A e B) :
    Hoare E A (if c then t else e) B := by
  split
  · exact ht ‹_›
  · exact he ‹_›

theorem pre {f : P α} (hr : Hoare E A f B) (h : ∀ st, A' st → A st) : Hoare E A' f B :=
  fun st ha => hr st (h st ha)

theorem post {f : P α} (hr : Hoare E A f B) (h : ∀ a st, B a st → B' a st) : Hoare E A f B' :=
  fun st ha => ⟨(hr st ha).1, fun a st' hf => h a st' ((hr st ha).2 a st' hf)⟩

/-- what the precondition says of every state may be assumed -/
theorem assume {f : P α} {φ : Prop} (h : ∀ st, A st → φ) (hr : φ → Hoare E A f B) : Hoare E A f B :=
  fun st ha => hr (h st ha) st ha

/-- `x = self.current` and the like: reading the state -/
theorem read {r : PState → α} {m : P α} {f : α → P β} (hm : ∀ st, m st = .ok (r st, st))
    (h : ∀ a, Hoare E (fun st => A st ∧ r st = a) (f a) C) : Hoare E A (m >>= f) C :=
  bind (B := fun a st => A st ∧ r st = a) (total r id hm fun _ ha => ⟨ha, rfl⟩) h

/-- the same when what was read does not matter to the assertion -/
theorem peek {r : PState → α} {m : P α} {f : α → P β} (hm : ∀ st, m st = .ok (r st, st))
    (h : ∀ a, Hoare E A (f a) C) : Hoare E A (m >>= f) C :=
  read hm fun a => (h a).pre fun _ ha => ha.1

/-- the last action of a `do` block -/
theorem last {m : P α} (h : Hoare E A (m >>= Pure.pure) B) : Hoare E A m B := by
  intro st ha
  have := h st ha
  rw [bind_run] at this
  cases hm : m st with
  | error e =>
    rw [hm] at this
    exact this
  | ok p =>
    rw [hm] at this
    exact this

end Hoare

/-- the successful runs: `Hoare` with any error allowed -/
abbrev Run {α} (A : PState → Prop) (f : P α) (B : α → PState → Prop) : Prop :=
  Hoare (fun _ => True) A f B

namespace Hoare
variable {α β : Type} {A : PState → Prop} {B : α → PState → Prop} {C : β → PState → Prop}

theorem runs {f : P α} (h : ∀ st a st', f st = .ok (a, st') → A st → B a st') : Run A f B :=
  fun st ha => ⟨fun _ _ => trivial, fun a st' hf => h st a st' hf ha⟩

theorem run {f : P α} {st st' : PState} {a : α} (h : Run A f B) (hf : f st = .ok (a, st')) (ha : A st) : B a st' :=
  (h st ha).2 a st' hf

/-- an action known by what it does to states -/
theorem step {m : P α} {f : α → P β} (hm : ∀ st a s1, m st = .ok (a, s1) → A st → B a s1)
    (h : ∀ a, Run (B a) (f a) C) : Run A (m >>= f) C :=
  bind (runs hm) h

/-- a fact about the successful runs, beside a triple -/
theorem also {E : Err → Prop} {A' : PState → Prop} {B' : α → PState → Prop} {f : P α} (h : Hoare E A f B)
    (h' : Run A' f B') : Hoare E (fun st => A st ∧ A' st) f fun a st => B a st ∧ B' a st :=
  fun st ha => ⟨(h st ha.1).1, fun a st' hf => ⟨(h st ha.1).2 a st' hf, h'.run hf ha.2⟩⟩

end Hoare

end MesonModel.Lang
