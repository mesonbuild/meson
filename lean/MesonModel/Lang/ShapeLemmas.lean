/-
Grammar facts about the shape of the trees the expression productions return: which node kinds can sit at the top
of the result of each precedence level. `Ret f p` (every node `f` returns satisfies `p`) is the reading of `Hoare`
(`Run.lean`) that says nothing of states; each fact is proved by following the production.
-/
import MesonModel.Lang.Run
import MesonModel.Lang.OpLoops

namespace MesonModel.Lang

def Ret (f : P Node) (p : Node → Prop) : Prop := Run (fun _ => True) f fun n _ => p n

namespace Hoare
variable {α β : Type} {C : β → PState → Prop}

/-- an action of which nothing is needed -/
theorem any {m : P α} {f : α → P β} (h : ∀ a, Run (fun _ => True) (f a) C) : Run (fun _ => True) (m >>= f) C :=
  .step (B := fun _ _ => True) (fun _ _ _ _ _ => trivial) h

/-- an action of which only a fact about its result is needed -/
theorem ret {m : P Node} {p : Node → Prop} {f : Node → P β} (hm : Ret m p)
    (h : ∀ a, p a → Run (fun _ => True) (f a) C) : Run (fun _ => True) (m >>= f) C :=
  .bind hm fun a => .assume (fun _ h => h) fun ha => (h a ha).pre fun _ _ => trivial

/-- `create_node` attaches the pending whitespace, whatever it is -/
theorem ret_create {nd : Node} {p : Node → Prop} (h : ∀ ws, p (nd.addWs ws)) : Ret (Lang.create nd) p :=
  .total (fun st => nd.addWs st.ws) _ (fun _ => rfl) fun st _ => h st.ws

theorem ret_pure {n : Node} {p : Node → Prop} (h : p n) : Ret (Pure.pure n) p :=
  .pure fun _ _ => h

end Hoare

/-- results of `e8` and below: literals, ids, parenthesised/array/dict, calls, method calls, indexing, or nothing -/
def Node.isPostfix : Node → Bool
  | .boolean .. | .id .. | .number .. | .string .. | .empty .. | .paren .. | .array .. | .dict ..
  | .function .. | .method .. | .index .. => true
  | _ => false

def Node.isUnary : Node → Bool
  | .unop .. => true
  | _ => false

def Node.isArith : Node → Bool
  | .binop (.arith _) .. => true
  | _ => false

def Node.isCmp : Node → Bool
  | .binop (.cmp _) .. => true
  | _ => false

def Node.isTernary : Node → Bool
  | .ternary .. => true
  | _ => false

theorem isPostfix_addWs (n : Node) (ws : List Token) : (n.addWs ws).isPostfix = n.isPostfix := by
  cases n
  case codeblock b pre lines => simp only [Node.addWs]; split <;> rfl
  all_goals rfl

def Returns (f : P Node) (p : Node → Bool) : Prop := ∀ st n st', f st = .ok (n, st') → p n = true

theorem Ret.returns {f : P Node} {p : Node → Bool} (h : Ret f (p · = true)) : Returns f p :=
  fun _ _ _ hf => Hoare.run h hf trivial

variable {stmt : P Node} {k : Nat}

theorem created_postfix {nd : Node} (h : nd.isPostfix = true) : Ret (create nd) (·.isPostfix = true) :=
  .ret_create (p := (·.isPostfix = true)) fun ws => (isPostfix_addWs nd ws).trans h

theorem e10_postfix : Ret e10 (·.isPostfix = true) := by
  unfold e10
  refine .any fun t => ?_
  refine .any fun _ => .ite (created_postfix rfl) ?_
  refine .any fun _ => .ite (created_postfix rfl) ?_
  refine .any fun _ => .ite (created_postfix rfl) ?_
  refine .any fun _ => .ite (created_postfix rfl) ?_
  refine .any fun o => ?_
  cases o with
  | none => exact .total (fun st => .empty _) id (fun _ => rfl) fun _ _ => rfl
  | some tid =>
    refine .ite (created_postfix rfl) <| .any fun s => ?_
    split
    · exact .fail
    · exact created_postfix rfl

theorem e9_postfix : Ret (e9 stmt k) (·.isPostfix = true) := by
  unfold e9
  refine .any fun t => ?_
  refine .any fun _ => .ite
    (.any fun _ => .any fun _ => .any fun _ => .any fun _ => .any fun _ => .ret_pure rfl) ?_
  refine .any fun _ => .ite
    (.any fun _ => .any fun _ => .any fun _ => .any fun _ => .any fun _ => created_postfix rfl) ?_
  exact .any fun _ => .ite
    (.any fun _ => .any fun _ => .any fun _ => .any fun _ => .any fun _ => created_postfix rfl)
    e10_postfix

theorem methodCall_postfix (j : Nat) : ∀ src, Ret (methodCall stmt k j src) (·.isPostfix = true) := by
  induction j with
  | zero => exact fun _ => .fail
  | succ j ih =>
    intro src
    unfold methodCall
    refine .any fun _ => .any fun dot => .any fun name => ?_
    refine .ite (.ite .fail (.any fun _ => .fail)) ?_
    refine .any fun _ => .any fun _ => .any fun lpar => .any fun a => ?_
    refine .any fun _ => .any fun rpar => .any fun _ => ?_
    exact .ret (created_postfix rfl) fun m hm => .any fun _ => .ite (ih m) (.ret_pure hm)

theorem indexCall_postfix (src : Node) : Ret (indexCall stmt src) (·.isPostfix = true) :=
  .any fun _ => .any fun _ => .any fun _ => .any fun _ => .any fun _ => .any fun _ => created_postfix rfl

theorem e8Loop_postfix (j : Nat) : ∀ l, l.isPostfix = true → Ret (e8Loop stmt k j l) (·.isPostfix = true) := by
  induction j with
  | zero => exact fun _ _ => .fail
  | succ j ih =>
    intro l hl
    unfold e8Loop
    -- the part after the method call, entered from both branches of `if self.accept('dot')`
    have index : ∀ left (d : Bool), left.isPostfix = true → Ret (do
          let b ← accept .lbracket
          let left ← if b = true then indexCall stmt left else pure left
          if (d || b) = true then e8Loop stmt k j left else pure left) (·.isPostfix = true) := fun left d hl =>
      .any fun b => .ite (.ret (indexCall_postfix left) fun l hl => .ite (ih l hl) (.ret_pure hl))
        (.pure_bind (.ite (ih left hl) (.ret_pure hl)))
    exact .any fun d => .ite (.ret (methodCall_postfix k l) fun l hl => index l d hl) (.pure_bind (index l d hl))

theorem e8_postfix : Ret (e8 stmt k) (·.isPostfix = true) := by
  unfold e8
  refine .ret e9_postfix fun left hl => .any fun _ => .any fun c => .ite ?_ (.pure_bind (e8Loop_postfix k left hl))
  exact .any fun _ => .any fun _ => .any fun _ => .any fun _ => .any fun _ => .ite .fail_bind <|
    .ret (created_postfix rfl) (e8Loop_postfix k)

/-- the operand of a unary node, or the node itself, is a postfix expression -/
def Node.operandPostfix : Node → Bool
  | .unop _ _ _ v => v.isPostfix
  | n => n.isPostfix

theorem e7_operand (stmt : P Node) (k : Nat) : Ret (e7 stmt k) (·.operandPostfix = true) := by
  unfold e7
  have un : ∀ (kind : UnKind) bb op, Ret (e8 stmt k >>= fun v => create (.unop kind bb op v))
      (·.operandPostfix = true) := fun kind bb op =>
    .ret e8_postfix fun v hv => .ret_create (p := (·.operandPostfix = true)) fun ws => hv
  refine .any fun _ => .ite (.any fun _ => .any fun op => .any fun t => un _ _ _) ?_
  refine .any fun _ => .ite (.any fun _ => .any fun op => .any fun t => un _ _ _) ?_
  refine e8_postfix.post fun n _ hn => ?_
  cases n <;> first | exact hn | cases hn

/-- `unary_not_stacked`: `not not a`, `- - a`, `-not a` are not derivable -/
theorem e7_operand_postfix (stmt : P Node) (k : Nat) :
    Returns (e7 stmt k) (fun n => match n with
      | .unop _ _ _ v => v.isPostfix
      | n => n.isPostfix) :=
  (e7_operand stmt k).returns

/-- the top of an `e7` result is a unary node or a postfix expression -/
def Node.isE7 (n : Node) : Bool := n.isUnary || n.isPostfix

theorem e7_kind : Ret (e7 stmt k) (·.isE7 = true) :=
  (e7_operand stmt k).post fun n _ h => by
    cases n <;> first | rfl | exact h

/-- arithmetic level: an arithmetic node, or what `e7` returns -/
def Node.isE5 (n : Node) : Bool := n.isArith || n.isE7

theorem arithLoop_kind {ts : List Tid} {m : List (String × String)} {operand : P Node} (j : Nat) :
    ∀ l, l.isE5 = true → Ret (arithLoop ts m operand j l) (·.isE5 = true) := by
  induction j with
  | zero => exact fun _ _ => .fail
  | succ j ih =>
    intro l hl
    unfold arithLoop
    refine .any fun o => ?_
    cases o with
    | none => exact .ret_pure hl
    | some op => exact .any fun _ => .any fun _ => .any fun r => .ret (.ret_create fun _ => rfl) ih

theorem e6_kind : Ret (e6 stmt k) (·.isE5 = true) := by
  unfold e6
  rw [e6Loop_eq]
  exact .ret e7_kind fun l hl => arithLoop_kind k l (by simp [Node.isE5, hl])

theorem e5_ret (stmt : P Node) (k : Nat) : Ret (e5 stmt k) (·.isE5 = true) := by
  unfold e5
  rw [e5Loop_eq]
  exact .ret e6_kind (arithLoop_kind k)

theorem e5_kind (stmt : P Node) (k : Nat) : Returns (e5 stmt k) Node.isE5 :=
  (e5_ret stmt k).returns

theorem isE5_not_cmp {n : Node} (h : n.isE5 = true) : n.isCmp = false := by
  cases n with
  | binop k _ _ _ _ =>
    cases k with
    | cmp _ => simp [Node.isE5, Node.isE7, Node.isArith, Node.isUnary, Node.isPostfix] at h
    | _ => rfl
  | _ => rfl

/-- a comparison whose operands are not comparisons, or what `e5` returns -/
def Node.isE4 : Node → Bool
  | .binop (.cmp _) _ l _ r => !l.isCmp && !r.isCmp
  | n => n.isE5

theorem e4_ret (stmt : P Node) (k : Nat) : Ret (e4 stmt k) (·.isE4 = true) := by
  unfold e4
  refine .ret (e5_ret stmt k) fun left hl => ?_
  have cmp : ∀ op bb o, Ret (e5 stmt k >>= fun r => create (.binop (.cmp op) bb left o r)) (·.isE4 = true) :=
    fun op bb o => .ret (e5_ret stmt k) fun r hr => .ret_create fun _ => by
      simp [Node.addWs, Node.addWsBase, Node.mapBase, Node.isE4, isE5_not_cmp hl, isE5_not_cmp hr]
  refine .any fun o => ?_
  cases o with
  | some op => exact .any fun _ => .any fun _ => cmp _ _ _
  | none =>
    refine .any fun _ => .ite (.any fun _ => .any fun _ => .any fun _ => .ite ?_ (.any fun _ => .fail)) ?_
    · exact .any fun _ => .any fun _ => .ite .fail (.any fun _ => cmp _ _ _)
    · -- `left` is returned as it is, and it is not a comparison node
      refine .ret_pure ?_
      have := isE5_not_cmp hl
      cases left with
      | binop k _ _ _ _ =>
        cases k with
        | cmp _ => simp [Node.isCmp] at this
        | _ => exact hl
      | _ => exact hl

/-- `comparison_not_chained`: `a == b == c`, `a < b in c` are not derivable without parentheses -/
theorem e4_operands_not_cmp (stmt : P Node) (k : Nat) :
    Returns (e4 stmt k) (fun n => match n with
      | .binop (.cmp _) _ l _ r => !l.isCmp && !r.isCmp
      | n => n.isE5) :=
  (e4_ret stmt k).returns

end MesonModel.Lang
