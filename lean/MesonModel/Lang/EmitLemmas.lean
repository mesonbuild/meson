/-
Unfolding equations of `emit` (one per node kind, all by `rfl`) and the effect of attaching whitespace
(`append_whitespaces`) on the print, the position and the kind of a node.
-/
import MesonModel.Lang.ParserLemmas

namespace MesonModel.Lang

theorem emit_boolean (b v) : emit (.boolean b v) = (if v then "true".toList else "false".toList) ++ wsText b.ws := rfl
theorem emit_id (b v) : emit (.id b v) = v ++ wsText b.ws := rfl
theorem emit_number (b r v) : emit (.number b r v) = r ++ wsText b.ws := rfl
theorem emit_string (b raw v multi f) : emit (.string b raw v multi f) =
    (if f then ['f'] else []) ++
    (if multi then "'''".toList ++ v ++ "'''".toList else ['\''] ++ raw ++ ['\'']) ++ wsText b.ws := rfl
theorem emit_continue (b) : emit (.continue_ b) = "continue".toList ++ wsText b.ws := rfl
theorem emit_break (b) : emit (.break_ b) = "break".toList ++ wsText b.ws := rfl
theorem emit_symbol (b v) : emit (.symbol b v) = v ++ wsText b.ws := rfl
theorem emit_empty (b) : emit (.empty b) = wsText b.ws := rfl
theorem emit_args (b pos commas colons keys vals oe) : emit (.args b pos commas colons keys vals oe) =
    (interleavePos (emitL pos) (emitL commas)).1 ++
      interleaveKw (emitL keys) (emitL colons) (emitL vals) (interleavePos (emitL pos) (emitL commas)).2 ++
      wsText b.ws := rfl
theorem emit_array (b l a r) : emit (.array b l a r) = emit l ++ emit a ++ emit r ++ wsText b.ws := rfl
theorem emit_dict (b l a r) : emit (.dict b l a r) = emit l ++ emit a ++ emit r ++ wsText b.ws := rfl
theorem emit_binop (k b l o r) : emit (.binop k b l o r) = emit l ++ emit o ++ emit r ++ wsText b.ws := rfl
theorem emit_unop (k b o v) : emit (.unop k b o v) = emit o ++ emit v ++ wsText b.ws := rfl
theorem emit_codeblock (b pre lines) : emit (.codeblock b pre lines) =
    wsText pre ++ (emitL lines).flatten ++ wsText b.ws := rfl
theorem emit_index (b o l i r) : emit (.index b o l i r) = emit o ++ emit l ++ emit i ++ emit r ++ wsText b.ws := rfl
theorem emit_method (b o d n l a r) : emit (.method b o d n l a r) =
    emit o ++ emit d ++ emit n ++ emit l ++ emit a ++ emit r ++ wsText b.ws := rfl
theorem emit_function (b n l a r) : emit (.function b n l a r) =
    emit n ++ emit l ++ emit a ++ emit r ++ wsText b.ws := rfl
theorem emit_assign (p b n o v) : emit (.assign p b n o v) = emit n ++ emit o ++ emit v ++ wsText b.ws := rfl
theorem emit_foreach (b kw vars commas colon items block endkw) :
    emit (.foreach b kw vars commas colon items block endkw) =
    emit kw ++ interleaveVars (emitL vars) (emitL commas) ++ emit colon ++ emit items ++ emit block ++
      emit endkw ++ wsText b.ws := rfl
theorem emit_ifnode (b kw c bl) : emit (.ifnode b kw c bl) = emit kw ++ emit c ++ emit bl ++ wsText b.ws := rfl
theorem emit_elsenode (b kw bl) : emit (.elsenode b kw bl) = emit kw ++ emit bl ++ wsText b.ws := rfl
theorem emit_ifclause (b ifs e en) : emit (.ifclause b ifs e en) =
    (emitL ifs).flatten ++ emit e ++ emit en ++ wsText b.ws := rfl
theorem emit_ternary (b c q t cl f) : emit (.ternary b c q t cl f) =
    emit c ++ emit q ++ emit t ++ emit cl ++ emit f ++ wsText b.ws := rfl
theorem emit_paren (b l i r) : emit (.paren b l i r) = emit l ++ emit i ++ emit r ++ wsText b.ws := rfl
theorem emitL_nil : emitL [] = [] := rfl
theorem emitL_cons (n ns) : emitL (n :: ns) = emit n :: emitL ns := rfl

theorem emitL_append (a b : List Node) : emitL (a ++ b) = emitL a ++ emitL b := by
  induction a with
  | nil => rfl
  | cons x xs ih => simp [emitL_cons, ih]

/-- `append_whitespaces` on any node adds the text at the very end of its print -/
theorem emit_addWsBase (n : Node) (ws : List Token) : emit (n.addWsBase ws) = emit n ++ wsText ws := by
  cases n <;>
    simp only [Node.addWsBase, Node.mapBase, emit_boolean, emit_id, emit_number, emit_string, emit_continue,
      emit_break, emit_symbol, emit_empty, emit_args, emit_array, emit_dict, emit_binop, emit_unop,
      emit_codeblock, emit_index, emit_method, emit_function, emit_assign, emit_foreach, emit_ifnode,
      emit_elsenode, emit_ifclause, emit_ternary, emit_paren, wsText_append, List.append_assoc]

theorem emitL_modifyLast (ls : List Node) (ws : List Token) (h : ls ≠ []) :
    (emitL (Node.modifyLast (Node.addWsBase ws) ls)).flatten = (emitL ls).flatten ++ wsText ws := by
  induction ls with
  | nil => exact absurd rfl h
  | cons a as ih =>
    cases as with
    | nil => simp [Node.modifyLast, emitL_cons, emitL_nil, emit_addWsBase]
    | cons b bs =>
      have := ih (by simp)
      simp only [Node.modifyLast, emitL_cons, List.flatten_cons] at this ⊢
      rw [this]
      simp [List.append_assoc]

/-- code blocks never carry whitespace of their own (it goes to `pre_whitespaces` or the last line) -/
def Node.blockClean : Node → Prop
  | .codeblock b _ _ => b.ws = []
  | _ => True

theorem emit_addWs (n : Node) (ws : List Token) (h : n.blockClean) : emit (n.addWs ws) = emit n ++ wsText ws := by
  cases n
  case codeblock b pre lines =>
    simp only [Node.blockClean] at h
    simp only [Node.addWs]
    split
    · rename_i he
      have : lines = [] := by simpa using he
      subst this
      simp [emit_codeblock, emitL_nil, wsText_append, h]
    · rename_i he
      have : lines ≠ [] := by simpa using he
      simp [emit_codeblock, emitL_modifyLast _ _ this, h]
  all_goals exact emit_addWsBase _ _

theorem base_addWs (n : Node) (ws : List Token) :
    (n.addWs ws).base.lineno = n.base.lineno ∧ (n.addWs ws).base.colno = n.base.colno := by
  cases n
  case codeblock b pre lines =>
    simp only [Node.addWs]
    split <;> exact ⟨rfl, rfl⟩
  all_goals exact ⟨rfl, rfl⟩

theorem base_blockAppendLine (b l : Node) : (blockAppendLine b l).base = b.base := by
  cases b <;> simp only [blockAppendLine]
  split <;> rfl

theorem lineno_addWs (n : Node) (ws : List Token) : (n.addWs ws).lineno = n.lineno ∧ (n.addWs ws).colno = n.colno :=
  base_addWs n ws

theorem isEmpty_addWs (n : Node) (ws : List Token) : (n.addWs ws).isEmpty = n.isEmpty := by
  cases n
  case codeblock b pre lines =>
    simp only [Node.addWs]
    split <;> rfl
  all_goals rfl

theorem isId_addWs (n : Node) (ws : List Token) : (n.addWs ws).isId = n.isId := by
  cases n
  case codeblock b pre lines =>
    simp only [Node.addWs]
    split <;> rfl
  all_goals rfl

theorem Node.modifyLast_id {α} {g : α → α} (hg : ∀ a, g a = a) : ∀ l : List α, Node.modifyLast g l = l
  | [] => rfl
  | [a] => congrArg (· :: []) (hg a)
  | a :: b :: l => congrArg (a :: ·) (Node.modifyLast_id hg (b :: l))

theorem Node.addWs_nil (n : Node) : n.addWs [] = n := by
  have hb : ∀ m : Node, m.addWsBase [] = m := fun m => by
    cases m <;> simp [Node.addWsBase, Node.mapBase]
  cases n
  case codeblock b pre lines =>
    simp only [Node.addWs, Node.modifyLast_id hb, List.append_nil]
    split <;> rfl
  all_goals exact hb _

end MesonModel.Lang
