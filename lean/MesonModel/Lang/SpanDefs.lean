/-
Definitions for `span_exact` (DESIGN §4 C02): the text an extent `(lineno, colno, end_lineno, end_colno)`
delimits, the sub-nodes of a tree, and what it means for the extent of a call / array node to be exact.
-/
import MesonModel.Lang.LinePos
import MesonModel.Lang.Ast

namespace MesonModel.Lang

/-- `s[a:b]` -/
def slice (s : Str) (a b : Nat) : Str := (s.drop a).take (b - a)

/-- the text the recorded extent of a node delimits: line/column pairs are turned into offsets with the
line table of the rewriter (`lineOff`, lines counted by `'\n'` only) -/
def extentSlice (s : Str) (b : Base) : Str :=
  slice s (lineOff s b.lineno + b.colno) (lineOff s b.endLineno + b.endColno)

/-- `SymbolNode.value` -/
def symValue : Node → Str
  | .symbol _ v => v
  | _ => []

mutual
/-- a node and all its descendants (symbols and attached children included) -/
def sub : Node → List Node
  | .boolean b v => [.boolean b v]
  | .id b v => [.id b v]
  | .number b r v => [.number b r v]
  | .string b r v m f => [.string b r v m f]
  | .continue_ b => [.continue_ b]
  | .break_ b => [.break_ b]
  | .symbol b v => [.symbol b v]
  | .empty b => [.empty b]
  | .args b pos commas colons keys vals oe =>
    .args b pos commas colons keys vals oe ::
      (subL pos ++ subL commas ++ subL colons ++ subL keys ++ subL vals)
  | .array b l a r => .array b l a r :: (sub l ++ sub a ++ sub r)
  | .dict b l a r => .dict b l a r :: (sub l ++ sub a ++ sub r)
  | .binop k b l op r => .binop k b l op r :: (sub l ++ sub op ++ sub r)
  | .unop k b op v => .unop k b op v :: (sub op ++ sub v)
  | .codeblock b pre lines => .codeblock b pre lines :: subL lines
  | .index b obj lb idx rb => .index b obj lb idx rb :: (sub obj ++ sub lb ++ sub idx ++ sub rb)
  | .method b obj dot name lpar a rpar =>
    .method b obj dot name lpar a rpar :: (sub obj ++ sub dot ++ sub name ++ sub lpar ++ sub a ++ sub rpar)
  | .function b name lpar a rpar => .function b name lpar a rpar :: (sub name ++ sub lpar ++ sub a ++ sub rpar)
  | .assign p b name op value => .assign p b name op value :: (sub name ++ sub op ++ sub value)
  | .foreach b kw vars commas colon items block endkw =>
    .foreach b kw vars commas colon items block endkw ::
      (sub kw ++ subL vars ++ subL commas ++ sub colon ++ sub items ++ sub block ++ sub endkw)
  | .ifnode b kw cond block => .ifnode b kw cond block :: (sub kw ++ sub cond ++ sub block)
  | .elsenode b kw block => .elsenode b kw block :: (sub kw ++ sub block)
  | .ifclause b ifs elseb endif => .ifclause b ifs elseb endif :: (subL ifs ++ sub elseb ++ sub endif)
  | .ternary b c q t col f => .ternary b c q t col f :: (sub c ++ sub q ++ sub t ++ sub col ++ sub f)
  | .paren b l inner r => .paren b l inner r :: (sub l ++ sub inner ++ sub r)
def subL : List Node → List Node
  | [] => []
  | n :: ns => sub n ++ subL ns
end

/-- the recorded extent `(lineno, colno) … (end_lineno, end_colno)` of a node is exact: both line/column pairs
are the addresses (`Addr`: line = 1 + newlines before, column = distance to the previous newline) of the
offsets they denote in the rewriter's line table, and the text between the two offsets is `core` -/
def ExtentIs (s : Str) (b : Base) (core : Str) : Prop :=
  Addr s b.lineno b.colno (lineOff s b.lineno + b.colno) ∧
  Addr s b.endLineno b.endColno (lineOff s b.endLineno + b.endColno) ∧
  extentSlice s b = core

instance (s : Str) (b : Base) (core : Str) : Decidable (ExtentIs s b core) := by unfold ExtentIs; infer_instance

/-- no end position is recorded on the node: `end_lineno/end_colno` are the `BaseNode` defaults (= start) -/
def NoEnd (b : Base) : Prop := b.endLineno = b.lineno ∧ b.endColno = b.colno

instance (b : Base) : Decidable (NoEnd b) := by unfold NoEnd; infer_instance

/-- what the position fields of a node must say. The five node kinds whose constructor records an end position
(`FunctionNode`, `MethodNode`, `ArrayNode`, `DictNode`, `ParenthesizedNode`): the extent delimits exactly the
source of the construct, from the first character of its first token (`f` of `f(...)`, the method name of
`obj.name(...)` — a `MethodNode` is positioned at its name, `mparser.py:534` —, the `[` / `{` / `(`) to the
last character of its closing `)` / `]` / `}`; that text is the raw print of the parts without the trivia that
follows the closing token. Every other node kind (strings — also multi-line ones —, numbers, ids, symbols,
index expressions, operators, assignments, blocks, clauses, argument lists, the empty node) records no end
position at all: `end_lineno/end_colno` repeat the start. (An `ArgumentNode` additionally has `order_error`
unset: the invariant is only established while the ghost counter `lossy` is `0`, and the counter is incremented
exactly where `ArgumentNode.append` sets the flag.) -/
def SpanExact (s : Str) : Node → Prop
  | .function b name lpar a rpar => ExtentIs s b (emit name ++ emit lpar ++ emit a ++ symValue rpar)
  | .method b _ _ name lpar a rpar => ExtentIs s b (emit name ++ emit lpar ++ emit a ++ symValue rpar)
  | .array b l a r => ExtentIs s b (emit l ++ emit a ++ symValue r)
  | .dict b l a r => ExtentIs s b (emit l ++ emit a ++ symValue r)
  | .paren b l i r => ExtentIs s b (emit l ++ emit i ++ symValue r)
  | .args b _ _ _ _ _ oe => NoEnd b ∧ oe = false
  | n => NoEnd n.base

instance (s : Str) (n : Node) : Decidable (SpanExact s n) := by
  cases n <;> simp only [SpanExact] <;> infer_instance

/-- executable form of `SpanExact` -/
def spanExactB (s : Str) (n : Node) : Bool := decide (SpanExact s n)

/-- the node kinds that record an end position -/
def Node.recordsEnd : Node → Bool
  | .function .. | .method .. | .array .. | .dict .. | .paren .. => true
  | _ => false

/-- call and array nodes -/
def Node.isCallOrArray : Node → Bool
  | .function .. | .method .. | .array .. => true
  | _ => false

/-- every node of the tree has exact position fields -/
def Spans (s : Str) (n : Node) : Prop := ∀ m ∈ sub n, SpanExact s m
def SpansL (s : Str) (l : List Node) : Prop := ∀ m ∈ subL l, SpanExact s m

end MesonModel.Lang
