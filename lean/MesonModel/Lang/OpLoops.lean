/-
The operator loops of `e6`, `e5` (a table of arithmetic operators) and of `e3`, `e2` (one logical keyword)
differ in the operators and the operand production only. Each pair is an instance of one loop with these as
parameters; what is proved of the four is proved of the two.
-/
import MesonModel.Lang.Parser

namespace MesonModel.Lang

/-- `while self.accept_any(ts): left = ArithmeticNode(op, left, operator, operand())` -/
def arithLoop (ts : List Tid) (m : List (String × String)) (operand : P Node) : Nat → Node → P Node
  | 0, _ => P.fail .fuel
  | j + 1, left => do
    match ← acceptAny ts with
    | some op =>
      let o ← createSymbol (← prev)
      let r ← operand
      let n ← create (.binop (.arith (lookupOp m op)) (Base.at left.lineno left.colno) left o r)
      arithLoop ts m operand j n
    | none => pure left

theorem e6Loop_eq (stmt : P Node) (k : Nat) :
    e6Loop stmt k = arithLoop muldivTids Generated.LexTables.muldivMap (e7 stmt k) := by
  funext j
  induction j with
  | zero => rfl
  | succ j ih =>
    funext l
    simp only [e6Loop, arithLoop, ih]
    rfl

theorem e5Loop_eq (stmt : P Node) (k : Nat) :
    e5Loop stmt k = arithLoop addsubTids Generated.LexTables.addsubMap (e6 stmt k) := by
  funext j
  induction j with
  | zero => rfl
  | succ j ih =>
    funext l
    simp only [e5Loop, arithLoop, ih]
    rfl

/-- `while self.accept(t): left = AndNode/OrNode(left, operator, operand())` -/
def logicLoop (t : Tid) (kind : BinKind) (operand : P Node) : Nat → Node → P Node
  | 0, _ => P.fail .fuel
  | j + 1, left => do
    if ← accept t then
      let o ← createSymbol (← prev)
      if left.isEmpty then raiseAt left
      else
        let r ← operand
        let n ← create (.binop kind (Base.at left.lineno left.colno) left o r)
        logicLoop t kind operand j n
    else pure left

theorem e3Loop_eq (stmt : P Node) (k : Nat) : e3Loop stmt k = logicLoop .kAnd .and (e4 stmt k) := by
  funext j
  induction j with
  | zero => rfl
  | succ j ih =>
    funext l
    simp only [e3Loop, logicLoop, ih]

theorem e2Loop_eq (stmt : P Node) (k : Nat) : e2Loop stmt k = logicLoop .kOr .or (e3 stmt k) := by
  funext j
  induction j with
  | zero => rfl
  | succ j ih =>
    funext l
    simp only [e2Loop, logicLoop, ih]

end MesonModel.Lang
