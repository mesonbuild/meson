/-
Structural lemmas about `Spans` (every node below a node has exact position fields): one unfolding
per node kind, and invariance under `append_whitespaces`.
-/
import MesonModel.Lang.SpanDefs

namespace MesonModel.Lang

variable {s : Str}

theorem spans_of_sub {n : Node} {L : List Node} (h : sub n = n :: L) :
    Spans s n ↔ SpanExact s n ∧ ∀ m ∈ L, SpanExact s m := by
  unfold Spans
  rw [h]
  exact List.forall_mem_cons

theorem spanExactB_iff (n : Node) : spanExactB s n = true ↔ SpanExact s n := by
  simp [spanExactB]

theorem spansL_nil : SpansL s [] := by
  intro m hm
  cases hm

theorem spansL_cons (n : Node) (ns : List Node) : SpansL s (n :: ns) ↔ Spans s n ∧ SpansL s ns := by
  show (∀ m ∈ sub n ++ subL ns, SpanExact s m) ↔ _
  exact List.forall_mem_append

theorem spansL_append (a b : List Node) : SpansL s (a ++ b) ↔ SpansL s a ∧ SpansL s b := by
  induction a with
  | nil => simp [spansL_nil]
  | cons x xs ih => simp only [List.cons_append, spansL_cons, ih, and_assoc]

theorem spansL_snoc (a : List Node) (n : Node) : SpansL s (a ++ [n]) ↔ SpansL s a ∧ Spans s n := by
  rw [spansL_append, spansL_cons]
  simp [spansL_nil]

theorem spansL_iff (l : List Node) : SpansL s l ↔ ∀ n ∈ l, Spans s n := by
  induction l with
  | nil => simp [spansL_nil]
  | cons x xs ih => simp [spansL_cons, ih]

theorem spans_leaf {n : Node} (h : sub n = [n]) : Spans s n ↔ SpanExact s n := by
  unfold Spans
  rw [h]
  simp

theorem spans_boolean (b v) : Spans s (.boolean b v) ↔ NoEnd b := spans_leaf rfl
theorem spans_id (b v) : Spans s (.id b v) ↔ NoEnd b := spans_leaf rfl
theorem spans_number (b r v) : Spans s (.number b r v) ↔ NoEnd b := spans_leaf rfl
theorem spans_string (b r v m' f) : Spans s (.string b r v m' f) ↔ NoEnd b := spans_leaf rfl
theorem spans_continue (b) : Spans s (.continue_ b) ↔ NoEnd b := spans_leaf rfl
theorem spans_break (b) : Spans s (.break_ b) ↔ NoEnd b := spans_leaf rfl
theorem spans_symbol (b v) : Spans s (.symbol b v) ↔ NoEnd b := spans_leaf rfl
theorem spans_empty (b) : Spans s (.empty b) ↔ NoEnd b := spans_leaf rfl

theorem noEnd_ofTok (t : Token) : NoEnd (Base.ofTok t) := ⟨rfl, rfl⟩
theorem noEnd_at (l c : Nat) : NoEnd (Base.at l c) := ⟨rfl, rfl⟩

theorem spans_args (b pos commas colons keys vals oe) :
    Spans s (.args b pos commas colons keys vals oe) ↔
      NoEnd b ∧ oe = false ∧ SpansL s pos ∧ SpansL s commas ∧ SpansL s colons ∧ SpansL s keys ∧ SpansL s vals := by
  rw [spans_of_sub (L := subL pos ++ subL commas ++ subL colons ++ subL keys ++ subL vals) rfl]
  simp only [List.forall_mem_append, and_assoc]
  exact and_assoc

theorem spans_array (b l a r) :
    Spans s (.array b l a r) ↔ SpanExact s (.array b l a r) ∧ Spans s l ∧ Spans s a ∧ Spans s r := by
  rw [spans_of_sub (L := sub l ++ sub a ++ sub r) rfl]
  simp only [List.forall_mem_append, and_assoc]
  exact Iff.rfl

theorem spans_dict (b l a r) : Spans s (.dict b l a r) ↔ SpanExact s (.dict b l a r) ∧ Spans s l ∧ Spans s a ∧ Spans s r := by
  rw [spans_of_sub (L := sub l ++ sub a ++ sub r) rfl]
  simp only [List.forall_mem_append, and_assoc]
  exact Iff.rfl

theorem spans_binop (k b l o r) : Spans s (.binop k b l o r) ↔ NoEnd b ∧ Spans s l ∧ Spans s o ∧ Spans s r := by
  rw [spans_of_sub (L := sub l ++ sub o ++ sub r) rfl]
  simp only [List.forall_mem_append, and_assoc]
  exact Iff.rfl

theorem spans_unop (k b o v) : Spans s (.unop k b o v) ↔ NoEnd b ∧ Spans s o ∧ Spans s v := by
  rw [spans_of_sub (L := sub o ++ sub v) rfl, List.forall_mem_append]
  exact Iff.rfl

theorem spans_codeblock (b pre lines) : Spans s (.codeblock b pre lines) ↔ NoEnd b ∧ SpansL s lines := by
  rw [spans_of_sub (L := subL lines) rfl]
  exact Iff.rfl

theorem spans_index (b o l i r) : Spans s (.index b o l i r) ↔ NoEnd b ∧ Spans s o ∧ Spans s l ∧ Spans s i ∧ Spans s r := by
  rw [spans_of_sub (L := sub o ++ sub l ++ sub i ++ sub r) rfl]
  simp only [List.forall_mem_append, and_assoc]
  exact Iff.rfl

theorem spans_method (b o d n l a r) :
    Spans s (.method b o d n l a r) ↔
      SpanExact s (.method b o d n l a r) ∧ Spans s o ∧ Spans s d ∧ Spans s n ∧ Spans s l ∧ Spans s a ∧ Spans s r := by
  rw [spans_of_sub (L := sub o ++ sub d ++ sub n ++ sub l ++ sub a ++ sub r) rfl]
  simp only [List.forall_mem_append, and_assoc]
  exact Iff.rfl

theorem spans_function (b n l a r) :
    Spans s (.function b n l a r) ↔
      SpanExact s (.function b n l a r) ∧ Spans s n ∧ Spans s l ∧ Spans s a ∧ Spans s r := by
  rw [spans_of_sub (L := sub n ++ sub l ++ sub a ++ sub r) rfl]
  simp only [List.forall_mem_append, and_assoc]
  exact Iff.rfl

theorem spans_assign (p b n o v) : Spans s (.assign p b n o v) ↔ NoEnd b ∧ Spans s n ∧ Spans s o ∧ Spans s v := by
  rw [spans_of_sub (L := sub n ++ sub o ++ sub v) rfl]
  simp only [List.forall_mem_append, and_assoc]
  exact Iff.rfl

theorem spans_foreach (b kw vars commas colon items block endkw) :
    Spans s (.foreach b kw vars commas colon items block endkw) ↔
      NoEnd b ∧ Spans s kw ∧ SpansL s vars ∧ SpansL s commas ∧ Spans s colon ∧ Spans s items ∧ Spans s block ∧
        Spans s endkw := by
  rw [spans_of_sub (L := sub kw ++ subL vars ++ subL commas ++ sub colon ++ sub items ++ sub block ++ sub endkw) rfl]
  simp only [List.forall_mem_append, and_assoc]
  exact Iff.rfl

theorem spans_ifnode (b kw c bl) : Spans s (.ifnode b kw c bl) ↔ NoEnd b ∧ Spans s kw ∧ Spans s c ∧ Spans s bl := by
  rw [spans_of_sub (L := sub kw ++ sub c ++ sub bl) rfl]
  simp only [List.forall_mem_append, and_assoc]
  exact Iff.rfl

theorem spans_elsenode (b kw bl) : Spans s (.elsenode b kw bl) ↔ NoEnd b ∧ Spans s kw ∧ Spans s bl := by
  rw [spans_of_sub (L := sub kw ++ sub bl) rfl, List.forall_mem_append]
  exact Iff.rfl

theorem spans_ifclause (b ifs e en) : Spans s (.ifclause b ifs e en) ↔ NoEnd b ∧ SpansL s ifs ∧ Spans s e ∧ Spans s en := by
  rw [spans_of_sub (L := subL ifs ++ sub e ++ sub en) rfl]
  simp only [List.forall_mem_append, and_assoc]
  exact Iff.rfl

theorem spans_ternary (b c q t cl f) :
    Spans s (.ternary b c q t cl f) ↔ NoEnd b ∧ Spans s c ∧ Spans s q ∧ Spans s t ∧ Spans s cl ∧ Spans s f := by
  rw [spans_of_sub (L := sub c ++ sub q ++ sub t ++ sub cl ++ sub f) rfl]
  simp only [List.forall_mem_append, and_assoc]
  exact Iff.rfl

theorem spans_paren (b l i r) : Spans s (.paren b l i r) ↔ SpanExact s (.paren b l i r) ∧ Spans s l ∧ Spans s i ∧ Spans s r := by
  rw [spans_of_sub (L := sub l ++ sub i ++ sub r) rfl]
  simp only [List.forall_mem_append, and_assoc]
  exact Iff.rfl

/-! ### `append_whitespaces` changes no extent and no child -/

theorem spans_congr {n n' : Node} {L : List Node} (h : sub n = n :: L) (h' : sub n' = n' :: L)
    (he : SpanExact s n' ↔ SpanExact s n) : Spans s n' ↔ Spans s n := by
  rw [spans_of_sub h, spans_of_sub h', he]

theorem spans_addWsBase (n : Node) (ws : List Token) : Spans s (n.addWsBase ws) ↔ Spans s n := by
  cases n <;> exact spans_congr rfl rfl Iff.rfl

theorem spansL_modifyLast (ls : List Node) (ws : List Token) :
    SpansL s (Node.modifyLast (Node.addWsBase ws) ls) ↔ SpansL s ls := by
  induction ls with
  | nil => exact Iff.rfl
  | cons a as ih =>
    cases as with
    | nil => simp only [Node.modifyLast, spansL_cons, spans_addWsBase]
    | cons b bs =>
      simp only [Node.modifyLast, spansL_cons] at ih ⊢
      rw [ih]

theorem spans_addWs (n : Node) (ws : List Token) : Spans s (n.addWs ws) ↔ Spans s n := by
  cases n
  case codeblock b pre lines =>
    simp only [Node.addWs]
    split
    · simp only [spans_codeblock]
    · simp only [spans_codeblock, spansL_modifyLast]
  all_goals exact spans_addWsBase _ _

end MesonModel.Lang
