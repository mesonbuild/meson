/-
From the walk of `RoundTrip.lean` and the lexer's run (`LexRun`) to `Parser(code).parse()`: the token texts are the
input; the raw print of the tree is the printed form of the whole token list and every extent recorded in the tree
is exact, provided no lossy event happened.
-/
import MesonModel.Lang.RoundTrip
import MesonModel.Lang.StreamInv
import MesonModel.Lang.LexRun

namespace MesonModel.Lang

theorem getsym_establishes {st st' : PState} {u : Unit} (h : getsym st = .ok (u, st'))
    (hn : NoEofTok st.rest) : StreamInv st.lexErr st' :=
  ⟨(getsym_ok h).2.2.lexErr, advance_inv (getsym_ok h).1 hn⟩

theorem Pres.run {α} {f : P α} (h : Pres f) {e st st' a} (hf : f st = .ok (a, st')) (hi : StreamInv e st) :
    StreamInv e st' := by
  unfold Pres at h
  exact h e st a st' hf hi

/-- A successful parse, taken apart once: `getsym`, `codeblock()` and `expect('eof')` ran, and, the token list having
no inner `eof`, the block ended at `eof` with the stream exhausted and no lexer error pending. -/
theorem parseToks_ok {names : List (Str × Nat)} {lr : LexResult} {fuel : Nat} {r : ParseOk}
    (h : parseToks names lr fuel = .ok r) (hne : NoEofTok lr.toks) :
    ∃ s1 s2, getsym (parseStart names lr) = .ok ((), s1) ∧ codeblock fuel s1 = .ok (r.tree, s2) ∧
      s2.lossy = r.lossy ∧ s2.cur.tid = .eof ∧ s2.rest = [] ∧ lr.err = none := by
  unfold parseToks at h
  simp only at h
  split at h
  · cases h
  · rename_i u s1 hg
    split at h
    · cases h
    · rename_i block s2 hcb
      split at h
      · cases h
      · rename_i u2 s3 hex
        cases h
        have hi2 := (Pres.codeblock fuel).run hcb (getsym_establishes hg hne)
        rcases accept_spec (expect_spec hex) with ⟨h', -⟩ | ⟨-, htid, -, -, hfl⟩
        · cases h'
        · exact ⟨s1, s2, hg, hcb, hfl.dropped.symm, htid, (hi2.2.2 htid).1, (hi2.2.2 htid).2⟩

/-- a successful parse has seen the whole token stream, and the lexer raised nothing -/
theorem parseToks_lexErr {names : List (Str × Nat)} {lr : LexResult} {fuel : Nat} {r : ParseOk}
    (h : parseToks names lr fuel = .ok r) (hne : NoEofTok lr.toks) : lr.err = none := by
  obtain ⟨_, _, _, _, _, _, _, he⟩ := parseToks_ok h hne
  exact he

/-- A successful parse with nothing lossy recorded: the tree prints as the token stream, and if the stream is in
sync with a source `T`, every extent in the tree is exact. -/
theorem parseToks_run {names : List (Str × Nat)} {lr : LexResult} {fuel : Nat} {r : ParseOk}
    (h : parseToks names lr fuel = .ok r) (hl : r.lossy = 0) (hne : NoEofTok lr.toks) {sync : Prop} {T : Str}
    (hT : T = restText lr.toks) (hok : sync → StreamOk T lr.toks) : emit r.tree = T ∧ (sync → Spans T r.tree) := by
  obtain ⟨s1, s2, hg, hcb, hd, htid, hrest, -⟩ := parseToks_ok h hne
  have h1 : Here sync T [] false True s1 := ⟨nofun, fun _ =>
    ⟨by rw [(getsym_spec hg).1, hT]; rfl, fun hb => getsym_sync hg ⟨fun hne => absurd rfl hne, hok hb⟩, trivial⟩⟩
  have h2 := (codeblock_prod fuel T [] True).run hcb h1
  obtain ⟨hT2, -, -, hok2⟩ := h2.2 (hd.trans hl)
  have hrem : G s2 = [] := by
    simp [G, h2.1 rfl, rem, htid, hrest, restText, printed]
  rw [hrem, List.append_nil, List.nil_append] at hT2
  exact ⟨hT2.symm, hok2.spans⟩

theorem parseToks_roundtrip {names : List (Str × Nat)} {lr : LexResult} {fuel : Nat} {r : ParseOk}
    (h : parseToks names lr fuel = .ok r) (hl : r.lossy = 0) (hne : NoEofTok lr.toks) :
    emit r.tree = restText lr.toks :=
  (parseToks_run (sync := False) h hl hne rfl nofun).1

theorem lex_partition (s : Str) : (lex s).texts ++ (lex s).rem = s := (lex_run s).1.partition

theorem lex_fuel (s : Str) : (lex s).fuelOut = false := (lex_run s).2

theorem lex_complete (s : Str) (h : (lex s).err = none) : (lex s).texts = s := by
  have hp := lex_partition s
  rwa [(lex_run s).1.rem_nil h, List.append_nil] at hp

variable {s : Str}

theorem LexRun.streamOk {p r rem : Str} {ts : List Token} {e : Option (Nat × Nat)} (h : LexRun p r ts e rem)
    (he : e = none) : StreamOk (p ++ r) ts := by
  induction h with
  | done | bomErr | err => trivial
  | @tok p r st st' t n ts e rem hi hstep hrun ih =>
    have ih := ih he
    rw [List.append_assoc, List.take_append_drop] at ih
    obtain ⟨⟨p1, p2, _⟩, hx, _⟩ := lexStep_tok hstep
    have hpr := (lexStep_printed hstep).2
    refine ⟨⟨p, ?_, ?_, fun hc => hpr ▸ lexStep_closer hstep hc⟩, ih⟩
    · rw [hrun.prints he, hpr, hx, List.take_append_drop]
    · rw [p1, p2, ← hi.1]
      exact hi.addr r

theorem lex_streamOk (s : Str) (he : (lex s).err = none) : StreamOk s (lex s).toks :=
  (lex_run s).1.streamOk he

theorem parse_run {s : Str} {names : List (Str × Nat)} {r : ParseOk} (h : parseWith names s = .ok r)
    (hl : r.lossy = 0) : emit r.tree = s ∧ Spans s r.tree := by
  have hne : NoEofTok (lex s).toks := fun t ht => (lex_printed s t ht).1
  have he := parseToks_lexErr h hne
  exact (parseToks_run (sync := True) h hl hne ((lex_run s).1.prints he).symm fun _ => lex_streamOk s he).imp_right
    fun h => h trivial

theorem parse_roundtrip {s : Str} {names : List (Str × Nat)} {r : ParseOk}
    (h : parseWith names s = .ok r) (hl : r.lossy = 0) : emit r.tree = s :=
  (parse_run h hl).1

theorem parse_spans {s : Str} {names : List (Str × Nat)} {r : ParseOk}
    (h : parseWith names s = .ok r) (hl : r.lossy = 0) : Spans s r.tree :=
  (parse_run h hl).2

end MesonModel.Lang
