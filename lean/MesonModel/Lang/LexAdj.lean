/-
The lexer never yields a `not` token immediately followed by an `in` token: after an identifier/keyword the
next character is not an identifier character, while an `in` token starts with one (`notin` is one `id`).
-/
import MesonModel.Lang.LexRun
import MesonModel.Lang.Safe

namespace MesonModel.Lang
open MesonModel.Py

theorem drop_takeWhile_head {p : Char → Bool} (l : Str) (c : Char) (cs : Str)
    (h : l.drop (l.takeWhile p).length = c :: cs) : p c = false := by
  have e : l.drop (l.takeWhile p).length = l.dropWhile p := by
    conv =>
      lhs
      arg 2
      rw [← List.takeWhile_append_dropWhile (p := p) (l := l)]
    exact List.drop_left
  rw [e] at h
  simpa [h] using List.head_dropWhile_not p (l := l) (by simp [h])

theorem isWord_of_isIdStart {c : Char} (h : isIdStart c = true) : isWord c = true := by
  simp [isIdStart, isWord, isAlnum] at *
  rcases h with h | h
  · exact Or.inl (Or.inr h)
  · exact Or.inr h

theorem lookupSingle_noKw {c : Char} {k : Tid} (h : lookupSingle c = some k) : k ≠ .kIn ∧ k ≠ .kNot := by
  simpa [singleNoKw] using (lookupSingle_entry h).2.2

/-- a token with a keyword id (`in`, `not`) comes from the identifier pattern -/
theorem lexStep_kw {s : Str} {st : LexSt} {t : Token} {st' : LexSt} {n : Nat}
    (h : lexStep s st = .tok t st' n) (hk : t.tid = .kIn ∨ t.tid = .kNot) : mId s = some n := by
  obtain ⟨-, -, -, -, -, ⟨tid, hm, htok, -⟩ | ⟨c, cs, tid, -, -, hl, -, htid, -⟩⟩ := lexStep_tok h
  · have hspec := firstMatch_spec hm
    -- an entry other than `id` keeps its own id, or yields `whitespace`
    have hfst : tid = .id ∨ (specTok tid (s.take n)).1 = tid ∨ (specTok tid (s.take n)).1 = .whitespace := by
      cases tid <;> simp [specTok]
    rw [← htok] at hfst
    rcases hfst with rfl | hid | hw
    · exact hspec
    · rw [← hid] at hspec
      rcases hk with hk | hk <;> simp [hk, matchSpec] at hspec
    · simp [show t.tid = .whitespace from hw] at hk
  · obtain ⟨h1, h2⟩ := lookupSingle_noKw hl
    rcases htid with rfl | ⟨-, hw⟩
    · exact (hk.elim h1 h2).elim
    · simp [hw] at hk

theorem LexRun.noAdj {p r rem : Str} {ts : List Token} {e : Option (Nat × Nat)} (h : LexRun p r ts e rem) :
    NoAdj ts ∧ (∀ t ts', ts = t :: ts' → t.tid = .kIn → ∃ c cs, r = c :: cs ∧ isWord c = true) := by
  induction h with
  | done | bomErr | err => exact ⟨trivial, fun _ _ h => nomatch h⟩
  | @tok p r st st' t n ts e rem _ hstep _ ih =>
    refine ⟨?_, ?_⟩
    · cases ts with
      | nil => trivial
      | cons b rest =>
        refine ⟨fun ⟨hnot, hin⟩ => ?_, ih.1⟩
        -- the text after a `not` starts with a character that is not a word character, an `in` token with one
        obtain ⟨c, cs, hd, hw⟩ := ih.2 _ _ rfl hin
        obtain ⟨c0, cs0, rfl, _, rfl⟩ := mId_spec (lexStep_kw hstep (.inr hnot))
        rw [Nat.add_comm, List.drop_succ_cons] at hd
        have := drop_takeWhile_head cs0 c cs hd
        rw [hw] at this
        cases this
    · intro t' ts' ht hin
      cases ht
      obtain ⟨c0, cs0, hs, hst, _⟩ := mId_spec (lexStep_kw hstep (.inl hin))
      exact ⟨c0, cs0, hs, isWord_of_isIdStart hst⟩

theorem lex_noAdj (s : Str) : NoAdj (lex s).toks := (lex_run s).1.noAdj.1

/-- `no_internal_error`: for every string the model outcome is accept or a located error -/
theorem parse_error_located {s : Str} {names : List (Str × Nat)} {e : Err}
    (h : parseWith names s = .error e) : e.isLocated = true :=
  parseToks_located (lex_noAdj s) h

end MesonModel.Lang
