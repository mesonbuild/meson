/-
`parser_error_located`, the parser's share: every position the parser can put into a `ParseException` /
`BlockParseException`, and the position of every node it returns, is the start position of a token of the
stream, the end position of one (the `eof` token is placed there), the lexer's error position, or `0:0`
(the dummy token before the first `getsym`). `V` is that set, as a parameter (`ErrPos.lean` takes it to be the
positions inside the text). The walk through the productions is that of `Walk.lean`, at the state invariant
`SOk V`.
-/
import MesonModel.Lang.Walk

namespace MesonModel.Lang

section
variable (V : Nat × Nat → Prop)

def TokE (t : Token) : Prop := V (t.lineno, t.colno + t.spanEnd - t.spanStart)

def SOk (st : PState) : Prop :=
  (TokS V st.cur ∧ TokE V st.cur) ∧ TokS V st.prev ∧ (∀ t ∈ st.rest, TokS V t ∧ TokE V t) ∧
    (∀ p, st.lexErr = some p → V p)

def Val {α} (f : P α) (Q : α → Prop) : Prop :=
  ∀ st, SOk V st → (∀ e, f st = .error e → ErrOk V e) ∧ ∀ a st', f st = .ok (a, st') → SOk V st' ∧ Q a

variable {V}

theorem val_iff_triple {α} {f : P α} {Q : α → Prop} : Val V f Q ↔ Triple V (SOk V) f Q := Iff.rfl

/-- the `eof` token sits where the last token ended -/
theorem eofFrom_ok {l : Token} (h : TokE V l) : TokS V (eofFrom l) ∧ TokE V (eofFrom l) :=
  ⟨h, h⟩

theorem SOk.walkable : Walkable V (SOk V) where
  tokCur _ hs := hs.1.1
  tokPrev _ hs := hs.2.1
  ws _ _ hs := hs
  lossy _ _ hs := hs
  getsym := by
    intro st ⟨hc, hp, hr, he⟩
    refine ⟨fun e h => ?_, fun u st' h => ?_⟩
    · obtain ⟨l, c, hl, rfl⟩ := advance_err (getsym_err h)
      exact he _ hl
    · obtain ⟨hadv, hprev, hf⟩ := getsym_ok h
      suffices (TokS V st'.cur ∧ TokE V st'.cur) ∧ ∀ t ∈ st'.rest, TokS V t ∧ TokE V t from
        ⟨⟨this.1, hprev ▸ hc.1, this.2, hf.lexErr ▸ he⟩, trivial⟩
      obtain ⟨tr, -, ⟨hrest, -⟩ | ⟨hrest, hnil, -, -, l, hl, hcur⟩⟩ := advance_ok hadv
      · have hsub : ∀ t ∈ st'.cur :: st'.rest, t ∈ st.rest := fun t ht => hrest ▸ List.mem_append_right _ ht
        exact ⟨hr _ (hsub _ List.mem_cons_self), fun t ht => hr t (hsub t (List.mem_cons_of_mem _ ht))⟩
      · rw [hcur, hnil]
        refine ⟨eofFrom_ok ?_, fun _ h => nomatch h⟩
        rcases List.mem_cons.mp hl with rfl | hl
        · exact hc.2
        · exact (hr _ (hrest ▸ hl)).2

theorem SOk.inTernary {st : PState} (b : Bool) (hs : SOk V st) : SOk V { st with inTernary := b } := hs

theorem Val.bind {α β} {m : P α} {f : α → P β} {Q1 : α → Prop} {Q : β → Prop}
    (hm : Val V m Q1) (hf : ∀ a, Q1 a → Val V (f a) Q) : Val V (m >>= f) Q :=
  Triple.bind hm hf

theorem Val.pure {α} {a : α} {Q : α → Prop} (h : Q a) : Val V (Pure.pure a : P α) Q :=
  Triple.pure h

theorem Val.weaken {α} {f : P α} {Q Q' : α → Prop} (h : Val V f Q) (hq : ∀ a, Q a → Q' a) : Val V f Q' :=
  Triple.mono h hq

theorem Val.create {n : Node} (h : NodeOk V n) : Val V (create n) (NodeOk V) :=
  SOk.walkable.create h

theorem Val.accept (t : Tid) : Val V (accept t) (fun _ => True) :=
  SOk.walkable.accept t

/-! `Node.base` on constructors (never unfold it on variables) -/
@[simp] theorem base_boolean (b v) : (Node.boolean b v).base = b := rfl
@[simp] theorem base_id (b v) : (Node.id b v).base = b := rfl
@[simp] theorem base_number (b r v) : (Node.number b r v).base = b := rfl
@[simp] theorem base_string (b r v m f) : (Node.string b r v m f).base = b := rfl
@[simp] theorem base_continue (b) : (Node.continue_ b).base = b := rfl
@[simp] theorem base_break (b) : (Node.break_ b).base = b := rfl
@[simp] theorem base_symbol (b v) : (Node.symbol b v).base = b := rfl
@[simp] theorem base_empty (b) : (Node.empty b).base = b := rfl
@[simp] theorem base_args (b p c cl k v o) : (Node.args b p c cl k v o).base = b := rfl
@[simp] theorem base_array (b l a r) : (Node.array b l a r).base = b := rfl
@[simp] theorem base_dict (b l a r) : (Node.dict b l a r).base = b := rfl
@[simp] theorem base_binop (k b l o r) : (Node.binop k b l o r).base = b := rfl
@[simp] theorem base_unop (k b o v) : (Node.unop k b o v).base = b := rfl
@[simp] theorem base_codeblock (b p ls) : (Node.codeblock b p ls).base = b := rfl
@[simp] theorem base_index (b o l i r) : (Node.index b o l i r).base = b := rfl
@[simp] theorem base_method (b o d n l a r) : (Node.method b o d n l a r).base = b := rfl
@[simp] theorem base_function (b n l a r) : (Node.function b n l a r).base = b := rfl
@[simp] theorem base_assign (p b n o v) : (Node.assign p b n o v).base = b := rfl
@[simp] theorem base_foreach (b k vs cs c i bl e) : (Node.foreach b k vs cs c i bl e).base = b := rfl
@[simp] theorem base_ifnode (b k c bl) : (Node.ifnode b k c bl).base = b := rfl
@[simp] theorem base_elsenode (b k bl) : (Node.elsenode b k bl).base = b := rfl
@[simp] theorem base_ifclause (b is e en) : (Node.ifclause b is e en).base = b := rfl
@[simp] theorem base_ternary (b c q t cl f) : (Node.ternary b c q t cl f).base = b := rfl
@[simp] theorem base_paren (b l i r) : (Node.paren b l i r).base = b := rfl

/-- every error `Parser(...).parse()` raises is positioned in `V`, given that the lexer's tokens and its error are -/
theorem parseToks_errOk {names : List (Str × Nat)} {lr : LexResult} {fuel : Nat} {e : Err}
    (h0 : V (0, 0)) (ht : ∀ t ∈ lr.toks, TokS V t ∧ TokE V t) (he : ∀ p, lr.err = some p → V p)
    (h : parseToks names lr fuel = .error e) : ErrOk V e := by
  have hw := SOk.walkable (V := V)
  have hs0 : SOk V (parseStart names lr) := ⟨⟨h0, h0⟩, h0, ht, he⟩
  exact ((Triple.bind hw.getsym fun _ _ => .bind (codeblock_walk hw (fun _ => SOk.inTernary) fuel) fun _ _ =>
    hw.expect .eof) _ hs0).1 e (parseToks_err h)

attribute [irreducible] Val

end

end MesonModel.Lang
