/-
Line/column arithmetic on texts: `countNl` (model) over `++`, `::` and `takeWhile`; `lineOff s l` is the offset at
which line `l` (1-based) starts; `lastLineLen p` (model) is the distance from the end of a prefix `p` back to its last
newline; `Addr s l c off` says that line `l`, column `c` is where offset `off` of `s` lies.
-/
import MesonModel.Lang.Lexer

namespace MesonModel.Lang

theorem countNl_append (a b : Str) : countNl (a ++ b) = countNl a + countNl b := by
  simp [countNl, List.filter_append]

theorem countNl_cons (c : Char) (s : Str) : countNl (c :: s) = (if c == '\n' then 1 else 0) + countNl s := by
  simp only [countNl, List.filter_cons]
  split
  · simp
    omega
  · simp

theorem countNl_cons_ne {c : Char} (h : c ≠ '\n') (s : Str) : countNl (c :: s) = countNl s := by
  rw [countNl_cons, if_neg (by simpa using h), Nat.zero_add]

theorem ne_nl {p : Char → Bool} (hp : p '\n' = false) {c : Char} (hc : p c = true) : c ≠ '\n' :=
  ne_of_apply_ne p (by simp [hp, hc])

theorem countNl_takeWhile {p : Char → Bool} (l : Str) (hp : p '\n' = false) : countNl (l.takeWhile p) = 0 := by
  induction l with
  | nil => rfl
  | cons a as ih =>
    rw [List.takeWhile_cons]
    split
    · rw [countNl_cons_ne (ne_nl hp ‹_›), ih]
    · rfl

/-- offset of the first character of line `l` (lines are 1-based; `0` is treated like `1`) -/
def lineOff : Str → Nat → Nat
  | _, 0 => 0
  | _, 1 => 0
  | [], _ + 2 => 0
  | c :: cs, l + 2 => 1 + (if c == '\n' then lineOff cs (l + 1) else lineOff cs (l + 2))

/-- the line exists and its offset plus the column does not pass the end of the text -/
def InText (s : Str) (p : Nat × Nat) : Prop := p.1 ≤ countNl s + 1 ∧ lineOff s p.1 + p.2 ≤ s.length

theorem countNl_eq_zero_iff {b : Str} : countNl b = 0 ↔ ∀ c ∈ b.reverse, notNl c = true := by
  unfold countNl
  rw [List.length_eq_zero_iff, List.filter_eq_nil_iff]
  simp [notNl]

theorem lastLineLen_le (s : Str) : lastLineLen s ≤ s.length := by
  unfold lastLineLen
  rw [← List.length_reverse (as := s)]
  exact (List.takeWhile_sublist _).length_le

theorem lastLineLen_append_nonl (a b : Str) (h : countNl b = 0) : lastLineLen (a ++ b) = lastLineLen a + b.length := by
  unfold lastLineLen
  rw [List.reverse_append, List.takeWhile_append_of_pos (countNl_eq_zero_iff.mp h), List.length_append,
    List.length_reverse, Nat.add_comm]

theorem lastLineLen_append_nl (a b : Str) (h : 0 < countNl b) : lastLineLen (a ++ b) = lastLineLen b := by
  unfold lastLineLen
  rw [List.reverse_append, List.takeWhile_append, if_neg]
  intro hlen
  -- a run of `notNl` as long as `b` would be all of `b`
  have heq := (List.takeWhile_prefix (p := notNl) (l := b.reverse)).eq_of_length hlen
  have : countNl b = 0 := countNl_eq_zero_iff.mpr fun c hc =>
    List.all_eq_true.mp List.all_takeWhile c (heq ▸ hc)
  omega

theorem lastLineLen_nonl {p : Str} (h : countNl p = 0) : lastLineLen p = p.length :=
  (lastLineLen_append_nonl [] p h).trans (Nat.zero_add _)

/-- a character in front adds to the last line only if the text is that line -/
theorem lastLineLen_cons (c : Char) (p : Str) :
    lastLineLen (c :: p) = if countNl (c :: p) = 0 then p.length + 1 else lastLineLen p := by
  split
  · exact lastLineLen_nonl ‹_›
  · rename_i h
    by_cases hp : countNl p = 0
    · -- then `c` is the newline
      rw [countNl_cons, hp] at h
      obtain rfl : c = '\n' := by simpa using h
      rw [lastLineLen_nonl hp]
      exact (lastLineLen_append_nonl ['\n'] p hp).trans (Nat.zero_add _)
    · exact lastLineLen_append_nl [c] p (by omega)

/-- the line table and the column of the end of a prefix add up to its length -/
theorem lineOff_prefix (p q : Str) : lineOff (p ++ q) (countNl p + 1) + lastLineLen p = p.length := by
  induction p with
  | nil => exact congrArg (· + 0) (lineOff.eq_2 q)
  | cons c p ih =>
    rw [lastLineLen_cons]
    split
    · rename_i h0
      rw [h0, lineOff.eq_2, List.length_cons]
      exact Nat.zero_add _
    · rename_i h0
      rw [countNl_cons] at h0 ⊢
      rw [List.length_cons, List.cons_append]
      by_cases hc : (c == '\n') = true
      · rw [if_pos hc, Nat.add_comm 1, lineOff.eq_4, if_pos hc]
        omega
      · rw [if_neg hc, Nat.zero_add] at h0 ⊢
        obtain ⟨k, hk⟩ := Nat.exists_eq_succ_of_ne_zero h0
        rw [hk] at ih ⊢
        rw [lineOff.eq_4, if_neg hc]
        -- `k.succ + 1` spelt as in the goal, for `omega`
        have ih' : lineOff (p ++ q) (k + 2) + lastLineLen p = p.length := ih
        omega

/-- `(l, c)` is the address the lexer's bookkeeping must give offset `off` of `s` (column: distance to the previous
newline, or to the start of the text on line 1) -/
def Addr (s : Str) (l c off : Nat) : Prop :=
  off ≤ s.length ∧ l = countNl (s.take off) + 1 ∧ c = lastLineLen (s.take off)

instance (s : Str) (l c off : Nat) : Decidable (Addr s l c off) := by
  unfold Addr
  infer_instance

/-- an address denotes its offset in the rewriter's line table (`lineOff`) -/
theorem Addr.offset {s : Str} {l c off : Nat} (h : Addr s l c off) : lineOff s l + c = off := by
  obtain ⟨h1, rfl, rfl⟩ := h
  have := lineOff_prefix (s.take off) (s.drop off)
  rwa [List.take_append_drop, List.length_take_of_le h1] at this

/-- the extent `e` may pass the end of the line -/
theorem Addr.inText_add {s : Str} {l c off : Nat} (h : Addr s l c off) {e : Nat} (he : off + e ≤ s.length) :
    InText s (l, c + e) := by
  refine ⟨?_, ?_⟩
  · show l ≤ _
    have : countNl s = countNl (s.take off) + countNl (s.drop off) := by
      rw [← countNl_append, List.take_append_drop]
    rw [h.2.1]
    omega
  · show lineOff s l + (c + e) ≤ _
    rw [← Nat.add_assoc, h.offset]
    exact he

theorem Addr.inText {s : Str} {l c off : Nat} (h : Addr s l c off) : InText s (l, c) :=
  h.inText_add (e := 0) h.1

theorem Addr.unique {s : Str} {l c l' c' off : Nat} (h : Addr s l c off) (h' : Addr s l' c' off) :
    l = l' ∧ c = c' := ⟨h.2.1.trans h'.2.1.symm, h.2.2.trans h'.2.2.symm⟩

theorem addr_of_prefix (pre q : Str) : Addr (pre ++ q) (countNl pre + 1) (lastLineLen pre) pre.length := by
  refine ⟨by simp, ?_, ?_⟩ <;> simp [List.take_left']

theorem addr_succ {s pre v T : Str} {l c : Nat} (hs : s = pre ++ (v ++ T)) (hv : v.length = 1)
    (hn : countNl v = 0) (h : Addr s l c pre.length) : Addr s l (c + 1) (pre.length + 1) := by
  subst hs
  obtain ⟨rfl, rfl⟩ := h.unique (addr_of_prefix pre (v ++ T))
  have := addr_of_prefix (pre ++ v) T
  rwa [countNl_append, hn, lastLineLen_append_nonl _ _ hn, List.length_append, hv, List.append_assoc] at this

end MesonModel.Lang
