/-
One step of the lexer's loop. What it yields is stated once (`lexStep_tok`, `lexStep_err_pos`): the position fields
of the token, its text, the line bookkeeping, and id / value as the matching entry of `token_specification` or the
single-character table gives them.
-/
import MesonModel.Lang.LexMatch

namespace MesonModel.Lang

theorem firstMatch_spec {ts : List Tid} {s : Str} {t : Tid} {n : Nat}
    (h : firstMatch ts s = some (t, n)) : matchSpec t s = some n := by
  induction ts with
  | nil => simp [firstMatch] at h
  | cons a as ih =>
    unfold firstMatch at h
    split at h
    · simp at h
      obtain ⟨rfl, rfl⟩ := h
      assumption
    · exact ih h

theorem lookupKeyword_mem {v : Str} {k : Tid} (h : lookupKeyword v = some k) : (v, k) ∈ keywordTable := by
  obtain ⟨⟨v', k'⟩, hf, rfl⟩ := Option.map_eq_some_iff.mp h
  obtain rfl : v' = v := by simpa using List.find?_some hf
  exact List.mem_of_find?_eq_some hf

theorem lookupSingle_mem {c : Char} {k : Tid} (h : lookupSingle c = some k) : (c.toNat, k) ∈ singleCharTable := by
  obtain ⟨⟨n, k'⟩, hf, rfl⟩ := Option.map_eq_some_iff.mp h
  obtain rfl : n = c.toNat := by simpa using List.find?_some hf
  exact List.mem_of_find?_eq_some hf

/-- the position fields of a token of `n` characters yielded in state `st` -/
def TokPos (t : Token) (n : Nat) (st : LexSt) : Prop :=
  t.lineno = st.lineno ∧ t.colno = st.loc - st.lineStart ∧ t.spanStart = st.loc ∧ t.spanEnd = st.loc + n

/-- id and value of the token the loop body builds for the text `T` matched by entry `tid` of `token_specification` -/
def specTok (tid : Tid) (T : Str) : Tid × Str :=
  match tid with
  | .id => ((lookupKeyword T).getD .id, T)
  | .string => (.string, sliceMid 1 1 T)
  | .fstring => (.fstring, sliceMid 2 1 T)
  | .multilineString => (.multilineString, sliceMid 3 3 T)
  | .multilineFstring => (.multilineFstring, sliceMid 4 3 T)
  | .eolCont => (.whitespace, T)
  | t => (t, T)

/-- the newlines the loop body counts in the text `T` matched by entry `tid`, and the number of characters it
takes to follow the last of them -/
def specLines (tid : Tid) (T : Str) : Nat × Nat :=
  match tid with
  | .string | .fstring => (countNl T, lastLineLen T)
  | .multilineString => (countNl (sliceMid 3 3 T), lastLineLen (sliceMid 3 3 T) + 3)
  | .multilineFstring => (countNl (sliceMid 4 3 T), lastLineLen (sliceMid 4 3 T) + 3)
  | .eolCont => (1, 0)
  | _ => (0, 0)

/-- the bookkeeping after `n` characters with `nl` newlines, `back` characters after the last -/
def Moved (st st' : LexSt) (n nl back : Nat) : Prop :=
  st'.loc = st.loc + n ∧ st'.lineno = st.lineno + nl ∧
    st'.lineStart = if 0 < nl then st.loc + n - back else st.lineStart

theorem moved_if (st : LexSt) (n nl back : Nat) :
    Moved st (if nl > 0 then { st with loc := st.loc + n, lineno := st.lineno + nl, lineStart := st.loc + n - back }
      else { st with loc := st.loc + n }) n nl back := by
  unfold Moved
  split
  · exact ⟨rfl, rfl, rfl⟩
  · rename_i h
    have : nl = 0 := by omega
    subst this
    exact ⟨rfl, rfl, rfl⟩

/-- id, value and `(nl, back)` are those of the first matching entry of `token_specification`, or else those of the
single-character table (where a newline inside brackets becomes `whitespace`) -/
theorem lexStep_tok {s : Str} {st : LexSt} {t : Token} {st' : LexSt} {n : Nat}
    (h : lexStep s st = .tok t st' n) :
    TokPos t n st ∧ t.text = s.take n ∧ ∃ nl back, Moved st st' n nl back ∧
      ((∃ tid, firstMatch tokenSpecTids s = some (tid, n) ∧ (t.tid, t.value) = specTok tid (s.take n) ∧
          (nl, back) = specLines tid (s.take n)) ∨
       (∃ c cs tid, s = c :: cs ∧ n = 1 ∧ lookupSingle c = some tid ∧ t.value = [c] ∧
          (t.tid = tid ∨ tid = .eol ∧ t.tid = .whitespace) ∧ (nl, back) = (if tid = .eol then 1 else 0, 0))) := by
  unfold lexStep at h
  dsimp only at h
  split at h
  · rename_i tid m hm
    -- the arms of `match tid`: `id` (keyword or not), the four string kinds, `eol_cont`, any other entry
    split at h
    · split at h
      all_goals
        rename_i hk
        cases h
        exact ⟨⟨rfl, rfl, rfl, rfl⟩, rfl, 0, 0, ⟨rfl, rfl, rfl⟩, .inl ⟨_, hm, by simp only [specTok, hk]; rfl, rfl⟩⟩
    · cases h
      exact ⟨⟨rfl, rfl, rfl, rfl⟩, rfl, _, _, moved_if .., .inl ⟨_, hm, rfl, rfl⟩⟩
    · cases h
      exact ⟨⟨rfl, rfl, rfl, rfl⟩, rfl, _, _, moved_if .., .inl ⟨_, hm, rfl, rfl⟩⟩
    · cases h
      refine ⟨⟨rfl, rfl, rfl, rfl⟩, rfl, _, _, ?_, .inl ⟨_, hm, rfl, rfl⟩⟩
      simp only [Nat.sub_sub]
      exact moved_if ..
    · cases h
      refine ⟨⟨rfl, rfl, rfl, rfl⟩, rfl, _, _, ?_, .inl ⟨_, hm, rfl, rfl⟩⟩
      simp only [Nat.sub_sub]
      exact moved_if ..
    · cases h
      exact ⟨⟨rfl, rfl, rfl, rfl⟩, rfl, 1, 0, ⟨rfl, rfl, rfl⟩, .inl ⟨_, hm, rfl, rfl⟩⟩
    · cases h
      refine ⟨⟨rfl, rfl, rfl, rfl⟩, rfl, 0, 0, ⟨rfl, rfl, rfl⟩, .inl ⟨_, hm, ?_, ?_⟩⟩
      -- `tid` is none of the ids that `specTok` and `specLines` treat apart
      · unfold specTok
        split
        iterate 6 exact absurd rfl ‹_›
        rfl
      · unfold specLines
        split
        iterate 5 exact absurd rfl ‹_›
        rfl
  · split at h
    · cases h
    · rename_i c cs
      split at h
      · cases h
      · rename_i tid hl
        -- the arms of `match tid`: six brackets, `dblquote` (an error), `eol`, any other character
        split at h
        all_goals cases h
        iterate 6
          exact ⟨⟨rfl, rfl, rfl, rfl⟩, rfl, 0, 0, ⟨rfl, rfl, rfl⟩, .inr ⟨_, _, _, rfl, rfl, hl, rfl, .inl rfl, rfl⟩⟩
        · refine ⟨⟨rfl, rfl, rfl, rfl⟩, rfl, 1, 0, ⟨rfl, rfl, rfl⟩, .inr ⟨_, _, _, rfl, rfl, hl, rfl, ?_, rfl⟩⟩
          dsimp only
          split
          · exact .inr ⟨rfl, rfl⟩
          · exact .inl rfl
        · rename_i hne
          exact ⟨⟨rfl, rfl, rfl, rfl⟩, rfl, 0, 0, ⟨rfl, rfl, rfl⟩,
            .inr ⟨_, _, _, rfl, rfl, hl, rfl, .inl rfl, by rw [if_neg (fun e => hne e)]⟩⟩

theorem lexStep_err_pos {s : Str} {st : LexSt} {l c : Nat} (h : lexStep s st = .err l c) :
    l = st.lineno ∧ c = st.loc - st.lineStart := by
  unfold lexStep at h
  dsimp only at h
  repeat' split at h
  all_goals cases h
  all_goals exact ⟨rfl, rfl⟩

theorem lexStep_len {s : Str} {st : LexSt} {t : Token} {st' : LexSt} {n : Nat}
    (h : lexStep s st = .tok t st' n) : 1 ≤ n ∧ n ≤ s.length := by
  obtain ⟨_, _, _, _, _, ⟨tid, hm, _⟩ | ⟨_, _, _, rfl, rfl, _⟩⟩ := lexStep_tok h
  · exact matchSpec_len (firstMatch_spec hm)
  · exact ⟨Nat.le_refl 1, Nat.le_add_left 1 _⟩

end MesonModel.Lang
