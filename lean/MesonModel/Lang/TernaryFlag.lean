/-
The `in_ternary` flag: every production leaves it as it found it (`e1` sets it while it parses the two
branches of a ternary and resets it), and while it is set `e1` never returns a ternary node.
-/
import MesonModel.Lang.ShapeLemmas
import MesonModel.Lang.Walk

namespace MesonModel.Lang

def PT {α} (f : P α) : Prop := ∀ st a st', f st = .ok (a, st') → st'.inTernary = st.inTernary

theorem PT.elim {α} {f : P α} (h : PT f) : ∀ st a st', f st = .ok (a, st') → st'.inTernary = st.inTernary := h

theorem PT.of_triple {α} {f : P α} {Q : α → Prop}
    (h : ∀ b, Triple (fun _ => True) (fun st => st.inTernary = b) f Q) : PT f :=
  fun st a st' hf => ((h st.inTernary st rfl).2 a st' hf).1

theorem PT.triple {α} {f : P α} (h : PT f) (b : Bool) :
    Triple (fun _ => True) (fun st => st.inTernary = b) f fun _ => True :=
  fun st hi => ⟨fun e _ => errOk_univ e, fun a st' hf => ⟨(h st a st' hf).trans hi, trivial⟩⟩

/-- below `e1` nothing writes the flag -/
theorem inTernary_walkable (b : Bool) : Walkable (fun _ => True) (fun st => st.inTernary = b) where
  tokCur _ _ := trivial
  tokPrev _ _ := trivial
  ws _ _ hi := hi
  lossy _ _ hi := hi
  getsym _ hi := ⟨fun e _ => errOk_univ e, fun _ _ h => ⟨(getsym_ok h).2.2.tern.trans hi, trivial⟩⟩

theorem PT.bind {α β} {m : P α} {f : α → P β} (hm : PT m) (hf : ∀ a, PT (f a)) : PT (m >>= f) :=
  .of_triple fun b => .bind (hm.triple b) fun a _ => (hf a).triple b

theorem PT.pure {α} (a : α) : PT (Pure.pure a : P α) :=
  .of_triple (Q := fun _ => True) fun _ => .pure trivial

theorem PT.raiseAt {α} (n : Node) : PT (raiseAt n : P α) :=
  .of_triple (Q := fun _ => True) fun _ => .raiseAt trivial

theorem PT.prim {α} {f : P α} (h : ∀ st a st', f st = .ok (a, st') → st'.inTernary = st.inTernary) : PT f := h

theorem PT.create (n : Node) : PT (create n) :=
  .of_triple fun b => (inTernary_walkable b).create trivial

theorem PT.flushWs (n : Node) : PT (flushWs n) := PT.create n

theorem PT.accept (t : Tid) : PT (accept t) :=
  .of_triple fun b => (inTernary_walkable b).accept t

theorem e2_pt {stmt : P Node} (hs : PT stmt) (k : Nat) : PT (e2 stmt k) :=
  .of_triple fun b => e2_walk (inTernary_walkable b) (hs.triple b) k

/-- the flag as an assertion of the logic -/
theorem PT.run {α} {f : P α} (h : PT f) (b : Bool) :
    Run (fun st => st.inTernary = b) f fun _ st => st.inTernary = b :=
  .runs fun st a st' hf hb => (h st a st' hf).trans hb

theorem PT.of_run {α} {f : P α} (h : ∀ b, Run (fun st => st.inTernary = b) f fun _ st => st.inTernary = b) : PT f :=
  fun st _ _ hf => (h st.inTernary).run hf rfl

/-- an action that leaves the flag alone -/
theorem PT.any {α β} {m : P α} {f : α → P β} {b : Bool} {C : β → PState → Prop} (hm : PT m)
    (h : ∀ a, Run (fun st => st.inTernary = b) (f a) C) : Run (fun st => st.inTernary = b) (m >>= f) C :=
  .bind (hm.run b) h

/-- the same for a production of which a fact about its result is needed -/
theorem PT.ret {β} {m : P Node} {p : Node → Prop} {f : Node → P β} {b : Bool} {C : β → PState → Prop} (hm : PT m)
    (hp : Ret m p) (h : ∀ a, p a → Run (fun st => st.inTernary = b) (f a) C) :
    Run (fun st => st.inTernary = b) (m >>= f) C :=
  .bind (B := fun a st => p a ∧ st.inTernary = b)
    (.runs fun st a st' hf hb => ⟨hp.run hf trivial, (hm st a st' hf).trans hb⟩)
    fun a => .assume (fun _ h => h.1) fun ha => (h a ha).pre fun _ h => h.2

theorem PT.expect (t : Tid) : PT (expect t) :=
  .of_triple fun b => (inTernary_walkable b).expect t

theorem logicLoop_notTernary {t : Tid} {kind : BinKind} {operand : P Node} (j : Nat) :
    ∀ l, l.isTernary = false → Ret (logicLoop t kind operand j l) (·.isTernary = false) := by
  induction j with
  | zero => exact fun _ _ => .fail
  | succ j ih =>
    intro l hl
    unfold logicLoop
    exact .any fun _ => .ite
      (.any fun _ => .any fun _ => .ite .fail <| .any fun r => .ret (.ret_create fun _ => rfl) ih)
      (.ret_pure hl)

theorem e4_notTernary {stmt : P Node} {k : Nat} : Ret (e4 stmt k) (·.isTernary = false) :=
  (e4_ret stmt k).post fun n _ h => by
    cases n with
    | ternary _ _ _ _ _ _ => simp [Node.isE4, Node.isE5, Node.isE7, Node.isArith, Node.isUnary, Node.isPostfix] at h
    | _ => rfl

theorem e3_notTernary {stmt : P Node} {k : Nat} : Ret (e3 stmt k) (·.isTernary = false) := by
  unfold e3
  rw [e3Loop_eq]
  exact .ret e4_notTernary (logicLoop_notTernary k)

theorem e2_notTernary {stmt : P Node} {k : Nat} : Ret (e2 stmt k) (·.isTernary = false) := by
  unfold e2
  rw [e2Loop_eq]
  exact .ret e3_notTernary (logicLoop_notTernary k)

/-- `e1` leaves the flag as it found it, and while the flag is set it returns no ternary node: `e2` returns none, an
assignment is none, and the branch of the `?` raises unless the flag is off; that branch ends by switching the flag
off again, whatever its two sub-statements do to it -/
theorem e1_flag {stmt : P Node} (hs : PT stmt) (k : Nat) (b : Bool) :
    Run (fun st => st.inTernary = b) (e1 stmt k) fun n st => st.inTernary = b ∧ (b = true → n.isTernary = false) := by
  unfold e1
  have asg : ∀ plus bb left o, Run (fun st => st.inTernary = b) (stmt >>= fun v =>
      if (!left.isId) = true then raiseAt left else create (.assign plus bb left o v))
      fun n st => st.inTernary = b ∧ (b = true → n.isTernary = false) :=
    fun _ _ _ _ => PT.any hs fun v => .ite .fail (.total _ _ (fun _ => rfl) fun _ h => ⟨h, fun _ => rfl⟩)
  refine PT.ret (e2_pt hs k) e2_notTernary fun left hl => ?_
  refine PT.any (PT.accept _) fun _ => .ite
    (.peek (fun _ => rfl) fun _ => PT.any (PT.create _) fun o => asg _ _ _ _) ?_
  refine PT.any (PT.accept _) fun _ => .ite
    (.peek (fun _ => rfl) fun _ => PT.any (PT.create _) fun o => asg _ _ _ _) ?_
  refine PT.any (PT.accept _) fun _ => .ite
    (.read (fun _ => rfl) fun s => .iteH (fun _ => .fail) fun hn => ?_)
    (.pure fun _ h => ⟨h, fun _ => hl⟩)
  refine .assume (φ := b = false) (fun _ h => h.1.symm.trans (h.2 ▸ Bool.eq_false_iff.mpr hn)) fun hb => ?_
  subst hb
  -- nothing is needed of what lies between the test and the last assignment
  refine .pre (.any fun _ => .any fun q => .any fun _ => .any fun t => .any fun _ => .any fun _ => .any fun c =>
    .any fun f => ?_) fun _ _ => trivial
  exact .bind
    (.total (B := fun _ st => st.inTernary = false) (fun _ => ()) _ (fun _ => rfl) fun _ _ => rfl) fun _ =>
    .total _ _ (fun _ => rfl) fun _ h => ⟨h, nofun⟩

theorem e1_pt {stmt : P Node} (hs : PT stmt) (k : Nat) : PT (e1 stmt k) :=
  .of_run fun b => (e1_flag hs k b).post fun _ _ h => h.1

theorem statement_pt (n : Nat) : PT (statement n) := by
  induction n with
  | zero => exact fun _ _ _ h => nomatch h
  | succ m ih => exact e1_pt ih m

/-- `ternary_not_nested` (direct form) -/
theorem e1_no_ternary_in_ternary {stmt : P Node} (hs : PT stmt) (k : Nat) :
    Run (fun st => st.inTernary = true) (e1 stmt k) fun n _ => n.isTernary = false :=
  (e1_flag hs k true).post fun _ _ h => h.2 rfl

/-- `ternary_not_nested`: while `in_ternary` is set — i.e. anywhere inside the two branches of a ternary,
at any nesting depth, parentheses included — `statement()` never returns a ternary node -/
theorem statement_no_ternary_in_ternary (n : Nat) {st st' : PState} {nd : Node}
    (h : statement n st = .ok (nd, st')) (ht : st.inTernary = true) : nd.isTernary = false := by
  cases n with
  | zero => exact nomatch h
  | succ m => exact (e1_no_ternary_in_ternary (statement_pt m) m).run h ht

attribute [irreducible] PT

end MesonModel.Lang
