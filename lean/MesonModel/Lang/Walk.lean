/-
State invariants of the parser. `Triple V I f Q` is the reading of `Hoare` (`Run.lean`) with one invariant: started
in a state that satisfies `I`, `f` raises only errors positioned in `V` and returns only results that satisfy `Q`,
in a state that satisfies `I` again. One walk through the productions of `mparser.py` serves every `I` of which
`Walkable V I` holds. The position invariant (`PosInv`), the stream invariant (`StreamInv`) and the preservation of
the `in_ternary` flag (`TernaryFlag`) are instances; the last two take `V` to be everything.
-/
import MesonModel.Lang.Run
import MesonModel.Lang.EmitLemmas
import MesonModel.Lang.OpLoops

namespace MesonModel.Lang

section
variable (V : Nat × Nat → Prop)

def TokS (t : Token) : Prop := V (t.lineno, t.colno)
def NodeOk (n : Node) : Prop := V (n.base.lineno, n.base.colno)

def ErrOk : Err → Prop
  | .parse l c => V (l, c)
  | .block l c => V (l, c)
  | _ => True

def Triple (I : PState → Prop) {α} (f : P α) (Q : α → Prop) : Prop :=
  Hoare (ErrOk V) I f fun a st' => I st' ∧ Q a

end

theorem errOk_univ (e : Err) : ErrOk (fun _ => True) e := by
  cases e <;> trivial

variable {V : Nat × Nat → Prop} {I : PState → Prop}

theorem NodeOk.addWs {n : Node} (h : NodeOk V n) (ws : List Token) : NodeOk V (n.addWs ws) := by
  simp only [NodeOk, base_addWs]
  exact h

theorem NodeOk.blockAppendLine {b : Node} (h : NodeOk V b) (l : Node) : NodeOk V (blockAppendLine b l) := by
  simp only [NodeOk, base_blockAppendLine]
  exact h

namespace Triple

theorem bind {α β} {m : P α} {f : α → P β} {Q1 : α → Prop} {Q : β → Prop}
    (hm : Triple V I m Q1) (hf : ∀ a, Q1 a → Triple V I (f a) Q) : Triple V I (m >>= f) Q :=
  Hoare.bind hm fun a => .assume (fun _ h => h.2) fun q => (hf a q).pre fun _ h => h.1

theorem mono {α} {f : P α} {Q Q' : α → Prop} (h : Triple V I f Q) (hq : ∀ a, Q a → Q' a) : Triple V I f Q' :=
  Hoare.post h fun a _ hb => ⟨hb.1, hq a hb.2⟩

theorem total {α} {f : P α} {Q : α → Prop} (r : PState → α) (g : PState → PState)
    (hf : ∀ st, f st = .ok (r st, g st)) (h : ∀ st, I st → I (g st) ∧ Q (r st)) : Triple V I f Q :=
  Hoare.total r g hf h

theorem pure {α} {a : α} {Q : α → Prop} (h : Q a) : Triple V I (Pure.pure a : P α) Q :=
  total (fun _ => a) id (fun _ => rfl) fun _ hs => ⟨hs, h⟩

theorem get : Triple V I P.get I :=
  total id id (fun _ => rfl) fun _ hs => ⟨hs, hs⟩

theorem modify {g : PState → PState} (hg : ∀ st, I st → I (g st)) : Triple V I (P.modify g) fun _ => True :=
  total (fun _ => ()) g (fun _ => rfl) fun st hs => ⟨hg st hs, trivial⟩

theorem fail {α} {e : Err} {Q : α → Prop} (he : ErrOk V e) : Triple V I (P.fail e : P α) Q :=
  Hoare.fail he

theorem raiseAt {α} {n : Node} {Q : α → Prop} (h : NodeOk V n) : Triple V I (raiseAt n : P α) Q :=
  fail h

theorem ite {α} {c : Prop} [Decidable c] {t e : P α} {Q : α → Prop}
    (ht : Triple V I t Q) (he : Triple V I e Q) : Triple V I (if c then t else e) Q :=
  Hoare.ite ht he

end Triple

/-- `ws`, `lossy`: the invariant does not speak of the pending whitespace or the ghost counter -/
structure Walkable (V : Nat × Nat → Prop) (I : PState → Prop) : Prop where
  tokCur : ∀ st, I st → TokS V st.cur
  tokPrev : ∀ st, I st → TokS V st.prev
  getsym : Triple V I getsym fun _ => True
  ws : ∀ st ws, I st → I { st with ws := ws }
  lossy : ∀ st n, I st → I { st with lossy := n }

namespace Walkable
variable (h : Walkable V I)
include h

theorem cur : Triple V I cur (TokS V) :=
  .total (·.cur) id (fun _ => rfl) fun st hs => ⟨hs, h.tokCur st hs⟩

theorem prev : Triple V I prev (TokS V) :=
  .total (·.prev) id (fun _ => rfl) fun st hs => ⟨hs, h.tokPrev st hs⟩

theorem emptyAtCur : Triple V I emptyAtCur (NodeOk V) :=
  .total (fun st => .empty (Base.at st.cur.lineno st.cur.colno)) id (fun _ => rfl)
    fun st hs => ⟨hs, h.tokCur st hs⟩

theorem create {n : Node} (hn : NodeOk V n) : Triple V I (create n) (NodeOk V) :=
  .total (fun st => n.addWs st.ws) (fun st => { st with ws := [] }) (fun _ => rfl)
    fun st hs => ⟨h.ws st [] hs, hn.addWs st.ws⟩

theorem createSymbol {t : Token} (ht : TokS V t) : Triple V I (createSymbol t) (NodeOk V) :=
  h.create ht

theorem flushWs {n : Node} (hn : NodeOk V n) : Triple V I (flushWs n) (NodeOk V) :=
  h.create hn

theorem noteOrder (a : Node) : Triple V I (noteOrder a) fun _ => True := by
  refine .modify fun st hs => ?_
  split
  · exact h.lossy st _ hs
  · exact hs

theorem guarded {α} (c : PState → Bool) (yes : PState → α) (no : α) :
    Triple V I (guarded c yes no) fun _ => True := by
  intro st hs
  refine ⟨fun e he => (h.getsym st hs).1 e (guarded_err he), fun a st' he => ⟨?_, trivial⟩⟩
  rcases guarded_ok he with ⟨-, -, rfl⟩ | ⟨-, -, hg⟩
  · exact hs
  · exact ((h.getsym st hs).2 _ _ hg).1

theorem accept (t : Tid) : Triple V I (accept t) fun _ => True :=
  h.guarded _ _ _

theorem acceptAny (ts : List Tid) : Triple V I (acceptAny ts) fun _ => True :=
  h.guarded _ _ _

/-- `if self.accept(t): … else: …` -/
theorem ifAccept {α} (t : Tid) {a b : P α} {Q : α → Prop} (ha : Triple V I a Q) (hb : Triple V I b Q) :
    Triple V I (Lang.accept t >>= fun c => if c = true then a else b) Q :=
  .bind (h.accept t) fun _ _ => .ite ha hb

theorem acceptOr (t : Tid) {mk : PState → Err} (hmk : ∀ st, I st → ErrOk V (mk st)) :
    Triple V I (acceptOr t mk) fun _ => True :=
  h.ifAccept t (.pure trivial) (.bind .get fun st hs => .fail (hmk st hs))

theorem expect (t : Tid) : Triple V I (expect t) fun _ => True :=
  h.acceptOr t h.tokCur

theorem blockExpect (t : Tid) : Triple V I (blockExpect t) fun _ => True :=
  h.acceptOr t h.tokCur

/-- `sym = self.create_node(SymbolNode, self.previous)` -/
theorem sym {α} {f : Node → P α} {Q : α → Prop} (hf : ∀ o, NodeOk V o → Triple V I (f o) Q) :
    Triple V I (Lang.prev >>= fun p => Lang.createSymbol p >>= f) Q :=
  .bind h.prev fun _ hp => .bind (h.createSymbol hp) hf

end Walkable

section
variable (h : Walkable V I)
include h

theorem e10_walk : Triple V I e10 (NodeOk V) := by
  unfold e10
  refine .bind h.cur fun t ht => ?_
  refine h.ifAccept _ (h.create ht) ?_
  refine h.ifAccept _ (h.create ht) ?_
  refine h.ifAccept _ (h.create ht) ?_
  refine h.ifAccept _ (h.create ht) ?_
  refine .bind (h.acceptAny _) fun o _ => ?_
  cases o with
  | none => exact h.emptyAtCur
  | some tid =>
    refine .ite (h.create ht) (.bind .get fun s _ => ?_)
    split
    · exact .fail ht
    · exact h.create ht

theorem arithLoop_walk {ts : List Tid} {m : List (String × String)} {operand : P Node}
    (ho : Triple V I operand (NodeOk V)) (j : Nat) :
    ∀ l, NodeOk V l → Triple V I (arithLoop ts m operand j l) (NodeOk V) := by
  induction j with
  | zero => exact fun _ _ => .fail trivial
  | succ j ih =>
    intro l hl
    unfold arithLoop
    refine .bind (h.acceptAny _) fun o _ => ?_
    cases o with
    | none => exact .pure hl
    | some op => exact h.sym fun o _ => .bind ho fun r _ => .bind (h.create hl) ih

theorem logicLoop_walk {t : Tid} {kind : BinKind} {operand : P Node} (ho : Triple V I operand (NodeOk V))
    (j : Nat) : ∀ l, NodeOk V l → Triple V I (logicLoop t kind operand j l) (NodeOk V) := by
  induction j with
  | zero => exact fun _ _ => .fail trivial
  | succ j ih =>
    intro l hl
    unfold logicLoop
    exact h.ifAccept _
      (h.sym fun o _ => .ite (.raiseAt hl) (.bind ho fun r _ => .bind (h.create hl) ih))
      (.pure hl)

variable {stmt : P Node} (hs : Triple V I stmt (NodeOk V))
include hs

theorem argsLoop_walk (j : Nat) : ∀ a s, NodeOk V s → Triple V I (argsLoop stmt j a s) fun _ => True := by
  induction j with
  | zero => exact fun _ _ _ => .fail trivial
  | succ j ih =>
    intro a s hsn
    unfold argsLoop
    refine .ite (.pure trivial) ?_
    refine h.ifAccept _
      (h.sym fun c _ => .bind (h.noteOrder a) fun _ _ => .bind hs fun s' hs' => ih _ s' hs') ?_
    refine h.ifAccept _
      (h.sym fun c _ => .ite (.raiseAt hsn) (.bind hs fun v _ => ?_))
      (.bind (h.noteOrder a) fun _ _ => .pure trivial)
    refine .bind (h.accept _) fun b _ => .ite (.pure trivial) ?_
    exact h.sym fun c _ => .bind hs fun s' hs' => ih _ s' hs'

theorem args_walk (k : Nat) : Triple V I (args stmt k) fun _ => True :=
  .bind hs fun s hsn => .bind h.cur fun _ hc => .bind (h.create hc) fun a _ => argsLoop_walk h hs k a s hsn

theorem kvLoop_walk (j : Nat) : ∀ a s, NodeOk V s → Triple V I (kvLoop stmt j a s) fun _ => True := by
  induction j with
  | zero => exact fun _ _ _ => .fail trivial
  | succ j ih =>
    intro a s hsn
    unfold kvLoop
    refine .ite (.pure trivial) ?_
    refine h.ifAccept _
      (h.sym fun c _ => .bind hs fun v _ => .ite (.raiseAt hsn) ?_)
      (.raiseAt hsn)
    refine .bind (h.accept _) fun b _ => .ite (.pure trivial) ?_
    exact h.sym fun c _ => .bind hs fun s' hs' => ih _ s' hs'

theorem keyValues_walk (k : Nat) : Triple V I (keyValues stmt k) fun _ => True :=
  .bind hs fun s hsn => .bind h.cur fun _ hc => .bind (h.create hc) fun a _ => kvLoop_walk h hs k a s hsn

theorem e9_walk (k : Nat) : Triple V I (e9 stmt k) (NodeOk V) := by
  unfold e9
  refine .bind h.cur fun t ht => ?_
  refine h.ifAccept _ (.bind (h.createSymbol ht) fun lpar hl => .bind hs fun e _ =>
    .bind (h.blockExpect _) fun _ _ => h.sym fun rpar _ => .pure hl) ?_
  refine h.ifAccept _ (.bind (h.createSymbol ht) fun lb hl => .bind (args_walk h hs k) fun a _ =>
    .bind (h.blockExpect _) fun _ _ => h.sym fun rb _ => h.create hl) ?_
  exact h.ifAccept _ (.bind (h.createSymbol ht) fun lc hl => .bind (keyValues_walk h hs k) fun a _ =>
    .bind (h.blockExpect _) fun _ _ => h.sym fun rc _ => h.create hl) (e10_walk h)

theorem methodCall_walk (k j : Nat) :
    ∀ src, NodeOk V src → Triple V I (methodCall stmt k j src) (NodeOk V) := by
  induction j with
  | zero => exact fun _ _ => .fail trivial
  | succ j ih =>
    intro src hsrc
    unfold methodCall
    refine h.sym fun dot _ => .bind (e10_walk h) fun name hname => ?_
    refine .ite (.ite (.raiseAt hsrc) (.bind h.cur fun c hc => .fail hc)) ?_
    refine .bind (h.expect _) fun _ _ => h.sym fun lpar _ => .bind (args_walk h hs k) fun a _ => ?_
    refine .bind h.cur fun c hc => .bind (h.createSymbol hc) fun rpar _ => .bind (h.expect _) fun _ _ => ?_
    exact .bind (h.create hname) fun m hm => h.ifAccept _ (ih m hm) (.pure hm)

theorem indexCall_walk (src : Node) (hsrc : NodeOk V src) : Triple V I (indexCall stmt src) (NodeOk V) :=
  h.sym fun _ _ => .bind hs fun _ _ => .bind (h.expect _) fun _ _ => h.sym fun _ _ => h.create hsrc

theorem e8Loop_walk (k j : Nat) : ∀ l, NodeOk V l → Triple V I (e8Loop stmt k j l) (NodeOk V) := by
  induction j with
  | zero => exact fun _ _ => .fail trivial
  | succ j ih =>
    intro l hl
    unfold e8Loop
    refine .bind (h.accept _) fun d _ => ?_
    refine .ite (.bind (methodCall_walk h hs k k l hl) ?afterDot) (.bind (.pure hl) ?afterDot)
    intro l hl
    refine .bind (h.accept _) fun b _ => ?_
    refine .ite (.bind (indexCall_walk h hs l hl) ?afterIndex) (.bind (.pure hl) ?afterIndex)
    exact fun l hl => .ite (ih l hl) (.pure hl)

theorem e8_walk (k : Nat) : Triple V I (e8 stmt k) (NodeOk V) := by
  unfold e8
  refine .bind (e9_walk h hs k) fun left hleft => .bind h.cur fun t ht => ?_
  refine .bind (h.accept _) fun c _ => .ite ?_ (.bind (.pure hleft) (e8Loop_walk h hs k k))
  refine .bind (h.createSymbol ht) fun lpar _ => .bind (args_walk h hs k) fun a _ => ?_
  refine .bind (h.blockExpect _) fun _ _ => h.sym fun rpar _ => ?_
  exact .ite (.bind (.raiseAt hleft) (e8Loop_walk h hs k k)) (.bind (h.create hleft) (e8Loop_walk h hs k k))

theorem e7_walk (k : Nat) : Triple V I (e7 stmt k) (NodeOk V) := by
  unfold e7
  refine h.ifAccept _ (h.sym fun op _ => .bind h.cur fun t ht => .bind (e8_walk h hs k) fun v _ => h.create ht) ?_
  exact h.ifAccept _ (h.sym fun op _ => .bind h.cur fun t ht => .bind (e8_walk h hs k) fun v _ => h.create ht)
    (e8_walk h hs k)

theorem e6_walk (k : Nat) : Triple V I (e6 stmt k) (NodeOk V) := by
  unfold e6
  rw [e6Loop_eq]
  exact .bind (e7_walk h hs k) (arithLoop_walk h (e7_walk h hs k) k)

theorem e5_walk (k : Nat) : Triple V I (e5 stmt k) (NodeOk V) := by
  unfold e5
  rw [e5Loop_eq]
  exact .bind (e6_walk h hs k) (arithLoop_walk h (e6_walk h hs k) k)

theorem e4_walk (k : Nat) : Triple V I (e4 stmt k) (NodeOk V) := by
  unfold e4
  refine .bind (e5_walk h hs k) fun left hleft => .bind (h.acceptAny _) fun o _ => ?_
  cases o with
  | some op => exact h.sym fun o _ => .bind (e5_walk h hs k) fun r _ => h.create hleft
  | none =>
    refine h.ifAccept _ (.bind .get fun s _ => .bind h.prev fun notTok hnot => ?_) (.pure hleft)
    refine h.ifAccept _ ?_ (.bind h.cur fun c hc => .fail hc)
    refine .bind h.prev fun inTok _ => .bind (.modify fun st => h.ws st _) fun _ _ => .ite (.fail trivial) ?_
    exact .bind (h.createSymbol hnot) fun o _ => .bind (e5_walk h hs k) fun r _ => h.create hleft

theorem e3_walk (k : Nat) : Triple V I (e3 stmt k) (NodeOk V) := by
  unfold e3
  rw [e3Loop_eq]
  exact .bind (e4_walk h hs k) (logicLoop_walk h (e4_walk h hs k) k)

theorem e2_walk (k : Nat) : Triple V I (e2 stmt k) (NodeOk V) := by
  unfold e2
  rw [e2Loop_eq]
  exact .bind (e3_walk h hs k) (logicLoop_walk h (e3_walk h hs k) k)

end

/-- `e1` sets and resets `in_ternary`, so from here on the invariant must not speak of that flag either -/
theorem e1_walk (h : Walkable V I) (ht : ∀ st b, I st → I { st with inTernary := b }) {stmt : P Node}
    (hs : Triple V I stmt (NodeOk V)) (k : Nat) : Triple V I (e1 stmt k) (NodeOk V) := by
  unfold e1
  refine .bind (e2_walk h hs k) fun left hleft => ?_
  refine h.ifAccept _ (h.sym fun o _ => .bind hs fun v _ => .ite (.raiseAt hleft) (h.create hleft)) ?_
  refine h.ifAccept _ (h.sym fun o _ => .bind hs fun v _ => .ite (.raiseAt hleft) (h.create hleft)) ?_
  refine h.ifAccept _ (.bind .get fun s _ => .ite (.raiseAt hleft) ?_) (.pure hleft)
  refine h.sym fun q _ => .bind (.modify fun st => ht st true) fun _ _ => .bind hs fun t _ => ?_
  refine .bind (h.expect _) fun _ _ => h.sym fun c _ => .bind hs fun f _ => ?_
  exact .bind (.modify fun st => ht st false) fun _ _ => h.create hleft

theorem statement_walk (h : Walkable V I) (ht : ∀ st b, I st → I { st with inTernary := b }) (n : Nat) :
    Triple V I (statement n) (NodeOk V) := by
  induction n with
  | zero => exact .fail trivial
  | succ m ih => exact e1_walk h ht ih m

section
variable (h : Walkable V I) {stmt cb : P Node} (hs : Triple V I stmt (NodeOk V)) (hcb : Triple V I cb (NodeOk V))
include h hs hcb

theorem foreachBlock_walk : Triple V I (foreachBlock stmt cb) (NodeOk V) := by
  unfold foreachBlock
  refine h.sym fun kw hkw => .bind (h.expect _) fun _ _ => .bind h.prev fun p hp => ?_
  refine .bind (h.create hp) fun v1 _ => .bind (h.accept _) fun c _ => ?_
  refine .ite
    (h.sym fun c _ => .bind (h.expect _) fun _ _ => .bind h.prev fun p hp => .bind (h.create hp) fun v2 _ =>
      .bind (.pure (Q := fun _ => True) trivial) ?rest)
    (.bind (.pure (Q := fun _ => True) trivial) ?rest)
  rintro ⟨vars, commas⟩ _
  refine .bind (h.expect _) fun _ _ => h.sym fun colon _ => .bind hs fun items _ => .bind hcb fun block _ => ?_
  exact .bind h.cur fun c hc => .bind (h.createSymbol hc) fun endkw _ => h.create hkw

theorem elseifLoop_walk (j : Nat) : ∀ ifs, Triple V I (elseifLoop stmt cb j ifs) fun _ => True := by
  induction j with
  | zero => exact fun _ => .fail trivial
  | succ j ih =>
    intro ifs
    unfold elseifLoop
    exact h.ifAccept _
      (h.sym fun kw _ => .bind hs fun s hsn => .bind (h.expect _) fun _ _ => .bind hcb fun b _ =>
        .bind (h.create hsn) fun n _ => ih _)
      (.pure trivial)

omit hs in
theorem elseBlock_walk : Triple V I (elseBlock cb) (NodeOk V) :=
  h.ifAccept _ (h.sym fun _ _ => .bind (h.expect _) fun _ _ => .bind hcb fun _ hb => .pure hb) h.emptyAtCur

theorem ifBlock_walk (k : Nat) : Triple V I (ifBlock stmt cb k) (NodeOk V) := by
  unfold ifBlock
  refine h.sym fun kw _ => .bind hs fun cond hc => .bind (h.create hc) fun clause hcl => ?_
  refine .bind (h.expect _) fun _ _ => .bind hcb fun block _ => .bind (h.create hcl) fun first _ => ?_
  refine .bind (elseifLoop_walk h hs hcb k _) fun ifs _ => .bind (elseBlock_walk h hcb) fun elseb _ => ?_
  exact .bind h.cur fun c hc' => .bind (h.createSymbol hc') fun endif _ => .pure hcl

theorem line_walk (k : Nat) : Triple V I (line stmt cb k) (NodeOk V) := by
  unfold line
  refine .bind h.cur fun t _ => .ite h.emptyAtCur ?_
  refine h.ifAccept _ (.bind (ifBlock_walk h hs hcb k) fun n hn => .bind (h.blockExpect _) fun _ _ => .pure hn) ?_
  refine h.ifAccept _ (.bind (foreachBlock_walk h hs hcb) fun n hn => .bind (h.blockExpect _) fun _ _ => .pure hn) ?_
  refine h.ifAccept _ (.bind h.cur fun c hc => h.create hc) ?_
  exact h.ifAccept _ (.bind h.cur fun c hc => h.create hc) hs

theorem codeblockLoop_walk (k j : Nat) :
    ∀ b, NodeOk V b → Triple V I (codeblockLoop stmt cb k j b) (NodeOk V) := by
  induction j with
  | zero => exact fun _ _ => .fail trivial
  | succ j ih =>
    intro b hb
    unfold codeblockLoop
    refine .bind (h.flushWs hb) fun b hb => .bind (line_walk h hs hcb k) fun l _ => ?_
    exact h.ifAccept _ (ih _ (hb.blockAppendLine l)) (h.flushWs (hb.blockAppendLine l))

end

theorem codeblock_walk (h : Walkable V I) (ht : ∀ st b, I st → I { st with inTernary := b }) (n : Nat) :
    Triple V I (codeblock n) (NodeOk V) := by
  induction n with
  | zero => exact .fail trivial
  | succ m ih =>
    unfold codeblock
    exact .bind h.cur fun c hc => .bind (h.create hc) (codeblockLoop_walk h (statement_walk h ht m) ih m m)

end MesonModel.Lang
