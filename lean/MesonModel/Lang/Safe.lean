/-
`fuel_suffices` and unreachability of the `AttributeError` path of `e4`, in one walk through the productions in the
logic of `Run.lean`.

The assertion is `Left n`: the token stream has no `not` token immediately followed by an `in` token (`Good`) and at
most `n` tokens left. `Fits k c f`: with fuel `k`, of which `c` units are held in reserve, `f` keeps `Left n` for every
`n` with `n + c ≤ k` and can only fail with a *located* error (never `fuel`, never `notInNoWs`). Every recursion of
the parser happens after a token was consumed, which is what makes the fuel `token count + 3` sufficient.
`Steps f R d` counts instead: from a `Good` state with at most `R` tokens left, `f` fails only with a located error,
and a result `a` leaves a `Good` state with at least `d a` tokens fewer (`Ok1`: the same of one state).
-/
import MesonModel.Lang.Run
import MesonModel.Lang.OpLoops

namespace MesonModel.Lang

def Err.isLocated : Err → Bool
  | .parse _ _ => true
  | .block _ _ => true
  | _ => false

def tokLeft (st : PState) : Nat := (if st.cur.tid == .eof then 0 else 1) + st.rest.length

/-- no `not` token is immediately followed by an `in` token -/
def NoAdj : List Token → Prop
  | a :: b :: rest => ¬(a.tid = .kNot ∧ b.tid = .kIn) ∧ NoAdj (b :: rest)
  | _ => True

def Good (st : PState) : Prop := NoAdj (st.cur :: st.rest)

def Ok1 {α} (f : P α) (st : PState) (d : α → Nat) : Prop :=
  (∀ e, f st = .error e → e.isLocated = true) ∧
  ∀ a st', f st = .ok (a, st') → Good st' ∧ tokLeft st' + d a ≤ tokLeft st

def Steps {α} (f : P α) (R : Nat) (d : α → Nat) : Prop :=
  ∀ st, Good st → tokLeft st ≤ R → Ok1 f st d

theorem NoAdj.tail {a : Token} {l : List Token} (h : NoAdj (a :: l)) : NoAdj l := by
  cases l with
  | nil => trivial
  | cons b rest => exact h.2

theorem NoAdj.suffix : ∀ (l₁ : List Token) {l₂ : List Token}, NoAdj (l₁ ++ l₂) → NoAdj l₂
  | [], _, h => h
  | _ :: l₁, _, h => NoAdj.suffix l₁ h.tail

theorem NoAdj.single (a : Token) : NoAdj [a] := trivial

theorem getsym_good {st st' : PState} {u : Unit} (h : getsym st = .ok (u, st')) (hg : Good st) :
    Good st' ∧ (if st'.cur.tid == .eof then 0 else 1) + st'.rest.length ≤ st.rest.length ∧
      (st'.ws = [] → st'.cur.tid ≠ .eof → ∃ r, st.rest = st'.cur :: r) := by
  obtain ⟨tr, -, ⟨hrest, hws⟩ | ⟨-, hnil, -, -, l, -, hcur⟩⟩ := advance_ok (getsym_ok h).1
  · refine ⟨NoAdj.suffix tr (hrest ▸ hg.tail), ?_, fun hw _ => ?_⟩
    · rw [hrest, List.length_append, List.length_cons]
      split <;> omega
    · -- nothing is pending, so no trivia was skipped
      rw [hw, eq_comm, List.append_eq_nil_iff, List.append_eq_nil_iff] at hws
      rw [hws.1.2] at hrest
      exact ⟨_, hrest⟩
  · rw [Good, hcur, hnil]
    exact ⟨NoAdj.single _, Nat.zero_le _, fun _ hne => absurd rfl hne⟩

theorem getsym_located {st : PState} {e : Err} (h : getsym st = .error e) : e.isLocated = true := by
  obtain ⟨l, c, -, rfl⟩ := advance_err (getsym_err h)
  rfl

theorem guarded_err_located {α} {c : PState → Bool} {yes : PState → α} {no : α} {st : PState} {e : Err}
    (he : guarded c yes no st = .error e) : e.isLocated = true :=
  getsym_located (guarded_err he)

theorem expect_err_located {t : Tid} {st : PState} {e : Err} (he : expect t st = .error e) : e.isLocated = true := by
  rcases acceptOr_err he with h | ⟨s1, rfl⟩
  · exact guarded_err_located (c := fun s => s.cur.tid == t) (yes := fun _ => true) (no := false) h
  · rfl

/-- the stream is `Good` and has at most `n` tokens left -/
def Left (n : Nat) (st : PState) : Prop := Good st ∧ tokLeft st ≤ n

theorem Left.mono {n m : Nat} {st : PState} (h : Left n st) (hn : n ≤ m) : Left m st :=
  ⟨h.1, Nat.le_trans h.2 hn⟩

/-- with fuel `k`, of which `c` units are held in reserve, and at most `k - c` tokens left, `f` raises only located
errors and leaves the stream good and no longer. Consuming a token frees a unit: what follows an `accept` that
succeeded is asked for with `c + 1`. A production that recurses only after a token is consumed holds `1`, one that
may call `stmt` at once `2`, one that may call `codeblock` at once `3`. -/
def Fits {α} (k c : Nat) (f : P α) : Prop :=
  ∀ n, n + c ≤ k → Hoare (·.isLocated = true) (Left n) f fun _ => Left n

namespace Fits
variable {α β : Type} {k k' c c' : Nat}

/-- less fuel, more reserve; the arithmetic is left to `omega`, here and in `bind` -/
theorem to {f : P α} (h : Fits k' c' f) (hk : k + c' ≤ k' + c := by omega) : Fits k c f :=
  fun n hn => h n (by omega)

theorem bind {m : P α} {f : α → P β} (hm : Fits k' c' m) (hf : ∀ a, Fits k c (f a))
    (hk : k + c' ≤ k' + c := by omega) : Fits k c (m >>= f) :=
  fun n hn => .bind (hm n (by omega)) fun a => hf a n hn

/-- after a token was consumed: one token less, one unit more -/
theorem later {f : P α} {n : Nat} (h : Fits k (c + 1) f) (hn : n + c ≤ k) :
    Hoare (·.isLocated = true) (fun st => 1 ≤ n ∧ Left (n - 1) st) f fun _ => Left n :=
  .assume (fun _ h => h.1) fun h1 => ((h (n - 1) (by omega)).pre fun _ h => h.2).post fun _ _ h => h.mono (by omega)

/-- an action that always succeeds and leaves the token stream alone -/
theorem frame {f : P α} (h : ∀ st, ∃ a st', f st = .ok (a, st') ∧ st'.cur = st.cur ∧ st'.rest = st.rest := by
    exact fun _ => ⟨_, _, rfl, rfl, rfl⟩) : Fits k c f := by
  intro n _ st hs
  obtain ⟨a, st', hf, hc, hr⟩ := h st
  rw [hf]
  refine ⟨fun e he => (nomatch he), fun b s2 hb => ?_⟩
  cases hb
  simpa only [Left, Good, tokLeft, hc, hr] using hs

/-- such an action, followed by `f` -/
theorem skip {m : P α} {f : α → P β} (hf : ∀ a, Fits k c (f a))
    (h : ∀ st, ∃ a st', m st = .ok (a, st') ∧ st'.cur = st.cur ∧ st'.rest = st.rest := by
      exact fun _ => ⟨_, _, rfl, rfl, rfl⟩) : Fits k c (m >>= f) :=
  bind (k' := k) (c' := c) (frame h) hf

theorem noteOrder {a : Node} {f : Unit → P β} (hf : Fits k c (f ())) : Fits k c (Lang.noteOrder a >>= f) :=
  skip (fun _ => hf) fun st => ⟨(), _, rfl, by split <;> exact ⟨rfl, rfl⟩⟩

theorem fail {e : Err} (he : e.isLocated = true := by rfl) : Fits k c (P.fail e : P α) :=
  fun _ _ => .fail he

theorem fail_bind {e : Err} {f : α → P β} (he : e.isLocated = true := by rfl) : Fits k c (P.fail e >>= f) :=
  fun _ _ => .fail_bind he

theorem ite {p : Prop} [Decidable p] {t e : P α} (ht : Fits k c t) (he : Fits k c e) : Fits k c (if p then t else e) := by
  split <;> assumption

end Fits

/-- a test that excludes `eof`, when it succeeds, consumes a token -/
theorem guarded_left {α} {c : PState → Bool} {yes : PState → α} {no : α} (hc : ∀ s, c s = true → s.cur.tid ≠ .eof)
    (n : Nat) : Hoare (·.isLocated = true) (Left n) (guarded c yes no)
      fun a st => Left n st ∧ (a ≠ no → 1 ≤ n ∧ Left (n - 1) st) := by
  intro st hs
  refine ⟨fun e' he => guarded_err_located he, fun b st' he => ?_⟩
  rcases guarded_ok he with ⟨-, rfl, rfl⟩ | ⟨hcs, rfl, hgs⟩
  · exact ⟨hs, fun h => absurd rfl h⟩
  · have hne : (st.cur.tid == Tid.eof) = false := by simpa using hc st hcs
    obtain ⟨g1, l1, _⟩ := getsym_good hgs hs.1
    have := hs.2
    simp only [tokLeft, hne, Bool.false_eq_true, if_false] at this
    exact ⟨⟨g1, by unfold tokLeft; omega⟩, fun _ => ⟨by omega, g1, by unfold tokLeft; omega⟩⟩

theorem accept_left {t : Tid} (ht : t ≠ .eof) (n : Nat) : Hoare (·.isLocated = true) (Left n) (accept t)
    fun b st => Left n st ∧ (b ≠ false → 1 ≤ n ∧ Left (n - 1) st) :=
  guarded_left (fun s h => by rw [show s.cur.tid = t by simpa using h]; exact ht) n

/-- after an accepted `not` an `in` token does not follow at once: something is pending between the two -/
theorem accept_not_left (n : Nat) : Hoare (·.isLocated = true) (Left n) (accept .kNot) fun b st =>
    Left n st ∧ (b ≠ false → 1 ≤ n ∧ Left (n - 1) st ∧ (st.ws = [] → st.cur.tid ≠ .kIn)) := by
  intro st hs
  have h := accept_left (t := .kNot) (by decide) n st hs
  refine ⟨h.1, fun b st' he => ?_⟩
  obtain ⟨h0, h1⟩ := h.2 b st' he
  refine ⟨h0, fun hb => ⟨(h1 hb).1, (h1 hb).2, fun hw hin => ?_⟩⟩
  obtain rfl : b = true := by simpa using hb
  obtain ⟨hc, hgs⟩ := accept_true he
  obtain ⟨r, hr⟩ := (getsym_good hgs hs.1).2.2 hw (by rw [hin]; decide)
  have : NoAdj (st.cur :: st'.cur :: r) := hr ▸ hs.1
  exact this.1 ⟨hc, hin⟩

/-- a successful `accept(t)` was made in a state whose current token is `t` -/
theorem accept_cur {t : Tid} (s : PState) : Run (fun st => st = s) (accept t) fun b _ => b = true → s.cur.tid = t :=
  .runs fun st b st' he hs hb => by
    subst hs hb
    exact (accept_true he).1

namespace Fits
variable {α β : Type} {k c : Nat}

theorem accept {t : Tid} {f : Bool → P β} (h1 : Fits k (c + 1) (f true)) (h0 : Fits k c (f false))
    (ht : t ≠ .eof := by decide) : Fits k c (Lang.accept t >>= f) := fun n hn =>
  .bind (accept_left ht n) fun b => by
    cases b
    · exact (h0 n hn).pre fun _ h => h.1
    · exact (h1.later hn).pre fun _ h => h.2 nofun

theorem acceptAny {ts : List Tid} {f : Option Tid → P β} (ht : Tid.eof ∉ ts)
    (h1 : ∀ tid, Fits k (c + 1) (f (some tid))) (h0 : Fits k c (f none)) : Fits k c (Lang.acceptAny ts >>= f) :=
  fun n hn => .bind (guarded_left (fun s h he => ht (he ▸ by simpa using h)) n) fun o => by
    cases o with
    | none => exact (h0 n hn).pre fun _ h => h.1
    | some tid => exact ((h1 tid).later hn).pre fun _ h => h.2 nofun

/-- `if self.accept(t): … else: …` -/
theorem ifAccept {t : Tid} {a b : P β} (ha : Fits k (c + 1) a) (hb : Fits k c b) (ht : t ≠ .eof := by decide) :
    Fits k c (Lang.accept t >>= fun r => if r = true then a else b) :=
  accept ha hb ht

theorem ifNotAccept {t : Tid} {a b : P β} (ha : Fits k c a) (hb : Fits k (c + 1) b) (ht : t ≠ .eof := by decide) :
    Fits k c (Lang.accept t >>= fun r => if (!r) = true then a else b) :=
  accept hb ha ht

theorem acceptOr {t : Tid} {mk : PState → Err} {f : Unit → P β} (ht : t ≠ .eof) (hmk : ∀ s, (mk s).isLocated = true)
    (hf : Fits k (c + 1) (f ())) : Fits k c (Lang.acceptOr t mk >>= f) := fun n hn =>
  .bind (B := fun _ st => 1 ≤ n ∧ Left (n - 1) st)
    (.bind (accept_left ht n) fun b => by
      cases b
      · exact .peek (fun _ => rfl) fun s => .fail (hmk s)
      · exact .pure fun _ h => h.2 nofun)
    fun _ => hf.later hn

/-- `self.expect(t)`, which consumes a token when it returns -/
theorem expect {t : Tid} {f : Unit → P β} (hf : Fits k (c + 1) (f ())) (ht : t ≠ .eof := by decide) :
    Fits k c (Lang.expect t >>= f) :=
  acceptOr ht (fun _ => rfl) hf

theorem blockExpect {t : Tid} {f : Unit → P β} (hf : Fits k (c + 1) (f ())) (ht : t ≠ .eof := by decide) :
    Fits k c (Lang.blockExpect t >>= f) :=
  acceptOr ht (fun _ => rfl) hf

/-- `sym = self.create_node(SymbolNode, self.previous)` -/
theorem sym {f : Node → P β} (hf : ∀ o, Fits k c (f o)) :
    Fits k c (Lang.prev >>= fun p => Lang.createSymbol p >>= f) :=
  skip fun _ => skip hf

end Fits

theorem Steps.mono {α} {f : P α} {R R' : Nat} {d : α → Nat} (h : Steps f R d) (hr : R' ≤ R) : Steps f R' d :=
  fun st hg ht => h st hg (Nat.le_trans ht hr)

theorem Steps.weaken {α} {f : P α} {R : Nat} {d : α → Nat} (h : Steps f R d) : Steps f R (fun _ => 0) := by
  intro st hg ht
  obtain ⟨h1, h2⟩ := h st hg ht
  refine ⟨h1, fun a st' hf => ⟨(h2 a st' hf).1, ?_⟩⟩
  have := (h2 a st' hf).2
  show tokLeft st' + 0 ≤ tokLeft st
  omega

theorem Steps.of_fits {α} {f : P α} (h : ∀ k, Fits k 0 f) (R : Nat) : Steps f R (fun _ => 0) := by
  intro st hg _
  have := h _ (tokLeft st) (Nat.le_refl _) st ⟨hg, Nat.le_refl _⟩
  exact ⟨this.1, fun a st' hf => this.2 a st' hf⟩

theorem Steps.raiseAt {α} (n : Node) (R : Nat) (d : α → Nat) : Steps (raiseAt n : P α) R d :=
  fun _ _ _ => ⟨fun _ h => by cases h; rfl, fun _ _ h => nomatch h⟩

theorem Steps.create (n : Node) (R : Nat) : Steps (create n) R (fun _ => 0) := .of_fits (fun _ => .frame) R
theorem Steps.createSymbol (t : Token) (R : Nat) : Steps (createSymbol t) R (fun _ => 0) := Steps.create _ R
theorem Steps.flushWs (n : Node) (R : Nat) : Steps (flushWs n) R (fun _ => 0) := Steps.create n R

theorem Steps.acceptR {t : Tid} (ht : t ≠ .eof) (R : Nat) :
    Steps (MesonModel.Lang.accept t) R (fun b => if b then 1 else 0) := by
  intro st hg _
  have := accept_left ht (tokLeft st) st ⟨hg, Nat.le_refl _⟩
  refine ⟨this.1, fun b st' hf => ?_⟩
  obtain ⟨h0, h1⟩ := this.2 b st' hf
  cases b
  · exact h0
  · have := h1 nofun
    refine ⟨this.2.1, ?_⟩
    show tokLeft st' + 1 ≤ tokLeft st
    have := this.2.2
    omega

theorem stringTids_noEof : Tid.eof ∉ stringTids := by decide +kernel
theorem muldivTids_noEof : Tid.eof ∉ muldivTids := by decide +kernel
theorem addsubTids_noEof : Tid.eof ∉ addsubTids := by decide +kernel
theorem comparisonTids_noEof : Tid.eof ∉ comparisonTids := by decide +kernel

theorem e10_fits (k : Nat) : Fits k 0 e10 := by
  unfold e10
  refine .skip fun t => ?_
  refine .ifAccept .frame ?_
  refine .ifAccept .frame ?_
  refine .ifAccept .frame ?_
  refine .ifAccept .frame ?_
  refine .acceptAny stringTids_noEof (fun tid => ?_) .frame
  refine .ite .frame (.skip fun s => ?_)
  split
  · exact .fail
  · exact .frame

/-- the operand is parsed after the operator was consumed, the next round after that -/
theorem arithLoop_fits {ts : List Tid} {m : List (String × String)} {operand : P Node} {k : Nat} (hts : Tid.eof ∉ ts)
    (ho : Fits k 2 operand) (j : Nat) : ∀ l, Fits (min k j) 1 (arithLoop ts m operand j l) := by
  induction j with
  | zero => exact fun _ n hn => absurd hn (by omega)
  | succ j ih =>
    intro l
    unfold arithLoop
    exact .acceptAny hts (fun op => .sym fun o => .bind ho fun r => .skip fun n => (ih n).to) .frame

theorem logicLoop_fits {t : Tid} {kind : BinKind} {operand : P Node} {k : Nat} (ht : t ≠ .eof)
    (ho : Fits k 2 operand) (j : Nat) : ∀ l, Fits (min k j) 1 (logicLoop t kind operand j l) := by
  induction j with
  | zero => exact fun _ n hn => absurd hn (by omega)
  | succ j ih =>
    intro l
    unfold logicLoop
    exact .ifAccept (.sym fun o => .ite .fail (.bind ho fun r => .skip fun n => (ih n).to)) .frame ht

section
variable {stmt : P Node} {k : Nat} (hs : Fits k 2 stmt)
include hs

theorem argsLoop_fits (j : Nat) : ∀ a s, Fits (min k (j + 1)) 2 (argsLoop stmt j a s) := by
  induction j with
  | zero => exact fun _ _ n hn => absurd hn (by omega)
  | succ j ih =>
    intro a s
    unfold argsLoop
    refine .ite .frame ?_
    refine .ifAccept (.sym fun c => .noteOrder <| .bind hs fun s' => (ih _ _).to) ?_
    refine .ifAccept (.sym fun c => .ite .fail (.bind hs fun v => ?_)) (.noteOrder .frame)
    exact .ifNotAccept .frame (.sym fun c => .bind hs fun s' => (ih _ _).to)

theorem args_fits : Fits k 2 (args stmt k) :=
  .bind hs fun s => .skip fun _ => .skip fun a => (argsLoop_fits hs k a s).to

theorem kvLoop_fits (j : Nat) : ∀ a s, Fits (min k (j + 1)) 2 (kvLoop stmt j a s) := by
  induction j with
  | zero => exact fun _ _ n hn => absurd hn (by omega)
  | succ j ih =>
    intro a s
    unfold kvLoop
    refine .ite .frame (.ifAccept (.sym fun c => .bind hs fun v => .ite .fail ?_) .fail)
    exact .ifNotAccept .frame (.sym fun c => .bind hs fun s' => (ih _ _).to)

theorem keyValues_fits : Fits k 2 (keyValues stmt k) :=
  .bind hs fun s => .skip fun _ => .skip fun a => (kvLoop_fits hs k a s).to

theorem e9_fits : Fits k 1 (e9 stmt k) := by
  unfold e9
  refine .skip fun t => ?_
  refine .ifAccept (.skip fun lpar => .bind hs fun e => .blockExpect <| .sym fun rpar => .frame) ?_
  refine .ifAccept (.skip fun lb => .bind (args_fits hs) fun a => .blockExpect <| .sym fun rb => .frame) ?_
  exact .ifAccept (.skip fun lc => .bind (keyValues_fits hs) fun a => .blockExpect <| .sym fun rc => .frame)
    (e10_fits k).to

theorem methodCall_fits (j : Nat) : ∀ src, Fits (min k (j + 1)) 2 (methodCall stmt k j src) := by
  induction j with
  | zero => exact fun _ n hn => absurd hn (by omega)
  | succ j ih =>
    intro src
    unfold methodCall
    refine .sym fun dot => .bind (e10_fits k) fun name => ?_
    refine .ite (.ite .fail (.skip fun c => .fail)) ?_
    refine .expect <| .sym fun lpar => .bind (args_fits hs) fun a => ?_
    refine .skip fun c => .skip fun rpar => .expect <| ?_
    exact .skip fun m => .ifAccept (ih m).to .frame

theorem indexCall_fits (src : Node) : Fits k 2 (indexCall stmt src) :=
  .sym fun lb => .bind hs fun idx => .expect <| .sym fun rb => .frame

theorem e8Loop_fits (j : Nat) : ∀ l, Fits (min k j) 1 (e8Loop stmt k j l) := by
  induction j with
  | zero => exact fun _ n hn => absurd hn (by omega)
  | succ j ih =>
    intro l
    unfold e8Loop
    -- the loop goes round again only after a `.` or a `[`, that is with one token less
    have again : ∀ (p : Prop) [Decidable p] l, Fits (min k (j + 1)) 2 (if p then e8Loop stmt k j l else pure l) :=
      fun p _ l => .ite (ih l).to .frame
    have index : ∀ l, Fits (min k (j + 1)) 2 (indexCall stmt l) := fun l => (indexCall_fits hs l).to
    refine .accept ?_ ?_
    · exact .bind (methodCall_fits hs k l) fun l =>
        .accept (.bind (index l) fun l => (again _ l).to) (.skip fun l => again _ l)
    · exact .skip fun l => .accept (.bind (index l) (again _)) (.skip fun l => .frame)

theorem e8_fits : Fits k 1 (e8 stmt k) := by
  have loop : ∀ l, Fits k 1 (e8Loop stmt k k l) := fun l => (e8Loop_fits hs k l).to
  unfold e8
  refine .bind (e9_fits hs) fun left => .skip fun t => ?_
  refine .accept ?_ (.skip loop)
  refine .skip fun lpar => .bind (args_fits hs) fun a => .blockExpect <| .sym fun rpar => ?_
  exact .ite .fail_bind (.skip fun l => (loop l).to)

theorem e7_fits : Fits k 1 (e7 stmt k) := by
  have h8 := e8_fits hs
  unfold e7
  refine .ifAccept (.sym fun op => .skip fun t => .bind h8 fun v => .frame) ?_
  exact .ifAccept (.sym fun op => .skip fun t => .bind h8 fun v => .frame) h8

theorem e6_fits : Fits k 1 (e6 stmt k) := by
  unfold e6
  rw [e6Loop_eq]
  exact .bind (e7_fits hs) fun l => (arithLoop_fits (k := k) muldivTids_noEof (e7_fits hs).to k l).to

theorem e5_fits : Fits k 1 (e5 stmt k) := by
  unfold e5
  rw [e5Loop_eq]
  exact .bind (e6_fits hs) fun l => (arithLoop_fits (k := k) addsubTids_noEof (e6_fits hs).to k l).to

/-- `e4`: the `AttributeError` path needs a `not` token immediately followed by an `in` token -/
theorem e4_fits : Fits k 1 (e4 stmt k) := by
  have h5 := e5_fits hs
  unfold e4
  refine .bind h5 fun left => .acceptAny comparisonTids_noEof
    (fun op => .sym fun o => .bind h5 fun r => .frame)
    fun n hn => .bind (accept_not_left n) fun b => ?_
  cases b
  · exact .pure fun _ h => h.1
  · -- `ws = self.current_ws.copy()` reads the state `s` in which the `in` is then tested
    refine .assume (fun _ h => (h.2 nofun).1) fun h1 => ?_
    refine .read (fun _ => rfl) fun s => .peek (fun _ => rfl) fun notTok => ?_
    refine .assume (φ := s.ws = [] → s.cur.tid ≠ .kIn) (fun _ h => h.2 ▸ (h.1.2 nofun).2.2) fun hgap => ?_
    refine .bind (((accept_left (t := .kIn) (by decide) (n - 1)).also (accept_cur s)).pre fun _ h =>
      ⟨(h.1.2 nofun).2.1, h.2⟩) fun b => ?_
    cases b
    · exact .peek (fun _ => rfl) fun c => .fail rfl
    · refine .assume (fun _ h => h.2 rfl) fun hin => ?_
      have hws : s.ws.isEmpty = false := by
        cases hw : s.ws with
        | nil => exact absurd hin (hgap hw)
        | cons _ _ => rfl
      simp only [if_true, hws, Bool.false_eq_true, if_false]
      refine ((Fits.later (k := k) (c := 2) (n := n - 1) ?_ (by omega)).pre fun _ h => h.1.2 nofun).post
        fun _ _ h => h.mono (by omega)
      exact .skip fun inTok => .skip fun _ => .skip fun o => .bind h5 fun r => .frame

theorem e3_fits : Fits k 1 (e3 stmt k) := by
  unfold e3
  rw [e3Loop_eq]
  exact .bind (e4_fits hs) fun l => (logicLoop_fits (k := k) (by decide) (e4_fits hs).to k l).to

theorem e2_fits : Fits k 1 (e2 stmt k) := by
  unfold e2
  rw [e2Loop_eq]
  exact .bind (e3_fits hs) fun l => (logicLoop_fits (k := k) (by decide) (e3_fits hs).to k l).to

theorem e1_fits : Fits k 1 (e1 stmt k) := by
  unfold e1
  refine .bind (e2_fits hs) fun left => ?_
  refine .ifAccept (.sym fun o => .bind hs fun v => .ite .fail .frame) ?_
  refine .ifAccept (.sym fun o => .bind hs fun v => .ite .fail .frame) ?_
  refine .ifAccept (.skip fun s => .ite .fail ?_) .frame
  refine .sym fun q => .skip fun _ => .bind hs fun t => .expect <| .sym fun c => .bind hs fun f => ?_
  exact .skip fun _ => .frame

end

theorem statement_fits (n : Nat) : Fits n 2 (statement n) := by
  induction n with
  | zero => exact fun _ h => absurd h (by omega)
  | succ m ih =>
    unfold statement
    exact (e1_fits ih).to

section
variable {stmt cb : P Node} {k : Nat} (hs : Fits k 2 stmt) (hcb : Fits k 3 cb)
include hs hcb

theorem foreachBlock_fits : Fits k 2 (foreachBlock stmt cb) := by
  unfold foreachBlock
  refine .sym fun kw => .expect <| .skip fun p => ?_
  have rest : ∀ x, Fits k 3 (match (x : List Node × List Node) with
      | (vars, commas) => do
        expect Tid.colon
        let colon ← createSymbol (← prev)
        let items ← stmt
        let block ← cb
        let endkw ← createSymbol (← cur)
        create (Node.foreach (Base.at kw.lineno kw.colno) kw vars commas colon items block endkw)) :=
    fun ⟨vars, commas⟩ => .expect <| .sym fun colon => .bind hs fun items => .bind hcb fun block =>
      .skip fun c => .skip fun endkw => .frame
  refine .skip fun v1 => .accept ?_ (.skip rest)
  exact .sym fun c => .expect <| .skip fun p => .skip fun v2 => .skip fun x => (rest x).to

theorem elseifLoop_fits (j : Nat) : ∀ ifs, Fits (min k (j + 1)) 2 (elseifLoop stmt cb j ifs) := by
  induction j with
  | zero => exact fun _ n hn => absurd hn (by omega)
  | succ j ih =>
    intro ifs
    unfold elseifLoop
    exact .ifAccept (.sym fun kw => .bind hs fun s => .expect <| .bind hcb fun b => .skip fun n => (ih _).to) .frame

omit hs in
theorem elseBlock_fits : Fits k 2 (elseBlock cb) :=
  .ifAccept (.sym fun kw => .expect <| .bind hcb fun b => .frame) .frame

theorem ifBlock_fits : Fits k 2 (ifBlock stmt cb k) := by
  unfold ifBlock
  refine .sym fun kw => .bind hs fun cond => .skip fun clause => ?_
  refine .expect <| .bind hcb fun block => .skip fun first => ?_
  refine .bind (elseifLoop_fits hs hcb k _) fun ifs => .bind (elseBlock_fits hcb) fun elseb => ?_
  exact .skip fun c => .skip fun endif => .frame

theorem line_fits : Fits k 2 (line stmt cb k) := by
  unfold line
  refine .skip fun t => .ite .frame ?_
  refine .ifAccept (.bind (ifBlock_fits hs hcb) fun n => .blockExpect <| .frame) ?_
  refine .ifAccept (.bind (foreachBlock_fits hs hcb) fun n => .blockExpect <| .frame) ?_
  refine .ifAccept (.skip fun c => .frame) ?_
  exact .ifAccept (.skip fun c => .frame) hs

theorem codeblockLoop_fits (j : Nat) : ∀ b, Fits (min k (j + 1)) 2 (codeblockLoop stmt cb k j b) := by
  induction j with
  | zero => exact fun _ n hn => absurd hn (by omega)
  | succ j ih =>
    intro b
    unfold codeblockLoop
    refine .skip fun b => .bind (line_fits hs hcb) fun l => ?_
    exact .ifAccept (ih _).to .frame

end

theorem codeblock_fits (n : Nat) : Fits n 3 (codeblock n) := by
  induction n with
  | zero => exact fun _ h => absurd h (by omega)
  | succ m ih =>
    unfold codeblock
    exact .skip fun c => .skip fun block => (codeblockLoop_fits (statement_fits m).to ih.to m block).to

/-- `fuel_suffices` + no `AttributeError`: with the default fuel, on a token list without adjacent `not`,`in`,
the only way `Parser(...).parse()` fails is a located error -/
theorem parseToks_located {names : List (Str × Nat)} {lr : LexResult} {e : Err}
    (hn : NoAdj lr.toks) (h : parseToks names lr (defaultFuel lr) = .error e) : e.isLocated = true := by
  have hg0 : Good (parseStart names lr) := by
    show NoAdj (initialTok :: lr.toks)
    cases hl : lr.toks with
    | nil => trivial
    | cons a as => exact ⟨(fun h => nomatch h.1), hl ▸ hn⟩
  rcases (bind_err ..).mp (parseToks_err h) with hg | ⟨u, s1, hg, h⟩
  · exact getsym_located hg
  · obtain ⟨g1, l1, -⟩ := getsym_good hg hg0
    rcases (bind_err ..).mp h with hc | ⟨b, s2, -, hex⟩
    · exact (codeblock_fits (defaultFuel lr) lr.toks.length (Nat.le_refl _) s1 ⟨g1, l1⟩).1 _ hc
    · exact expect_err_located hex

attribute [irreducible] Steps

end MesonModel.Lang
