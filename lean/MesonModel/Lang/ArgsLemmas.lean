/-
`visit_ArgumentNode` on argument lists in the shape the parser builds them: every positional argument
followed by its comma, then every keyword argument (`key colon value`) followed by its comma, the last
comma optional.
-/
import MesonModel.Lang.EmitLemmas

namespace MesonModel.Lang

/-- every text followed by its comma -/
def zipcat (A C : List Str) : Str := (List.zipWith (· ++ ·) A C).flatten

/-- the texts `key colon value` -/
def kwTexts (Ks CL V : List Str) : List Str := List.zipWith (· ++ ·) (List.zipWith (· ++ ·) Ks CL) V

/-- the arguments that have their comma, then whatever `interleavePos` makes of the rest -/
theorem interleavePos_append (A A' C1 C2 : List Str) (h : C1.length = A.length) :
    interleavePos (A ++ A') (C1 ++ C2) = (zipcat A C1 ++ (interleavePos A' C2).1, (interleavePos A' C2).2) := by
  induction A generalizing C1 with
  | nil =>
    cases List.eq_nil_of_length_eq_zero h
    rfl
  | cons p ps ih =>
    obtain ⟨c, cs, rfl⟩ := List.exists_cons_of_length_eq_add_one h
    simp [interleavePos, zipcat, ih cs (by simpa using h)]

theorem interleavePos_balanced (A C1 C2 : List Str) (h : C1.length = A.length) :
    interleavePos A (C1 ++ C2) = (zipcat A C1, C2) := by
  simpa [interleavePos] using interleavePos_append A [] C1 C2 h

theorem interleavePos_last (A C1 : List Str) (p : Str) (h : C1.length = A.length) :
    interleavePos (A ++ [p]) C1 = (zipcat A C1 ++ p, []) := by
  simpa [interleavePos] using interleavePos_append A [p] C1 [] h

theorem zipcat_snoc (A C : List Str) (p c : Str) (h : C.length = A.length) :
    zipcat (A ++ [p]) (C ++ [c]) = zipcat A C ++ p ++ c := by
  simp [zipcat, List.zipWith_append h.symm]

/-- the keyword part is the positional interleaving of the `key colon value` texts -/
theorem interleaveKw_eq (Ks CL V C : List Str) : interleaveKw Ks CL V C = (interleavePos (kwTexts Ks CL V) C).1 := by
  induction Ks generalizing CL V C <;> cases CL <;> cases V <;> cases C <;>
    simp [interleaveKw, interleavePos, kwTexts, *]

theorem kwTexts_snoc (Ks CL V : List Str) (k cl v : Str) (h1 : CL.length = Ks.length) (h2 : V.length = Ks.length) :
    kwTexts (Ks ++ [k]) (CL ++ [cl]) (V ++ [v]) = kwTexts Ks CL V ++ [k ++ cl ++ v] := by
  rw [kwTexts, List.zipWith_append h1.symm, List.zipWith_append (by simp [h1, h2])]
  rfl

theorem interleaveKw_balanced (Ks CL V C : List Str)
    (h1 : CL.length = Ks.length) (h2 : V.length = Ks.length) (h3 : C.length = Ks.length) :
    interleaveKw Ks CL V C = zipcat (kwTexts Ks CL V) C := by
  have := interleavePos_balanced (kwTexts Ks CL V) C [] (by simp [kwTexts, h1, h2, h3])
  rw [List.append_nil] at this
  rw [interleaveKw_eq, this]

theorem interleaveKw_last (Ks CL V C : List Str) (k cl v : Str)
    (h1 : CL.length = Ks.length) (h2 : V.length = Ks.length) (h3 : C.length = Ks.length) :
    interleaveKw (Ks ++ [k]) (CL ++ [cl]) (V ++ [v]) C = zipcat (kwTexts Ks CL V) C ++ k ++ cl ++ v := by
  rw [interleaveKw_eq, kwTexts_snoc Ks CL V k cl v h1 h2, interleavePos_last _ _ _ (by simp [kwTexts, h1, h2, h3])]
  simp only [List.append_assoc]

theorem emitL_length (l : List Node) : (emitL l).length = l.length := by
  induction l with
  | nil => rfl
  | cons a as ih => simp [emitL_cons, ih]

theorem emitL_snoc (l : List Node) (n : Node) : emitL (l ++ [n]) = emitL l ++ [emit n] := by
  rw [emitL_append]
  rfl

end MesonModel.Lang
