/-
C20 — Cargo version requirements and cfg() expressions mean what Cargo says.
The independent specification is `MesonModel/Cargo/Spec.lean`.
-/
import MesonModel.Cargo.SemverLemmas
import MesonModel.Cargo.CfgLemmas
import MesonModel.Cargo.BridgeLemmas
import MesonModel.Cargo.LexLemmas
import MesonModel.Cargo.CacheLemmas
import MesonModel.Cargo.CfgTableLemmas
import MesonModel.Cargo.ResolveLemmas
import MesonModel.Version.TokLemmas
import MesonModel.Generated.CargoCache

namespace MesonModel.Props.C20
open MesonModel.Cargo MesonModel.Cargo.Spec

/-- For every tag-free comparator with 1–3 components (all eight forms) and every release version,
what `cargo_parse` computes is Cargo's rule with the two deviations (`pinnedRule`). -/
theorem cargo_eq_spec (op : ReqOp) (cs : List Nat) (v : V)
    (h1 : 1 ≤ cs.length) (h3 : cs.length ≤ 3) (hw : op = .wildcard → cs.length ≤ 2) :
    compareWith (constraintsOf (toModelOp op) (SemVer.ofComps cs)) false (release v) = true ↔
      pinnedRule op cs v := by
  match cs, h1, h3, hw with
  | [i], _, _, _ =>
    cases op
    case caret =>
      rw [(pinnedRule_caret i 0 0 v).1]
      simp only [cargo_match]
    all_goals simp only [cargo_match, Nat.reduceLeDiff]
  | [i, j], _, _, _ =>
    cases op
    case caret =>
      rw [(pinnedRule_caret i j 0 v).2.1]
      simp only [cargo_match]
    all_goals simp only [cargo_match, Nat.reduceLeDiff]
  | [i, j, k], _, _, hw =>
    cases op
    case wildcard => exact absurd (hw rfl) (by simp)
    case caret =>
      rw [(pinnedRule_caret i j k v).2.2]
      simp only [cargo_match]
    all_goals simp only [cargo_match, Nat.reduceLeDiff]

example : compareWith (constraintsOf (toModelOp .caret) (SemVer.ofComps [0, 2])) false (release (0, 2, 9)) = true := by
  decide +kernel
example : pinnedRule .caret [0, 2] (0, 2, 9) := by simp [pinnedRule, cargoRule, tle, tlt]

/-- the same on text: requirement `op I[.J[.K]]` and version `X.Y.Z` written as ASCII digit runs -/
theorem cargo_eq_spec_text (op : ReqOp) (ds : List (List Char)) (x y z : List Char)
    (h1 : 1 ≤ ds.length) (h3 : ds.length ≤ 3) (hw : op = .wildcard → ds.length ≤ 2)
    (hd : ∀ d, d ∈ ds → IsNum d) (hx : IsNum x) (hy : IsNum y) (hz : IsNum z) :
    compareWith (constraintsOf (toModelOp op) (SemVer.parse (dotted ds))) false
        (SemVer.parse (dotted [x, y, z])) = true ↔
      pinnedRule op (ds.map MesonModel.Py.natOfDigits)
        (MesonModel.Py.natOfDigits x, MesonModel.Py.natOfDigits y, MesonModel.Py.natOfDigits z) := by
  rw [parse_dotted ds h1 h3 hd,
    parse_dotted [x, y, z] (by simp) (by simp) (by
      intro d hd'
      simp at hd'
      rcases hd' with rfl | rfl | rfl <;> assumption)]
  simp only [List.map, ofComps_three]
  exact cargo_eq_spec op _ _ (by simpa using h1) (by simpa using h3) (by simpa using hw)

example : IsNum "10".toList ∧ dotted ["1".toList, "2".toList] = "1.2".toList := by
  refine ⟨⟨by decide, by decide⟩, by decide⟩

/-- outside the two named deviation clauses `pinnedRule` *is* Cargo's rule -/
theorem pinned_eq_cargo_off_deviations (op : ReqOp) (cs : List Nat) (v : V)
    (h : deviates op cs = false) : pinnedRule op cs v ↔ cargoRule op cs v := by
  unfold pinnedRule
  split <;> simp_all [deviates]

/-- the deviations are real: Cargo reads `=1` as `>=1.0.0, <2.0.0`, the project as `=1.0.0` -/
theorem deviation_exact_witness : cargoRule .exact [1] (1, 5, 0) ∧ ¬ pinnedRule .exact [1] (1, 5, 0) := by
  simp [cargoRule, pinnedRule, tle, tlt]

theorem deviation_caret_witness : ¬ cargoRule .caret [0, 0] (0, 5, 0) ∧ pinnedRule .caret [0, 0] (0, 5, 0) := by
  simp [cargoRule, pinnedRule, tle, tlt]

theorem comma_is_conjunction (c1 c2 : List (Op × List Char)) (ver : List Char)
    (hv : (SemVer.parse ver).hasPre = false) :
    matchSplit (c1 ++ c2) ver = (matchSplit c1 ver && matchSplit c2 ver) := by
  simp [matchSplit_eq, hv, List.flatMap_append, List.all_append]

theorem split_at_commas (a b : List Char) :
    splitOnChar ',' (a ++ ',' :: b) = splitOnChar ',' a ++ splitOnChar ',' b :=
  splitOnChar_append ',' a b

theorem star_matches_all_releases (ver : List Char) :
    cargoParse ['*'] ver = !(SemVer.parse ver).hasPre := by
  have : split ['*'] = [] := by decide
  simp [cargoParse, this, matchSplit_eq]

example : cargoParse ['*'] "99.99".toList = true ∧ cargoParse ['*'] "1.0.0-alpha".toList = false := by decide +kernel

/-- `I.*` and `I.J.*` are canonicalised to the tilde form -/
theorem wildcard_is_tilde_examples :
    split "1.*".toList = split "~1".toList ∧ split "2.3.*".toList = split "~2.3".toList ∧
    split " 10.* ".toList = split "~ 10".toList := by decide +kernel

theorem trichotomy (a b : List Comp) :
    (vlt a b = true ∧ veq a b = false ∧ vgt a b = false) ∨
    (vlt a b = false ∧ veq a b = true ∧ vgt a b = false) ∨
    (vlt a b = false ∧ veq a b = false ∧ vgt a b = true) :=
  vcmpLaws.trichotomy a b

theorem lt_trans (a b c : List Comp) : vlt a b = true → vlt b c = true → vlt a c = true :=
  vcmpLaws.lt_trans a b c

theorem le_trans (a b c : List Comp) : vle a b = true → vle b c = true → vle a c = true :=
  vcmpLaws.le_trans a b c

theorem le_iff_lt_or_eq (a b : List Comp) : vle a b = true ↔ (vlt a b = true ∨ veq a b = true) :=
  vcmpLaws.le_iff_lt_or_eq a b

theorem ge_iff_gt_or_eq (a b : List Comp) : vge a b = true ↔ (vgt a b = true ∨ veq a b = true) :=
  vcmpLaws.ge_iff_gt_or_eq a b

theorem ne_iff_not_eq (a b : List Comp) : vne a b = !veq a b := rfl

theorem lt_iff_gt_swap (a b : List Comp) : vlt a b = vgt b a :=
  vcmpLaws.lt_iff_gt_swap a b

/-- 11.3: a pre-release is below its release, whatever the identifiers -/
theorem prerelease_below_release (a b c : Int) (pre : List Comp) :
    vlt ([.int a, .int b, .int c, .int (-1)] ++ pre) [.int a, .int b, .int c, .int 0] = true := by
  simp [vlt, vcmp_cons_int_lt]

/-- 11.4.3: at the first differing position a numeric identifier is below an alphanumeric one -/
theorem numeric_below_alnum (p r1 r2 : List Comp) (n : Int) (s : List Char) :
    vlt (p ++ .int n :: r1) (p ++ .str s :: r2) = true := by
  simp only [vlt, vcmp_append]
  simp [vcmp, MesonModel.Version.lexCmp, compCmp]

/-- 11.4.1: numeric identifiers compare numerically -/
theorem numeric_identifiers_numerically (p r1 r2 : List Comp) (m n : Int) (h : m < n) :
    vlt (p ++ .int m :: r1) (p ++ .int n :: r2) = true := by
  simp [vlt, vcmp_append, vcmp_cons_int_lt, h]

/-- 11.4.4: a larger set of pre-release fields is higher when all preceding ones are equal -/
theorem longer_prerelease_higher (p : List Comp) (x : Comp) (r : List Comp) :
    vlt p (p ++ x :: r) = true := by
  have := vcmp_append p [] (x :: r)
  simp only [List.append_nil] at this
  simp [vlt, this, vcmp_nil_cons]

/-- build metadata is ignored: everything from the first `+` on does not reach the component list -/
theorem build_metadata_ignored (s t : List Char) : SemVer.parse (s ++ '+' :: t) = SemVer.parse s := by
  have := scanCore_plus s t .none
  simp [SemVer.parse, this.1, this.2]

/-- On component lists that hold a version the way the specification reads it (numeric identifiers
as ints, alphanumeric ones as strs) the model's `<` is exactly SemVer section 11 precedence. -/
theorem model_order_eq_semver11 (a b : SV) : vlt (encode a) (encode b) = true ↔ Prec a b := by
  obtain ⟨a1, a2, a3, ap⟩ := a
  obtain ⟨b1, b2, b3, bp⟩ := b
  have key : vcmp (.int (if ap = [] then 0 else -1) :: ap.map encI)
      (.int (if bp = [] then 0 else -1) :: bp.map encI) = .lt ↔
      (ap ≠ [] ∧ bp = [] ∨ ap ≠ [] ∧ bp ≠ [] ∧ LexLt identLt ap bp) := by
    rw [vcmp_cons_int_lt]
    cases ap with
    | nil => cases bp <;> simp [vcmp_nil]
    | cons x xs =>
      cases bp with
      | nil => simp
      | cons y ys => simpa using pre_lt_iff (x :: xs) (y :: ys)
  simp only [vlt, encode, List.cons_append, List.nil_append, beq_iff_eq, vcmp_cons_int_lt, key,
    Int.ofNat_eq_natCast, Int.ofNat_lt, Int.natCast_inj, Prec, tlt, Prod.mk.injEq]
  -- both sides are the same four-way disjunction, grouped differently
  simp only [and_or_left, or_assoc, and_assoc]

example : Prec ⟨1, 0, 0, [.alnum "alpha".toList, .num 2]⟩ ⟨1, 0, 0, [.alnum "alpha".toList, .num 10]⟩ := by
  rw [← model_order_eq_semver11]
  decide

/-- Parsing a SemVer text `M.m.p[-id.id…][+build]` (digit runs, identifiers over `[0-9A-Za-z-]`,
any build metadata) gives exactly the encoding of its fields as semver.org reads them: digit-only
identifiers numeric, all others alphanumeric, build metadata gone. -/
theorem semver_parse_text (t : SVText) (h : t.wf) : SemVer.parse t.render = ⟨encode t.fields, 3⟩ := by
  obtain ⟨hM, hm, hp, hi⟩ := h
  obtain ⟨txt, ht, hpi⟩ := tail_pre_build t.pre hi t.build
  have := scanCore_dotted [t.major, t.minor, t.patch] (by simp) (by simp [hM, hm, hp]) _ _ ht
  simp only [SVText.render, SemVer.parse, this, hpi]
  by_cases hpre : t.pre = [] <;> simp [encode, SVText.fields, hpre, padTo]

/-- on SemVer texts the implementation's `<` is section 11 precedence of the fields -/
theorem semver11_full_statement (t1 t2 : SVText) (h1 : t1.wf) (h2 : t2.wf) :
    vlt (SemVer.parse t1.render).v (SemVer.parse t2.render).v = true ↔ Prec t1.fields t2.fields := by
  rw [semver_parse_text t1 h1, semver_parse_text t2 h2]
  exact model_order_eq_semver11 _ _

/-- …and `==` is equality of the fields (build metadata plays no part) -/
theorem semver_eq_text (t1 t2 : SVText) (h1 : t1.wf) (h2 : t2.wf) (hf : t1.fields = t2.fields) :
    veq (SemVer.parse t1.render).v (SemVer.parse t2.render).v = true := by
  rw [semver_parse_text t1 h1, semver_parse_text t2 h2, hf]
  simp [veq]

/-- 11.3 on text: a pre-release version is below the release with the same core -/
theorem prerelease_below_release_text (t : SVText) (h : t.wf) (hp : t.pre ≠ []) (b : Option (List Char)) :
    vlt (SemVer.parse t.render).v (SemVer.parse ({ t with pre := [], build := b } : SVText).render).v = true := by
  have h' : ({ t with pre := [], build := b } : SVText).wf := ⟨h.1, h.2.1, h.2.2.1, by intro i hi; simp at hi⟩
  rw [semver11_full_statement t _ h h']
  refine Or.inr ⟨rfl, Or.inl ⟨?_, rfl⟩⟩
  simpa [SVText.fields] using hp

example : (⟨"1".toList, "0".toList, "0".toList, ["2".toList], none⟩ : SVText).wf ∧
    (⟨"1".toList, "0".toList, "0".toList, ["2".toList], none⟩ : SVText).render = "1.0.0-2".toList := by
  refine ⟨⟨⟨by decide, by decide⟩, ⟨by decide, by decide⟩, ⟨by decide, by decide⟩, ?_⟩, by decide⟩
  intro i hi
  simp at hi
  subst hi
  exact ⟨by decide, by decide⟩

/-- the orderings that were wrong before the repair of `SemVer.__init__` -/
theorem semver11_examples :
    vlt (SemVer.parse "1.0.0-2".toList).v (SemVer.parse "1.0.0-10".toList).v = true ∧
    vlt (SemVer.parse "1.0.0-1".toList).v (SemVer.parse "1.0.0--".toList).v = true ∧
    vlt (SemVer.parse "1.0.0-alpha.2".toList).v (SemVer.parse "1.0.0-alpha.1a".toList).v = true ∧
    SemVer.parse "1.2.3-rc.1+exp.sha".toList = ⟨encode ⟨1, 2, 3, [.alnum "rc".toList, .num 1]⟩, 3⟩ := by
  decide +kernel

/-- a pre-release never satisfies a requirement that names no pre-release (any requirement text,
including `*` and the empty one) -/
theorem prerelease_gate_full (req ver : List Char) (hv : (SemVer.parse ver).hasPre = true)
    (hreq : ∀ c, c ∈ split req → (SemVer.parse c.2).hasPre = false) :
    cargoParse req ver = false := by
  have : (split req).any (fun c => (SemVer.parse c.2).hasPre) = false := List.any_eq_false.mpr (by simpa using hreq)
  simp [cargoParse, matchSplit_eq, hv, this]

example : split ">=1.0".toList ≠ [] ∧ (SemVer.parse "2.0.0-pre1".toList).hasPre = true ∧
    (SemVer.parse "1.0".toList).hasPre = false := by decide +kernel

theorem parse_render (e : IR) (hn : namesOk e) : parse (renderTokens e) = .ok e := by
  have h := complete_E e hn ((renderTokens e).length + 1) [] (by have := size_le_E e; omega) (by simp)
  simp only [List.append_nil] at h
  simp [parse, h]

/-- the parser accepts *only* token lists of the grammar: an accepted list is the rendering of the
returned tree.  (So `all(a b)`, trailing commas, missing parentheses, a string where a name is
expected and trailing tokens are all rejected.) -/
theorem parse_sound (ts : List Token) (e : IR) (h : parse ts = .ok e) :
    ts = renderTokens e ∧ namesOk e :=
  (parse_spec ts).1 e h

/-- the model's recursion fuel is an artefact only: `parse` never runs out of it, so every token
list is either accepted or rejected with one of the implementation's errors -/
theorem parse_total (ts : List Token) : parse ts ≠ .error .fuel :=
  (parse_spec ts).2

theorem parse_accepts_iff (ts : List Token) :
    (∃ e, parse ts = .ok e) ↔ (∃ e, namesOk e ∧ ts = renderTokens e) := by
  constructor
  · rintro ⟨e, h⟩
    exact ⟨e, (parse_sound ts e h).2, (parse_sound ts e h).1⟩
  · rintro ⟨e, hn, rfl⟩
    exact ⟨e, parse_render e hn⟩

example : namesOk (.all [.ident ['a'], .not (.equal ['b'] ['x']), .any []]) := by
  simp [namesOk, namesOkL]

def errOf : Except PErr IR → Option PErr
  | .error e => some e
  | .ok _ => none

/-- the malformed shapes named in the property are rejected (each with a `MesonException`) -/
theorem malformed_examples_rejected :
    errOf (parseLexed (lexer "all(a b)".toList)) = some .expectedRParenComma ∧
    errOf (parseLexed (lexer "all(a,)".toList)) = some .unhandled ∧
    errOf (parseLexed (lexer "any(".toList)) = some .malformed ∧
    errOf (parseLexed (lexer "not(a".toList)) = some .malformed ∧
    errOf (parseLexed (lexer "a = b".toList)) = some .expectedString ∧
    errOf (parseLexed (lexer "a b".toList)) = some .trailing ∧
    errOf (parseLexed (lexer "".toList)) = some .malformed ∧
    errOf (parseLexed (lexer "all a".toList)) = some .expectedLParen := by decide +kernel

theorem eval_name (cfgs : Cfgs) (n : List Char) :
    evalIR cfgs (.ident n) = true ↔ ∃ kv, kv ∈ cfgs ∧ kv.1 = n := by
  simp [evalIR]

theorem eval_eq (cfgs : Cfgs) (n v : List Char) :
    evalIR cfgs (.equal n v) = true ↔ cfgs.lookup n = some v := by
  simp [evalIR]

theorem eval_not (cfgs : Cfgs) (e : IR) : evalIR cfgs (.not e) = !evalIR cfgs e := by
  simp [evalIR]

theorem eval_any_iff (cfgs : Cfgs) (as : List IR) :
    evalIR cfgs (.any as) = true ↔ ∃ a, a ∈ as ∧ evalIR cfgs a = true := by
  rw [evalIR]
  exact evalAny_iff cfgs as

theorem eval_all_iff (cfgs : Cfgs) (as : List IR) :
    evalIR cfgs (.all as) = true ↔ ∀ a, a ∈ as → evalIR cfgs a = true := by
  rw [evalIR]
  exact evalAll_iff cfgs as

/-- `eval_cfg` either rejects (error) or returns the value of the tree whose rendering is the
lexed token list — it never evaluates a token list outside the grammar, nor an unterminated literal -/
theorem evalCfg_sound (raw : List Char) (cfgs : Cfgs) (b : Bool) (h : evalCfg raw cfgs = .ok b) :
    (b = false ∧ ¬ (MesonModel.Py.startsWith raw "cfg(".toList && endsWith raw [')']) = true) ∨
    ∃ e, lexer ((raw.drop 4).dropLast) = ⟨renderTokens e, false⟩ ∧ namesOk e ∧ b = evalIR cfgs e := by
  unfold evalCfg at h
  split at h
  · split at h
    · simp at h
    · rename_i ir hp
      simp only [Except.ok.injEq] at h
      unfold parseLexed at hp
      split at hp
      · simp at hp
      · rename_i hu
        cases hl : lexer ((raw.drop 4).dropLast) with
        | mk toks u =>
          rw [hl] at hu hp
          obtain ⟨rfl, hn⟩ := parse_sound _ _ hp
          cases u
          · exact Or.inr ⟨ir, rfl, hn, h.symm⟩
          · exact absurd rfl hu
  · rename_i hc
    simp only [Except.ok.injEq] at h
    exact Or.inl ⟨h.symm, by simpa using hc⟩

theorem unterminated_rejected (raw : List Char) (cfgs : Cfgs)
    (he : (MesonModel.Py.startsWith raw "cfg(".toList && endsWith raw [')']) = true)
    (hu : (lexer ((raw.drop 4).dropLast)).unterminated = true) :
    evalCfg raw cfgs = .error .unterminated := by
  have he' : (MesonModel.Py.startsWith raw ['c', 'f', 'g', '('] && endsWith raw [')']) = true := he
  simp [evalCfg, he', parseLexed, hu]

example : (lexer "\"a".toList).unterminated = true ∧ (lexer "a = \"x\" \"".toList).unterminated = true := by
  decide +kernel

/-- The lexer maps the canonical text of every expression — names without separator characters that
are not keywords, values without `"` (blanks, parentheses, commas, `=` allowed) — to the token
rendering of the grammar. -/
theorem lex_render (e : IR) (h : lexOk e) : lexer (renderStr e) = ⟨renderTokens e, false⟩ := by
  have := lex_E e h [] (Or.inl rfl)
  simp only [List.append_nil] at this
  simp [lexer, this, lexGo, LexResult.pre]

/-- what the lexer hands to the parser for a quoted literal is the literal, whatever it contains -/
theorem lexer_string_literal_full (v : List Char) (hv : '"' ∉ v) :
    lexer (['a', '=', '"'] ++ v ++ ['"']) = ⟨[.ident ['a'], .equal, .str v], false⟩ := by
  have hn : NameOk ['a'] := ⟨by decide, by decide, by decide, by decide, by decide⟩
  have := lex_render (.equal ['a'] v) ⟨hn, hv⟩
  simpa [renderStr, renderTokens] using this

example : lexer "a = \" x\"".toList = ⟨[.ident ['a'], .equal, .str [' ', 'x']], false⟩ := by decide +kernel

/-- end to end: `eval_cfg` of the text of an expression is the value of its structure -/
theorem evalCfg_render (e : IR) (h : lexOk e) (cfgs : Cfgs) :
    evalCfg ("cfg(".toList ++ renderStr e ++ [')']) cfgs = .ok (evalIR cfgs e) := by
  have e1 : "cfg(".toList = ['c', 'f', 'g', '('] := by decide
  simp [e1, evalCfg, MesonModel.Py.startsWith, endsWith, List.isPrefixOf, lex_render e h, parseLexed,
    parse_render e (lexOk_namesOk e h)]

/-- the lexer on the shapes of the project's own tests -/
theorem lexer_examples :
    (lexer "all(target_arch = \"x86\", unix)".toList).toks =
      renderTokens (.all [.equal "target_arch".toList "x86".toList, .ident "unix".toList]) ∧
    (lexer "not( any( a ,b ) )".toList).toks = renderTokens (.not (.any [.ident ['a'], .ident ['b']])) := by
  decide +kernel

/-! ## Consumer objects: `manifest.Dependency` and its cached predicate -/

section Cache
open MesonModel.Cargo.Cache

/-- For every history of reading the lazy attributes and calling `update_version` on one
dependency object, every cached value was computed from the *current* requirement — provided
`update_version` has one `try` block per version-dependent lazy attribute (the table obligation). -/
theorem cache_coherent (blocks : List (List String)) (attrs : List String)
    (hok : blocksOk blocks attrs = true) (req : List Char) (ops : List Cache.Op) (how : OpsWithin attrs ops) :
    Coherent (run blocks (fresh req) ops) :=
  (run_fresh blocks attrs hok req ops how).1

/-- …hence after any history `dep.accepts_version(v)` is the matcher of the current requirement
and `dep.api` is the api of the current requirement. -/
theorem reads_follow_current_requirement (blocks : List (List String)) (attrs : List String)
    (hok : blocksOk blocks attrs = true) (ha : "accepts_version" ∈ attrs) (hp : "api" ∈ attrs)
    (req : List Char) (ops : List Cache.Op) (how : OpsWithin attrs ops) (ver : List Char) :
    acceptsOut (run blocks (fresh req) ops) ver = cargoParse (run blocks (fresh req) ops).version ver ∧
    apiOut (run blocks (fresh req) ops) = api (run blocks (fresh req) ops).version := by
  have h := run_fresh blocks attrs hok req ops how
  have h1 := (read_preserves attrs _ "accepts_version" ha h.1 h.2).2.2
  have h2 := (read_preserves attrs _ "api" hp h.1 h.2).2.2
  simp [acceptsOut, apiOut, h1, h2]

/-- the table obligation, re-checked on every run against the block structure and the lazy
attributes harvested from the current source of `manifest.Dependency` -/
theorem dependency_cache_table_ok :
    blocksOk MesonModel.Generated.CargoCache.updateBlocks MesonModel.Generated.CargoCache.lazyAttrs = true := by
  decide +kernel

/-- the code as it is: all histories -/
theorem dependency_reads_current (req : List Char) (ops : List Cache.Op)
    (how : OpsWithin MesonModel.Generated.CargoCache.lazyAttrs ops) (ver : List Char) :
    acceptsOut (run MesonModel.Generated.CargoCache.updateBlocks (fresh req) ops) ver =
      cargoParse (run MesonModel.Generated.CargoCache.updateBlocks (fresh req) ops).version ver :=
  (reads_follow_current_requirement _ _ dependency_cache_table_ok (by decide) (by decide) req ops how ver).1

theorem update_sets_version (blocks : List (List String)) (o : Obj) (v : List Char) :
    (update blocks o v).version = v := update_version blocks o v

/-- The variant with both `delattr`s in ONE `try` block is refuted: when `api` was never read, the
`AttributeError` of its `delattr` skips dropping the cached predicate, and after
`update_version('=1.2.3')` on a dependency declared `1.0` the object still accepts 1.5.0. -/
theorem merged_try_refuted :
    let o := run [["api", "accepts_version"]] (fresh "1.0".toList)
      [.read "accepts_version", .update "=1.2.3".toList]
    o.version = "=1.2.3".toList ∧ acceptsOut o "1.5.0".toList = true ∧
      cargoParse o.version "1.5.0".toList = false ∧
      blocksOk [["api", "accepts_version"]] ["accepts_version", "api"] = false := by
  decide +kernel

end Cache

/-! ## The target-cfg table: memoised `_get_cfgs` over the memoised `RustCompiler.get_cfgs` -/

section CfgTables
open MesonModel.Cargo.CfgTable

/-- no sequence of `_get_cfgs` calls (any keys, any `rust_args`) changes the list cached by the
compiler's `get_cfgs` -/
theorem cfg_table_base_invariant (rustArgs : Key → List Line) (host build : List Line) (ks : List Key) :
    (run true rustArgs ⟨host, build, []⟩ ks).baseHost = host ∧
    (run true rustArgs ⟨host, build, []⟩ ks).baseBuild = build := by
  have h := run_ok_fresh rustArgs host build ks
  exact ⟨h.1, h.2.1⟩

/-- after any history, the table returned for a key is built from exactly the compiler's cfgs and
that key's own `--cfg` flags: it depends on the key only -/
theorem cfg_table_depends_on_key_only (rustArgs : Key → List Line) (host build : List Line)
    (ks : List Key) (k : Key) :
    (getCfgs true rustArgs (run true rustArgs ⟨host, build, []⟩ ks) k).2 =
      mkTable ((if k.1 then build else host) ++ cfgFlags (rustArgs k)) := by
  have h := run_ok_fresh rustArgs host build ks
  have := (getCfgs_ok rustArgs ⟨host, build, []⟩ _ h k).2
  simpa [expected, State.base] using this

/-- …so a `cfg()` condition evaluated for that key has the value of its structure under exactly
`{rustc cfgs} ∪ {that subproject's --cfg flags}` -/
theorem cfg_eval_on_table (rustArgs : Key → List Line) (host build : List Line) (ks : List Key) (k : Key)
    (e : IR) :
    evalIR (getCfgs true rustArgs (run true rustArgs ⟨host, build, []⟩ ks) k).2 e =
      evalIR (mkTable ((if k.1 then build else host) ++ cfgFlags (rustArgs k))) e := by
  rw [cfg_table_depends_on_key_only]

/-- the table obligation, re-checked on every run: no memoised function of cargo/interpreter.py mutates
in place an object it got from another memoised callable -/
theorem no_aliased_mutation_of_memoised_results :
    MesonModel.Generated.CargoCache.aliasedMutations = [] := by decide +kernel

/-- The variant without `.copy()` is refuted on two calls: after the table of subproject 0
(`rust_args = --cfg foo`) has been built, `cfg(foo)` is true for subproject 1 whose configuration
has no `foo`, and the compiler's cached list has grown. -/
theorem no_copy_refuted :
    let rustArgs : Key → List Line := fun k => if k = (false, 0) then ["--cfg".toList, "foo".toList] else []
    let s := run false rustArgs ⟨["unix".toList], [], []⟩ [(false, 0)]
    evalIR (getCfgs false rustArgs s (false, 1)).2 (.ident "foo".toList) = true ∧
    evalIR (mkTable (["unix".toList] ++ cfgFlags (rustArgs (false, 1)))) (.ident "foo".toList) = false ∧
    s.baseHost ≠ ["unix".toList] := by
  decide +kernel

example : mkTable ["unix".toList, "target_os=\"linux\"".toList, "feature=\"a\"".toList] =
    [("unix".toList, []), ("target_os".toList, "linux".toList), ("feature".toList, ['a'])] := by decide +kernel

end CfgTables

section Consumers
open MesonModel.Cargo.Resolve

/-- `_api_of` on a release (or partial) version written as digit runs is the documented api:
the major, `0.<minor>` below 1.0, `0` below 0.1 -/
theorem api_of_version_text (ds : List (List Char)) (hne : ds ≠ []) (hd : ∀ d, d ∈ ds → IsNum d) :
    apiOf (dotted ds) = .ok (apiText ds) := apiOf_dotted ds hne hd

example : apiOf "1.2.3".toList = .ok "1".toList ∧ apiOf "0.4.2".toList = .ok "0.4".toList ∧
    apiOf "0.0.7".toList = .ok "0".toList ∧ apiOf "0".toList = .ok "0".toList := by decide +kernel

/-- `Package.api` / `CargoLockPackage.api` (api of the bare version text) and `Dependency.api` after
`update_version('=' + that version)` are the same string: the `PackageKey` `_dep_package` asks
`_fetch_package` for is the key the package of that version is recorded under. -/
theorem pinned_requirement_has_package_api (ds : List (List Char)) (hne : ds ≠ [])
    (hd : ∀ d, d ∈ ds → IsNum d) :
    api ('=' :: dotted ds) = api (dotted ds) ∧ api (dotted ds) = .ok (apiText ds) := by
  have := api_version_text ds hne hd
  exact ⟨this.2.trans this.1.symm, this.1⟩

/-- the caret range of a version at or above 0.1.0 is exactly: same api, and at least that version -/
theorem caret_iff_same_api_and_ge (a b c : Nat) (v : V) (h : a ≠ 0 ∨ b ≠ 0) :
    pinnedRule .caret [a, b, c] v ↔ apiClass v = apiClass (a, b, c) ∧ tle (a, b, c) v := by
  obtain ⟨x, y, z⟩ := v
  rw [(pinnedRule_caret a b c _).2.2, apiClass_eq_iff, and_comm]
  by_cases ha : a = 0
  · have hb : b ≠ 0 := by omega
    simp only [caretUpper, ha, hb, ne_eq, not_true_eq_false, not_false_eq_true, if_true, if_false, tle, tlt,
      Prod.mk.injEq, false_or]
    omega
  · simp only [caretUpper, ha, ne_eq, not_false_eq_true, if_true, tle, tlt, Prod.mk.injEq, true_or, and_true]
    omega

example : pinnedRule .caret [0, 3, 1] (0, 3, 9) ∧ apiClass (0, 3, 9) = apiClass (0, 3, 1) := by
  simp [pinnedRule, cargoRule, tle, tlt, apiClass]

/-- a caret requirement never leaves the api of its version (all versions but 0.0.0, whose caret
range is the deviation `< 1.0.0`) -/
theorem caret_stays_in_api (a b c : Nat) (v : V) (h : (a, b, c) ≠ (0, 0, 0))
    (hm : pinnedRule .caret [a, b, c] v) : apiClass v = apiClass (a, b, c) := by
  by_cases h2 : a ≠ 0 ∨ b ≠ 0
  · exact ((caret_iff_same_api_and_ge a b c v h2).mp hm).1
  · have ha : a = 0 := by omega
    have hb : b = 0 := by omega
    have hc : c ≠ 0 := by
      rintro rfl
      exact h (by rw [ha, hb])
    obtain ⟨x, y, z⟩ := v
    rw [(pinnedRule_caret a b c _).2.2] at hm
    rw [apiClass_eq_iff]
    simp only [caretUpper, ha, hb, hc, ne_eq, not_true_eq_false, not_false_eq_true, if_true, if_false, tle, tlt,
      Prod.mk.injEq] at hm ⊢
    omega

/-- Two versions share an api (hence a subproject name `<crate>-<api>-rs`) iff the newer one lies in
the caret range of the older one — for every api except `0` (see `api_zero_lumps_witness`). -/
theorem same_api_iff_caret_compatible (v w : V) (hv : apiClass v ≠ .zero) (hw : w ≠ (0, 0, 0)) :
    apiClass v = apiClass w ↔
      (pinnedRule .caret [v.1, v.2.1, v.2.2] w ∨ pinnedRule .caret [w.1, w.2.1, w.2.2] v) := by
  obtain ⟨a, b, c⟩ := v
  obtain ⟨x, y, z⟩ := w
  have hab : a ≠ 0 ∨ b ≠ 0 := by
    by_cases ha : a = 0 <;> by_cases hb : b = 0 <;> simp_all [apiClass]
  constructor
  · intro he
    have hxy : x ≠ 0 ∨ y ≠ 0 := by
      have := (apiClass_eq_iff _ _).mp he
      simp only at this
      omega
    by_cases hle : tle (a, b, c) (x, y, z)
    · exact Or.inl ((caret_iff_same_api_and_ge a b c (x, y, z) hab).mpr ⟨he.symm, hle⟩)
    · exact Or.inr ((caret_iff_same_api_and_ge x y z (a, b, c) hxy).mpr
        ⟨he, (tle_iff_not_tlt _ _).mpr fun h => hle (Or.inl h)⟩)
  · rintro (h | h)
    · exact ((caret_iff_same_api_and_ge a b c (x, y, z) hab).mp h).1.symm
    · exact caret_stays_in_api x y z (a, b, c) hw h

/-- the api `0` lumps all of 0.0.z together although Cargo treats each 0.0.z as incompatible with
the others: same api string, neither caret range contains the other version -/
theorem api_zero_lumps_witness :
    apiOf "0.0.1".toList = apiOf "0.0.2".toList ∧
    ¬ pinnedRule .caret [0, 0, 1] (0, 0, 2) ∧ ¬ pinnedRule .caret [0, 0, 2] (0, 0, 1) := by
  refine ⟨by decide, ?_, ?_⟩ <;> simp [pinnedRule, cargoRule, tle, tlt]

/-- version texts with the same api string are in the same api class (so, by
`same_api_iff_caret_compatible`, caret compatible unless the api is `0`) -/
theorem same_api_text_same_class (x1 y1 z1 x2 y2 z2 : List Char)
    (h1 : IsNum x1) (h2 : IsNum y1) (h4 : IsNum x2) (h5 : IsNum y2)
    (he : apiText [x1, y1, z1] = apiText [x2, y2, z2]) :
    apiClass (MesonModel.Py.natOfDigits x1, MesonModel.Py.natOfDigits y1, MesonModel.Py.natOfDigits z1) =
      apiClass (MesonModel.Py.natOfDigits x2, MesonModel.Py.natOfDigits y2, MesonModel.Py.natOfDigits z2) := by
  rw [apiClass_eq_classOfApi x1 y1 [z1] _ h1, apiClass_eq_classOfApi x2 y2 [z2] _ h4, he]

/-- `resolve_package(name, api)` reads the api string as a requirement: for an api `N` or `0.N`
(`N ≠ 0`) it accepts exactly the versions of that api; the api `0` accepts every 0.y.z -/
theorem api_string_as_requirement (n : Nat) (hn : n ≠ 0) (v : V) :
    (pinnedRule .caret [n] v ↔ apiClass v = .major n) ∧
    (pinnedRule .caret [0, n] v ↔ apiClass v = .zeroMinor n) ∧
    (pinnedRule .caret [0] v ↔ v.1 = 0) := by
  obtain ⟨x, y, z⟩ := v
  have h1 : ApiClass.major n = apiClass (n, 0, 0) := by simp [apiClass, hn]
  have h2 : ApiClass.zeroMinor n = apiClass (0, n, 0) := by simp [apiClass, hn]
  rw [h1, h2, apiClass_eq_iff, apiClass_eq_iff, (pinnedRule_caret n 0 0 _).1, (pinnedRule_caret 0 n 0 _).2.1,
    (pinnedRule_caret 0 0 0 _).1]
  simp only [caretUpper, hn, ne_eq, not_true_eq_false, not_false_eq_true, if_true, if_false, tle, tlt,
    Prod.mk.injEq, true_or, and_true, false_or]
  omega

/-- `_resolve_package` over `CargoLock.named` returns an accepted package of that name, and no
accepted package of that name in Cargo.lock has higher precedence (for ALL lock files, names and
predicates) -/
theorem lock_resolution_picks_newest_accepted (l : List LockPkg) (name : List Char)
    (acc : List Char → Bool) (p : LockPkg) (h : resolveWith (some l) name acc = some p) :
    p ∈ l ∧ p.name = name ∧ acc p.version = true ∧
      ∀ q, q ∈ l → q.name = name → acc q.version = true → vlt (key p) (key q) = false := by
  have := find_first_of_desc _ _ p (sortDesc_desc _) h
  obtain ⟨hm, ha, hn⟩ := this
  have hm' := (mem_sortDesc _ _).mp hm
  simp only [List.mem_filter, decide_eq_true_eq] at hm'
  refine ⟨hm'.1, hm'.2, ha, ?_⟩
  intro q hq hqn hqa
  exact hn q ((mem_sortDesc _ _).mpr (by simp [hq, hqn])) hqa

/-- … and it returns nothing exactly when Cargo.lock has no accepted package of that name -/
theorem lock_resolution_none_iff (l : List LockPkg) (name : List Char) (acc : List Char → Bool) :
    resolveWith (some l) name acc = none ↔ ∀ q, q ∈ l → q.name = name → acc q.version = false := by
  simp only [resolveWith, named, List.find?_eq_none, mem_sortDesc, List.mem_filter, decide_eq_true_eq]
  constructor
  · intro h q hq hn
    simpa using h q ⟨hq, hn⟩
  · intro h q hq
    simp [h q hq.1 hq.2]

example : resolveWith (some [⟨['a'], "1.2.0".toList⟩, ⟨['b'], "9.0.0".toList⟩, ⟨['a'], "1.10.0".toList⟩,
      ⟨['a'], "2.0.0".toList⟩]) ['a'] (cargoParse "1".toList) = some ⟨['a'], "1.10.0".toList⟩ := by decide +kernel

/-- the sort is a stable descending sort: the listing has the same packages, never a newer one
after an older one -/
theorem lock_listing_sorted (l : List LockPkg) (name : List Char) :
    Desc (named l name) ∧ ∀ q, q ∈ named l name ↔ (q ∈ l ∧ q.name = name) := by
  refine ⟨sortDesc_desc _, fun q => ?_⟩
  simp [named, mem_sortDesc]

/-- `_dep_package` (registry branch): when Cargo.lock has an accepted version the requirement is
pinned to it and `_fetch_package` is asked for the api of exactly that version -/
theorem dep_pin_fetches_package_api (l : List LockPkg) (pkg req : List Char) (p : LockPkg)
    (ds : List (List Char)) (h : resolveWith (some l) pkg (cargoParse req) = some p)
    (hv : p.version = dotted ds) (hne : ds ≠ []) (hd : ∀ d, d ∈ ds → IsNum d) :
    depPin (some l) pkg req = ('=' :: p.version, .ok (apiText ds)) ∧ api p.version = .ok (apiText ds) := by
  have := api_version_text ds hne hd
  simp [depPin, h, hv, this.1, this.2]

/-- without an accepted lock entry (or without Cargo.lock) the requirement is left alone -/
theorem dep_pin_unresolved (lock : Option (List LockPkg)) (pkg req : List Char)
    (h : resolveWith lock pkg (cargoParse req) = none) : depPin lock pkg req = (req, api req) := by
  simp [depPin, h]

/-! ### `[target.'<condition>'.dependencies]` -/

/-- After the merge loop of `_prepare_package` the dependency table is the original table updated
with the tables of exactly the targets whose condition holds, in manifest order (a later enabled
table wins). -/
theorem target_dependencies_selected (triple : List Char) (cfgs : Cfgs) (ts : List (List Char × Deps))
    (d r : Deps) (h : mergeTargets triple cfgs d ts = .ok r) (k : List Char) :
    r.lookup k =
      ((((ts.filter (isEnabled triple cfgs)).flatMap (fun t => t.2)).reverse).lookup k).or (d.lookup k) := by
  rw [mergeTargets_ok triple cfgs ts d r h, dictUpdate_lookup]

/-- a malformed condition is never skipped or taken silently: the loop raises iff some condition
(other than the literal target triple) makes `eval_cfg` raise -/
theorem target_condition_error_iff (triple : List Char) (cfgs : Cfgs) (ts : List (List Char × Deps)) (d : Deps) :
    (∃ e, mergeTargets triple cfgs d ts = .error e) ↔
      ∃ t, t ∈ ts ∧ ∃ e, conditionHolds triple cfgs t.1 = .error e := by
  induction ts generalizing d with
  | nil => simp [mergeTargets]
  | cons t rest ih =>
    obtain ⟨cond, ds⟩ := t
    simp only [mergeTargets]
    cases hc : conditionHolds triple cfgs cond with
    | error e => simp [hc]
    | ok b =>
      cases b <;> simp [hc, ih]

/-- for the text of a cfg expression the condition is the value of its structure -/
theorem target_condition_of_cfg_text (triple : List Char) (cfgs : Cfgs) (e : IR) (h : lexOk e) :
    conditionHolds triple cfgs ("cfg(".toList ++ renderStr e ++ [')']) =
      .ok (decide ("cfg(".toList ++ renderStr e ++ [')'] = triple) || evalIR cfgs e) := by
  have hr := evalCfg_render e h cfgs
  unfold conditionHolds
  by_cases heq : "cfg(".toList ++ renderStr e ++ [')'] = triple
  · rw [if_pos heq, decide_eq_true heq]
    rfl
  · rw [if_neg heq, hr, decide_eq_false heq]
    rfl

/-- a condition that is not of the form `cfg(…)` only matches as the literal target triple -/
theorem target_condition_triple (triple : List Char) (cfgs : Cfgs) (cond : List Char)
    (h : MesonModel.Py.startsWith cond ['c', 'f', 'g', '('] = false) :
    conditionHolds triple cfgs cond = .ok (decide (cond = triple)) := by
  unfold conditionHolds
  split
  · rename_i heq
    simp [heq]
  · rename_i hne
    simp [evalCfg, h, hne]

/-- `_prepare_package` runs once per machine on the same manifest and updates it in place: the
second machine's table is the first machine's result updated with the second machine's targets -/
theorem target_merge_history_accumulates (d : Deps) (ts : List (List Char × Deps))
    (t1 t2 : List Char) (c1 c2 : Cfgs) (r1 r2 : Deps)
    (h : mergeHistory d ts [(t1, c1), (t2, c2)] = .ok [r1, r2]) :
    r1 = dictUpdate d ((ts.filter (isEnabled t1 c1)).flatMap (fun t => t.2)) ∧
    r2 = dictUpdate r1 ((ts.filter (isEnabled t2 c2)).flatMap (fun t => t.2)) := by
  simp only [mergeHistory] at h
  cases h1 : mergeTargets t1 c1 d ts with
  | error e => simp [h1] at h
  | ok x =>
    cases h2 : mergeTargets t2 c2 x ts with
    | error e => simp [h1, h2] at h
    | ok y =>
      simp [h1, h2] at h
      obtain ⟨rfl, rfl⟩ := h
      exact ⟨mergeTargets_ok _ _ _ _ _ h1, mergeTargets_ok _ _ _ _ _ h2⟩

/-- consequence on a witness: a dependency enabled only for the first machine (`cfg(windows)`) is
still in the table the second machine (`unix`) resolves from -/
theorem target_merge_second_machine_witness :
    mergeHistory [] [("cfg(windows)".toList, [("winapi".toList, "0.3".toList)])]
      [("x86_64-pc-windows-msvc".toList, [("windows".toList, [])]),
       ("x86_64-unknown-linux-gnu".toList, [("unix".toList, [])])] =
      .ok [[("winapi".toList, "0.3".toList)], [("winapi".toList, "0.3".toList)]] ∧
    mergeTargets "x86_64-unknown-linux-gnu".toList [("unix".toList, [])] []
      [("cfg(windows)".toList, [("winapi".toList, "0.3".toList)])] = .ok [] := by decide +kernel

/-! ### `SystemDependency.meson_version` -/

/-- a bare system-deps version is a minimum version under the meson version order (C19) -/
theorem system_dep_bare_version_is_minimum (p : List Char) (c : Char) (r v : List Char)
    (hs : MesonModel.Py.strip p = c :: r) (hc : isCmpStart c = false) :
    mesonVersionPiece p = .ok ('>' :: '=' :: c :: r) ∧
    MesonModel.Version.versionCompare v ('>' :: '=' :: c :: r) =
      MesonModel.Version.vge (MesonModel.Version.tokenize v) (MesonModel.Version.tokenize p) := by
  refine ⟨by simp [mesonVersionPiece, hs, hc], ?_⟩
  rw [← MesonModel.Version.tokenize_strip p, hs]
  exact MesonModel.Version.versionCompare_of_extract (s := '>' :: '=' :: c :: r) (w := c :: r) (op := .ge)
    (by simp [MesonModel.Version.extractCmpOp, MesonModel.Py.startsWith]) v

/-- a piece that starts with `>`, `<` or `=` is passed to meson unchanged (stripped) -/
theorem system_dep_constraint_passed_through (p : List Char) (c : Char) (r : List Char)
    (hs : MesonModel.Py.strip p = c :: r) (hc : isCmpStart c = true) :
    mesonVersionPiece p = .ok (MesonModel.Py.strip p) := by
  simp [mesonVersionPiece, hs, hc]

/-- the found version is accepted iff every converted constraint holds; there is one constraint per
comma piece, in order -/
theorem system_dep_accepts_iff (version v : List Char) (b : Bool)
    (h : systemDepAccepts version v = .ok b) :
    ∃ cs, mesonVersion version = .ok cs ∧
      (b = true ↔ ∀ c, c ∈ cs → MesonModel.Version.versionCompare v c = true) := by
  unfold systemDepAccepts at h
  cases hm : mesonVersion version with
  | error e => simp [hm] at h
  | ok cs =>
    simp [hm] at h
    refine ⟨cs, rfl, ?_⟩
    subst h
    simp [MesonModel.Version.versionCompareMany, List.filter_eq_nil_iff]

theorem system_dep_pieces (version : List Char) (hne : version ≠ []) (cs : List (List Char))
    (h : mesonVersion version = .ok cs) :
    cs.length = (splitOnChar ',' version).length ∧
      ∀ i (hi : i < (splitOnChar ',' version).length) (hj : i < cs.length),
        mesonVersionPiece (splitOnChar ',' version)[i] = .ok cs[i] := by
  simp only [mesonVersion, hne, if_false] at h
  exact mesonVersionPieces_ok _ _ h

/-- QUIRK: a blank piece (`"1.2,"`, `" "`) is not rejected with a MesonException; `v[0]` raises
IndexError. The empty string is handled (no constraint). -/
theorem system_dep_blank_piece_raises (version : List Char) :
    mesonVersion version = .error .indexError ↔
      version ≠ [] ∧ ∃ p, p ∈ splitOnChar ',' version ∧ MesonModel.Py.strip p = [] := by
  unfold mesonVersion
  by_cases h : version = []
  · simp [h]
  · simp [h, mesonVersionPieces_error_iff]

example : mesonVersion "1.2, <2".toList = .ok [">=1.2".toList, "<2".toList] ∧
    mesonVersion [] = .ok [] ∧ mesonVersion "1.2,".toList = .error .indexError := by decide +kernel

end Consumers

end MesonModel.Props.C20
