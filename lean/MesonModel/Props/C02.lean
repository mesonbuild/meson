/-
C02 — Parsing is total, lossless and position-accurate.

Property theorems over the model `MesonModel.Lang`: the lexer, the recursive-descent parser with its
pending-whitespace list, and `RawPrinter` as `emit`. All statements quantify over every input string
(`Str = List Char`).
-/
import MesonModel.Lang.TopLemmas
import MesonModel.Lang.ShapeLemmas
import MesonModel.Lang.LexAdj
import MesonModel.Lang.ErrPos
import MesonModel.Lang.TernaryFlag

namespace MesonModel.Props.C02
open MesonModel.Lang

/-- every name in the tables regenerated from the live `mparser` module is a token id of the model -/
theorem generated_tables_known : tablesKnown = true := by decide +kernel

/-- a keyword token prints as the keyword text and is never `eof` (obligation over the generated keyword table) -/
theorem generated_keywords_print : keywordTable.all kwEntryOk = true := keywordTable_ok

/-- no single-character token id collides with a string/boolean/`eof` id (obligation over the generated table) -/
theorem generated_single_chars_plain : singleCharTable.all singleEntryOk = true := singleCharTable_ok

/-- Stated together: most of the work of checking one run of `lex` goes into evaluating the three generated
tables (the string comparisons of `Tid.ofName`), which the runs then share. -/
theorem lex_runs :
    (lex "x = 'a'\n".toList).toks.length = 6 ∧
    (lex "a = \"".toList).err = some (1, 4) ∧
    ((lex "a = \\  # c\n [ '''x\n\ny''', # z\r\n 2]\n".toList).toks.map
      (fun t => (t.lineno, t.colno, t.spanStart))).drop 5 =
      [(2, 0, 11), (2, 1, 12), (2, 2, 13), (2, 3, 14), (4, 4, 24), (4, 5, 25), (4, 6, 26), (4, 10, 30), (5, 0, 31),
       (5, 1, 32), (5, 2, 33), (5, 3, 34)] ∧
    ((lex "x = 'a\nb'\nf()\n".toList).toks.map (fun t => (t.lineno, t.colno))).drop 6 =
      [(3, 0), (3, 1), (3, 2), (3, 3)] := by decide +kernel

def errOf (s : String) : Option Err :=
  match parse s.toList with
  | .ok _ => none
  | .error e => some e

/-- one list, checked in one evaluation for the reason given at `lex_runs` -/
def rejected : List (String × Err) :=
  [("a = b not\n", .parse 1 9),
   ("f('''a\nb'''", .block 1 11),
   ("a = {-: 1}\n", .parse 1 6),
   ("x = '\\N{foo}'\n", .parse 1 4),
   ("x = '\\UFFFFFFFF'\n", .parse 1 4),
   ("x = a == b == c\n", .parse 1 11),
   ("x = not not a\n", .parse 1 12),
   ("x = a ? b : c ? d : e\n", .parse 1 12),
   ("x = a ? (b ? c : d) : e\n", .parse 1 9)]

theorem rejected_located : ∀ p ∈ rejected, errOf p.1 = some p.2 := by decide +kernel

/-- `(text cut by the extent, construct)` for every call / array node of the tree, in tree order -/
def spansOf (s : String) : Option (List (String × String)) :=
  match parse s.toList with
  | .ok r => some ((sub r.tree).filterMap (fun n =>
      match n with
      | .function b name lpar a rpar =>
        some (String.ofList (extentSlice s.toList b), String.ofList (emit name ++ emit lpar ++ emit a ++ symValue rpar))
      | .method b _ _ name lpar a rpar =>
        some (String.ofList (extentSlice s.toList b), String.ofList (emit name ++ emit lpar ++ emit a ++ symValue rpar))
      | .array b l a rb => some (String.ofList (extentSlice s.toList b), String.ofList (emit l ++ emit a ++ symValue rb))
      | _ => none))
  | .error _ => none

/-- `ArgumentNode.order_error` -/
def orderFlag : Node → Bool
  | .args _ _ _ _ _ _ oe => oe
  | _ => false

/-- number of argument lists of the tree in which a positional argument was written after a keyword argument -/
def orderFlags (t : Node) : Nat := ((sub t).filter orderFlag).length

/-- one evaluation for the reason given at `lex_runs` -/
theorem accepted_runs :
    (match parse "if a not in [1, 2]\n  x = f(b, k : {'q' : -c.d()[0]}) ? 1 : 2 # c\nendif\n".toList with
    | .ok r => r.lossy == 0 && emit r.tree == "if a not in [1, 2]\n  x = f(b, k : {'q' : -c.d()[0]}) ? 1 : 2 # c\nendif\n".toList
    | .error _ => false) = true ∧
    (match parse "x = f(a, [1, 2] , k : g( 3 ) ) # c\ny = a.b(1).c( [ '''m\nl''' , # d\n 2] )\n".toList with
    | .ok r => r.lossy == 0 && ((sub r.tree).filter Node.isCallOrArray).length == 6 &&
        (sub r.tree).all (spanExactB "x = f(a, [1, 2] , k : g( 3 ) ) # c\ny = a.b(1).c( [ '''m\nl''' , # d\n 2] )\n".toList)
    | .error _ => false) = true ∧
    (match parse "d = ( {'a' : 1, # c\n 'b' : [2] }\n )\n".toList with
    | .ok r => r.lossy == 0 && ((sub r.tree).filter Node.recordsEnd).length == 3 &&
        (sub r.tree).all (spanExactB "d = ( {'a' : 1, # c\n 'b' : [2] }\n )\n".toList)
    | .error _ => false) = true ∧
    spansOf "y = a.b(1).c( [ 2,\n 3] ) \n" =
    some [("c( [ 2,\n 3] )", "c( [ 2,\n 3] )"), ("b(1)", "b(1)"), ("[ 2,\n 3]", "[ 2,\n 3]")] ∧
    spansOf "f(a: 1, b)\n" = some [("f(a: 1, b)", "f(b, a: 1)")] ∧
    (match parse "f(a: 1, b)\n".toList with
     | .ok r => (r.lossy, orderFlags r.tree, String.ofList (emit r.tree))
     | .error _ => (0, 0, "")) = (1, 1, "f(b, a: 1)\n") ∧
    (match parse "f(b, a: 1)\n".toList with
     | .ok r => (r.lossy, orderFlags r.tree, String.ofList (emit r.tree))
     | .error _ => (9, 9, "")) = (0, 0, "f(b, a: 1)\n") := by
  -- the kernel is slow to decode a long string literal: spell the three long programs (two occurrences each)
  -- out as character lists first
  conv in String.toList _ => rw [String.toList_ofList]
  conv in String.toList _ => rw [String.toList_ofList]
  conv in String.toList _ => rw [String.toList_ofList]
  conv in String.toList _ => rw [String.toList_ofList]
  conv in String.toList _ => rw [String.toList_ofList]
  conv in String.toList _ => rw [String.toList_ofList]
  decide +kernel

/-- the token texts, then the part the lexer did not reach (non-empty only when it raised), are the input byte for
byte -/
theorem lex_partition (s : Str) : (lex s).texts ++ (lex s).rem = s := MesonModel.Lang.lex_partition s

/-- the lexer's progress argument: every step consumes at least one character, so the fuel `len + 1` suffices -/
theorem lex_total (s : Str) : (lex s).fuelOut = false := lex_fuel s

theorem lex_complete (s : Str) (h : (lex s).err = none) : (lex s).texts = s := MesonModel.Lang.lex_complete s h

/-- every token prints back as its own text (quotes/prefix of the four string kinds restored around `value`) -/
theorem lex_tokens_print (s : Str) : ∀ t ∈ (lex s).toks, t.tid ≠ .eof ∧ printed t = t.text := lex_printed s

example : (lex "x = 'a'\n".toList).toks.length = 6 := lex_runs.1

/-- `error_located` (lexer part): a `ParseException` raised by the lexer carries either the BOM position `0:0`
(input starts with U+FEFF) or a line number ≥ 1 and a column that is an offset inside the text -/
theorem lex_error_located (s : Str) (l c : Nat) (h : (lex s).err = some (l, c)) :
    (l = 0 ∧ c = 0 ∧ s.head? = some bom) ∨ (1 ≤ l ∧ c ≤ s.length) := by
  rcases lex_err_addr h with hb | ⟨off, ho, hl, hc⟩
  · exact .inl hb
  · have := lastLineLen_le (s.take off)
    rw [List.length_take_of_le ho] at this
    exact .inr ⟨by omega, by omega⟩

example : (lex "a = \"".toList).err = some (1, 4) := lex_runs.2.1

/-- the full statement of losslessness (false of the code: keyword-before-positional, see `raw_roundtrip_counterexample`) -/
def raw_roundtrip_full : Prop := ∀ (s : Str) (r : ParseOk), parse s = .ok r → emit r.tree = s

/-- `raw_roundtrip_partial`: for **every** input the parser accepts, unless a positional argument was appended
after a keyword argument (`ArgumentNode.order_error`, counted by the ghost field `lossy`), `RawPrinter`
reproduces the input exactly — no token of an accepted file is dropped. Proved production by production with
the ghost-output-stream invariant (`RoundTrip.lean`); no production is left uncovered. -/
theorem raw_roundtrip_partial (s : Str) (names : List (Str × Nat)) (r : ParseOk)
    (h : parseWith names s = .ok r) (hl : r.lossy = 0) : emit r.tree = s :=
  parse_roundtrip h hl

/-- the same for an arbitrary token list without an inner `eof`: nothing dropped, nothing reordered, trivia included -/
theorem tokens_roundtrip (names : List (Str × Nat)) (lr : LexResult) (fuel : Nat) (r : ParseOk)
    (h : parseToks names lr fuel = .ok r) (hl : r.lossy = 0) (hne : NoEofTok lr.toks) :
    emit r.tree = restText lr.toks :=
  parseToks_roundtrip h hl hne

/-- an accepted input was tokenised completely: a lexer error is never swallowed -/
theorem accepted_implies_lexed (names : List (Str × Nat)) (lr : LexResult) (fuel : Nat) (r : ParseOk)
    (h : parseToks names lr fuel = .ok r) (hne : NoEofTok lr.toks) : lr.err = none :=
  parseToks_lexErr h hne

/-- the hypotheses of `raw_roundtrip_partial` are satisfiable on a program using most productions -/
example : (match parse "if a not in [1, 2]\n  x = f(b, k : {'q' : -c.d()[0]}) ? 1 : 2 # c\nendif\n".toList with
    | .ok r => r.lossy == 0 && emit r.tree == "if a not in [1, 2]\n  x = f(b, k : {'q' : -c.d()[0]}) ? 1 : 2 # c\nendif\n".toList
    | .error _ => false) = true := accepted_runs.1

/-- a `not` that no `in` follows is rejected at the token after it (repaired in /repo 34437f4; before that
commit it was accepted with the `not` in no node) -/
theorem dangling_not_rejected : errOf "a = b not\n" = some (.parse 1 9) :=
  rejected_located (_, _) (by simp [rejected])

/-- **for every string the model outcome is accept or a located error** (`ParseException` /
`BlockParseException` carrying line and column). In particular the recursion fuel `token count + 3` never runs
out (`fuel_suffices`) and the `AttributeError` path of `e4` is unreachable. Together with the correspondence
(model = implementation on every explored input, exception class included) this is the property's "no internal
Python error ever escapes". Proved compositionally over the parser monad (`Safe.lean`: every recursion happens
after a token was consumed) and from the lexer adjacency lemma. -/
theorem no_internal_error_full (s : Str) (names : List (Str × Nat)) (e : Err)
    (h : parseWith names s = .error e) : e.isLocated = true :=
  parse_error_located h

/-- every error the model can raise — lexer or parser, `ParseException` or `BlockParseException` — carries a
line that exists in the text and a column that, added to the offset of that line, does not pass the end of the
text. (`lineOff s l` is the offset of the first character of line `l`; line `0`, used only by the BOM error
`0:0`, is treated like line `1`.) Two stages: every position the parser can report is the start or end position
of a token, the lexer's error position, or `0:0` (`PosInv.lean`); the lexer's line bookkeeping is exact
(`LexPos.lean`). -/
theorem parser_error_located (s : Str) (names : List (Str × Nat)) (e : Err)
    (h : parseWith names s = .error e) :
    ∃ l c, (e = .parse l c ∨ e = .block l c) ∧ l ≤ countNl s + 1 ∧ lineOff s l + c ≤ s.length := by
  have hloc := parse_error_located h
  have hpos := parse_error_inText h
  cases e with
  | parse l c => exact ⟨l, c, Or.inl rfl, hpos⟩
  | block l c => exact ⟨l, c, Or.inr rfl, hpos⟩
  | notInNoWs => simp [Err.isLocated] at hloc
  | fuel => simp [Err.isLocated] at hloc

/-- the line/column of a token address its `bytespan` start, and the span is as long as the token's text -/
theorem lex_token_offsets (s : Str) : ∀ t ∈ (lex s).toks,
    lineOff s t.lineno + t.colno = t.spanStart ∧ t.spanEnd = t.spanStart + t.text.length :=
  MesonModel.Lang.lex_token_offsets s

theorem lex_token_positions (s : Str) : ∀ t ∈ (lex s).toks,
    InText s (t.lineno, t.colno) ∧ InText s (t.lineno, t.colno + t.spanEnd - t.spanStart) :=
  (lex_pos s).1

/-- **line bookkeeping is exact, for every input and every token kind**, as a statement about the text alone
(`spanStart` is `bytespan[0]`). It covers the tokens that follow multi-line tokens — triple-quoted (f-)strings,
single-quoted strings holding a raw newline, `\`-continuations with blanks and a trailing comment — because the
model's `lexStep` mirrors each of the four `lineno`/`line_start` updates of `Lexer.lex` and `LexPos.lean` proves
the state invariant `lineno = newlines consumed + 1`, `line_start = offset after the last newline consumed`
across every one of them. `'\r'` is an ordinary character: outside strings/comments the lexer rejects it, inside
it is one column. -/
theorem lex_token_linecol (s : Str) : ∀ t ∈ (lex s).toks,
    t.spanStart ≤ s.length ∧ t.lineno = countNl (s.take t.spanStart) + 1 ∧
      t.colno = lastLineLen (s.take t.spanStart) :=
  MesonModel.Lang.lex_token_linecol s

/-- `lineOff` is the rewriter's line table: an address denotes its offset there and lies inside the text; an
offset has one address -/
theorem address_offset (s : Str) (l c off : Nat) (h : Addr s l c off) : lineOff s l + c = off ∧ InText s (l, c) :=
  ⟨h.offset, h.inText⟩

theorem address_unique (s : Str) (l c l' c' off : Nat) (h : Addr s l c off) (h' : Addr s l' c' off) :
    l = l' ∧ c = c' := h.unique h'

/-- the tokens after a continuation line with a trailing comment, after a triple-quoted string spanning three
lines, and after a CRLF inside a comment: (line, column, offset) -/
example : ((lex "a = \\  # c\n [ '''x\n\ny''', # z\r\n 2]\n".toList).toks.map
    (fun t => (t.lineno, t.colno, t.spanStart))).drop 5 =
    [(2, 0, 11), (2, 1, 12), (2, 2, 13), (2, 3, 14), (4, 4, 24), (4, 5, 25), (4, 6, 26), (4, 10, 30), (5, 0, 31),
     (5, 1, 32), (5, 2, 33), (5, 3, 34)] := lex_runs.2.2.1

example : lineOff "ab\ncd\n".toList 2 = 3 := by decide
/-- the `eof` token after a multi-line string sits past the end of line 1, but inside the text -/
example : errOf "f('''a\nb'''" = some (.block 1 11) :=
  rejected_located (_, _) (by simp [rejected])

/-- the full statement of span exactness, over every node of the tree (`sub`: all descendants included).
`SpanExact`: if `n` is of one of the five kinds whose constructor records an end position — `FunctionNode`,
`MethodNode`, `ArrayNode`, `DictNode`, `ParenthesizedNode` — then both recorded line/column pairs are addresses
in the sense of `lex_token_linecol` and the text between them (`extentSlice`; `lineOff` counts lines by `'\n'`
only, as the rewriter's line table does) is what `RawPrinter` prints for the parts of the construct, from the
first token to the closing `)` / `]` / `}`, without the trivia after it; every other node kind records no end
position (`end_lineno/end_colno` = start). A `MethodNode` is positioned at its *name* (`mparser.py:534`), so its
extent is `name(args)`, not `obj.name(args)`. False of the code as it is, for the reason `raw_roundtrip_full` is
false, see `span_exact_counterexample`. -/
def span_exact_full : Prop :=
  ∀ (s : Str) (names : List (Str × Nat)) (r : ParseOk), parseWith names s = .ok r →
    ∀ n ∈ sub r.tree, SpanExact s n

/-- `span_exact_partial`: for **every** input the parser accepts, under the hypothesis of
`raw_roundtrip_partial`, the line/column extent recorded on every function call, method call, array literal,
dict literal and parenthesised expression, converted to offsets with the line table, delimits exactly the source
text of that construct — multi-line strings, continuation lines and comments inside the brackets included — and
no other node kind records an end position. Proved production by production, in the walk of
`raw_roundtrip_partial` (`RoundTrip.lean`): a state invariant (`Sync`, `SpanInv.lean`) ties the unconsumed token
stream to the suffix of the input it prints and to the line/column of its first token; where `e8`, `method_call`
and `e9` (three sites) build the node, the ghost-output-stream facts of `raw_roundtrip_partial` give the text
between the first and the last token. -/
theorem span_exact_partial (s : Str) (names : List (Str × Nat)) (r : ParseOk)
    (h : parseWith names s = .ok r) (hl : r.lossy = 0) : ∀ n ∈ sub r.tree, SpanExact s n :=
  parse_spans h hl

theorem span_exact_function (s : Str) (names : List (Str × Nat)) (r : ParseOk)
    (h : parseWith names s = .ok r) (hl : r.lossy = 0) (b : Base) (name lpar a rpar : Node)
    (hn : Node.function b name lpar a rpar ∈ sub r.tree) :
    slice s (lineOff s b.lineno + b.colno) (lineOff s b.endLineno + b.endColno) =
      emit name ++ emit lpar ++ emit a ++ symValue rpar :=
  (span_exact_partial s names r h hl _ hn).2.2

theorem span_exact_array (s : Str) (names : List (Str × Nat)) (r : ParseOk)
    (h : parseWith names s = .ok r) (hl : r.lossy = 0) (b : Base) (l a rb : Node)
    (hn : Node.array b l a rb ∈ sub r.tree) :
    slice s (lineOff s b.lineno + b.colno) (lineOff s b.endLineno + b.endColno) =
      emit l ++ emit a ++ symValue rb :=
  (span_exact_partial s names r h hl _ hn).2.2

theorem span_exact_dict (s : Str) (names : List (Str × Nat)) (r : ParseOk)
    (h : parseWith names s = .ok r) (hl : r.lossy = 0) (b : Base) (l a rc : Node)
    (hn : Node.dict b l a rc ∈ sub r.tree) :
    slice s (lineOff s b.lineno + b.colno) (lineOff s b.endLineno + b.endColno) =
      emit l ++ emit a ++ symValue rc :=
  (span_exact_partial s names r h hl _ hn).2.2

theorem span_exact_paren (s : Str) (names : List (Str × Nat)) (r : ParseOk)
    (h : parseWith names s = .ok r) (hl : r.lossy = 0) (b : Base) (l inner rp : Node)
    (hn : Node.paren b l inner rp ∈ sub r.tree) :
    slice s (lineOff s b.lineno + b.colno) (lineOff s b.endLineno + b.endColno) =
      emit l ++ emit inner ++ symValue rp :=
  (span_exact_partial s names r h hl _ hn).2.2

/-- the object expression and the dot lie before the recorded start -/
theorem span_exact_method (s : Str) (names : List (Str × Nat)) (r : ParseOk)
    (h : parseWith names s = .ok r) (hl : r.lossy = 0) (b : Base) (obj dot name lpar a rpar : Node)
    (hn : Node.method b obj dot name lpar a rpar ∈ sub r.tree) :
    slice s (lineOff s b.lineno + b.colno) (lineOff s b.endLineno + b.endColno) =
      emit name ++ emit lpar ++ emit a ++ symValue rpar :=
  (span_exact_partial s names r h hl _ hn).2.2

/-- the end positions recorded by the parser nodes obey the same law as the token positions
(`lex_token_linecol`): `(end_lineno, end_colno)` is the address of the offset just after the closing `)` / `]` /
`}`, `(lineno, colno)` that of the start offset -/
theorem node_end_positions (s : Str) (names : List (Str × Nat)) (r : ParseOk)
    (h : parseWith names s = .ok r) (hl : r.lossy = 0) (n : Node) (hn : n ∈ sub r.tree)
    (hr : n.recordsEnd = true) :
    Addr s n.base.lineno n.base.colno (lineOff s n.base.lineno + n.base.colno) ∧
    Addr s n.base.endLineno n.base.endColno (lineOff s n.base.endLineno + n.base.endColno) := by
  have hx := span_exact_partial s names r h hl n hn
  cases n <;> simp [Node.recordsEnd] at hr
  all_goals exact ⟨hx.1, hx.2.1⟩

/-- every other node — string nodes (single- and triple-quoted, f-strings), numbers, ids, booleans, symbols,
`continue`/`break`, index expressions `a[i]`, unary/binary/ternary operators, assignments, argument lists, code
blocks, `if`/`elif`/`else`/`foreach` clauses and the empty node — keeps the `BaseNode` defaults; the only extent
such a node carries is the `bytespan` of an elementary node, which is compared with the implementation on every
run. -/
theorem no_end_recorded (s : Str) (names : List (Str × Nat)) (r : ParseOk)
    (h : parseWith names s = .ok r) (hl : r.lossy = 0) (n : Node) (hn : n ∈ sub r.tree)
    (hr : n.recordsEnd = false) : n.base.endLineno = n.base.lineno ∧ n.base.endColno = n.base.colno := by
  have hx := span_exact_partial s names r h hl n hn
  cases n <;> simp [Node.recordsEnd] at hr
  all_goals first | exact hx | exact hx.1

/-- the hypotheses of `span_exact_partial` are satisfiable on a program with nested calls, a method chain, an
array spanning lines with a multi-line string and a comment inside -/
example : (match parse "x = f(a, [1, 2] , k : g( 3 ) ) # c\ny = a.b(1).c( [ '''m\nl''' , # d\n 2] )\n".toList with
    | .ok r => r.lossy == 0 && ((sub r.tree).filter Node.isCallOrArray).length == 6 &&
        (sub r.tree).all (spanExactB "x = f(a, [1, 2] , k : g( 3 ) ) # c\ny = a.b(1).c( [ '''m\nl''' , # d\n 2] )\n".toList)
    | .error _ => false) = true := accepted_runs.2.1

/-- a dict literal over two lines with a comment, inside a parenthesised expression over three lines: all
position fields exact -/
example : (match parse "d = ( {'a' : 1, # c\n 'b' : [2] }\n )\n".toList with
    | .ok r => r.lossy == 0 && ((sub r.tree).filter Node.recordsEnd).length == 3 &&
        (sub r.tree).all (spanExactB "d = ( {'a' : 1, # c\n 'b' : [2] }\n )\n".toList)
    | .error _ => false) = true := accepted_runs.2.2.1

example : spansOf "y = a.b(1).c( [ 2,\n 3] ) \n" =
    some [("c( [ 2,\n 3] )", "c( [ 2,\n 3] )"), ("b(1)", "b(1)"), ("[ 2,\n 3]", "[ 2,\n 3]")] := accepted_runs.2.2.2.1

/-- with a keyword argument before a positional one the extent still delimits the call as written, but the
print of its parts is reordered (F-PARSE-KWORDER) -/
theorem kwarg_before_positional_span :
    spansOf "f(a: 1, b)\n" = some [("f(a: 1, b)", "f(b, a: 1)")] := accepted_runs.2.2.2.2.1

theorem span_exact_counterexample : ¬ span_exact_full := by
  intro h
  have hs := kwarg_before_positional_span
  rw [spansOf] at hs
  split at hs
  · rename_i r hr
    -- the call node behind the one entry of the list: its extent cuts `f(a: 1, b)`, its parts print `f(b, a: 1)`
    have hmem := List.mem_singleton_self ("f(a: 1, b)", "f(b, a: 1)")
    rw [← Option.some.inj hs] at hmem
    obtain ⟨n, hn, hf⟩ := List.mem_filterMap.mp hmem
    have hx := h _ [] r hr n hn
    split at hf
    case h_4 => cases hf
    all_goals
      obtain ⟨h1, h2⟩ := Prod.mk.inj (Option.some.inj hf)
      rw [hx.2.2] at h1
      exact absurd (h1.symm.trans h2) (by decide)
  · cases hs

/-!
`raw_roundtrip_partial` speaks about the ghost counter `lossy`. What the implementation itself records is the
flag `ArgumentNode.order_error` (`incorrect_order()`, which the interpreter turns into "All keyword arguments
must be after positional arguments"); `orderFlags` counts it on the tree. -/

/-- the ghost counter never misses a flag. (The counter is incremented by `noteOrder` exactly where
`ArgumentNode.append` computes `order_error = True`, `mparser.py:370-374`; proved along the
production-by-production span invariant.) -/
theorem order_flag_sound (s : Str) (names : List (Str × Nat)) (r : ParseOk)
    (h : parseWith names s = .ok r) (hl : r.lossy = 0) : orderFlags r.tree = 0 := by
  have hx := span_exact_partial s names r h hl
  unfold orderFlags
  rw [List.length_eq_zero_iff, List.filter_eq_nil_iff]
  intro n hn
  have := hx n hn
  cases n <;> simp [orderFlag]
  case args b pos commas colons keys vals oe => exact this.2

/-- the converse: a set counter shows as a set flag in the tree — every `ArgumentNode` under construction ends up
in the returned tree. Not proved here (it needs another induction over all productions, "the node under
construction is a sub-node of the result"); it is checked on every input of every run: the driver's answer
carries both the counter and the flags, the harness compares them with each other and with `order_error` of the
real `ArgumentNode` objects (`model:lossy-vs-flag`, `impl:order-error-vs-print`). -/
def order_flag_complete : Prop :=
  ∀ (s : Str) (names : List (Str × Nat)) (r : ParseOk), parseWith names s = .ok r → orderFlags r.tree = 0 → r.lossy = 0

/-- `raw_roundtrip` at full strength under the decidable side condition on the tree: no `order_error` flag -/
def raw_roundtrip_unless_order_error : Prop :=
  ∀ (s : Str) (names : List (Str × Nat)) (r : ParseOk), parseWith names s = .ok r → orderFlags r.tree = 0 →
    emit r.tree = s ∧ ∀ n ∈ sub r.tree, SpanExact s n

theorem raw_roundtrip_unless_order_error_of_complete (hc : order_flag_complete) : raw_roundtrip_unless_order_error :=
  fun s names r h hf => ⟨raw_roundtrip_partial s names r h (hc s names r h hf),
    span_exact_partial s names r h (hc s names r h hf)⟩

/-- what the printer does when the flag is set, on the smallest witness: `visit_ArgumentNode` prints all
positional arguments first (each followed by the next comma of the list), then the keyword arguments — the text
is a permutation of the source tokens (`a: 1, b` → `b, a: 1`). -/
theorem order_error_witness :
    (match parse "f(a: 1, b)\n".toList with
     | .ok r => (r.lossy, orderFlags r.tree, String.ofList (emit r.tree))
     | .error _ => (0, 0, "")) = (1, 1, "f(b, a: 1)\n") ∧
    (match parse "f(b, a: 1)\n".toList with
     | .ok r => (r.lossy, orderFlags r.tree, String.ofList (emit r.tree))
     | .error _ => (9, 9, "")) = (0, 0, "f(b, a: 1)\n") :=
  accepted_runs.2.2.2.2.2

/-- the full statement of losslessness is false of the code as it is (F-PARSE-KWORDER, recorded, not repaired):
were the witness printed back as written, its print would not be the reordered text -/
theorem raw_roundtrip_counterexample : ¬ raw_roundtrip_full := by
  intro h
  have hw := order_error_witness.1
  split at hw
  · rename_i r hr
    rw [h _ r hr] at hw
    have h3 : String.ofList "f(a: 1, b)\n".toList = "f(b, a: 1)\n" := congrArg (·.2.2) hw
    exact absurd h3 (by decide)
  · cases hw

/-- the model's recursion bound is never the reason for a failure -/
theorem fuel_suffices (s : Str) (names : List (Str × Nat)) : parseWith names s ≠ .error .fuel := by
  intro h
  have := parse_error_located h
  simp [Err.isLocated] at this

/-- the `AttributeError` of `e4` (`temp_node.whitespaces` is `None`) cannot happen -/
theorem not_in_attribute_error_unreachable (s : Str) (names : List (Str × Nat)) :
    parseWith names s ≠ .error .notInNoWs := by
  intro h
  have := parse_error_located h
  simp [Err.isLocated] at this

/-- lexer adjacency: a `not` token is never immediately followed by an `in` token (`notin` lexes as one
identifier), so there is always whitespace/comment/newline text between them -/
theorem lex_not_in_separated (s : Str) : NoAdj (lex s).toks := lex_noAdj s

theorem tokens_error_located (names : List (Str × Nat)) (lr : LexResult) (e : Err)
    (hn : NoAdj lr.toks) (h : parseToks names lr (defaultFuel lr) = .error e) : e.isLocated = true :=
  parseToks_located hn h

/-- the inputs on which an internal Python error escaped the parser before the repairs in /repo (F-PARSE-HASH,
F-PARSE-UNICODE) are rejected with a located error -/
theorem unhashable_key_located : errOf "a = {-: 1}\n" = some (.parse 1 6) :=
  rejected_located (_, _) (by simp [rejected])
theorem unknown_name_located : errOf "x = '\\N{foo}'\n" = some (.parse 1 4) :=
  rejected_located (_, _) (by simp [rejected])
theorem illegal_codepoint_located : errOf "x = '\\UFFFFFFFF'\n" = some (.parse 1 4) :=
  rejected_located (_, _) (by simp [rejected])

/-- line bookkeeping follows a newline inside a single-quoted string (lexer repair): the call on the third line
is recorded on line 3 -/
example : ((lex "x = 'a\nb'\nf()\n".toList).toks.map (fun t => (t.lineno, t.colno))).drop 6 =
    [(3, 0), (3, 1), (3, 2), (3, 3)] := lex_runs.2.2.2

/-- `a == b == c` and `a < b in c` have no derivation without parentheses: the second operator is left
unconsumed and the statement is rejected by the caller -/
theorem comparison_not_chained (stmt : P Node) (k : Nat) (st st' : PState) (c : Str) (b : Base) (l op r : Node)
    (h : e4 stmt k st = .ok (.binop (.cmp c) b l op r, st')) : l.isCmp = false ∧ r.isCmp = false := by
  have := e4_operands_not_cmp stmt k st _ st' h
  simpa using this

/-- the operand of every `not` / unary-minus node is a postfix expression (literal, id, bracketed expression,
call, method call, indexing, or the empty node), never another unary node -/
theorem unary_not_stacked (stmt : P Node) (k : Nat) (st st' : PState) (u : UnKind) (b : Base) (op v : Node)
    (h : e7 stmt k st = .ok (.unop u b op v, st')) : v.isPostfix = true ∧ v.isUnary = false := by
  have hp : v.isPostfix = true := e7_operand_postfix stmt k st _ st' h
  refine ⟨hp, ?_⟩
  cases v <;> simp_all [Node.isPostfix, Node.isUnary]

theorem arithmetic_level_kinds (stmt : P Node) (k : Nat) (st st' : PState) (n : Node)
    (h : e5 stmt k st = .ok (n, st')) : n.isArith = true ∨ n.isUnary = true ∨ n.isPostfix = true := by
  have := e5_kind stmt k st n st' h
  simp [Node.isE5, Node.isE7] at this
  rcases this with h | h | h
  · exact Or.inl h
  · exact Or.inr (Or.inl h)
  · exact Or.inr (Or.inr h)

/-- `in_ternary` is set anywhere inside the two branches of a ternary, at any nesting depth, parentheses
included, since the flag is global and every production restores it (`TernaryFlag.lean`) -/
theorem ternary_not_nested (n : Nat) (st st' : PState) (nd : Node)
    (h : statement n st = .ok (nd, st')) (ht : st.inTernary = true) : nd.isTernary = false :=
  statement_no_ternary_in_ternary n h ht

theorem in_ternary_restored (n : Nat) (st st' : PState) (nd : Node)
    (h : statement n st = .ok (nd, st')) : st'.inTernary = st.inTernary :=
  (statement_pt n).elim st nd st' h

example : errOf "x = a == b == c\n" = some (.parse 1 11) :=
  rejected_located (_, _) (by simp [rejected])
example : errOf "x = not not a\n" = some (.parse 1 12) :=
  rejected_located (_, _) (by simp [rejected])
/-- nested ternaries are rejected, also inside parentheses (the `in_ternary` flag is global) -/
example : errOf "x = a ? b : c ? d : e\n" = some (.parse 1 12) :=
  rejected_located (_, _) (by simp [rejected])
example : errOf "x = a ? (b ? c : d) : e\n" = some (.parse 1 9) :=
  rejected_located (_, _) (by simp [rejected])

end MesonModel.Props.C02
