import MesonModel.Life.UpdateLemmas
import MesonModel.Life.ParentCurrent
import MesonModel.Life.Invariant
import MesonModel.Life.Frame
import MesonModel.Life.Persist
/-
C08 — option state persists faithfully across the build-directory lifecycle.

Model: `MesonModel.Life` (`step : Dir → Cmd → Dir × Out` over coredata.dat / cmd_line.txt / the introspection file /
the two option files) on top of the C07 `OptionStore` model.  The statements below are about *every* directory
`d : Dir` (any store, any cmd_line.txt, any option files) and every command unless concrete data is named.

The defects found through this check that are repaired in /repo are the `fixed: property=C08` lines of
known_findings.txt; the model mirrors the repaired code.  Two of those that remain (`finding:` lines) contradict a
clause stated here (`--wipe` that fails leaves the directory unconfigured; a removed option that is still recorded in
cmd_line.txt): for those clauses the file keeps the full statement as a `def … : Prop`, proves its negation on a
concrete history of the harness's test tree (`decide +kernel` evaluates the model), and proves the part that does hold
as `…_partial` / under the excluding hypothesis.
-/
namespace MesonModel.Props.C08
open MesonModel.Options MesonModel.Life

/-- the full clause: a command that fails leaves the persisted state exactly as it was -/
def failed_command_is_identity : Prop := ∀ (d : Dir) (c : Cmd), (step d c).2.isOk = false → (step d c).1 = d

/-- Every command except `--wipe` that fails — before the end of the interpretation (unknown option, invalid value,
error() in a build file, exception while reading an option, unused-option check) or *after* coredata.dat,
cmd_line.txt and the introspection file were rewritten (failing postconf script) — leaves coredata.dat, cmd_line.txt,
the introspection file and the option files exactly as they were. -/
theorem failed_command_is_identity_partial (d : Dir) (c : Cmd) (e : Err) (l : Bool) (hw : ∀ nd, c ≠ .wipe nd)
    (h : (step d c).2 = .failed e l) : (step d c).1 = d := by
  have hb : c.base d = d := by
    cases c <;> first | rfl | exact absurd rfl (hw _)
  exact ((step_outcome d c).failed h).trans hb

theorem runHist_append : ∀ (h₁ h₂ : List Cmd) (d : Dir), runHist d (h₁ ++ h₂) = runHist (runHist d h₁) h₂
  | [], _, _ => rfl
  | c :: r, h₂, d => runHist_append r h₂ (step d c).1

def AllFail : Dir → List Cmd → Prop
  | _, [] => True
  | d, c :: r => (∀ nd, c ≠ .wipe nd) ∧ (∃ e l, (step d c).2 = .failed e l) ∧ AllFail (step d c).1 r

theorem failed_history_is_identity : ∀ (h : List Cmd) (d : Dir), AllFail d h → runHist d h = d
  | [], _, _ => rfl
  | c :: r, d, ⟨hw, ⟨e, l, he⟩, hr⟩ => by
    have h1 := failed_command_is_identity_partial d c e l hw he
    simp only [runHist]
    rw [h1] at hr ⊢
    exact failed_history_is_identity r d hr

def AllFailOrEdit : Dir → List Cmd → Prop
  | _, [] => True
  | d, c :: r => (∀ nd, c ≠ .wipe nd) ∧
      ((∃ e l, (step d c).2 = .failed e l) ∨ (∃ b n sp, c = .editSet b n sp) ∨ (∃ b n, c = .editRemove b n) ∨
        (∃ p e, c = .extra p e)) ∧
      AllFailOrEdit (step d c).1 r

/-- `value_persists`, the part that holds for every directory: through any sequence of option-file edits and
failing commands — including commands that fail *after* coredata.dat was rewritten — coredata.dat, hence every
effective option value, is exactly what it was (successful commands: `value_persists_full_partial` and
`value_persists_configure_history` below for `meson configure` and the edits; the rest is tied by the correspondence
run, see manifest) -/
theorem value_persists_partial : ∀ (h : List Cmd) (d : Dir), AllFailOrEdit d h →
    (runHist d h).core = d.core ∧ ∀ proj name, (runHist d h).eff proj name = d.eff proj name
  | [], _, _ => ⟨rfl, fun _ _ => rfl⟩
  | c :: r, d, ⟨hw, hc, hr⟩ => by
    have h1 : (step d c).1.core = d.core := by
      rcases hc with ⟨e, l, he⟩ | ⟨b, n, sp, rfl⟩ | ⟨b, n, rfl⟩ | ⟨p, e, rfl⟩
      · rw [failed_command_is_identity_partial d c e l hw he]
      · cases b <;> rfl
      · cases b <;> rfl
      · rfl
    have ih := value_persists_partial r (step d c).1 hr
    simp only [runHist]
    refine ⟨ih.1.trans h1, fun proj name => ?_⟩
    rw [ih.2 proj name]
    simp only [Dir.eff, h1]

theorem edit_keeps_build_directory (d : Dir) (b : Bool) (n : Str) (sp : Option ObjSpec) :
    let d' := (step d (match sp with | some s => .editSet b n s | none => .editRemove b n)).1
    d'.core = d.core ∧ d'.cmdline = d.cmdline ∧ d'.intro = d.intro := by
  cases sp <;> cases b <;> simp [step]

/-- the same for the option file of a further subproject -/
theorem edit_extra_keeps_build_directory (d : Dir) (p : Str) (e : XEdit) :
    let d' := (step d (.extra p e)).1
    d'.core = d.core ∧ d'.cmdline = d.cmdline ∧ d'.intro = d.intro := by
  simp [step]

/-- `--wipe` reads nothing but cmd_line.txt and the current option files -/
theorem wipe_ignores_coredata (d : Dir) (nd : Dict) :
    step d (.wipe nd) = step { d with core := none, intro := none } (.wipe nd) := rfl

/-- `--wipe` = a fresh `meson setup` in an empty directory that is given the recorded command line: same outcome,
same coredata, same introspection data, and on success the same cmd_line.txt. -/
theorem wipe_eq_replay (d : Dir) (f : Dict) (hf : d.cmdline = some f) (hn : (f.map Prod.fst).Nodup) :
    let w := step d (.wipe [])
    let r := step d.emptied (.setup f)
    w.2 = r.2 ∧ w.1.core = r.1.core ∧ w.1.intro = r.1.intro ∧ (w.2.isOk = true → w.1.cmdline = r.1.cmdline) := by
  have hm : mergeCmd f [] = f := rfl
  -- `interpret` reads only the source tree
  have e1 : ∀ c, interpret true newCore { d with core := none, corrupt := false, cmdline := c, intro := none } f =
      interpret true newCore d.emptied f := fun _ => rfl
  simp only [step, firstInvocation, userOpts, hf, hm, mergeCmd_self f hn, e1]
  simp only [Dir.emptied]
  generalize interpret true newCore _ f = res
  cases res with
  | error e => simp [commitFirst, Out.isOk]
  | ok r =>
    simp only [commitFirst, Dir.known]
    split
    · simp [Out.isOk]
    · split <;> simp [Out.isOk]

/-! ## re-reading an option file (one entry of `update_project_options`, arbitrary store) -/

theorem new_option_gets_default (sub : Str) (key : Key) (nobj : Obj) (s : Store)
    (hx : s.isCross = false) (hm : key.machine = .host) (hs : key.sub = some sub)
    (hk : alookup key s.options = none) (hp : alookup key s.pending = none) (ha : alookup key s.augments = none)
    (hy : nobj.yielding = false) (hpar : nobj.parent = none) :
    (updateOne sub (key, nobj) s).1 = .ok () ∧ getValueFor (updateOne sub (key, nobj) s).2 key = .ok nobj.value := by
  rw [updateOne_new sub key nobj s hm hs hk hp hy hpar]
  exact ⟨rfl, getValueFor_fresh s key nobj _ hm ha hy⟩

/-- a changed choice list (or integer range) keeps the old value when it is still valid and otherwise falls back
to the new default (an option that does not inherit) -/
theorem changed_choices_keep_or_reset (sub : Str) (key : Key) (nobj old : Obj) (s : Store) (oid : Nat)
    (hx : s.isCross = false) (hm : key.machine = .host) (hs : key.sub = some sub)
    (hk : alookup key s.options = some oid) (ho : s.heap[oid]? = some old) (ha : alookup key s.augments = none)
    (hc : old.kind.sameClass nobj.kind = true) (hd : old.kind.choicesDiffer nobj.kind = true)
    (hy : nobj.yielding = false) (hp : nobj.parent = none) :
    (∀ v, validate nobj.kind old.value = .ok v →
      (updateOne sub (key, nobj) s).1 = .ok () ∧ getValueFor (updateOne sub (key, nobj) s).2 key = .ok v) ∧
    (validate nobj.kind old.value = .error .meson →
      (updateOne sub (key, nobj) s).1 = .ok () ∧ getValueFor (updateOne sub (key, nobj) s).2 key = .ok nobj.value) := by
  have hr := updateOne_replace sub key nobj old s oid hm hs hk ho (by simp [hc, hd])
  rw [hr, hc]
  constructor
  · intro v hv
    exact replaceObj_plain key nobj old oid false s hm ha hy hp v (Or.inr (Or.inl ⟨rfl, hv⟩))
  · intro hv
    exact replaceObj_plain key nobj old oid false s hm ha hy hp nobj.value (Or.inr (Or.inr ⟨rfl, hv, rfl⟩))

/-- … and an *inheriting* subproject option whose choices change is linked to the registered top-level object again
and keeps reading it (before the repair: `yielding = True, parent = None`, AttributeError) -/
theorem changed_choices_inheriting_follows_parent (sub : Str) (key : Key) (nobj old p : Obj) (s : Store) (oid pid : Nat)
    (hx : s.isCross = false) (hm : key.machine = .host) (hs : key.sub = some sub) (hst : key.subTruthy = true)
    (hk : alookup key s.options = some oid) (ho : s.heap[oid]? = some old) (ha : alookup key s.augments = none)
    (hc : old.kind.sameClass nobj.kind = true) (hd : old.kind.choicesDiffer nobj.kind = true)
    (hy : nobj.yielding = true) (hold : old.yielding = true)
    (hpk : alookup key.asRoot s.options = some pid) (hp : s.heap[pid]? = some p) (hpp : p.parent = none)
    (hpc : p.kind.sameClass nobj.kind = true) (hpo : pid ≠ oid)
    (hv : ∃ e, validate nobj.kind old.value = .ok e ∨ validate nobj.kind old.value = .error .meson) :
    (updateOne sub (key, nobj) s).1 = .ok () ∧ getValueFor (updateOne sub (key, nobj) s).2 key = .ok p.value := by
  have hr := updateOne_replace sub key nobj old s oid hm hs hk ho (by simp [hc, hd])
  rw [hr, hc]
  exact replaceObj_inheriting key nobj old p oid pid s hm ha hy hst hpk hp hpp hpc hpo hold hv

theorem changed_type_gets_new_default (sub : Str) (key : Key) (nobj old : Obj) (s : Store) (oid : Nat)
    (hx : s.isCross = false) (hm : key.machine = .host) (hs : key.sub = some sub)
    (hk : alookup key s.options = some oid) (ho : s.heap[oid]? = some old) (ha : alookup key s.augments = none)
    (hc : old.kind.sameClass nobj.kind = false) (hy : nobj.yielding = false) (hp : nobj.parent = none) :
    (updateOne sub (key, nobj) s).1 = .ok () ∧ getValueFor (updateOne sub (key, nobj) s).2 key = .ok nobj.value := by
  have hr := updateOne_replace sub key nobj old s oid hm hs hk ho (by simp [hc])
  rw [hr, hc]
  exact replaceObj_plain key nobj old oid true s hm ha hy hp nobj.value (Or.inl ⟨rfl, rfl⟩)

/-- a changed default alone (same type, same choices / range) changes nothing at all: the option keeps the value it
has, i.e. the last one the user gave it, else the default it was *created* with -/
theorem changed_default_keeps_value (sub : Str) (key : Key) (nobj old : Obj) (s : Store) (oid : Nat)
    (hx : s.isCross = false) (hm : key.machine = .host) (hs : key.sub = some sub)
    (hk : alookup key s.options = some oid) (ho : s.heap[oid]? = some old)
    (hc : old.kind.sameClass nobj.kind = true) (hd : old.kind.choicesDiffer nobj.kind = false) :
    updateOne sub (key, nobj) s = (.ok (), s) :=
  updateOne_same sub key nobj old s oid hm hs hk ho hc hd

/-- a removed option vanishes from the store when the option file is re-read … -/
theorem removed_option_vanishes_partial (sub : Str) (objs : List (Key × Obj)) (s s' : Store)
    (h : updateProjectOptions sub objs s = (.ok (), s')) (k : Key) (hs : k.sub = some sub)
    (hn : objs.any (fun p => p.1 == k) = false) : s'.isProjectOption k = false :=
  update_removes sub objs s s' h k hs hn

/-- … in particular when the new declaration list is EMPTY (the last option removed, the file left empty or with
comments only, or the file deleted): nothing is special-cased, every project option of that (sub)project is gone -/
theorem removed_option_vanishes_empty (sub : Str) (s s' : Store) (h : updateProjectOptions sub [] s = (.ok (), s'))
    (k : Key) (hs : k.sub = some sub) : s'.isProjectOption k = false :=
  update_removes sub [] s s' h k hs (by simp)

theorem empty_option_file_is_read (proj : Str) (s : Store) : (loadOptionFile proj [] s).1 = .ok () := by
  simp [loadOptionFile, fileObjs, mkObjs, bind, M.bind, M.ofExcept, M.pure, updateProjectOptions, M.forEach, M.get, M.modify,
    unlinkChildren]

/-- the seeded guard `if oi.options: update_project_options(...)`: the removal pass is skipped for a file without
declarations -/
def loadOptionFileGuarded (proj : Str) (defs : Defs) : M Unit :=
  if (fileObjs proj defs).isEmpty then M.pure () else loadOptionFile proj defs

/-- … refuted on a witness: with the guard the removed options stay registered, without it they vanish -/
theorem guarded_load_keeps_removed_options :
    sOverridden.isProjectOption kSub = true ∧
    (loadOptionFileGuarded "sub".toList [] sOverridden).2.isProjectOption kSub = true ∧
    (loadOptionFile "sub".toList [] sOverridden).2.isProjectOption kSub = false ∧
    (getValueFor (loadOptionFile "sub".toList [] sOverridden).2 kSub).toOption = none := by
  decide +kernel

/-- an inheriting option reads the object its `parent` field points to; this is the *current* top-level option as
long as that object is the one registered under the top-level key -/
theorem yield_follows_current_parent_partial (s : Store) (k : Key) (id pid : Nat) (o p : Obj)
    (hx : s.isCross = false) (hm : k.machine = .host)
    (hk : alookup k s.options = some id) (ho : s.heap[id]? = some o) (ha : alookup k s.augments = none)
    (hy : o.yielding = true) (hp : o.parent = some pid)
    (hcur : alookup k.asRoot s.options = some pid) (hpo : s.heap[pid]? = some p) :
    getValueFor s k = .ok p.value ∧ (s.heap[pid]?.map (·.value)) = some p.value :=
  ⟨getValueFor_inheriting s k id pid o p hm hk ho ha hy hp hpo, by
    rw [hpo]
    rfl⟩

/-- when the *parent's* choices change, the parent object is replaced and every child that yielded to the old object
reads the replacement (before the repair the child kept reading the replaced object) -/
theorem parent_replacement_repoints_children (sub : Str) (key ck : Key) (nobj old c : Obj) (oid cid : Nat) (s : Store)
    (hx : s.isCross = false) (hm : key.machine = .host) (hs : key.sub = some sub) (hcm : ck.machine = .host)
    (hk : alookup key s.options = some oid) (ho : s.heap[oid]? = some old)
    (hc : old.kind.sameClass nobj.kind = true) (hd : old.kind.choicesDiffer nobj.kind = true)
    (hy : nobj.yielding = false) (hp : nobj.parent = none)
    (ha : alookup ck s.augments = none) (hkk : key ≠ ck)
    (hck : alookup ck s.options = some cid) (hch : s.heap[cid]? = some c)
    (hcy : c.yielding = true) (hcp : c.parent = some oid) (hcc : nobj.kind.sameClass c.kind = true) (w : Val)
    (hw : validate nobj.kind old.value = .ok w ∨ (validate nobj.kind old.value = .error .meson ∧ w = nobj.value)) :
    getValueFor (updateOne sub (key, nobj) s).2 ck = .ok w := by
  have hr := updateOne_replace sub key nobj old s oid hm hs hk ho (by simp [hc, hd])
  rw [hr, hc]
  exact replaceObj_repoints_child key ck nobj old c oid cid s hcm ha hkk hy hp hck hch hcy hcp hcc w hw

/-- dropping the override of an inheriting project option (`-Usub:opt`): it yields again and reads its parent's
value — whatever that value is (before the repair: not when the parent was the boolean `false`) -/
theorem drop_override_returns_inherited (s : Store) (k : Key) (id pid : Nat) (o p : Obj)
    (hx : s.isCross = false) (hm : k.machine = .host)
    (ha : alookup k s.augments = none) (hk : alookup k s.options = some id) (ho : s.heap[id]? = some o)
    (hp : o.parent = some pid) (hpo : s.heap[pid]? = some p) (hne : pid ≠ id) :
    (configureOne (k, none) s).1 = .ok (!o.yielding) ∧ getValueFor (configureOne (k, none) s).2 k = .ok p.value :=
  configureOne_unset_yielding s k id pid o p hm ha hk ho hp hpo hne

/-- dropping a per-subproject override of a builtin option (`-Usub:opt`) removes the augment, the first thing
`get_value_for` looks at (`getValueFor_eq`) -/
theorem drop_builtin_override_returns_global (s : Store) (k : Key) (hk : ahas k s.augments = true) :
    configureOne (k, none) s = (.ok true, { s with augments := aerase k s.augments }) ∧
    alookup k (aerase k s.augments) = none := by
  constructor
  · simp [configureOne, bind, M.bind, M.get, M.modify, M.pure, hk]
  · simp [alookup_aerase]

/-! ## `ParentCurrent`: every parent pointer is the object registered under the top-level key -/

/-- `update_project_options` keeps the invariant: all children of a replaced object are re-pointed (yielding or
overridden), the children of a removed option are unlinked -/
theorem update_project_options_keeps_parentCurrent (sub : Str) (objs : List (Key × Obj)) (s : Store)
    (hw : Wf s) (hpc : ParentCurrent s) (hn : ∀ kv ∈ objs, kv.2.parent = none) :
    ParentCurrent (updateProjectOptions sub objs s).2 :=
  MesonModel.Options.update_project_options_keeps_parentCurrent sub objs s hw hpc hn

theorem update_entries_keep_parentCurrent (sub : Str) (objs : List (Key × Obj)) (s : Store) (hw : Wf s)
    (hpc : ParentCurrent s) (hn : ∀ kv ∈ objs, kv.2.parent = none) :
    Wf (M.forEach (updateOne sub) objs s).2 ∧ ParentCurrent (M.forEach (updateOne sub) objs s).2 :=
  updateLoop_keeps sub objs s hw hpc hn

/-- every way of setting or unsetting values (`-D`, `-U`, and on a first invocation the command line,
default_options and machine-file values) keeps it: no key is inserted, no parent pointer written -/
theorem setting_values_keeps_parentCurrent (s : Store) (hpc : ParentCurrent s) :
    (∀ args d, ParentCurrent (setFromConfigure args d s).2) ∧
    (∀ pdo cmd mf, ParentCurrent (initTop pdo cmd mf s).2) ∧
    (∀ sub sp pdo cmd mf, ParentCurrent (initSub sub sp pdo cmd mf s).2) :=
  ⟨fun args d => (PresPC.setFromConfigure args d).run s hpc, fun pdo cmd mf => (PresPC.initTop pdo cmd mf).run s hpc,
   fun sub sp pdo cmd mf => (PresPC.initSub sub sp pdo cmd mf).run s hpc⟩

/-- with the invariant, dropping the override of an inheriting option returns it to the value of the object that
`-Dname=…` sets: the one registered under the top-level key -/
theorem drop_override_returns_inherited_current (s : Store) (k : Key) (id pid : Nat) (o p : Obj)
    (hx : s.isCross = false) (hm : k.machine = .host) (hw : Wf s) (hpc : ParentCurrent s) (hst : k.subTruthy = true)
    (ha : alookup k s.augments = none) (hk : alookup k s.options = some id) (ho : s.heap[id]? = some o)
    (hp : o.parent = some pid) (hpo : s.heap[pid]? = some p) :
    alookup k.asRoot s.options = some pid ∧ getValueFor (configureOne (k, none) s).2 k = .ok p.value := by
  have hroot := hpc k id o pid hk ho hp
  have hne : pid ≠ id := by
    intro e
    subst e
    exact asRoot_ne_of_subTruthy hst (hw.2 _ _ _ hroot hk)
  exact ⟨hroot, (configureOne_unset_yielding s k id pid o p hm ha hk ho hp hpo hne).2⟩

/-- the variant that re-points only the children that are *yielding* at the moment of the replacement breaks the
invariant for an overridden child; the defect shows when the parent is changed and the override dropped -/
theorem repointYieldingOnly_counterexample :
    ParentCurrent sOverridden ∧ ¬ ParentCurrent (replaceObjY kTop newParent oldParent 0 false sOverridden).2 ∧
    (getValueFor afterVariant kTop).toOption = some (.str "d".toList) ∧
    (getValueFor afterVariant kSub).toOption = some (.str "a".toList) ∧
    (getValueFor afterRepaired kSub).toOption = some (.str "d".toList) :=
  ⟨repointYieldingOnly_breaks_parentCurrent.1, repointYieldingOnly_breaks_parentCurrent.2,
   replaced_parent_histories.1.2.2.1, replaced_parent_histories.1.2.2.2, replaced_parent_histories.2.2.2⟩

/-- the well-formedness predicate on directory states is an invariant of `step` for EVERY command: setup,
reconfigure, configure, wipe, regeneration after a corrupt coredata.dat, option-file edits (also: last option removed,
file deleted / re-created / renamed), and all failing variants -/
theorem dirInv_step (d : Dir) (c : Cmd) (hd : DirInv d) : DirInv (step d c).1 :=
  step_inv d c hd

/-- `ParentCurrent`, lifted to histories: after any history from an unconfigured directory, distinct keys own
distinct objects and every parent pointer is the registered top-level object -/
theorem parentCurrent_of_history (h : List Cmd) (d : Dir) (hd : d.core = none)
    (c : Core) (hc : (runHist d h).core = some c) : Wf c.store ∧ ParentCurrent c.store :=
  runHist_inv h d (dirInv_empty d hd) c hc

/-- a `--wipe` that fails leaves the directory without configuration, whatever it held (recorded finding
`failed-command-not-identity:wipe:core`) -/
theorem failed_wipe_unconfigures (d : Dir) (nd : Dict) (h : (step d (.wipe nd)).2.isOk = false) :
    (step d (.wipe nd)).1.core = none := by
  cases ho : (step d (.wipe nd)).2 with
  | ok m => simp [ho, Out.isOk] at h
  | failed e l => exact congrArg Dir.core ((step_outcome d (.wipe nd)).failed ho)

/-- `yield_follows_current_parent` for ALL histories: an option that inherits reads the object registered under its
top-level key, i.e. the very object `-Dname=…` sets; when that object is itself plain (not inheriting, not
overridden) the two effective values are equal -/
theorem yield_follows_current_parent_hist (h : List Cmd) (d : Dir) (hd : d.core = none)
    (c : Core) (hc : (runHist d h).core = some c)
    (k : Key) (id pid : Nat) (o p : Obj) (hm : k.machine = .host)
    (hk : alookup k c.store.options = some id) (ho : c.store.heap[id]? = some o) (ha : alookup k c.store.augments = none)
    (hy : o.yielding = true) (hp : o.parent = some pid) (hpo : c.store.heap[pid]? = some p) :
    alookup k.asRoot c.store.options = some pid ∧ getValueFor c.store k = .ok p.value ∧
    (p.yielding = false → alookup k.asRoot c.store.augments = none → getValueFor c.store k.asRoot = getValueFor c.store k) := by
  obtain ⟨_, hpc⟩ := parentCurrent_of_history h d hd c hc
  have hroot := hpc k id o pid hk ho hp
  have hv := getValueFor_inheriting c.store k id pid o p hm hk ho ha hy hp hpo
  refine ⟨hroot, hv, ?_⟩
  intro hpy har
  exact (getValueFor_own (k := k.asRoot) hm (resolveId_registered hm hroot) hpo har hpy).trans hv.symm

/-- `drop_override_returns_inherited` for ALL histories: `-Usub:opt` on an option that has a parent returns it to the
value of the object registered under the top-level key -/
theorem drop_override_returns_inherited_hist (h : List Cmd) (d : Dir) (hd : d.core = none)
    (c : Core) (hc : (runHist d h).core = some c)
    (k : Key) (id pid : Nat) (o p : Obj) (hx : c.store.isCross = false) (hm : k.machine = .host) (hst : k.subTruthy = true)
    (ha : alookup k c.store.augments = none) (hk : alookup k c.store.options = some id) (ho : c.store.heap[id]? = some o)
    (hp : o.parent = some pid) (hpo : c.store.heap[pid]? = some p) :
    alookup k.asRoot c.store.options = some pid ∧ getValueFor (configureOne (k, none) c.store).2 k = .ok p.value := by
  obtain ⟨hw, hpc⟩ := parentCurrent_of_history h d hd c hc
  exact drop_override_returns_inherited_current c.store k id pid o p hx hm hw hpc hst ha hk ho hp hpo

/-- the command names option `n`: sets or drops it, edits it, or (`--wipe`, a changed file name) re-derives everything -/
def Mentions (n : Str) : Cmd → Bool
  | .setup d => d.any (fun p => p.1.name == n)
  | .reconfigure d => d.any (fun p => p.1.name == n)
  | .configure a => a.any (fun p => p.1.name == n)
  | .wipe _ => true
  | .editSet _ m _ => m == n
  | .editRemove _ m => m == n
  | .corrupt => false
  | .fileSet _ _ => true
  | .extra _ (.set m _) => m == n
  | .extra _ (.remove m) => m == n
  | .extra _ (.file _) => true

/-- the full history-level clause: a command that does not mention option `n` (and is not a `buildtype` / `prefix`
assignment, which fan out), run on a well-formed directory whose option files hold no unread edit, leaves the
effective value of every option named `n` as it was.  Not proved; `value_persists_full_partial` says for which commands
it is, `value_persists_configure_history` lifts that to histories of configure commands. -/
def value_persists_full : Prop :=
  ∀ (d : Dir) (c : Cmd) (n : Str) (proj : Str), DirInv d → Mentions n c = false →
    Mentions sBuildtype c = false → Mentions sPrefix c = false →
    (∀ co, d.core = some co → NoUnread d co) →
    (step d c).2.isOk = true → (step d c).1.core.isSome = true → d.core.isSome = true →
    (step d c).1.eff proj n = d.eff proj n

/-! ## identity, not equality, of option objects: the frame of `update_project_options` over object ids -/

/-- re-reading the option file of project `P` leaves every object of the heap exactly as it was (value, yielding
flag, parent link) unless its parent POINTER is an object registered under a key of `P` (at entry, or allocated during
the call) — i.e. parent links change only for the children of the very objects that are replaced or removed; an object
of another project with an equal definition is not one of them -/
theorem update_project_options_changes_only_children_of_own_objects (P : Str) (objs : List (Key × Obj)) (s : Store) :
    ∀ (i : Nat) (c : Obj), s.heap[i]? = some c →
      (updateProjectOptions P objs s).2.heap[i]? = some c ∨
      ∃ pid, c.parent = some pid ∧ ((∃ k, k.sub = some P ∧ (k, pid) ∈ s.options) ∨ s.heap.length ≤ pid) :=
  update_project_options_frame P objs s

/-- the children of an object held only by keys of OTHER projects are untouched -/
theorem update_project_options_keeps_children_of_other_projects (P : Str) (objs : List (Key × Obj)) (s : Store)
    (i pid : Nat) (c : Obj) (hc : s.heap[i]? = some c) (hp : c.parent = some pid) (hlt : pid < s.heap.length)
    (hother : ∀ k, (k, pid) ∈ s.options → k.sub ≠ some P) :
    (updateProjectOptions P objs s).2.heap[i]? = some c :=
  update_project_options_frame_other_project P objs s i pid c hc hp hlt hother

/-- on a well-formed store an update of a SUBPROJECT's options never touches an option that inherits from a
top-level option (of whatever subproject) -/
theorem subproject_update_keeps_children_of_top_level (P : Str) (objs : List (Key × Obj)) (s : Store)
    (hw : Wf s) (hpc : ParentCurrent s) (hnd : (s.options.map (·.1)).Nodup) (hP : P ≠ [])
    (ck : Key) (cid pid : Nat) (c : Obj) (hk : alookup ck s.options = some cid) (hc : s.heap[cid]? = some c)
    (hp : c.parent = some pid) :
    (updateProjectOptions P objs s).2.heap[cid]? = some c ∧
    (c.yielding = true → alookup ck s.augments = none → ck.machine = .host →
      alookup ck (updateProjectOptions P objs s).2.options = some cid →
      alookup ck (updateProjectOptions P objs s).2.augments = none →
      (updateProjectOptions P objs s).2.heap[pid]? = s.heap[pid]? →
      getValueFor (updateProjectOptions P objs s).2 ck = getValueFor s ck) := by
  have h1 := update_project_options_frame_child_of_top_level P objs s hw hpc hnd hP ck cid pid c hk hc hp
  refine ⟨h1, ?_⟩
  intro hy ha hm hk' ha' hpar
  have e1 := ensureKey_host s ck hm
  have e2 := ensureKey_host (updateProjectOptions P objs s).2 ck hm
  rw [getValueFor_eq _ ck cid c (by rw [e2]; exact resolveId_registered hm hk') h1,
    getValueFor_eq s ck cid c (by rw [e1]; exact resolveId_registered hm hk) hc, e1, e2, ha, ha']
  simp only [hy, hp, hpar]

/-- the variant that looks for the children by `==` on the definition, refuted on a three-project store -/
theorem equal_definitions_variant_counterexample :
    (getValueFor sTwins kSub).toOption = some (.str "b".toList) ∧
    (getValueFor (updateProjectOptions "alt".toList [] sTwins).2 kSub).toOption = some (.str "b".toList) ∧
    (getValueFor (updateProjectOptionsEq "alt".toList [] sTwins).2 kSub).toOption = some (.str "c".toList) ∧
    (getValueFor (updateProjectOptions "alt".toList altGrown sTwins).2 kSub).toOption = some (.str "b".toList) ∧
    (getValueFor (updateProjectOptionsEq "alt".toList altGrown sTwins).2 kSub).toOption = some (.str "c".toList) ∧
    (updateProjectOptions "alt".toList [] sTwins).2.heap[2]? = sTwins.heap[2]? ∧
    (updateProjectOptionsEq "alt".toList [] sTwins).2.heap[2]? ≠ sTwins.heap[2]? :=
  have h := childrenOfEq_histories.1
  ⟨h.1, h.2.1, h.2.2.2.1, h.2.2.2.2.2.1, h.2.2.2.2.2.2.2.1, childrenOfEq_histories.2.2.2.2.2.1,
    childrenOfEq_histories.2.2.2.2.2.2⟩

/-! ## `value_persists` for successful `meson configure` commands -/

/-- **frame of `set_from_configure_command`**: an option whose NAME is not addressed — directly (`-Dn`, `-Dsub:n`,
`-Usub:n`), as a dependent of `buildtype`, or (directory options) through `prefix` — keeps its effective value in the
top-level project and in every subproject, whether it has its own value, is overridden for a subproject, or inherits
from a yielding parent -/
theorem value_persists_set_from_configure (s : Store) (hw : Wf s) (hpc : ParentCurrent s) (n : Str)
    (args : List (Key × Option Val)) (dirty : Bool) (hna : NotAddressed n args)
    (hnp : (Tables.nopfxTable.map (·.1)).contains n = false) :
    ∀ k : Key, k.name = n → getValueFor (setFromConfigure args dirty s).2 k = getValueFor s k :=
  (setFromConfigure_value_persists s hw hpc n args dirty hna hnp).2

/-- … and for `set_from_configure_command` itself, which applies every `buildtype` entry first -/
theorem value_persists_set_from_configure_command (s : Store) (hw : Wf s) (hpc : ParentCurrent s) (n : Str)
    (args : List (Key × Option Val)) (hna : NotAddressed n args)
    (hnp : (Tables.nopfxTable.map (·.1)).contains n = false) :
    ∀ k : Key, k.name = n → getValueFor (setFromConfigureCommand args s).2 k = getValueFor s k :=
  (setFromConfigure_value_persists s hw hpc n (buildtypeFirst args) false hna.buildtypeFirst hnp).2

/-- the command `meson configure -D… -U…` (failing, changing nothing, or saving) on a well-formed directory without
unread option-file edits -/
theorem value_persists_configure (d : Dir) (co : Core) (args : List (Key × Option Val)) (n : Str)
    (hd : DirInv d) (hc : d.core = some co) (hu : NoUnread d co) (hna : NotAddressed n args)
    (hnp : (Tables.nopfxTable.map (·.1)).contains n = false) (proj : Str) :
    ((step d (.configure args)).1.eff proj n).isSome = true ∧ (step d (.configure args)).1.eff proj n = d.eff proj n := by
  obtain ⟨co', hc', _, hv⟩ := configure_value_persists d co args n hd hc hu hna hnp
  simp only [step, Dir.eff, hc', hc, Option.map_some, Option.isSome_some, true_and]
  rw [hv (projKey proj n) rfl]

/-- lifted to histories: after any sequence of `meson configure` commands — successful or failing — none
of which addresses `n`, every option named `n` reads what it read before -/
theorem value_persists_configure_history (n : Str) (hnp : (Tables.nopfxTable.map (·.1)).contains n = false)
    (h : List Cmd) (d : Dir) (co : Core) (hd : DirInv d) (hc : d.core = some co) (hu : NoUnread d co)
    (hh : ConfigureHist n h) (proj : Str) : (runHist d h).eff proj n = d.eff proj n := by
  obtain ⟨co', hc', _, hv⟩ := value_persists_configure_hist n hnp h d co hd hc hu hh
  simp only [Dir.eff, hc', hc, Option.map_some]
  rw [hv (projKey proj n) rfl]

theorem notAddressed_of_mentions (n : Str) (args : List (Key × Option Val))
    (h1 : args.any (fun p => p.1.name == n) = false) (h2 : args.any (fun p => p.1.name == sBuildtype) = false) :
    NotAddressed n args := by
  intro a ha
  simp only [List.any_eq_false, beq_iff_eq] at h1 h2
  exact ⟨h1 a ha, fun e => absurd e (h2 a ha)⟩

/-- `value_persists_full`, the part that is proved: `meson configure`, `meson setup` on a configured directory
(= configure) and every option-file edit (`n` is not one of the builtin directory options that follow `prefix`).
Not covered: `setup --reconfigure` and `--wipe`, which re-run the interpretation (`initialize_*`, and
`update_project_options` for the option files — whose frame over object ids is
`update_project_options_changes_only_children_of_own_objects`; its frame over NAMES, "an unchanged entry leaves its
option alone", is `changed_default_keeps_value` per entry and is not threaded through `interpProg`), and
`meson configure` after an unread edit. -/
theorem value_persists_full_partial (d : Dir) (c : Cmd) (n proj : Str) (hd : DirInv d) (hm : Mentions n c = false)
    (hb : Mentions sBuildtype c = false) (hnp : (Tables.nopfxTable.map (·.1)).contains n = false)
    (hu : ∀ co, d.core = some co → NoUnread d co) (hcfg : d.core.isSome = true)
    (hk : (∃ a, c = .configure a) ∨ (∃ a, c = .setup a) ∨ (∃ b m sp, c = .editSet b m sp) ∨ (∃ b m, c = .editRemove b m) ∨
      (∃ p e, c = .extra p e)) :
    (step d c).1.eff proj n = d.eff proj n := by
  obtain ⟨co, hc⟩ := Option.isSome_iff_exists.mp hcfg
  rcases hk with ⟨a, rfl⟩ | ⟨a, rfl⟩ | ⟨b, m, sp, rfl⟩ | ⟨b, m, rfl⟩ | ⟨p, e, rfl⟩
  · exact (value_persists_configure d co a n hd hc (hu co hc) (notAddressed_of_mentions n a hm hb) hnp proj).2
  · have e : step d (.setup a) = step d (.configure (dArgs a)) := by simp [step, hc]
    rw [e]
    refine (value_persists_configure d co (dArgs a) n hd hc (hu co hc) (notAddressed_of_mentions n _ ?_ ?_) hnp proj).2
    · simpa [Mentions, dArgs, List.any_map] using hm
    · simpa [Mentions, dArgs, List.any_map] using hb
  · cases b <;> rfl
  · cases b <;> rfl
  · rfl

/-! ## the test trees of harness/c08.py -/

def S (d : String) : ObjSpec := { kind := .string, default := .str d.toList }
def B (d : Bool) (y : Bool := false) : ObjSpec := { kind := .boolean, default := .bool d, yielding := y }
def C (c : List String) (d : String) (y : Bool := false) : ObjSpec :=
  { kind := .combo (c.map String.toList), default := .str d.toList, yielding := y }
def I (lo hi d : Int) : ObjSpec := { kind := .integer (some lo) (some hi), default := .int d }

def top0 : Defs := [("t_str".toList, S "ts0"), ("t_combo".toList, C ["a", "b", "c"] "a"), ("t_int".toList, I 0 10 3),
  ("shared".toList, C ["a", "b", "c"] "a"), ("flag".toList, B false), ("boom".toList, B false), ("boom_late".toList, B false)]
def sub0 : Defs := [("s_str".toList, S "ss0"), ("s_combo".toList, C ["x", "y", "z"] "x"),
  ("shared".toList, C ["a", "b", "c"] "b" true), ("flag".toList, B true true)]
def d0 : Dir := Dir.fresh top0 sub0

def gk (n : String) : Key := { name := n.toList, sub := none, machine := .host }
def sk (n : String) : Key := { name := n.toList, sub := some sSub, machine := .host }
def sv (v : String) : Val := .str v.toList
/-- every `setup` command of the harness passes `--backend=none` -/
def bn : Key × Val := (gk "backend", sv "none")

/-- effective value `get_option(name)` would return from the persisted store (`none`: absent or an exception) -/
def effOk (d : Dir) (proj : Str) (name : String) : Option Val := (d.eff proj name.toList).bind Except.toOption
def effErr (d : Dir) (proj : Str) (name : String) : Option Err :=
  match d.eff proj name.toList with
  | some (.error e) => some e
  | _ => none

/-- a history that starts in an unconfigured directory leaves no registered option with a stale parent pointer: the
computable form of `parentCurrent_of_history` (that some option can be read says the directory is configured) -/
theorem no_stale_keys (h : List Cmd) (d : Dir) (hd : d.core = none) {p : Str} {n : String} {v : Val}
    (hv : effOk (runHist d h) p n = some v) :
    (runHist d h).core.map (fun c => staleKeys c.store) = some [] := by
  cases hc : (runHist d h).core with
  | none => simp [effOk, Dir.eff, hc] at hv
  | some c => exact congrArg some (staleKeys_nil_of_parentCurrent (parentCurrent_of_history h d hd c hc).2)

/-- the test tree with a second subproject `alt` whose `shared` / `flag` have the definition of the top-level ones -/
def alt0 : Extra := { name := "alt".toList, defs := [("a_str".toList, S "as0"), ("shared".toList, C ["a", "b", "c"] "c"),
  ("flag".toList, B true)] }
def d3 : Dir := { top := top0, sub := sub0, more := [alt0] }
def ak (n : String) : Key := { name := n.toList, sub := some "alt".toList, machine := .host }

/-- full clause (not proved as a statement about all histories; tied by the correspondence run): an inheriting
subproject option follows the current value of the top-level option -/
def yield_follows_current_parent : Prop :=
  ∀ (h : List Cmd), (runHist d0 h).core.isSome = true → effErr (runHist d0 h) sSub "shared" = none →
    (sk "shared") ∉ ((runHist d0 h).core.map (fun c => c.store.augments.map (·.1))).getD [] →
    ((runHist d0 h).core.map (fun c => (c.projectKeys.filter (fun k => k == projKey sSub "shared".toList)).all
        (fun k => (alookup k c.store.options).any (fun id => (c.store.heap[id]?).any (·.yielding))))).getD true = true →
    effOk (runHist d0 h) sSub "shared" = effOk (runHist d0 h) [] "shared"

/-- a `--wipe` that fails leaves the directory without configuration: here the recorded `t_combo=c` is no longer
among the choices (a reconfigure falls back to the new default, the wipe dies).  Still true of /repo (recorded
finding `failed-command-not-identity:wipe:core`). -/
def hWipe : List Cmd := [.setup [bn, (gk "t_combo", sv "c")], .editSet false "t_combo".toList (C ["a", "b"] "a"), .reconfigure [bn]]

/-- a removed option that was ever set with `-D` stays in cmd_line.txt, `check_unused_options` rejects it after the
interpretation, the rollback restores the old coredata — the option never vanishes and every reconfigure fails.
Still true of /repo (recorded finding `removed-option-still-recorded`). -/
def hRemoved : List Cmd := [.setup [bn, (gk "t_str", sv "u1")], .editRemove false "t_str".toList]

/-- a failing postconf script (`boom_late`): everything is rolled back, also cmd_line.txt and the introspection file -/
def hLate : List Cmd := [.setup [bn], .reconfigure [bn, (gk "t_str", sv "late"), (gk "boom_late", sv "true")]]

/-- after the parent's choices changed in the top-level option file the child follows the new parent object -/
def hStale : List Cmd := [.setup [bn], .editSet false "shared".toList (C ["a", "b", "d"] "a"), .reconfigure [bn],
  .configure [(gk "shared", some (sv "d"))]]

/-- the child is overridden while the parent object is replaced, then the parent changes and the override is dropped -/
def hOverriddenStale : List Cmd := [.setup [bn], .configure [(sk "shared", some (sv "c"))],
  .editSet false "shared".toList (C ["a", "b", "c", "n"] "a"), .reconfigure [bn], .configure [(gk "shared", some (sv "n"))],
  .configure [(sk "shared", none)]]

/-- changed choices of a `yield: true` subproject option: the replacement is linked to the parent again -/
def hOrphan : List Cmd := [.setup [bn], .editSet true "shared".toList (C ["a", "b", "d"] "b" true), .configure [(gk "t_int", some (sv "5"))]]

/-- `-Usub:flag` on a yielding boolean option whose parent is `false` returns to the parent -/
def hUnset : List Cmd := [.setup [bn], .configure [(sk "flag", some (sv "false"))], .configure [(sk "flag", some (sv "true"))],
  .configure [(sk "flag", none)]]

/-- `meson configure -Dsub:flag=true` where `true` is the hidden own value of the inheriting option is saved -/
def hLost : List Cmd := [.setup [bn], .configure [(sk "flag", some (sv "true"))]]

/-- the last option of the subproject removed (file present, no declarations) / the file deleted: after the next
reconfigure none of its options is registered, setting one is refused, and a child whose parent option was removed
from the top-level file reads its own value again -/
def hEmptySub : List Cmd := [.setup [bn], .editRemove true "s_str".toList, .editRemove true "s_combo".toList,
  .editRemove true "shared".toList, .editRemove true "flag".toList, .reconfigure [bn]]
def hDeletedSub : List Cmd := [.setup [bn], .fileSet true none, .reconfigure [bn]]
def hParentRemoved : List Cmd := [.setup [bn], .editRemove false "flag".toList, .reconfigure [bn]]

/-- a changed type: the option is replaced and starts from its new default -/
def hRetype : List Cmd := [.setup [bn, (gk "t_int", sv "7")], .editSet false "t_int".toList (S "seven"), .reconfigure [bn]]

/-- values given to `setup` and to `meson configure`, a new option and a dropped choice, then a reconfigure -/
def hGood : List Cmd := [.setup [bn, (gk "t_str", sv "u1"), (gk "t_combo", sv "c")], .configure [(gk "t_int", some (sv "7"))],
  .editSet false "extra".toList (S "e0"), .editSet false "t_combo".toList (C ["a", "b"] "b"), .reconfigure [bn]]

/-- histories on the three-project tree: `alt` removes its twin of `shared` / gives it another choice list / deletes
its option file; the child in `sub` keeps following the top-level option, `alt`'s own value survives a re-declaration -/
def hTwinRemoved : List Cmd := [.setup [bn, (gk "shared", sv "c")], .extra "alt".toList (.remove "shared".toList), .reconfigure [bn],
  .configure [(gk "shared", some (sv "a"))]]
def hTwinReplaced : List Cmd := [.setup [bn, (gk "shared", sv "c"), (ak "shared", sv "b")],
  .extra "alt".toList (.set "shared".toList (C ["a", "b", "c", "d"] "c")), .reconfigure [bn], .configure [(gk "shared", some (sv "a"))]]
def hTwinFileDeleted : List Cmd := [.setup [bn, (gk "flag", sv "true")], .extra "alt".toList (.file none), .reconfigure [bn]]

/-! ## the model run on these histories

Most of a run is its first `setup` (registering the builtin options is more than half of that), and the kernel keeps
what it has evaluated only within one statement.  So all runs are evaluated in one statement, `evaluated_histories`, and
the facts of the following sections are its parts.  Instance search does not find `Decidable` for that many facts at
once (its size limit), so they are named in two groups — the histories that start with a plain `setup --backend=none`,
and those whose `setup` is given values, on either tree — and each group gets its instance on its own. -/

def AfterPlainSetup : Prop :=
    (((step (runHist d0 [.setup [bn]]) (.reconfigure [bn, (gk "t_str", sv "late"), (gk "boom_late", sv "true")])).2
        = .failed .meson true) ∧
     ((step (runHist d0 [.setup [bn]]) (.reconfigure [bn, (gk "t_str", sv "u2"), (gk "boom", sv "true")])).2
        = .failed .meson false)) ∧
    ((effOk (runHist d0 hStale) [] "shared" = some (sv "d") ∧ effOk (runHist d0 hStale) sSub "shared" = some (sv "d")) ∧
     (effOk (runHist d0 (hOverriddenStale.take 5)) sSub "shared" = some (sv "c") ∧
      effOk (runHist d0 hOverriddenStale) [] "shared" = some (sv "n") ∧
      effOk (runHist d0 hOverriddenStale) sSub "shared" = some (sv "n")) ∧
     (((runHist d0 hOverriddenStale).core.map (fun c =>
        (alookup (sk "shared") c.store.options).any (fun id => (c.store.heap[id]?).any (fun o =>
          o.yielding && o.parent.isSome && (alookup (sk "shared") c.store.augments).isNone)))) = some true) ∧
     (effOk (runHist d0 hOrphan) sSub "shared" = some (sv "a") ∧
      (step (runHist d0 hOrphan) (.reconfigure [bn])).2.isOk = true ∧
      effOk (step (runHist d0 hOrphan) (.configure [(gk "shared", some (sv "c"))])).1 sSub "shared" = some (sv "c"))) ∧
    ((effOk (runHist d0 (hUnset.take 3)) sSub "flag" = some (.bool true) ∧
      effOk (runHist d0 hUnset) [] "flag" = some (.bool false) ∧ effOk (runHist d0 hUnset) sSub "flag" = some (.bool false)) ∧
     (effOk (runHist d0 [.setup [bn]]) sSub "flag" = some (.bool false) ∧
      effOk (runHist d0 hLost) sSub "flag" = some (.bool true) ∧
      (runHist d0 hLost).cmdline = some [bn, (sk "flag", sv "true")]) ∧
     (((runHist d0 hEmptySub).core.map (fun c => c.projectKeys.filter (fun k => k.sub == some sSub))) = some [] ∧
      (step (runHist d0 hEmptySub) (.configure [(sk "s_str", some (sv "x"))])).2.isOk = false ∧
      ((runHist d0 hDeletedSub).core.map (fun c => c.projectKeys.filter (fun k => k.sub == some sSub))) = some [] ∧
      effOk (runHist d0 hParentRemoved) sSub "flag" = some (.bool true)))

instance : Decidable AfterPlainSetup := by
  unfold AfterPlainSetup
  infer_instance

def AfterSetupWithValues : Prop :=
    ((effOk (runHist d0 hWipe) [] "t_combo" = some (sv "a") ∧
      (step (runHist d0 hWipe) (.wipe [bn])).2.isOk = false) ∧
     (((runHist d0 hWipe).cmdline.map (fun f => decide ((f.map Prod.fst).Nodup))) = some true) ∧
     ((step (runHist d0 hRemoved) (.reconfigure [bn])).2 = .failed .meson false ∧
      effOk (step (runHist d0 hRemoved) (.reconfigure [bn])).1 [] "t_str" = some (sv "u1") ∧
      (step (runHist d0 hRemoved) (.wipe [bn])).1.core = none)) ∧
    (((step d0 (.setup [bn, (gk "t_str", sv "u1"), (gk "boom_late", sv "true")])).2 = .failed .meson true) ∧
     ((step d0 (.setup [bn, (gk "boom", sv "true")])).2 = .failed .meson false)) ∧
    ((step (runHist d0 (hRetype.take 2)) (.reconfigure [bn])).2.isOk = true ∧
     effOk (runHist d0 hRetype) [] "t_int" = some (sv "seven")) ∧
    (effOk (runHist d0 hGood) [] "t_str" = some (sv "u1") ∧ effOk (runHist d0 hGood) [] "t_int" = some (.int 7) ∧
     effOk (runHist d0 hGood) [] "extra" = some (sv "e0") ∧ effOk (runHist d0 hGood) [] "t_combo" = some (sv "b")) ∧
    (effOk (runHist d3 (hTwinRemoved.take 3)) sSub "shared" = some (sv "c") ∧
     effOk (runHist d3 hTwinRemoved) sSub "shared" = some (sv "a") ∧
     effOk (runHist d3 hTwinRemoved) "alt".toList "shared" = none ∧
     effOk (runHist d3 (hTwinReplaced.take 3)) sSub "shared" = some (sv "c") ∧
     effOk (runHist d3 hTwinReplaced) sSub "shared" = some (sv "a") ∧
     effOk (runHist d3 hTwinReplaced) "alt".toList "shared" = some (sv "b") ∧
     effOk (runHist d3 hTwinFileDeleted) sSub "flag" = some (.bool true) ∧
     ((runHist d3 hTwinFileDeleted).core.map (fun c => c.projectKeys.filter (fun k => k.sub == some "alt".toList))) = some []) ∧
    (((runHist d3 [.setup [bn, (gk "t_str", sv "u1")]]).core.map (fun co =>
       decide (NoUnread (runHist d3 [.setup [bn, (gk "t_str", sv "u1")]]) co))) = some true ∧
     effOk (runHist d3 [.setup [bn, (gk "t_str", sv "u1")]]) [] "t_str" = some (sv "u1"))

instance : Decidable AfterSetupWithValues := by
  unfold AfterSetupWithValues
  infer_instance

theorem evaluated_histories : AfterPlainSetup ∧ AfterSetupWithValues := by
  decide +kernel

/-! ## the histories on which /repo still violates the property -/

theorem wipe_counterexample :
    effOk (runHist d0 hWipe) [] "t_combo" = some (sv "a") ∧
    (step (runHist d0 hWipe) (.wipe [bn])).2.isOk = false ∧
    (step (runHist d0 hWipe) (.wipe [bn])).1.core = none :=
  ⟨evaluated_histories.2.1.1.1, evaluated_histories.2.1.1.2, failed_wipe_unconfigures _ _ evaluated_histories.2.1.1.2⟩

theorem failed_command_is_identity_counterexample : ¬ failed_command_is_identity := by
  intro h
  obtain ⟨hv, hf, hc⟩ := wipe_counterexample
  -- were the failed wipe the identity, the directory read before it would be unconfigured too
  rw [h _ _ hf] at hc
  simp [effOk, Dir.eff, hc] at hv

theorem removed_option_vanishes_counterexample :
    (step (runHist d0 hRemoved) (.reconfigure [bn])).2 = .failed .meson false ∧
    effOk (step (runHist d0 hRemoved) (.reconfigure [bn])).1 [] "t_str" = some (sv "u1") ∧
    (step (runHist d0 hRemoved) (.wipe [bn])).1.core = none :=
  evaluated_histories.2.1.2.2

/-! ## the histories on which /repo violated the property before the repairs -/

theorem late_failure_is_identity :
    (step (runHist d0 [.setup [bn]]) (.reconfigure [bn, (gk "t_str", sv "late"), (gk "boom_late", sv "true")])).2
      = .failed .meson true ∧
    runHist d0 hLate = runHist d0 [.setup [bn]] ∧
    (step d0 (.setup [bn, (gk "t_str", sv "u1"), (gk "boom_late", sv "true")])).1 = d0 := by
  have h1 := evaluated_histories.1.1.1
  refine ⟨h1, ?_, failed_command_is_identity_partial _ _ _ _ (fun _ => Cmd.noConfusion) evaluated_histories.2.2.1.1⟩
  -- `hLate` is the plain setup followed by one failing command
  exact (runHist_append [.setup [bn]] [_] d0).trans
    (failed_history_is_identity [_] _ ⟨fun _ => Cmd.noConfusion, ⟨_, _, h1⟩, trivial⟩)

theorem child_follows_replaced_parent :
    effOk (runHist d0 hStale) [] "shared" = some (sv "d") ∧ effOk (runHist d0 hStale) sSub "shared" = some (sv "d") :=
  evaluated_histories.1.2.1.1

theorem overridden_child_follows_replaced_parent :
    effOk (runHist d0 (hOverriddenStale.take 5)) sSub "shared" = some (sv "c") ∧
    effOk (runHist d0 hOverriddenStale) [] "shared" = some (sv "n") ∧
    effOk (runHist d0 hOverriddenStale) sSub "shared" = some (sv "n") ∧
    ((runHist d0 hOverriddenStale).core.map (fun c => staleKeys c.store)) = some [] :=
  have h := evaluated_histories.1.2.1.2.1
  ⟨h.1, h.2.1, h.2.2, no_stale_keys _ d0 rfl h.2.2⟩

theorem inheriting_option_survives_changed_choices :
    effOk (runHist d0 hOrphan) sSub "shared" = some (sv "a") ∧
    (step (runHist d0 hOrphan) (.reconfigure [bn])).2.isOk = true ∧
    effOk (step (runHist d0 hOrphan) (.configure [(gk "shared", some (sv "c"))])).1 sSub "shared" = some (sv "c") :=
  evaluated_histories.1.2.1.2.2.2

theorem unset_boolean_override_returns_to_false_parent :
    effOk (runHist d0 (hUnset.take 3)) sSub "flag" = some (.bool true) ∧
    effOk (runHist d0 hUnset) [] "flag" = some (.bool false) ∧ effOk (runHist d0 hUnset) sSub "flag" = some (.bool false) :=
  evaluated_histories.1.2.2.1

theorem override_equal_to_own_value_is_saved :
    effOk (runHist d0 [.setup [bn]]) sSub "flag" = some (.bool false) ∧
    effOk (runHist d0 hLost) sSub "flag" = some (.bool true) ∧
    (runHist d0 hLost).cmdline = some [bn, (sk "flag", sv "true")] :=
  evaluated_histories.1.2.2.2.1

theorem emptied_option_file_removes_everything :
    ((runHist d0 hEmptySub).core.map (fun c => c.projectKeys.filter (fun k => k.sub == some sSub))) = some [] ∧
    (step (runHist d0 hEmptySub) (.configure [(sk "s_str", some (sv "x"))])).2.isOk = false ∧
    ((runHist d0 hDeletedSub).core.map (fun c => c.projectKeys.filter (fun k => k.sub == some sSub))) = some [] ∧
    effOk (runHist d0 [.setup [bn]]) sSub "flag" = some (.bool false) ∧
    effOk (runHist d0 hParentRemoved) sSub "flag" = some (.bool true) ∧
    ((runHist d0 hParentRemoved).core.map (fun c => staleKeys c.store)) = some [] :=
  have h := evaluated_histories.1.2.2.2.2
  ⟨h.1, h.2.1, h.2.2.1, evaluated_histories.1.2.2.2.1.1, h.2.2.2, no_stale_keys _ d0 rfl h.2.2.2⟩

theorem retyped_option_starts_from_new_default :
    (step (runHist d0 (hRetype.take 2)) (.reconfigure [bn])).2.isOk = true ∧
    effOk (runHist d0 hRetype) [] "t_int" = some (sv "seven") :=
  evaluated_histories.2.2.2.1

theorem edit_of_one_subproject_keeps_the_children_of_another :
    effOk (runHist d3 (hTwinRemoved.take 3)) sSub "shared" = some (sv "c") ∧
    effOk (runHist d3 hTwinRemoved) sSub "shared" = some (sv "a") ∧
    effOk (runHist d3 hTwinRemoved) "alt".toList "shared" = none ∧
    effOk (runHist d3 (hTwinReplaced.take 3)) sSub "shared" = some (sv "c") ∧
    effOk (runHist d3 hTwinReplaced) sSub "shared" = some (sv "a") ∧
    effOk (runHist d3 hTwinReplaced) "alt".toList "shared" = some (sv "b") ∧
    effOk (runHist d3 hTwinFileDeleted) sSub "flag" = some (.bool true) ∧
    ((runHist d3 hTwinFileDeleted).core.map (fun c => c.projectKeys.filter (fun k => k.sub == some "alt".toList))) = some [] ∧
    ((runHist d3 hTwinReplaced).core.map (fun c => staleKeys c.store)) = some [] :=
  have h := evaluated_histories.2.2.2.2.2.1
  ⟨h.1, h.2.1, h.2.2.1, h.2.2.2.1, h.2.2.2.2.1, h.2.2.2.2.2.1, h.2.2.2.2.2.2.1, h.2.2.2.2.2.2.2,
    no_stale_keys _ d3 rfl h.2.2.2.2.1⟩

/-! ## the good paths on the same trees; the hypotheses of the general theorems are satisfiable -/

/-- values survive configure / reconfigure / wipe; a new option gets its default; a dropped choice resets -/
example :
    let h : List Cmd := [.setup [bn, (gk "t_str", sv "u1"), (gk "t_combo", sv "c")], .configure [(gk "t_int", some (sv "7"))],
      .editSet false "extra".toList (S "e0"), .editSet false "t_combo".toList (C ["a", "b"] "b"), .reconfigure [bn]]
    effOk (runHist d0 h) [] "t_str" = some (sv "u1") ∧ effOk (runHist d0 h) [] "t_int" = some (.int 7) ∧
    effOk (runHist d0 h) [] "extra" = some (sv "e0") ∧ effOk (runHist d0 h) [] "t_combo" = some (sv "b") :=
  evaluated_histories.2.2.2.2.1

/-- a failure (`boom`) after the store was mutated in memory is the identity (hypotheses of
`failed_command_is_identity_partial` are satisfiable) -/
example :
    let d := runHist d0 [.setup [bn]]
    (step d (.reconfigure [bn, (gk "t_str", sv "u2"), (gk "boom", sv "true")])).2 = .failed .meson false ∧
    (step d (.reconfigure [bn, (gk "t_str", sv "u2"), (gk "boom", sv "true")])).1 = d :=
  ⟨evaluated_histories.1.1.2,
    failed_command_is_identity_partial _ _ _ _ (fun _ => Cmd.noConfusion) evaluated_histories.1.1.2⟩

/-- `AllFail` is satisfiable by a non-empty history -/
example : AllFail d0 [.configure [(gk "t_int", some (sv "4"))], .setup [bn, (gk "boom", sv "true")]] := by
  -- `meson configure` in a directory that was never set up fails without reading anything
  refine ⟨fun _ => Cmd.noConfusion, ⟨.meson, false, rfl⟩, ?_⟩
  exact ⟨fun _ => Cmd.noConfusion, ⟨.meson, false, evaluated_histories.2.2.1.2⟩, trivial⟩

/-- `AllFailOrEdit` is satisfiable with a late failure and an edit after a real setup -/
example : AllFailOrEdit (runHist d0 [.setup [bn]])
    [.reconfigure [bn, (gk "t_str", sv "late"), (gk "boom_late", sv "true")], .editRemove true "s_str".toList] := by
  refine ⟨fun _ => Cmd.noConfusion, Or.inl ⟨.meson, true, late_failure_is_identity.1⟩, ?_⟩
  exact ⟨fun _ => Cmd.noConfusion, Or.inr (Or.inr (Or.inl ⟨true, _, rfl⟩)), trivial⟩

/-- the hypotheses of `yield_follows_current_parent_hist` are met by a non-trivial reachable state: after the parent
object was replaced while the child was overridden and the override was dropped, the child is a registered,
inheriting option whose parent pointer is the registered top-level object -/
example : d0.core = none ∧
    ((runHist d0 hOverriddenStale).core.map (fun c =>
      (alookup (sk "shared") c.store.options).any (fun id => (c.store.heap[id]?).any (fun o =>
        o.yielding && o.parent.isSome && (alookup (sk "shared") c.store.augments).isNone)))) = some true :=
  ⟨rfl, evaluated_histories.1.2.1.2.2.1⟩

/-- the recorded command line of a real history has distinct keys (hypothesis of `wipe_eq_replay`) -/
example : ((runHist d0 hWipe).cmdline.map (fun f => decide ((f.map Prod.fst).Nodup))) = some true :=
  evaluated_histories.2.1.2.1

/-- the hypotheses of `value_persists_configure_history` are satisfiable on the test tree: a real setup leaves no
unread edit; the proof applies the theorem to a configure command that sets other options (a `ConfigureHist` for
`t_str`) and gets the value after it from the value before -/
example :
    ((runHist d3 [.setup [bn, (gk "t_str", sv "u1")]]).core.map (fun co =>
      decide (NoUnread (runHist d3 [.setup [bn, (gk "t_str", sv "u1")]]) co))) = some true ∧
    effOk (runHist d3 [.setup [bn, (gk "t_str", sv "u1")], .configure [(gk "t_int", some (sv "7")), (sk "shared", some (sv "c")), (sk "shared", none)]])
      [] "t_str" = some (sv "u1") := by
  obtain ⟨hu, hv⟩ := evaluated_histories.2.2.2.2.2.2
  refine ⟨hu, ?_⟩
  cases hc : (runHist d3 [.setup [bn, (gk "t_str", sv "u1")]]).core with
  | none => simp [hc] at hu
  | some co =>
    rw [hc] at hu
    have hh : ConfigureHist "t_str".toList
        [.configure [(gk "t_int", some (sv "7")), (sk "shared", some (sv "c")), (sk "shared", none)]] := by
      refine ⟨?_, trivial⟩
      unfold NotAddressed
      decide +kernel
    have hp := value_persists_configure_history "t_str".toList (by decide +kernel) _ _ co
      (runHist_inv _ d3 (dirInv_empty d3 rfl)) hc (of_decide_eq_true (Option.some.inj hu)) hh []
    rw [← hv]
    unfold effOk
    rw [← hp]
    exact congrArg (fun d => (Dir.eff d [] "t_str".toList).bind Except.toOption) (runHist_append [_] [_] d3)

end MesonModel.Props.C08
