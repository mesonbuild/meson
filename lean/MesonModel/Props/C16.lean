import MesonModel.Fmt.Lemmas
import MesonModel.Fmt.LayoutLemmas
import MesonModel.Fmt.SortKey
import MesonModel.Generated.FmtTables
/-
C16 — `meson format` preserves meaning and comments and is idempotent.

What is proved here, for all inputs, are the *pure rewriting decisions* of mformat.py (string-literal
simplification, `files([...])` flattening, `sort_files` ordering) and the facts that make skeleton equality
the right notion of "same program up to trivia".  The whitespace-moving passes are validated per
(input, configuration) pair by the translation-validation run (`harness/c16.py`), whose Lean-side
checker is `sameProgram` / `sameComments` from `MesonModel/Fmt/Tree.lean`.
-/
namespace MesonModel.Props.C16
open MesonModel.Fmt MesonModel.Generated.FmtTables

/-- the full statement for a given excluded-character list / f-string marker list: every string token the
lexer can produce keeps its denotation (and still lexes) after `visit_StringNode` -/
def simplify_preserves_denotation_statement (excl fmark : List Char) : Prop :=
  ∀ (raw : List Char) (multi fstr : Bool), (multi = false → plainLexable raw = true) →
    Preserves excl fmark (parseStr raw multi fstr)

/-- **general theorem**: for every excluded list that contains the quote and the backslash and EVERY
placeholder recogniser that accepts at least the values the interpreter substitutes into (`hasSubst` =
the regex `@([_a-zA-Z][_0-9a-zA-Z]*)@` of `InterpreterBase.evaluate_fstring`), every string token keeps its
denotation.  A recogniser that forgets part of the identifier grammar (e.g. a leading `_`) is not covered —
and is in fact wrong, see `recogniser_counterexample`. -/
theorem simplify_preserves_denotation_recogniser (excl : List Char) (keep : List Char → Bool)
    (hq : '\'' ∈ excl) (hb : '\\' ∈ excl) (hk : ∀ v, hasSubst v = true → keep v = true)
    (raw : List Char) (multi fstr : Bool) (hlex : multi = false → plainLexable raw = true) :
    PreservesWith excl keep (parseStr raw multi fstr) := by
  have h1 := simplifyMulti_denote excl hq hb raw multi fstr hlex
  have hc := consistent_simplifyMulti excl _ (consistent_parseStr raw multi fstr)
  have h2 := simplifyFWith_denote keep hk _ hc
  simp only [PreservesWith, simplifyWith, Bool.not_true, Bool.false_eq_true, if_false]
  refine ⟨fun hm => ?_, ?_⟩
  · rw [h2.2.2]
    exact h1.2 (by rw [← h2.2.1]; exact hm)
  · rw [h2.1, h1.1]

/-- a recogniser that only knows identifiers starting with a letter drops the `f` of `f'lib-@_name@.so'`,
which the interpreter does substitute into: the hypothesis on the recogniser cannot be weakened to
"accepts letter-initial placeholders" -/
theorem recogniser_counterexample :
    ¬ PreservesWith ['\n', '\'', '\\']
        (fun v => v.any (fun c => c == '@') && (match v.dropWhile (fun c => c != '@') with
                                                 | _ :: c :: _ => MesonModel.Py.isAlpha c
                                                 | _ => false))
        (parseStr "lib-@_name@.so".toList false true) := by
  intro h
  have := h.2
  revert this
  decide +kernel

/-- **full theorem** for the recogniser as coded (`'@' in value`), for every excluded list that contains the
quote and the backslash and every marker list that contains `@` (the list of the repair `['\n', "'", '\\']`) -/
theorem simplify_preserves_denotation (excl fmark : List Char)
    (hq : '\'' ∈ excl) (hb : '\\' ∈ excl) (hat : '@' ∈ fmark) :
    simplify_preserves_denotation_statement excl fmark := by
  intro raw multi fstr hlex
  have h := simplify_preserves_denotation_recogniser excl (markerKeep fmark) hq hb
    (markerKeep_of_hasSubst fmark hat) raw multi fstr hlex
  simpa [PreservesWith, Preserves, simplifyWith, simplify, simplifyF] using h

/-- obligations on the live tables (regenerated from /repo on every run) under which the full theorem applies to /repo -/
theorem live_excluded_has_quote : '\'' ∈ simplifyExcluded := by decide
theorem live_excluded_has_backslash : '\\' ∈ simplifyExcluded := by decide
theorem live_markers_have_at : '@' ∈ fstringMarkers := by decide

/-- the live formatter keeps the `f` on every probed placeholder shape that the interpreter substitutes into
(plain literal: after escape decoding; triple-quoted: verbatim).  Shapes cover the identifier grammar
(leading `_`, digits inside, single letter), adjacent placeholders and near misses. -/
def shapesOk (t : List (List Nat × Bool × Bool)) : Bool :=
  t.all (fun e =>
    let v := e.1.map Char.ofNat
    (!hasSubst (decodeEscapes v) || e.2.1) && (!hasSubst v || e.2.2))

/-- first shape on which the live recogniser is too narrow (evaluated by the harness when the obligation fails) -/
def shapesWitness (t : List (List Nat × Bool × Bool)) : Option (List Nat) :=
  (t.find? (fun e =>
    let v := e.1.map Char.ofNat
    !((!hasSubst (decodeEscapes v) || e.2.1) && (!hasSubst v || e.2.2)))).map (·.1)

theorem live_fstring_shapes_ok : shapesOk fstringShapes = true := by decide +kernel

/-- **the property's string clause for the code as it is**: with the regenerated tables (excluded list
`['\n', "'", '\\']` since the repair of F-FMT-BACKSLASH, marker `@`) every string token the lexer can produce
still lexes and denotes the same string after `TrimWhitespaces.visit_StringNode` -/
theorem simplify_live : simplify_preserves_denotation_statement simplifyExcluded fstringMarkers :=
  simplify_preserves_denotation _ _ live_excluded_has_quote live_excluded_has_backslash live_markers_have_at

/-- non-vacuity: the rule does fire (`f'''a b.c'''` becomes `'a b.c'`) and does not fire on a backslash -/
example : (simplify simplifyExcluded fstringMarkers true (parseStr "a b.c".toList true true)) =
    { raw := "a b.c".toList, value := "a b.c".toList, multi := false, fstr := false } := by decide +kernel
example : (simplify simplifyExcluded fstringMarkers true (parseStr "a\\nb".toList true false)).multi = true := by decide +kernel

/-- when one turn of the rewrite applies, the call was `files(<one array, no keywords>)`, none of the whitespace
nodes that disappear (brackets, array, outer argument list, outer commas) holds a comment, and the new
call has exactly the array's argument-list node as its argument list -/
theorem files_flatten_same_args (t t' : Tree) (h : flattenStep t = some t') :
    ∃ fl tx nm lp afl atx akids aws rp ws k1 k2 lb inner rb k3,
      t = .node .func fl tx [nm, lp, .node .args afl atx akids aws, rp] ws ∧
      positional akids = [.node .array k1 k2 [lb, inner, rb] k3] ∧ (keywords akids).isEmpty = true ∧
      (blankWs lb = true ∧ blankWs rb = true ∧ noComment k3 = true ∧
        noComment aws = true ∧ (commasOf akids).all blankWs = true) ∧
      t' = .node .func fl tx [nm, lp, inner, rp] ws := by
  revert h
  fun_cases flattenStep t with
  | case1 =>
    rename_i hcond _ _ _ _ _ _ hpos hblank
    rintro ⟨⟩
    simp only [Bool.and_eq_true] at hblank
    exact ⟨_, _, _, _, _, _, _, _, _, _, _, _, _, _, _, _, rfl, hpos, hcond.2,
      ⟨hblank.1.1.1.1.1.1, hblank.1.1.1.1.1.2, hblank.1.1.1.1.2, hblank.1.1.1.2, hblank.1.1.2⟩, rfl⟩
  | case2 | case3 | case4 | case5 | case6 => exact nofun

/-- a whitespace value that passes the guard of the rewrite holds no comment: dropping it loses none
(`commentsOf` finds a comment only at a `#`) -/
theorem commentsOfAux_no_hash (w : List Char) (hm : '#' ∉ w) : commentsOfAux w none = [] := by
  induction w with
  | nil => rfl
  | cons c rest ih =>
    have hc : c ≠ '#' := fun e => hm (by simp [e])
    have hr : '#' ∉ rest := fun m => hm (List.mem_cons_of_mem _ m)
    simp only [commentsOfAux, hc, if_false]
    exact ih hr

theorem noComment_commentsOf (w : List Char) (h : noComment w = true) : commentsOf w = [] :=
  commentsOfAux_no_hash w (by simpa [noComment] using h)

/-- flattening does not change the erased program beyond replacing the one-array argument list by the
array's own argument list: the function name and everything outside the call are untouched -/
theorem files_flatten_erase (fl : Nat) (tx : List Char) (nm lp inner rp : Tree) (ws : List Char) :
    erase (.node .func fl tx [nm, lp, inner, rp] ws) =
      [.node .func false tx (erase nm ++ erase lp ++ erase inner ++ erase rp)] := by
  simp [erase, eraseList]

theorem sort_is_permutation {α : Type} (key : α → List Nat) (l : List α) : (sortByKey key l).Perm l :=
  List.mergeSort_perm l _

theorem sort_sorted {α : Type} (key : α → List Nat) (l : List α) :
    (sortByKey key l).Pairwise (fun a b => keyLe (key a) (key b) = true) :=
  List.pairwise_mergeSort (fun a b c => keyLe_trans (key a) (key b) (key c))
    (fun a b => keyLe_total (key a) (key b)) l

theorem sort_idempotent {α : Type} (key : α → List Nat) (l : List α) :
    sortByKey key (sortByKey key l) = sortByKey key l :=
  List.mergeSort_of_pairwise (sort_sorted key l)

/-- non-vacuity: the natural order `d/a < a9 < a10 < b` (directories first, digit runs by value) is a fixed point -/
example : sortByKey (fun s => argKey (some s)) ["d/a".toList, "a9".toList, "a10".toList, "b".toList] =
    ["d/a".toList, "a9".toList, "a10".toList, "b".toList] :=
  List.mergeSort_of_pairwise (by decide +kernel)
example : keyLe (pathKey "a10".toList) (pathKey "a9".toList) = false := by decide +kernel

theorem erase_ignores_whitespace (f : List Char → List Char) (t : Tree) : erase (mapWs f t) = erase t :=
  erase_mapWs f t

/-- a punctuation symbol contributes nothing, so a redundant trailing comma is invisible -/
theorem erase_ignores_trailing_comma (k : Kind) (fl fl' : Nat) (tx tx' : List Char) (kids kids' : List Tree)
    (ws ws' : List Char) (hk : k ≠ .symbol ∧ k ≠ .pre ∧ k ≠ .paren ∧ k ≠ .string ∧ k ≠ .number) :
    erase (.node k fl tx (kids ++ [.node .symbol fl' tx' kids' ws']) ws) = erase (.node k fl tx kids ws) := by
  obtain ⟨h1, h2, h3, h4, h5⟩ := hk
  simp [erase, h1, h2, h3, h4, h5, eraseList_append, eraseList]

theorem erase_ignores_parentheses (fl fl1 fl2 : Nat) (tx t1 t2 : List Char) (k1 k2 : List Tree)
    (inner : Tree) (ws w1 w2 : List Char) :
    erase (.node .paren fl tx [.node .symbol fl1 t1 k1 w1, inner, .node .symbol fl2 t2 k2 w2] ws) = erase inner := by
  simp [erase, eraseList]

theorem sameProgram_refl (s : Bool) (t : Tree) : sameProgram s t t = true := by
  simp [sameProgram]

theorem sameProgram_ignores_whitespace (s : Bool) (f : List Char → List Char) (t : Tree) :
    sameProgram s t (mapWs f t) = true := by
  simp [sameProgram, erase_mapWs]

/-! Argument-list layout (`MesonModel/Fmt/Layout.lean`): the layout decision of the three formatter passes on abstract
argument lists: `files([...])` flattening, `sort_files`, the multi-line detector (comment, triple-quoted string that
stays, trailing comma except the one `no_single_comma_function` removes, `kwargs_force_multiline`), the trailing-comma
rule.  Quantified over every node (calls, method calls, arrays, dicts, nested to any depth) and every configuration;
the tie to the real formatter is the `layout` correspondence stream of `harness/c16.py` (model of the abstracted
input = abstraction of the real output, layout included).  Line-length splitting is outside this model. -/

open MesonModel.Fmt.Layout in
theorem layout_idempotent (cfg : Cfg) (n : Node) : fmt cfg (fmt cfg n) = fmt cfg n :=
  fmt_idempotent cfg n

open MesonModel.Fmt.Layout in
/-- **the layout decided is the layout read back**: `is_multiline` as `TrimWhitespaces` decides it in the run that
formats the text (detector on the not yet formatted items of the flattened list) is what the detector says on the
formatted list, i.e. what a second run decides.  This is the statement that failed before the repairs e587c4a /
f78386e (`g(files([x,]))` with `no_single_comma_function`). -/
theorem layout_decided_is_read_back (cfg : Cfg) (c : Cont) (co : Bool) (items : List Node) (tr ci : Bool) :
    decided cfg c co items tr ci = multiline cfg (fmt cfg (.coll c items tr ci co)) := by
  simp only [multiline, fmt]
  exact decided_eq_readback cfg c co items tr ci

open MesonModel.Fmt.Layout in
theorem layout_second_run_same_layout (cfg : Cfg) (c : Cont) (co : Bool) (items : List Node) (tr ci : Bool) :
    multiline cfg (fmt cfg (fmt cfg (.coll c items tr ci co))) = decided cfg c co items tr ci := by
  rw [layout_idempotent, layout_decided_is_read_back]

open MesonModel.Fmt.Layout in
/-- **the argument sequence is preserved up to the documented rewrites**: flattening keeps all leaves; only `sort_files`
moves any -/
theorem layout_preserves_arguments (cfg : Cfg) (n : Node) : (leaves (fmt cfg n)).Perm (leaves n) :=
  (leaves_fmt cfg n).1

open MesonModel.Fmt.Layout in
theorem layout_preserves_argument_order (cfg : Cfg) (h : cfg.sortFiles = false) (n : Node) :
    leaves (fmt cfg n) = leaves n :=
  (leaves_fmt cfg n).2 h

open MesonModel.Fmt.Layout in
/-- formatting creates no reason for a multi-line layout of the enclosing list, and with
`no_single_comma_function` loses none -/
theorem layout_detector_stable (cfg : Cfg) (h : cfg.noSingle = true) (n : Node) :
    det cfg false (fmt cfg n) = det cfg false n :=
  Bool.eq_iff_iff.mpr ⟨detA cfg n, detB cfg n h⟩

/-- non-vacuity: `g(files([x,]))` with `no_single_comma_function` becomes `g(files(x))` on one line; without the
option, in `g(files([x, y],))`, the dropped comma after the array makes the call multi-line and the added trailing
comma keeps it so -/
example : Layout.fmt ⟨false, true, false, true⟩
    (.coll .func [.coll .files [.coll .array [.leaf 0] true false false] false false false] false false false) =
    .coll .func [.coll .files [.leaf 0] false false false] false false false := by
  simp [Layout.fmt, Layout.fmtArgs, Layout.fmtL, Layout.build, Layout.det, Layout.detL, Layout.continues,
    Layout.trailingAfter, Layout.sortIf, Layout.hasCmtL, Layout.hasCmt, Layout.hasKw, Layout.isKw, Layout.isFn]
example : Layout.fmt ⟨false, false, false, true⟩
    (.coll .func [.coll .files [.coll .array [.leaf 0, .leaf 1] false false false] true false false] false false false) =
    .coll .func [.coll .files [.leaf 0, .leaf 1] false false false] true false false := by
  simp [Layout.fmt, Layout.fmtArgs, Layout.fmtL, Layout.build, Layout.det, Layout.detL, Layout.continues,
    Layout.trailingAfter, Layout.sortIf, Layout.hasCmtL, Layout.hasCmt, Layout.hasKw, Layout.isKw, Layout.isFn]
example : Layout.decided ⟨false, false, false, true⟩ .func false
    [.coll .files [.coll .array [.leaf 0, .leaf 1] false false false] true false false] false false = true := by
  simp [Layout.det, Layout.detL, Layout.continues, Layout.decided, Layout.hasKw, Layout.isKw, Layout.isFn]

/-! The key of `sort_files` never fails to compare (`MesonModel/Fmt/SortKey.lean`): `pathname_sort_key` yields tuples of
`int | str`; Python raises TypeError on `int < str`.  With the key as coded
(model shared with C17: `MesonModel.Rewrite.pathKey`) no two names ever get there, so `meson format` with
`sort_files` cannot die in the sort whatever the file names. -/

/-- `pathname_sort_key(a) < pathname_sort_key(b)` never raises -/
theorem sort_key_comparison_never_fails (a b : List Char) : (SortKey.pathLt? a b).isSome = true :=
  SortKey.pathLt?_never_fails a b

/-- … and its value is the order of the C17 model of the same function (one model of the key, two users) -/
theorem sort_key_order_is_rewriter_order (a b : List Char) :
    SortKey.pathLt? a b = some (MesonModel.Rewrite.pathKeyLt a b) :=
  SortKey.pathLt?_eq a b

/-- a name is never smaller than itself: with a stable sort the result is a function of the keys -/
theorem sort_key_irreflexive (a : List Char) : SortKey.pathLt? a a = some false :=
  SortKey.pathLt?_irrefl a

/-- non-vacuity: the pairs on which a chunking without the empty texts fails — digit-leading against
letter-leading component — compare: numbers come first (`'' < 'main'`) -/
example : SortKey.pathLt? "7zip.c".toList "main.c".toList = some true := by decide +kernel
example : SortKey.pathLt? "src/main.c".toList "3rdparty/zlib/inflate.c".toList = some false := by
  -- the kernel decodes long string literals slowly: hand it the character list
  conv in String.toList "3rdparty/zlib/inflate.c" => rw [String.toList_ofList]
  decide +kernel

end MesonModel.Props.C16
