/-
C03 — Commands receive exactly the arguments the build definition specifies.

The quoting functions are the model of /repo's code (`MesonModel/Quote/Model.lean`); the consumers
`ninjaEval`, `shSplit`/`shCommands`, `buildargv` are written specifications of Ninja, POSIX sh
(restricted to the quoters' output language) and libiberty.  Every theorem quantifies over all
strings / all argument lists.
-/
import MesonModel.Quote.RuleLemmas
import MesonModel.Quote.DigestLemmas
import MesonModel.Quote.EnvLemmas
import MesonModel.Quote.GenLemmas
import MesonModel.Quote.AddArgs
import MesonModel.Py.CharLists

namespace MesonModel.Props.C03
open MesonModel.Quote MesonModel.Py

/-- sh layer: whatever the strings contain (including newlines, quotes, `$`, globs, non-ASCII), the
shell splits the joined `shlex.quote`d words back into exactly the given list. -/
theorem sh_roundtrip (args : List Str) : shSplit (joinSp (args.map shQuote)) = .ok args := by
  unfold shSplit
  rw [shLex_join_end]
  exact wordsOnly_words args

example : shSplit (joinSp (["a b".toList, [], "it's $x;*\n".toList, "é".toList].map shQuote)) =
    .ok ["a b".toList, [], "it's $x;*\n".toList, "é".toList] := sh_roundtrip _

/-- Ninja layer: a string without newline (and, on a build line, without `|`, which Ninja cannot
escape and `ninja_quote` rejects) is accepted by `ninja_quote` (both variants) and Ninja's evaluation
of the escaped text gives the string back, in every environment. -/
theorem ninja_roundtrip (build : Bool) (env : Str → Str) (s : Str) (h : NoNl s) (hp : build = true → '|' ∉ s) :
    ∃ q, ninjaQuote build s = .ok q ∧ ninjaEval env q = .ok s := by
  exact ⟨ninjaEsc build s, ninjaQuote_eq build s h hp, ninjaEval_esc build env s h⟩

example : NoNl "$a b:c$$".toList := by decide +kernel

/-- a newline is never written into the manifest: `ninja_quote` raises -/
theorem ninja_rejects_newline (build : Bool) (s : Str) (h : ¬ NoNl s) :
    ninjaQuote build s = .error .newline := ninjaQuote_newline build s h

/-- a path with `|` cannot be written on a build line (no escape exists in Ninja): rejected -/
theorem ninja_rejects_pipe (s : Str) (h : NoNl s) (hp : '|' ∈ s) : ninjaQuote true s = .error .pipe := by
  unfold ninjaQuote
  have hn : s.contains '\n' = false := (contains_false_iff _ _).2 h
  have hpc : s.contains '|' = true := by simpa [List.contains_iff_mem] using hp
  rw [if_neg (by rw [hn]; exact Bool.false_ne_true), if_pos (by rw [hpc]; rfl)]

/-- response-file layer: `gcc @file` reads back exactly the list that was written with
`gcc_rsp_quote`, whatever the strings contain (backslashes, quotes, whitespace, newlines). -/
theorem rsp_roundtrip (args : List Str) : buildargv (joinSp (args.map gccRspQuote)) = args :=
  bav_join_end args

example : buildargv (joinSp (["-DX=\"a\\b\"".toList, "it's".toList, []].map gccRspQuote)) =
    ["-DX=\"a\\b\"".toList, "it's".toList, []] := rsp_roundtrip _

/-- a shell-quoted variable (`ARGS`, `LINK_ARGS`, `COMMAND`, … — any name outside `raw_names`):
the line is written, and Ninja evaluates its value to the space-joined shell-quoted elements -/
theorem var_line_roundtrip (env : Str → Str) (name : Str) (hn : Generated.rawNames.contains name = false)
    (elems : List Str) (h : ∀ e ∈ elems, NoNl e) :
    ∃ v, varValue shQuote name elems = .ok v ∧
      ninjaEval env v = .ok (joinSp (elems.map (elemQuote shQuote))) := by
  refine ⟨_, varValue_quoted shQuote shQuote_noNl name hn elems h, ninjaEval_join env _ ?_⟩
  exact List.forall_mem_map.2 fun e he => elemQuote_noNl shQuote shQuote_noNl e (h e he)

/-- the names the rule shapes below rely on are shell-quoted ones (re-checked against the
regenerated `raw_names` table on every run) -/
theorem quoted_names :
    Generated.rawNames.contains "ARGS".toList = false ∧
    Generated.rawNames.contains "LINK_ARGS".toList = false ∧
    Generated.rawNames.contains "COMMAND".toList = false := by decide +kernel

/-- compile/link statements through a response file: `ARGS` written with `gcc_rsp_quote`, evaluated
by Ninja into `rspfile_content`, tokenised by `gcc @file`, is the given list -/
theorem rsp_var_roundtrip (env : Str → Str) (name : Str) (hn : Generated.rawNames.contains name = false)
    (args : List Str) (h : ∀ a ∈ args, NoNl a ∧ a ≠ andand) :
    ∃ v, varValue gccRspQuote name args = .ok v ∧
      (buildargv <$> ninjaEval env v) = .ok args := by
  refine ⟨_, varValue_plain gccRspQuote gccRspQuote_noNl name hn args h, ?_⟩
  rw [ninjaEval_quoted env gccRspQuote gccRspQuote_noNl args (fun a ha => (h a ha).1), map_ok, rsp_roundtrip]

/-- an element containing a newline cannot be written into a build statement at all -/
theorem var_line_rejects_newline (name : Str) (pre post : List Str) (bad : Str)
    (hpre : ∀ e ∈ pre, NoNl e) (hbad : ¬ NoNl bad) :
    varValue shQuote name (pre ++ bad :: post) = .error .newline :=
  varValue_newline shQuote shQuote_noNl_iff name pre post bad hpre hbad

/-! ### The `CUSTOM_COMMAND` rule shape end to end (custom_target, run_target, generator) -/

inductive PErr where
  | q (e : QErr) | n (e : NErr) | sh (e : ShErr)
  deriving DecidableEq, Repr

def liftQ {α} : Except QErr α → Except PErr α
  | .ok a => .ok a | .error e => .error (.q e)
def liftN {α} : Except NErr α → Except PErr α
  | .ok a => .ok a | .error e => .error (.n e)
def liftSh {α} : Except ShErr α → Except PErr α
  | .ok a => .ok a | .error e => .error (.sh e)

def sCOMMAND : Str := "COMMAND".toList

/-- `NinjaRule('CUSTOM_COMMAND', ['$COMMAND'], [], …)` -/
def customRule : Rule := { command := [strToCommandArg ('$' :: sCOMMAND)], args := [] }

/-- what a POSIX host executes for a `CUSTOM_COMMAND` build statement whose `COMMAND` is `elems`:
rule text as written by `NinjaRule`, variable line as written by `NinjaBuildElement.write`, both read
back and expanded by Ninja, the resulting string split by `/bin/sh`.  One argv per simple command. -/
def runCustom (elems : List Str) : Except PErr (List (List Str)) := do
  let cmdStr ← liftQ customRule.commandStr
  let v ← liftQ (varValue shQuote sCOMMAND elems)
  let value ← liftN (ninjaEval (fun _ => []) v)
  let e : Edge := { ruleBindings := [(scommand, cmdStr)], vars := [(sCOMMAND, value)], ins := [], outs := [] }
  let c ← liftN (edgeBinding e scommand)
  liftSh (shCommands c)

theorem customRule_commandStr : customRule.commandStr = .ok ('$' :: sCOMMAND) := by decide +kernel

theorem edge_command (value : Str) :
    edgeBinding { ruleBindings := [(scommand, '$' :: sCOMMAND)], vars := [(sCOMMAND, value)], ins := [], outs := [] }
      scommand = .ok value := by
  -- evaluation ends in `value ++ []`, which for a variable `value` is not `value` by `rfl`
  have h : edgeBinding { ruleBindings := [(scommand, '$' :: sCOMMAND)], vars := [(sCOMMAND, value)], ins := [], outs := [] }
      scommand = .ok ([value].flatten) := by rfl
  simpa using h

/-- **command_argv / andand_separates** for the `CUSTOM_COMMAND` shape: a command list made of the
simple commands `cmds` separated by the element `&&` is executed as exactly those argvs — every
argument unchanged, in order, whatever it contains except a newline (newlines are routed through the
pickled wrapper, `newline_forces_serialisation`). -/
theorem custom_command_argv (cmds : List (List Str)) (hne : cmds ≠ [])
    (h : ∀ c ∈ cmds, c ≠ [] ∧ ∀ a ∈ c, NoNl a ∧ a ≠ andand) :
    runCustom (andJoin cmds) = .ok cmds := by
  have hnl : ∀ e ∈ andJoin cmds, NoNl e := by
    intro e he
    rcases mem_andJoin he with rfl | ⟨c, hc, hm⟩
    · exact andand_noNl
    · exact ((h c hc).2 e hm).1
  obtain ⟨v, hv, hev⟩ := var_line_roundtrip (fun _ => []) sCOMMAND quoted_names.2.2 (andJoin cmds) hnl
  unfold runCustom
  rw [customRule_commandStr, hv]
  simp only [liftQ, liftN, hev, bind, Except.bind, edge_command]
  rw [shCommands, shLex_elems]
  exact congrArg liftSh
    (splitAndAnd_andJoin cmds hne (fun c hc => ⟨(h c hc).1, fun a ha => ((h c hc).2 a ha).2⟩))

/-- the single-command instance: the dumper sees exactly `argv` -/
theorem command_argv (argv : List Str) (hne : argv ≠ []) (h : ∀ a ∈ argv, NoNl a ∧ a ≠ andand) :
    runCustom argv = .ok [argv] := by
  have := custom_command_argv [argv] (by simp) (by simpa using ⟨hne, h⟩)
  simpa [andJoin] using this

/-- `&&` separates two commands and nothing else does -/
theorem andand_separates (c1 c2 : List Str) (h1 : c1 ≠ []) (h2 : c2 ≠ [])
    (h : ∀ a ∈ c1 ++ c2, NoNl a ∧ a ≠ andand) :
    runCustom (c1 ++ andand :: c2) = .ok [c1, c2] := by
  have := custom_command_argv [c1, c2] (by simp)
    (by
      intro c hc
      simp only [List.mem_cons, List.not_mem_nil, or_false] at hc
      rcases hc with rfl | rfl
      · exact ⟨h1, fun a ha => h a (by simp [ha])⟩
      · exact ⟨h2, fun a ha => h a (by simp [ha])⟩)
  simpa [andJoin] using this

example : runCustom ["prog".toList, "a b".toList, "$x;'\"".toList, andand, "p2".toList, [], "*".toList] =
    .ok [["prog".toList, "a b".toList, "$x;'\"".toList], ["p2".toList, [], "*".toList]] :=
  andand_separates ["prog".toList, "a b".toList, "$x;'\"".toList] ["p2".toList, [], "*".toList]
    (by simp) (by simp) (by decide +kernel)

theorem quoted_arg_names :
    Generated.rawNames.contains sARGS = false ∧ Generated.rawNames.contains sLINK_ARGS = false := by decide +kernel

/-- what a POSIX host executes for a compile statement: rule
`NinjaRule(c_COMPILER, exe, ['$ARGS', '-o' '$out' (unquoted words), '-c', '$in'])` as written by
`NinjaRule`, `ARGS` as written by `NinjaBuildElement.write`, both expanded by Ninja for this
statement (`$in`/`$out` shell-escaped by Ninja), the string split by `/bin/sh` -/
def runCompile (exe args : List Str) (out inp : Str) : Except PErr (List Str) := do
  let cmdStr ← liftQ (compileRule exe).commandStr
  let v ← liftQ (varValue shQuote sARGS args)
  let value ← liftN (ninjaEval (fun _ => []) v)
  let e : Edge := { ruleBindings := [(scommand, cmdStr)], vars := [(sARGS, value)], ins := [inp], outs := [out] }
  let c ← liftN (edgeBinding e scommand)
  liftSh (shSplit c)

/-- **command_argv**, compile shape: the compiler is started with exactly its own words, then the
statement's `ARGS` — every element unchanged, same count, same order, whatever it contains except a
newline — then `-o out -c in`.  (`exe` words: no newline, not `&&`, not starting with `$`;
`out`/`in`: non-empty paths over Ninja's shell-safe characters, so that Ninja's own escaping of
`$in`/`$out` is the identity.) -/
theorem compile_command_argv (exe args : List Str) (out inp : Str) (hne : exe ≠ [])
    (hexe : ∀ e ∈ exe, GoodExe e) (hargs : ∀ a ∈ args, NoNl a ∧ a ≠ andand)
    (hout : PlainWord out) (hinp : PlainWord inp) :
    runCompile exe args out inp = .ok (exe ++ args ++ [wO, out, wC, inp]) := by
  unfold runCompile compileRule
  rw [exeRule_commandStr exe compileArgs compileWords hne (List.cons_ne_nil _ _) hexe compileArgs_sh,
    varValue_plain shQuote shQuote_noNl sARGS quoted_arg_names.1 args hargs]
  simp only [liftQ, liftN, bind, Except.bind,
    ninjaEval_quoted _ shQuote shQuote_noNl args (fun a ha => (hargs a ha).1)]
  rw [compile_edge exe args out inp hexe hout hinp]
  simp only [liftSh, shSplit_pieces]
  simp

example : runCompile ["cc".toList] ["-DX=\"a b\"".toList, "-I$dir".toList, "it's;*".toList] "o/m.c.o".toList "../m.c".toList =
    .ok ["cc".toList, "-DX=\"a b\"".toList, "-I$dir".toList, "it's;*".toList, wO, "o/m.c.o".toList, wC, "../m.c".toList] :=
  compile_command_argv _ _ _ _ (by simp) (by decide +kernel) (by decide +kernel) (by decide +kernel) (by decide +kernel)

/-- the same for a link statement: rule `NinjaRule(c_LINKER, exe, ['$ARGS', '-o' '$out', '$in', '$LINK_ARGS'])` -/
def runLink (exe args largs : List Str) (out inp : Str) : Except PErr (List Str) := do
  let cmdStr ← liftQ (linkRule exe).commandStr
  let v ← liftQ (varValue shQuote sARGS args)
  let value ← liftN (ninjaEval (fun _ => []) v)
  let lv ← liftQ (varValue shQuote sLINK_ARGS largs)
  let lvalue ← liftN (ninjaEval (fun _ => []) lv)
  let e : Edge := { ruleBindings := [(scommand, cmdStr)], vars := [(sARGS, value), (sLINK_ARGS, lvalue)],
                    ins := [inp], outs := [out] }
  let c ← liftN (edgeBinding e scommand)
  liftSh (shSplit c)

/-- **command_argv**, link shape: linker words, `ARGS`, `-o out in`, then `LINK_ARGS` — all unchanged -/
theorem link_command_argv (exe args largs : List Str) (out inp : Str) (hne : exe ≠ [])
    (hexe : ∀ e ∈ exe, GoodExe e) (hargs : ∀ a ∈ args, NoNl a ∧ a ≠ andand)
    (hlargs : ∀ a ∈ largs, NoNl a ∧ a ≠ andand) (hout : PlainWord out) (hinp : PlainWord inp) :
    runLink exe args largs out inp = .ok (exe ++ args ++ [wO, out, inp] ++ largs) := by
  unfold runLink linkRule
  rw [exeRule_commandStr exe linkArgs linkWords hne (List.cons_ne_nil _ _) hexe linkArgs_sh,
    varValue_plain shQuote shQuote_noNl sARGS quoted_arg_names.1 args hargs,
    varValue_plain shQuote shQuote_noNl sLINK_ARGS quoted_arg_names.2 largs hlargs]
  simp only [liftQ, liftN, bind, Except.bind,
    ninjaEval_quoted _ shQuote shQuote_noNl args (fun a ha => (hargs a ha).1),
    ninjaEval_quoted _ shQuote shQuote_noNl largs (fun a ha => (hlargs a ha).1)]
  rw [link_edge exe args largs out inp hexe hout hinp]
  simp only [liftSh, shSplit_pieces]
  simp

/-- a statement that goes through a response file (`c_COMPILER_RSP`): what the shell starts, and what
`gcc` reads from the file Ninja wrote from `rspfile_content` -/
def runCompileRsp (exe args : List Str) (out inp : Str) : Except PErr (List Str × List Str) := do
  let cmdStr ← liftQ (compileRule exe).rspCommandStr
  let content ← liftQ (compileRule exe).rspContentStr
  let v ← liftQ (varValue gccRspQuote sARGS args)
  let value ← liftN (ninjaEval (fun _ => []) v)
  let e : Edge := { ruleBindings := [(scommand, cmdStr), (srspfile_content, content)], vars := [(sARGS, value)],
                    ins := [inp], outs := [out] }
  let c ← liftN (edgeBinding e scommand)
  let file ← liftN (edgeBinding e srspfile_content)
  let argv ← liftSh (shSplit c)
  pure (argv, buildargv file)

/-- **command_argv**, compile shape through a response file: the shell starts `exe… @out.rsp`, and the
file holds exactly `ARGS` (unchanged, any content but a newline) followed by `-o out -c in` -/
theorem compile_rsp_argv (exe args : List Str) (out inp : Str)
    (hexe : ∀ e ∈ exe, GoodExe e) (hargs : ∀ a ∈ args, NoNl a ∧ a ≠ andand)
    (hout : PlainWord out) (hinp : PlainWord inp) :
    runCompileRsp exe args out inp = .ok (exe ++ [atFile out], args ++ [wO, out, wC, inp]) := by
  unfold runCompileRsp compileRule
  rw [exeRule_rspCommandStr exe compileArgs hexe, exeRule_rspContentStr exe compileArgs compileWords compileArgs_rsp,
    varValue_plain gccRspQuote gccRspQuote_noNl sARGS quoted_arg_names.1 args hargs]
  simp only [liftQ, liftN, bind, Except.bind,
    ninjaEval_quoted _ gccRspQuote gccRspQuote_noNl args (fun a ha => (hargs a ha).1)]
  rw [rsp_command_edge (compileRspEdge exe args out inp) exe out hexe hout rfl rfl rfl rfl,
    compile_rsp_content exe args out inp hout hinp]
  simp only [liftSh, shSplit_pieces, bav_pieces, pure, Except.pure]
  simp

def runLinkRsp (exe args largs : List Str) (out inp : Str) : Except PErr (List Str × List Str) := do
  let cmdStr ← liftQ (linkRule exe).rspCommandStr
  let content ← liftQ (linkRule exe).rspContentStr
  let v ← liftQ (varValue gccRspQuote sARGS args)
  let value ← liftN (ninjaEval (fun _ => []) v)
  let lv ← liftQ (varValue gccRspQuote sLINK_ARGS largs)
  let lvalue ← liftN (ninjaEval (fun _ => []) lv)
  let e : Edge := { ruleBindings := [(scommand, cmdStr), (srspfile_content, content)],
                    vars := [(sARGS, value), (sLINK_ARGS, lvalue)], ins := [inp], outs := [out] }
  let c ← liftN (edgeBinding e scommand)
  let file ← liftN (edgeBinding e srspfile_content)
  let argv ← liftSh (shSplit c)
  pure (argv, buildargv file)

/-- **command_argv**, link shape through a response file -/
theorem link_rsp_argv (exe args largs : List Str) (out inp : Str)
    (hexe : ∀ e ∈ exe, GoodExe e) (hargs : ∀ a ∈ args, NoNl a ∧ a ≠ andand)
    (hlargs : ∀ a ∈ largs, NoNl a ∧ a ≠ andand) (hout : PlainWord out) (hinp : PlainWord inp) :
    runLinkRsp exe args largs out inp = .ok (exe ++ [atFile out], args ++ [wO, out, inp] ++ largs) := by
  unfold runLinkRsp linkRule
  rw [exeRule_rspCommandStr exe linkArgs hexe, exeRule_rspContentStr exe linkArgs linkWords linkArgs_rsp,
    varValue_plain gccRspQuote gccRspQuote_noNl sARGS quoted_arg_names.1 args hargs,
    varValue_plain gccRspQuote gccRspQuote_noNl sLINK_ARGS quoted_arg_names.2 largs hlargs]
  simp only [liftQ, liftN, bind, Except.bind,
    ninjaEval_quoted _ gccRspQuote gccRspQuote_noNl args (fun a ha => (hargs a ha).1),
    ninjaEval_quoted _ gccRspQuote gccRspQuote_noNl largs (fun a ha => (hlargs a ha).1)]
  rw [rsp_command_edge (linkRspEdge exe args largs out inp) exe out hexe hout rfl rfl rfl rfl,
    link_rsp_content exe args largs out inp hout hinp]
  simp only [liftSh, shSplit_pieces, bav_pieces, pure, Except.pure]
  simp

example : runCompileRsp ["cc".toList] ["-DX=\"a\\b\"".toList, "it's".toList] "o/m.c.o".toList "../m.c".toList =
    .ok (["cc".toList, "@o/m.c.o.rsp".toList],
         ["-DX=\"a\\b\"".toList, "it's".toList, wO, "o/m.c.o".toList, wC, "../m.c".toList]) :=
  (compile_rsp_argv _ _ _ _ (by decide +kernel) (by decide +kernel) (by decide +kernel) (by decide +kernel)).trans
    (by decide +kernel)

/-! ### `escape_extra_args`: backslashes doubled only for per-target `-D` / `/D` -/

def isDefine (a : Str) : Bool := startsWith a ['-', 'D'] || startsWith a ['/', 'D']

/-- what a C string literal (or the preprocessor's view of `\\`) makes of doubled backslashes -/
def unescapePairs : Str → Str
  | '\\' :: '\\' :: r => '\\' :: unescapePairs r
  | c :: r => c :: unescapePairs r
  | [] => []

theorem unescapePairs_dbl (s : Str) : unescapePairs (dbl s) = s := by
  induction s with
  | nil => rfl
  | cons c s ih =>
    rw [dbl_cons]
    split
    · next h =>
      subst h
      exact congrArg _ ih
    · next h =>
      -- the equation for a character that is no backslash; its side condition is `h`
      rw [List.singleton_append, unescapePairs, ih]
      intro _ hc
      exact absurd hc h

/-- **define_backslashes_doubled_only_for_D**: count and order are kept; an argument that is not a
`-D`/`/D` define is unchanged; a define has each backslash doubled (and nothing else changed), so
that one level of C unescaping gives the original text back. -/
theorem define_backslashes_doubled_only_for_D (args : List Str) :
    (escapeExtraArgs args).length = args.length ∧
    ∀ i (hi : i < args.length),
      (isDefine args[i] = false → (escapeExtraArgs args)[i]? = some args[i]) ∧
      (isDefine args[i] = true → (escapeExtraArgs args)[i]? = some (dbl args[i]) ∧
                                  unescapePairs (dbl args[i]) = args[i]) := by
  refine ⟨by simp [escapeExtraArgs], fun i hi => ?_⟩
  have hget : (escapeExtraArgs args)[i]? = some (if isDefine args[i] = true then dbl args[i] else args[i]) := by
    simp only [escapeExtraArgs, List.getElem?_map, List.getElem?_eq_getElem hi, Option.map_some]
    rfl
  rw [hget]
  exact ⟨fun hd => by rw [hd]; rfl, fun hd => ⟨by rw [hd]; rfl, unescapePairs_dbl _⟩⟩

theorem escape_no_backslash_id (args : List Str) (h : ∀ a ∈ args, '\\' ∉ a) : escapeExtraArgs args = args := by
  unfold escapeExtraArgs
  conv =>
    rhs
    rw [← List.map_id args]
  apply List.map_congr_left
  intro a ha
  split
  · exact replaceChar_id _ _ _ (h a ha)
  · rfl

example : escapeExtraArgs ["-DX=\"a\\b\"".toList, "-I\\x".toList, "/DY\\".toList] =
    ["-DX=\"a\\\\b\"".toList, "-I\\x".toList, "/DY\\\\".toList] := by
  char_lists
  decide +kernel

/-! ### Only the documented rewrites in `eval_custom_target_command` -/

/-- **only_documented_rewrites** (word level): a command word without `@` is left alone by the
template substitution whatever the template table is (all template names start with `@`), and a
word without backslash is left alone by the `\\` → `/` normalisation; the normalisation never
changes anything but backslashes (length kept, every other character kept in place). -/
theorem only_documented_rewrites (vs : Values) (hk : ∀ p ∈ vs, p.1.head? = some '@') (w : Str) :
    ('@' ∉ w → subAll vs w.length w = .ok w) ∧
    ('\\' ∉ w → backslashNorm [w] = [w]) ∧
    (backslashNorm [w] = [w.map (fun c => if c = '\\' then '/' else c)]) := by
  refine ⟨fun h => subAll_no_at vs hk w h _ (Nat.le_refl _), fun h => ?_, ?_⟩
  · simp [backslashNorm, replaceChar_id _ _ _ h]
  · exact congrArg (· :: []) (replaceChar_single '\\' '/' w)

/-! ### `as_meson_exe_cmdline`: when the pickled wrapper is used -/

/-- **newline_forces_serialisation**: if any word of the command contains a newline the command is
run through the pickled wrapper (argv is unpickled and passed to `Popen` without a shell). -/
theorem newline_forces_serialisation (r : ExeReq) (h : ∃ a ∈ r.cmdArgs, ¬ NoNl a) :
    asMesonExeCmdline r = .pickled := by
  obtain ⟨a, ha, hnl⟩ := h
  have hany : r.cmdArgs.any (·.contains '\n') = true :=
    List.any_eq_true.2 ⟨a, ha, by simpa [NoNl] using hnl⟩
  apply pickled_of_reason r .newlines _ (by decide)
  unfold reasons
  rw [hany]
  simp

/-- conversely, whatever is written directly into the build statement is the unchanged command and
has no newline in it, so `command_argv` applies to it -/
theorem direct_is_unchanged (r : ExeReq) (argv : List Str) (h : asMesonExeCmdline r = .direct argv) :
    argv = r.cmdArgs ∧ ∀ a ∈ argv, NoNl a := by
  by_cases hnl : ∃ a ∈ r.cmdArgs, ¬ NoNl a
  · rw [newline_forces_serialisation r hnl] at h
    cases h
  · unfold asMesonExeCmdline at h
    simp only at h
    split at h
    · cases h
    · split at h
      · split at h
        · injection h with h
          subst h
          refine ⟨rfl, fun a ha => ?_⟩
          exact Classical.not_not.1 (fun hn => hnl ⟨a, ha, hn⟩)
        · cases h
      · cases h

/-- the same for env values (repaired in /repo: `fix: serialise a command whose env value contains a
newline`): a newline in any command word **or any env value** forces the pickled wrapper, so the
`env K=V prog…` shortcut never has to write a newline into the manifest. -/
theorem newline_anywhere_forces_serialisation (r : ExeReq)
    (h : (∃ a ∈ r.cmdArgs, ¬ NoNl a) ∨ (∃ kv ∈ r.envVars, ¬ NoNl kv.2)) :
    asMesonExeCmdline r = .pickled := by
  rcases h with h | ⟨kv, hkv, hnl⟩
  · exact newline_forces_serialisation r h
  · have hany : r.envVars.any (·.2.contains '\n') = true :=
      List.any_eq_true.2 ⟨kv, hkv, by simpa [NoNl] using hnl⟩
    apply pickled_of_reason r .envNewlines _ (by decide)
    unfold reasons
    rw [if_pos (Or.inl (List.ne_nil_of_mem hkv)), hany]
    simp

example : asMesonExeCmdline { cmdArgs := ["prog".toList, "x".toList],
                              envVars := [("K".toList, "l1\nl2".toList)] } = .pickled :=
  newline_anywhere_forces_serialisation _ (.inr ⟨("K".toList, "l1\nl2".toList), by decide +kernel, by decide +kernel⟩)

/-- whenever the `env` shortcut is taken, no env value and no command word contains a newline -/
theorem env_prefix_has_no_newline (r : ExeReq) (argv : List Str) (h : asMesonExeCmdline r = .envPrefix argv) :
    (∀ a ∈ r.cmdArgs, NoNl a) ∧ (∀ kv ∈ r.envVars, NoNl kv.2) := by
  constructor
  · intro a ha
    exact Classical.not_not.1 (fun hn => by
      rw [newline_anywhere_forces_serialisation r (.inl ⟨a, ha, hn⟩)] at h
      cases h)
  · intro kv hkv
    exact Classical.not_not.1 (fun hn => by
      rw [newline_anywhere_forces_serialisation r (.inr ⟨kv, hkv, hn⟩)] at h
      cases h)

/-- with the words free of newlines, they reach `env(1)` unchanged through the `env` shortcut -/
theorem env_prefix_argv (r : ExeReq) (argv : List Str) (h : asMesonExeCmdline r = .envPrefix argv)
    (hnl : ∀ a ∈ argv, NoNl a ∧ a ≠ andand) : runCustom argv = .ok [argv] := by
  apply command_argv argv _ hnl
  unfold asMesonExeCmdline at h
  simp only at h
  split at h
  · injection h with h
    subst h
    simp
  · split at h
    · split at h <;> cases h
    · cases h

/-! ### The environment a command or test receives

`environment()` objects record operations (`set`/`append`/`prepend` with several values and a
separator, `unset`); `get_env` folds them over a base environment.  The specification is per
variable (`envMeaning`): what a process sees for `n` is determined by what it inherits for `n` and the
operations on `n` alone, in the order they were made. -/

/-- **env_delivered_meaning**: `get_env` yields exactly the documented meaning, variable by variable -/
theorem env_delivered_meaning (e : EnvVars) (dflt : Str → Option Str) (base : Dict) (n : Str) :
    dictGet (getEnv e dflt base) n = envMeaning e dflt base n := getEnv_meaning e dflt base n

/-- values are joined with the operation's own separator, which plays no role for a single value;
`append`/`prepend` put the joined values after / before the current value -/
theorem values_joined_by_own_separator (n v v1 v2 c sep : Str) (cur : Option Str) :
    opValue cur ⟨.set, n, [v], sep⟩ = v ∧
    opValue cur ⟨.set, n, [v1, v2], sep⟩ = v1 ++ sep ++ v2 ∧
    opValue (some c) ⟨.append, n, [v1, v2], sep⟩ = c ++ sep ++ (v1 ++ sep ++ v2) ∧
    opValue (some c) ⟨.prepend, n, [v1, v2], sep⟩ = v1 ++ sep ++ (v2 ++ sep ++ c) ∧
    opValue none ⟨.append, n, [v], sep⟩ = v ∧ opValue none ⟨.prepend, n, [v], sep⟩ = v := by
  simp [opValue, joinSep]

example : dictGet (getEnv { ops := [⟨.set, "V".toList, ["a".toList, "b".toList], ";".toList⟩,
                                    ⟨.append, "P".toList, ["x".toList], ":".toList⟩], unset := ["U".toList] }
                    noDflt [("P".toList, "base".toList), ("U".toList, "u".toList)]) "V".toList = some "a;b".toList := by
  decide +kernel

/-- the pickled wrapper (`run_exe`): the wrapped process sees the meaning of the operation list over the
wrapper's own environment -/
theorem pickled_env_meaning (e : EnvVars) (osEnviron : Dict) (n : Str) :
    dictGet (deliverPickled (some e) osEnviron) n = envMeaning e noDflt osEnviron n :=
  getEnv_meaning e noDflt osEnviron n

/-- `meson test`: the selected setup's operations over `os.environ`, then the test's own — an unset of
the test's env is an absent variable -/
theorem test_env_meaning (setup : Option EnvVars) (t : EnvVars) (osEnviron : Dict) (n : Str) :
    dictGet (deliverTest setup t osEnviron) n =
      if t.unset.contains n then none
      else evalVar n none (match setup with
                           | some s => envMeaning s noDflt osEnviron n
                           | none => dictGet osEnviron n) t.ops := by
  unfold deliverTest
  rw [getEnv_meaning]
  unfold envMeaning
  cases setup with
  | none => rfl
  | some s =>
    simp only [getEnv_meaning, noDflt]
    rfl

/-- **can_use_env_sound**: after any sequence of API calls on a fresh object (merging only objects that
are themselves sound), `can_use_env` being still set means: nothing but `set` operations, nothing unset -/
theorem can_use_env_sound (cs : List EnvCall) (h : ∀ c ∈ cs, CallOk c) : FlagSound (({} : EnvVars).run cs) :=
  flagSound_run {} cs (fun _ => ⟨by simp, rfl⟩) h

example : (({} : EnvVars).run [.set "A".toList ["x".toList] ":".toList,
                               .merge (({} : EnvVars).run [.append "P".toList ["y".toList] ":".toList])]).canUseEnv = false := by
  decide +kernel

/-- **inline_env_agrees_with_pickled**: whenever the inline `env K=V … cmd` form may be taken (only
`set` operations, nothing unset), env(1) started with the words `as_meson_exe_cmdline` writes runs
exactly `cmd`, in an environment that agrees on every variable with the one the pickled wrapper would
have built from the same operation list over the same base -/
theorem inline_env_agrees_with_pickled (e : EnvVars) (hs : OnlySet e) (hn : ∀ op ∈ e.ops, GoodName op.name)
    (c0 : Str) (rest : List Str) (hc : GoodUtility c0) (base : Dict) :
    ∃ D, envUtility base (envAssignments e ++ c0 :: rest) = .ok (D, c0 :: rest) ∧
      ∀ n, dictGet D n = dictGet (deliverPickled (some e) base) n := by
  have hget : getEnv e noDflt [] = e.ops.foldl (applyOp noDflt) [] := by
    unfold getEnv
    rw [hs.2]
    rfl
  have hkeys : ∀ kv ∈ getEnv e noDflt [], GoodName kv.1 := by
    intro kv hkv
    have hk : kv.1 ∈ dictKeys (e.ops.foldl (applyOp noDflt) []) := by
      rw [← hget]
      exact List.mem_map.2 ⟨kv, hkv, rfl⟩
    rcases keys_foldl_ops noDflt e.ops [] kv.1 hk with h0 | ⟨op, hop, hname⟩
    · simp [dictKeys] at h0
    · rw [← hname]
      exact hn op hop
  refine ⟨_, envUtility_assignments (getEnv e noDflt []) base c0 rest hkeys hc, ?_⟩
  intro n
  have hnd : (dictKeys (getEnv e noDflt [])).Nodup := by
    rw [hget]
    exact nodup_foldl_ops noDflt e.ops [] (by simp [dictKeys])
  rw [dictGet_foldl_assign _ _ _ hnd]
  exact (getEnv_onlySet e hs base n).symm

inductive DErr where
  | p (e : PErr) | u (e : EnvUtilErr) | shape
  deriving DecidableEq, Repr

/-- the inline form end to end: build statement → Ninja → /bin/sh → env(1) → (environment, command) -/
def runInlineEnv (e : EnvVars) (cmd : List Str) (base : Dict) : Except DErr (Dict × List Str) :=
  match runCustom (inlineEnvCmd e cmd) with
  | .error x => .error (.p x)
  | .ok cmds =>
    match cmds with
    | [argv] =>
      (match envUtility base (argv.drop 1) with
       | .ok r => .ok r
       | .error x => .error (.u x))
    | _ => .error .shape

theorem inline_env_end_to_end (e : EnvVars) (hs : OnlySet e) (hn : ∀ op ∈ e.ops, GoodName op.name)
    (c0 : Str) (rest : List Str) (hc : GoodUtility c0) (base : Dict)
    (hw : ∀ w ∈ inlineEnvCmd e (c0 :: rest), NoNl w ∧ w ≠ andand) :
    ∃ D, runInlineEnv e (c0 :: rest) base = .ok (D, c0 :: rest) ∧
      ∀ n, dictGet D n = envMeaning e noDflt base n := by
  obtain ⟨D, hD, hDn⟩ := inline_env_agrees_with_pickled e hs hn c0 rest hc base
  refine ⟨D, ?_, fun n => by rw [hDn n]; exact pickled_env_meaning e base n⟩
  unfold runInlineEnv
  rw [command_argv (inlineEnvCmd e (c0 :: rest)) (by simp [inlineEnvCmd]) hw]
  simp only [inlineEnvCmd, List.cons_append, List.drop_succ_cons, List.drop_zero, hD]

/-! ### `generator()`: placeholder expansion touches only the documented placeholders -/

/-- a word of `arguments:` without `@` reaches the command unchanged apart from the established
`\` → `/` rewrite, whatever the input/output/depfile/directory names are -/
theorem generator_word_without_placeholder (c : GenCtx) (w : Str) (h : '@' ∉ w) :
    genArgStages c w = .ok (replaceChar '\\' ['/'] w) := genArgStages_no_at c w h

/-- **extra_args_verbatim**: the strings of `process(extra_args: …)` are spliced in at the element that
is exactly `@EXTRA_ARGS@` — same bytes (placeholder look-alikes and backslashes included), same count,
same order — and the words around it keep their places -/
theorem generator_extra_args_verbatim (c : GenCtx) (pre post extra : List Str)
    (hpre : ∀ w ∈ pre, '@' ∉ w) (hpost : ∀ w ∈ post, '@' ∉ w) :
    genCommandArgs c (pre ++ tEXTRA_ARGS :: post) extra =
      .ok (pre.map (replaceChar '\\' ['/']) ++ extra ++ post.map (replaceChar '\\' ['/'])) := by
  have hg : ∀ a ∈ pre ++ tEXTRA_ARGS :: post, genArgStages c a = .ok (replaceChar '\\' ['/'] a) := by
    intro a ha
    rw [List.mem_append, List.mem_cons] at ha
    rcases ha with ha | rfl | ha
    · exact genArgStages_no_at c a (hpre a ha)
    · rw [replaceChar_extra]
      exact genArgStages_extra c
    · exact genArgStages_no_at c a (hpost a ha)
  have hne : ∀ l : List Str, (∀ w ∈ l, '@' ∉ w) → ∀ x ∈ l.map (replaceChar '\\' ['/']), x ≠ tEXTRA_ARGS := by
    intro l hl x hx
    obtain ⟨w, hw, rfl⟩ := List.mem_map.1 hx
    exact replaceChar_ne_extra w (hl w hw)
  unfold genCommandArgs
  rw [mapM_ok _ _ _ hg, List.map_append, List.map_cons, replaceChar_extra]
  exact congrArg Except.ok (replaceExtraArgs_splice _ _ extra (hne pre hpre) (hne post hpost))

/-- `@EXTRA_ARGS@` is a placeholder only as a whole element: embedded in a longer word it stays -/
theorem extra_args_only_as_whole_word (w : Str) (extra : List Str) (h : w ≠ tEXTRA_ARGS) :
    replaceExtraArgs [w] extra = [w] := by
  simp [replaceExtraArgs, h]

example : genCommandArgs { infile := "../src/a.in".toList, soleOutput := "x.p/a.h".toList, privDir := "x.p".toList,
                           outfiles := ["a.h".toList], depfile := none, buildToSrc := "../src".toList,
                           sourceTargetDir := "../src".toList }
    ["--in=@INPUT@".toList, "@BASENAME@|@PLAINNAME@".toList, "x@EXTRA_ARGS@".toList, tEXTRA_ARGS, "@OUTPUT0@".toList]
    ["@INPUT@".toList, "a\\b".toList] =
    .ok ["--in=../src/a.in".toList, "a|a.in".toList, "x@EXTRA_ARGS@".toList, "@INPUT@".toList, "a\\b".toList,
         "x.p/a.h".toList] := by
  char_lists
  decide +kernel

/-- **add_arguments_concat**: after any history of `add_project_arguments` / `add_global_arguments` /
link-variant / `add_project_dependencies` calls, the list stored for a language is the concatenation, in
call order, of the batches given for that language — nothing dropped, nothing reordered, whether or not a
string already occurs in an earlier batch -/
theorem add_arguments_concat (h : List (List Str × List Str)) (l : Str) :
    argsGet (addHistory [] h) l = h.flatMap (contribution l) := by
  rw [argsGet_addHistory]
  rfl

/-- **add_arguments_keeps_multiplicity**: every argument string occurs in the stored list exactly as
often as the calls for that language gave it (a paired option such as `-include` / `-Xlinker` repeated in
a later call is not lost) -/
theorem add_arguments_keeps_multiplicity (h : List (List Str × List Str)) (l t : Str) :
    (argsGet (addHistory [] h) l).count t = (h.map (fun c => (contribution l c).count t)).sum := by
  rw [add_arguments_concat, List.count_flatMap]
  rfl

example : argsGet (addHistory [] [(["c".toList], ["-include".toList, "a.h".toList]),
                                  (["c".toList, "cpp".toList], ["-include".toList, "b.h".toList])]) "c".toList =
    ["-include".toList, "a.h".toList, "-include".toList, "b.h".toList] := by decide +kernel

/-! ### `meson --internal exe`: the wrapper's own options never swallow the command -/

def sDashDash : Str := ['-', '-']
def sCapture : Str := ['-', '-', 'c', 'a', 'p', 't', 'u', 'r', 'e']
def sFeed : Str := ['-', '-', 'f', 'e', 'e', 'd']

/-- the option words `as_meson_exe_cmdline` puts in front of `--` -/
def wrapperOpts (cap feed : Option Str) : List Str :=
  (match cap with | some c => [sCapture, c] | none => []) ++
  (match feed with | some f => [sFeed, f] | none => [])

/-- a file name that argparse takes as a value: it does not start with `-` -/
def ValueWord (c : Str) : Prop := c.head? ≠ some '-'

instance (c : Str) : Decidable (ValueWord c) := by unfold ValueWord; infer_instance

theorem classify_value (c : Str) (h : ValueWord c) : classifyArg c = .positional := by
  cases c with
  | nil => rfl
  | cons x r =>
    have hx : x ≠ '-' := by simpa [ValueWord] using h
    simp [classifyArg, hx]

theorem value_ne_dashdash (c : Str) (h : ValueWord c) : c ≠ ['-', '-'] := by
  intro e
  subst e
  exact h rfl

theorem classify_capture : classifyArg sCapture = .opt .capture none := by decide +kernel
theorem classify_feed : classifyArg sFeed = .opt .feed none := by decide +kernel

theorem exeScan_sep (n : Nat) (st : ExeArgs) (rest : List Str) :
    exeScan (n + 1) st (sDashDash :: rest) = .ok { st with extras := st.extras ++ sDashDash :: rest } := by
  rw [exeScan, if_pos (show sDashDash = ['-', '-'] from rfl)]

theorem exeScan_capture (n : Nat) (st : ExeArgs) (c : Str) (rest : List Str) (h : ValueWord c) :
    exeScan (n + 1) st (sCapture :: c :: rest) = exeScan n (st.set .capture c) rest := by
  rw [exeScan, if_neg (by decide), classify_capture]
  simp [value_ne_dashdash c h, classify_value c h]

theorem exeScan_feed (n : Nat) (st : ExeArgs) (c : Str) (rest : List Str) (h : ValueWord c) :
    exeScan (n + 1) st (sFeed :: c :: rest) = exeScan n (st.set .feed c) rest := by
  rw [exeScan, if_neg (by decide), classify_feed]
  simp [value_ne_dashdash c h, classify_value c h]

theorem opts_not_ambiguous (cap feed : Option Str) (argv : List Str)
    (hc : ∀ c, cap = some c → ValueWord c) (hf : ∀ f, feed = some f → ValueWord f) :
    ((wrapperOpts cap feed ++ sDashDash :: argv).takeWhile (· ≠ ['-', '-'])).any
      (fun a => classifyArg a = .ambiguous) = false := by
  have e1 : sCapture ≠ ['-', '-'] := by decide
  have e2 : sFeed ≠ ['-', '-'] := by decide
  cases cap with
  | none =>
    cases feed with
    | none => simp [wrapperOpts, sDashDash, List.takeWhile]
    | some f =>
      have vf := hf f rfl
      simp [wrapperOpts, sDashDash, List.takeWhile, e2, value_ne_dashdash f vf, classify_feed, classify_value f vf]
  | some c =>
    have vc := hc c rfl
    cases feed with
    | none =>
      simp [wrapperOpts, sDashDash, List.takeWhile, e1, value_ne_dashdash c vc, classify_capture, classify_value c vc]
    | some f =>
      have vf := hf f rfl
      simp [wrapperOpts, sDashDash, List.takeWhile, e1, e2, value_ne_dashdash c vc, value_ne_dashdash f vf,
        classify_capture, classify_feed, classify_value c vc, classify_value f vf]

/-- **exe_wrapper_passes_command**: whatever words the wrapped command consists of — including ones
that look like the wrapper's own options (`--capture`, `--feed=x`, `--unpickle`, abbreviations, `-h`,
a second `--`) — `meson --internal exe [--capture OUT] [--feed IN] -- argv…` runs exactly `argv`
with exactly that capture and feed. -/
theorem exe_wrapper_passes_command (cap feed : Option Str) (argv : List Str) (hne : argv ≠ [])
    (hc : ∀ c, cap = some c → ValueWord c) (hf : ∀ f, feed = some f → ValueWord f) :
    mesonExeParse (wrapperOpts cap feed ++ sDashDash :: argv) = .run cap feed argv := by
  have scan : exeScan (wrapperOpts cap feed ++ sDashDash :: argv).length {} (wrapperOpts cap feed ++ sDashDash :: argv) =
      .ok { capture := cap, feed := feed, extras := sDashDash :: argv } := by
    cases cap with
    | none =>
      cases feed with
      | none => exact exeScan_sep _ _ _
      | some f => exact (exeScan_feed _ _ _ _ (hf f rfl)).trans (exeScan_sep _ _ _)
    | some c =>
      cases feed with
      | none => exact (exeScan_capture _ _ _ _ (hc c rfl)).trans (exeScan_sep _ _ _)
      | some f =>
        exact (exeScan_capture _ _ _ _ (hc c rfl)).trans ((exeScan_feed _ _ _ _ (hf f rfl)).trans (exeScan_sep _ _ _))
  unfold mesonExeParse
  rw [if_neg (by rw [opts_not_ambiguous cap feed argv hc hf]; exact Bool.false_ne_true), scan]
  simp [sDashDash, nonEmpty?, hne]

example : mesonExeParse (sCapture :: "o.txt".toList :: sDashDash ::
      ["prog".toList, "--capture".toList, "--feed=x".toList, "-h".toList, sDashDash, "--unp".toList]) =
    .run (some "o.txt".toList) none
      ["prog".toList, "--capture".toList, "--feed=x".toList, "-h".toList, sDashDash, "--unp".toList] :=
  exe_wrapper_passes_command (some "o.txt".toList) none _ (by simp) (by intro c h; cases h; decide) (by intro f h; cases h)

/-- …and this is the command line `as_meson_exe_cmdline` writes: its option words are exactly
`wrapperOpts capture feed`, followed (after the `--` that `internalExe` stands for) by the unchanged command -/
theorem internal_exe_shape (r : ExeReq) (opts argv : List Str) (h : asMesonExeCmdline r = .internalExe opts argv) :
    opts = wrapperOpts r.capture r.feed ∧ argv = r.cmdArgs := by
  unfold asMesonExeCmdline at h
  simp only at h
  split at h
  · cases h
  · split at h
    · split at h
      · cases h
      · injection h with h1 h2
        have e1 : "--capture".toList = sCapture := by decide +kernel
        have e2 : "--feed".toList = sFeed := by decide +kernel
        rw [e1, e2] at h1
        exact ⟨h1.symm, h2.symm⟩
    · cases h

/-- without the separator the statement is false: the wrapper would take the command's own
`--feed=x` (this is why the `--` must be written) -/
example : mesonExeParse ["--capture".toList, "o.txt".toList, "prog".toList, "--feed=x".toList] =
    .run (some "o.txt".toList) (some "x".toList) ["prog".toList] := by
  char_lists
  decide +kernel

/-! ### `meson test`: the last hop before the test process -/

/-- **test_cmd_independent**: the command of runner `i` is a function of the invocation's wrapper and
`--test-args` and of test `i` alone — it does not depend on which other tests run, how many, or in which
order they were constructed (the implementation must match this for every `i`: a wrapper list shared
and extended in place would not) -/
theorem test_cmd_independent (wrapper extra : List Str) (tests : List (List Str × List Str)) (i : Nat)
    (hi : i < tests.length) :
    (runnerCmds wrapper extra tests)[i]? = some (testCmd wrapper tests[i].1 tests[i].2 extra) := by
  simp [runnerCmds, List.getElem?_map, List.getElem?_eq_getElem hi]

/-- the test's own arguments arrive unchanged — same count, same order — right after the wrapper and
the program, followed only by `--test-args` -/
theorem test_args_arrive (wrapper prog args extra : List Str) :
    (testCmd wrapper prog args extra).drop (wrapper.length + prog.length) = args ++ extra ∧
    (testCmd wrapper prog args extra).take (wrapper.length + prog.length) = wrapper ++ prog ∧
    (testCmd wrapper prog args extra).length = wrapper.length + prog.length + args.length + extra.length := by
  have e : testCmd wrapper prog args extra = (wrapper ++ prog) ++ (args ++ extra) := by
    simp [testCmd, List.append_assoc]
  have l : wrapper.length + prog.length = (wrapper ++ prog).length := by simp
  refine ⟨?_, ?_, ?_⟩
  · rw [e, l, List.drop_left]
  · rw [e, l, List.take_left]
  · simp [testCmd]
    omega

/-! ### The pickled wrapper file: different commands, different files -/

/-- with an injective digest, the file name separates two argument lists of one program exactly when
the text fed to the digest does -/
theorem dat_name_injective_iff (H : Str → Str) (hH : ∀ x y, H x = H y → x = y) (enc : List Str → Str) :
    (∀ prog a b, datName H enc prog a = datName H enc prog b → a = b) ↔ (∀ a b, enc a = enc b → a = b) := by
  constructor
  · intro h a b e
    exact h [] a b (by simp only [datName, e])
  · intro h prog a b e
    apply h
    apply hH
    unfold datName at e
    exact List.append_cancel_right (List.append_cancel_left e)

/-- `str(es.cmd_args)` (its quote/escape/separator structure) separates every two argument lists -/
theorem repr_encoding_injective (a b : List Str) (h : reprList a = reprList b) : a = b :=
  reprList_injective a b h

/-- so with it the wrapper file of a command is never shared with a command of the same program that
has other arguments -/
theorem dat_name_separates (H : Str → Str) (hH : ∀ x y, H x = H y → x = y) (prog : Str) (a b : List Str)
    (h : datName H reprList prog a = datName H reprList prog b) : a = b :=
  (dat_name_injective_iff H hH reprList).2 reprList_injective prog a b h

/-- feeding the arguments to the digest one after the other does not: the boundary can move -/
theorem concat_encoding_not_injective :
    ¬ (∀ a b : List Str, concatEnc a = concatEnc b → a = b) := by
  intro h
  have := h [['a', 'b'], ['c']] [['a'], ['b', 'c']] (by decide)
  revert this
  decide

theorem concat_names_collide (H : Str → Str) (prog : Str) :
    datName H concatEnc prog [['a', 'b'], ['c']] = datName H concatEnc prog [['a'], ['b', 'c']] ∧
    datName H concatEnc prog [['a', 'b', 'c']] = datName H concatEnc prog [['a', 'b', 'c'], []] := by
  constructor <;> rfl

end MesonModel.Props.C03
