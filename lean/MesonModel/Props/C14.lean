/-
C14 — Template substitution replaces exactly the placeholders and nothing else.
Statements quantify over every line / text (`List Char`), every configuration data and every fuel.
-/
import MesonModel.Template.Lemmas
import MesonModel.Template.CmakeSegs
import MesonModel.Template.DispatchLemmas
import MesonModel.Template.CmakeTop
import MesonModel.Py.CharLists

namespace MesonModel.Props.C14
open MesonModel.Template MesonModel.Py

/-- the text substituted for `@nm@` : the value rendered by `str()`, empty when undefined -/
def valueText (d : Data) (nm : Name) : List Char := render d (.var nm)

theorem segments_partition (s : List Char) : (segments s).flatMap Seg.src = s :=
  segments_eq s ▸ scanFrom_partition false s

/-- `do_replacement_meson` replaces segment by segment, and `segments s` does not take the data -/
theorem subst_eq_flatMap_render (d : Data) (s : List Char) :
    substMeson d s = (segments s).flatMap (render d) := rfl

theorem literal_bytes_preserved (d : Data) (c : Char) : render d (.lit c) = [c] := rfl

/-- a line template: literal text and holes, independent of any data -/
inductive Piece where
  | text (t : List Char)
  | hole (nm : Name)

def fill (d : Data) : Piece → List Char
  | .text t => t
  | .hole nm => valueText d nm

def pieceOf : Seg → Piece
  | .lit c => .text [c]
  | .esc n => .text (List.replicate n '\\')
  | .var nm => .hole nm
  | .escaped nm => .text ('@' :: (nm ++ ['@']))

/-- **A substituted value is never scanned again**: for every line there is one data-independent
skeleton of literal pieces and holes such that, for *all* data, the result is the skeleton with each
hole filled by the value's text — the content of a value cannot influence what is substituted. -/
theorem value_never_rescanned (s : List Char) :
    ∃ skel : List Piece, ∀ d : Data, substMeson d s = skel.flatMap (fill d) := by
  refine ⟨(segments s).map pieceOf, fun d => ?_⟩
  rw [subst_eq_flatMap_render, List.flatMap_map]
  congr 1
  funext sg
  cases sg <;> rfl

example : substMeson [("var".toList, .str "@var2@".toList), ("var2".toList, .str "error".toList)]
    "m \"@var@\"".toList = "m \"@var2@\"".toList := by
  char_lists
  decide +kernel

/-- escape rules: `2n` backslashes in front of `@`/`\@` become `n`; `\@name\@` becomes `@name@` -/
theorem escape_rules (d : Data) (n : Nat) (nm : Name) :
    (Seg.esc n).src = List.replicate (2 * n) '\\' ∧ render d (.esc n) = List.replicate n '\\' ∧
    (Seg.escaped nm).src = '\\' :: '@' :: (nm ++ ['\\', '@']) ∧ render d (.escaped nm) = '@' :: (nm ++ ['@']) :=
  ⟨rfl, rfl, rfl, rfl⟩

theorem missing_iff (d : Data) (s : List Char) (nm : Name) :
    nm ∈ missingMeson d s ↔ (Seg.var nm ∈ segments s ∧ d.get? nm = none) := by
  simp only [missingMeson, List.mem_filterMap, segMissing_eq_some]
  constructor
  · rintro ⟨_, hsg, rfl, h⟩
    exact ⟨hsg, h⟩
  · rintro ⟨h1, h2⟩
    exact ⟨_, h1, rfl, h2⟩

/-- **only placeholders are substituted**: whatever is looked up (and hence whatever can be reported
missing) is a non-empty name over `[-a-zA-Z0-9_]` that occurs in the line literally as `@name@`;
conversely (`simple_var`) such an occurrence after plain text *is* substituted -/
theorem var_segment_sound (s : List Char) (nm : Name) (h : Seg.var nm ∈ segments s) :
    nm ≠ [] ∧ (∀ c ∈ nm, isNameChar c = true) ∧ ('@' :: (nm ++ ['@'])) <:+: s := by
  obtain ⟨h1, h2⟩ := scanFrom_wf _ _ _ (segments_eq s ▸ h)
  refine ⟨h1, h2, ?_⟩
  have := List.infix_of_mem_flatten (List.mem_map_of_mem (f := Seg.src) h)
  rwa [← List.flatMap_def, segments_partition] at this

/-- the positional converse: an occurrence `@nm@` after `pre` that the scan reaches as a segment boundary
(`segs1` covers exactly `pre`, i.e. the `@` is not swallowed by an earlier match) is substituted **iff** `nm`
is a non-empty name and the character before the `@` is not a backslash.  (`scanFrom_split`: what follows a prefix
of the segment list depends only on the remaining text and on whether the text so far ends in a backslash.) -/
theorem var_segment_iff (pre nm post : List Char) (segs1 segs2 : List Seg)
    (hsplit : segments (pre ++ '@' :: (nm ++ '@' :: post)) = segs1 ++ segs2)
    (hpre : segs1.flatMap Seg.src = pre) :
    (∃ segs3, segs2 = Seg.var nm :: segs3) ↔
      (nm ≠ [] ∧ (∀ c ∈ nm, isNameChar c = true) ∧ pre.getLast? ≠ some '\\') := by
  rw [segments_eq] at hsplit
  have h2 := scanFrom_split segs1 [] _ segs2 hsplit
  rw [hpre, List.nil_append, List.drop_left, scanFrom_cons] at h2
  have hst : lastBs pre = true ↔ pre.getLast? = some '\\' := beq_iff_eq
  constructor
  · rintro ⟨segs3, rfl⟩
    split at h2
    · rename_i sg rest hm
      simp only [List.cons.injEq] at h2
      obtain ⟨rfl, _⟩ := h2
      obtain ⟨_, ⟨h1, h3⟩, hp⟩ := matchAt_some hm
      exact ⟨h1, h3, fun hl => Bool.noConfusion ((hst.mpr hl).symm.trans (hp nm rfl))⟩
    · simp at h2
  · rintro ⟨h1, h3, hl⟩
    rw [Bool.eq_false_iff.mpr (mt hst.mp hl), matchAt_var nm post h1 h3] at h2
    exact ⟨_, h2.symm⟩

example : segments ("a\\\\".toList ++ '@' :: ("v".toList ++ '@' :: "z".toList)) =
    [.lit 'a', .esc 1] ++ [.lit '@', .lit 'v', .lit '@', .lit 'z'] ∧
    ([Seg.lit 'a', .esc 1].flatMap Seg.src = "a\\\\".toList) := by
  char_lists
  decide +kernel

example : segments ("a ".toList ++ '@' :: ("v".toList ++ '@' :: "z".toList)) =
    [.lit 'a', .lit ' '] ++ [.var ['v'], .lit 'z'] := by
  char_lists
  decide +kernel

theorem no_at_identity (d : Data) (s : List Char) (h : '@' ∉ s) :
    substMeson d s = s ∧ missingMeson d s = [] :=
  ⟨substMeson_no_at d s h, missingMeson_no_at d s h⟩

example : '@' ∉ "plain \\ text ${X}\r\n".toList := by
  char_lists
  decide +kernel

/-- **`@name@` after plain text is substituted exactly once**; the rest of the line is processed
independently of the value -/
theorem simple_var (d : Data) (pre name post : List Char)
    (hpre : ∀ c ∈ pre, c ≠ '@' ∧ c ≠ '\\') (hn : name ≠ []) (hnc : ∀ c ∈ name, isNameChar c = true) :
    substMeson d (pre ++ '@' :: (name ++ '@' :: post)) = pre ++ valueText d name ++ substMeson d post := by
  exact substMeson_plain_then_match d pre _ post (.var name) hpre (matchAt_var name post hn hnc) rfl

example : (∀ c ∈ "#define V \"".toList, c ≠ '@' ∧ c ≠ '\\') ∧ "var".toList ≠ [] ∧
    (∀ c ∈ "var".toList, isNameChar c = true) := by
  char_lists
  decide +kernel

/-- `\@name\@` after plain text yields `@name@` (no look-up) -/
theorem simple_escaped (d : Data) (pre name post : List Char)
    (hpre : ∀ c ∈ pre, c ≠ '@' ∧ c ≠ '\\') (hn : name ≠ []) (hnc : ∀ c ∈ name, isNameChar c = true) :
    substMeson d (pre ++ '\\' :: '@' :: (name ++ '\\' :: '@' :: post)) =
      pre ++ '@' :: (name ++ ['@']) ++ substMeson d post := by
  exact substMeson_plain_then_match d pre _ post (.escaped name) hpre (matchAt_escaped false name post hn hnc) rfl

/-- the `#mesondefine` table, one row per value type; the whole line (terminator included) is the
placeholder, the result always ends in `\n` -/
theorem define_table (d : Data) (line t0 nm : List Char) (h : splitWs line = [t0, nm]) :
    (d.get? nm = none → defineMeson d line = .ok (sUndefOpen ++ nm ++ sUndefClose)) ∧
    (d.get? nm = some (.bool true) → defineMeson d line = .ok (sDefine ++ nm ++ ['\n'])) ∧
    (d.get? nm = some (.bool false) → defineMeson d line = .ok (sUndef ++ nm ++ ['\n'])) ∧
    (∀ i, d.get? nm = some (.int i) →
      defineMeson d line = .ok (sDefine ++ nm ++ ' ' :: (toString i).toList ++ ['\n'])) ∧
    (∀ v, d.get? nm = some (.str v) → '@' ∉ v → '@' ∉ nm →
      defineMeson d line = .ok (strip (sDefine ++ nm ++ ' ' :: v) ++ ['\n'])) := by
  refine ⟨?_, ?_, ?_, ?_, ?_⟩
  · intro hv
    simp only [defineMeson, h, hv]
  · intro hv
    simp only [defineMeson, h, hv]
  · intro hv
    simp only [defineMeson, h, hv]
  · intro i hv
    simp only [defineMeson, h, hv]
  · intro v hv hat hnm
    have hparts : '@' ∉ sDefine ++ nm ++ ' ' :: v := by
      simp [at_not_mem_sDefine, hnm, hat]
    simp only [defineMeson, h, hv]
    rw [substMeson_no_at]
    rw [List.mem_append, not_or]
    exact ⟨mt mem_of_mem_strip hparts, by simp⟩

example : sDefine = "#define ".toList ∧ sUndef = "#undef ".toList ∧ sUndefOpen = "/* #undef ".toList ∧
    sUndefClose = " */\n".toList := ⟨rfl, rfl, rfl, rfl⟩

example : splitWs "  #mesondefine\tFOO \r\n".toList = ["#mesondefine".toList, "FOO".toList] := by
  char_lists
  decide +kernel

/-- any other number of tokens on a `#mesondefine` line is an error, never a silent copy -/
theorem define_needs_two_tokens (d : Data) (line : List Char) (h : (splitWs line).length ≠ 2) :
    defineMeson d line = .error .defineTokens := by
  unfold defineMeson
  split
  · rename_i heq
    simp [heq] at h
  · rfl

/-! ### `#mesondefine` string values are scanned once more -/

/-- full statement: the value written by `#mesondefine` is not scanned again -/
def define_value_opaque_statement : Prop :=
  ∀ (d : Data) (line t0 nm v : List Char), splitWs line = [t0, nm] → d.get? nm = some (.str v) →
    defineMeson d line = .ok (strip (sDefine ++ nm ++ ' ' :: v) ++ ['\n'])

theorem define_value_opaque_counterexample : ¬ define_value_opaque_statement := by
  intro h
  have := h [("var".toList, .str "@var2@".toList), ("var2".toList, .str "error".toList)]
    "#mesondefine var\n".toList "#mesondefine".toList "var".toList "@var2@".toList (by decide +kernel)
    (by decide +kernel)
  revert this
  char_lists
  decide +kernel

/-- `readlines()` (newline='') followed by `writelines` loses nothing -/
theorem splitLines_lossless (text : List Char) : (splitLines text).flatten = text := splitLines_flatten text

/-- meson format: a text without `@` and `#` — whatever its backslashes, `$`, braces, CR / LF / CRLF mix —
is reproduced byte for byte, with no missing variables -/
theorem copy_identity_meson (d : Data) (fuel : Nat) (text : List Char) (h1 : '@' ∉ text) (h2 : '#' ∉ text) :
    confFile .meson d fuel text = .ok (text, [], d.isEmpty) := by
  have hl : ∀ l ∈ splitLines text, lineMeson d l = .ok ⟨l, [], false⟩ := by
    intro l hl
    exact lineMeson_plain d (fun h => h1 (mem_of_mem_splitLines _ _ hl _ h))
      (fun h => h2 (mem_of_mem_splitLines _ _ hl _ h))
  simp only [confFile, confStr, confStrMeson, mapLines_ok _ _ _ hl, Except.map, collect_plain,
    splitLines_flatten]

/-- cmake formats: a text without `@`, `$`, `#` is reproduced byte for byte (fuel > longest line) -/
theorem copy_identity_cmake (atOnly : Bool) (d : Data) (fuel : Nat) (text : List Char)
    (h1 : '@' ∉ text) (h2 : '#' ∉ text) (h3 : '$' ∉ text) (hf : ∀ l ∈ splitLines text, l.length < fuel) :
    confFile (if atOnly then .cmakeAt else .cmake) d fuel text = .ok (text, [], d.isEmpty) := by
  have hl : ∀ l ∈ splitLines text, lineCmake atOnly d fuel l = .ok ⟨l, [], false⟩ := by
    intro l hl
    exact lineCmake_plain atOnly d fuel (fun h => h1 (mem_of_mem_splitLines _ _ hl _ h))
      (fun h => h2 (mem_of_mem_splitLines _ _ hl _ h)) (fun h => h3 (mem_of_mem_splitLines _ _ hl _ h)) (hf l hl)
  cases atOnly <;>
    simp only [confFile, confStr, confStrCmake, mapLines_ok _ _ _ hl, Except.map, collect_plain,
      splitLines_flatten, if_true, Bool.false_eq_true, if_false]

example : confFile .meson [] 0 "a \\ b\r\n{x}\rlast".toList = .ok ("a \\ b\r\n{x}\rlast".toList, [], true) := by
  char_lists
  decide +kernel

theorem cmake_no_placeholder_identity (atOnly : Bool) (d : Data) (fuel : Nat) (line : List Char)
    (h1 : '@' ∉ line) (h2 : '$' ∉ line) (hf : line.length < fuel) :
    substCmake atOnly d fuel line = .ok (line, []) := by
  simpa [substCmake] using parseLine_plain atOnly d fuel [] line [] h1 h2 hf

def cmake_terminates_statement : Prop :=
  ∀ (atOnly : Bool) (d : Data) (line : List Char), ∃ fuel, substCmake atOnly d fuel line ≠ .error .fuel

/-- **the cmake scanner terminates on every input** — in particular on self-referential values such as
`${A}` with `A = 'x${A}'`: every loop iteration consumes template text, so one unit of fuel per
character (plus one) suffices, for all data -/
theorem cmake_fuel_suffices (atOnly : Bool) (d : Data) (line : List Char) (fuel : Nat) (h : line.length < fuel) :
    substCmake atOnly d fuel line ≠ .error .fuel :=
  fuel_suffices atOnly d fuel [] line [] h

theorem cmake_terminates : cmake_terminates_statement :=
  fun atOnly d line => ⟨line.length + 1, cmake_fuel_suffices atOnly d line _ (Nat.lt_succ_self _)⟩

example : substCmake false [(['A'], .str "x${A}".toList)] 5 "${A}".toList = .ok ("x${A}".toList, []) := by
  char_lists
  decide +kernel

/-- **one pass, for all values** (`${name}` after plain text): the scanner state after the placeholder has
the plain text and the value — whatever it contains — appended to the output, and only the text *after*
the placeholder left to scan.  (`pre` is the output so far, reversed; the scanner never reads it.) -/
theorem cmake_var_one_pass (d : Data) (f : Nat) (pre p name post : List Char) (m : List Name)
    (hp : ∀ c ∈ p, c ≠ '@' ∧ c ≠ '$') (hn : ∀ c ∈ name, isCmakeChar c = true) (hf : name.length < f) :
    parseLine false d (f + 1 + p.length) pre (p ++ '$' :: '{' :: (name ++ '}' :: post)) m =
      parseLine false d f ((varVal d name).reverse ++ (p.reverse ++ pre)) post (varMiss d name ++ m) := by
  rw [parseLine_plain_prefix false d p (f + 1) pre _ m hp, parseLine_var_step d f _ name post m hn hf]

/-- the same for `@name@`, in both cmake formats -/
theorem cmake_at_one_pass (atOnly : Bool) (d : Data) (f : Nat) (pre p name post : List Char) (m : List Name)
    (hp : ∀ c ∈ p, c ≠ '@' ∧ c ≠ '$') (hne : name ≠ []) (hn : ∀ c ∈ name, isCmakeChar c = true) :
    parseLine atOnly d (f + 1 + p.length) pre (p ++ '@' :: (name ++ '@' :: post)) m =
      parseLine atOnly d f ((varVal d name).reverse ++ (p.reverse ++ pre)) post (varMiss d name ++ m) := by
  rw [parseLine_plain_prefix atOnly d p (f + 1) pre _ m hp, parseLine_at_step atOnly d f _ name post m hne hn]

/-! #### the global one-pass theorem for the cmake formats

`cmakeSegs atOnly fuel line : Skel` is computed from the line alone (no data).  It is `.ok segs`
(literal characters, `@name@`, `${name}`), `.err e` (the scanner raises `e` for every data), or `.nested`:
some `${…}` has `$` or `@` between its braces, so the *name* is computed from the data (`${${X}}`) —
the carve-out, by design of the format. -/

theorem cmake_segments_partition (atOnly : Bool) (fuel : Nat) (line : List Char) (segs : List CSeg)
    (h : cmakeSegs atOnly fuel line = .ok segs) : segs.flatMap CSeg.src = line :=
  cmakeSegs_partition atOnly fuel line segs h

/-- for every data the scanner's result is the per-segment replacement of the data-independent segmentation
(each placeholder replaced by its value's text, whatever that text contains); the missing names are the
look-ups that failed, in order -/
theorem cmake_one_pass (atOnly : Bool) (d : Data) (fuel : Nat) (line : List Char) (segs : List CSeg)
    (hf : line.length < fuel) (h : cmakeSegs atOnly fuel line = .ok segs) :
    substCmake atOnly d fuel line =
      .ok (segs.flatMap (CSeg.text d), (segs.flatMap (CSeg.miss d)).reverse) := by
  have := parseLine_eq_run atOnly d fuel [] line [] hf _ (by rw [h]; rfl)
  simpa [substCmake] using this

theorem cmake_error_data_independent (atOnly : Bool) (d : Data) (fuel : Nat) (line : List Char) (e : Err)
    (hf : line.length < fuel) (h : cmakeSegs atOnly fuel line = .err e) :
    substCmake atOnly d fuel line = .error e := by
  have := parseLine_eq_run atOnly d fuel [] line [] hf _ (by rw [h]; rfl)
  simpa [substCmake] using this

/-- **a substituted value is never scanned again (cmake formats)**: outside the carve-out there is one
data-independent skeleton such that for *all* data the result is the skeleton rendered with the data -/
theorem cmake_value_never_rescanned (atOnly : Bool) (fuel : Nat) (line : List Char) (hf : line.length < fuel)
    (hn : cmakeSegs atOnly fuel line ≠ .nested) :
    ∃ sk : Skel, ∀ d : Data, some (substCmake atOnly d fuel line) = sk.run d [] [] := by
  refine ⟨cmakeSegs atOnly fuel line, fun d => ?_⟩
  cases h : cmakeSegs atOnly fuel line with
  | ok segs =>
    rw [cmake_one_pass atOnly d fuel line segs hf h]
    simp [Skel.run]
  | err e =>
    rw [cmake_error_data_independent atOnly d fuel line e hf h]
    rfl
  | nested => exact absurd h hn

/-- the carve-out is empty for `cmake@` -/
theorem cmakeAt_never_nested (fuel : Nat) (line : List Char) : cmakeSegs true fuel line ≠ .nested :=
  cmakeSegs_atOnly_ne_nested fuel line

/-- **reports every undefined name, and only those (cmake formats)** -/
theorem cmake_missing_iff (atOnly : Bool) (d : Data) (fuel : Nat) (line : List Char) (segs : List CSeg)
    (hf : line.length < fuel) (h : cmakeSegs atOnly fuel line = .ok segs) (t : List Char) (miss : List Name)
    (hr : substCmake atOnly d fuel line = .ok (t, miss)) (nm : Name) :
    nm ∈ miss ↔ ((CSeg.atVar nm ∈ segs ∨ CSeg.braceVar nm ∈ segs) ∧ d.get? nm = none) := by
  rw [cmake_one_pass atOnly d fuel line segs hf h] at hr
  simp only [Except.ok.injEq, Prod.mk.injEq] at hr
  obtain ⟨_, rfl⟩ := hr
  simp only [List.mem_reverse, List.mem_flatMap, CSeg.mem_miss]
  constructor
  · rintro ⟨_, hsg, rfl | rfl, hn⟩
    · exact ⟨Or.inl hsg, hn⟩
    · exact ⟨Or.inr hsg, hn⟩
  · rintro ⟨hsg | hsg, hn⟩
    · exact ⟨_, hsg, Or.inl rfl, hn⟩
    · exact ⟨_, hsg, Or.inr rfl, hn⟩

theorem cmake_placeholder_names_wf (atOnly : Bool) (fuel : Nat) (line : List Char) (segs : List CSeg)
    (h : cmakeSegs atOnly fuel line = .ok segs) (nm : Name)
    (hm : CSeg.atVar nm ∈ segs ∨ CSeg.braceVar nm ∈ segs) : ∀ c ∈ nm, isCmakeChar c = true :=
  cmakeSegs_name_wf atOnly fuel line segs h nm hm

example : cmakeSegs false 30 "a ${X}@Y@ $ {".toList =
    .ok ([.lit 'a', .lit ' ', .braceVar ['X'], .atVar ['Y']] ++ " $ {".toList.map .lit) := by
  char_lists
  decide +kernel
example : cmakeSegs false 30 "${${X}}".toList = .nested := by
  char_lists
  decide +kernel
example : cmakeSegs true 30 "${${X}}@X@".toList = .ok ("${${X}}".toList.map .lit ++ [.atVar ['X']]) := by
  char_lists
  decide +kernel
example : cmakeSegs false 30 "${A B}".toList = .err .invalidChar := by
  char_lists
  decide +kernel

/-- every well-formed `${VAR}` is replaced: two adjacent placeholders are both replaced and both looked
up, for **all** values — empty, undefined or containing placeholders themselves -/
def cmake_adjacent_statement : Prop :=
  ∀ (d : Data) (a b : Name) (fuel : Nat), (∀ c ∈ a ++ b, isCmakeChar c = true) →
    a.length + b.length + 8 ≤ fuel →
    substCmake false d fuel ('$' :: '{' :: (a ++ '}' :: '$' :: '{' :: (b ++ ['}']))) =
      .ok (varVal d a ++ varVal d b, varMiss d b ++ varMiss d a)

theorem cmake_adjacent : cmake_adjacent_statement := by
  intro d a b fuel hc hf
  have ha : ∀ c ∈ a, isCmakeChar c = true := fun c h => hc c (List.mem_append_left _ h)
  have hb : ∀ c ∈ b, isCmakeChar c = true := fun c h => hc c (List.mem_append_right _ h)
  obtain ⟨g, rfl⟩ : ∃ g, fuel = g + 1 + 1 + 1 := ⟨fuel - 3, by omega⟩
  unfold substCmake
  rw [parseLine_var_step d (g + 2) [] a _ [] ha (by omega), parseLine_var_step d (g + 1) _ b [] _ hb (by omega)]
  simp [parseLine]

example : substCmake false [(['A'], .str []), (['B'], .str "bee".toList)] 100 "${A}${B}".toList
    = .ok ("bee".toList, []) := by
  char_lists
  decide +kernel

example : substCmake false [(['B'], .str "bee".toList)] 100 "${A}${B}".toList
    = .ok ("bee".toList, [['A']]) := by
  char_lists
  decide +kernel

/-! #### the cmake formats without carve-out

`cmakeTop atOnly fuel line` is the *top-level* segmentation (literal character / `@name@` / `${inner}` up to the
matching brace / a position where the scanner raises); it takes no data, also for nested references.  `runTop`
renders it left to right: a literal is copied, a placeholder contributes the value of its name, and the name of a
`${inner}` segment is whatever the same scanner makes of `inner` (the documented `${${X}}`). -/

/-- for every line, every data and every fuel the scanner *is* the left-to-right rendering of the
data-independent top-level segmentation — no hypothesis, nested `${${X}}` included -/
theorem cmake_one_pass_all_lines (atOnly : Bool) (d : Data) (fuel : Nat) (line : List Char) :
    substCmake atOnly d fuel line = runTop atOnly d fuel (cmakeTop atOnly fuel line) [] [] :=
  parseLine_eq_runTop atOnly d fuel [] line []

theorem cmake_top_partition (atOnly : Bool) (fuel : Nat) (line : List Char)
    (h : ∀ e, TSeg.bad e ∉ cmakeTop atOnly fuel line) : (cmakeTop atOnly fuel line).flatMap TSeg.src = line :=
  cmakeTop_partition atOnly fuel line h

theorem cmake_top_fuel_suffices (atOnly : Bool) (fuel : Nat) (line : List Char) (hf : line.length < fuel) :
    TSeg.bad .fuel ∉ cmakeTop atOnly fuel line :=
  cmakeTop_fuel atOnly fuel line hf

/-- **every byte outside a placeholder is copied, and what has been written is never read again**: neither a
literal character nor a substituted value can influence what follows it -/
theorem cmake_output_never_reread (atOnly : Bool) (d : Data) (fuel : Nat) (segs : List TSeg) (pre : List Char)
    (m : List Name) :
    runTop atOnly d fuel segs pre m =
      (runTop atOnly d fuel segs [] m).map fun (t, mm) => (pre.reverse ++ t, mm) :=
  runTop_pre atOnly d fuel segs pre m

theorem cmake_render_steps (atOnly : Bool) (d : Data) (f : Nat) (t : List TSeg) (pre : List Char) (m : List Name) :
    (∀ c, runTop atOnly d (f + 1) (.lit c :: t) pre m = runTop atOnly d f t (c :: pre) m) ∧
    (∀ nm, runTop atOnly d (f + 1) (.atVar nm :: t) pre m =
      runTop atOnly d f t ((varVal d nm).reverse ++ pre) (varMiss d nm ++ m)) ∧
    (∀ inner nm m1, parseLine atOnly d f [] inner m = .ok (nm, m1) → (∀ c ∈ nm, isCmakeChar c = true) →
      runTop atOnly d (f + 1) (.brace inner :: t) pre m =
        runTop atOnly d f t ((varVal d nm).reverse ++ pre) (varMiss d nm ++ m1)) := by
  refine ⟨fun c => rfl, fun nm => rfl, fun inner nm m1 h hn => ?_⟩
  simp [runTop, h, any_not_cmake_false hn]

example : cmakeTop false 30 "a${${X}}@Y@".toList = [.lit 'a', .brace "${X}".toList, .atVar ['Y']] := by
  char_lists
  decide +kernel
example : substCmake false [(['X'], .str ['Z']), (['Z'], .str "v${X}".toList)] 30 "a${${X}}@Y@".toList
    = .ok ("av${X}".toList, [['Y']]) := by
  char_lists
  decide +kernel

/-- **the self-referential case**: `${A}` where the value of `A` mentions `${A}` again (or anything else) yields
the value once, verbatim, with `length + 1` fuel — for every name, value and further data.  (Before repair
e7f602b the scanner resumed inside the substituted text and never returned on this input.) -/
theorem cmake_self_reference_one_pass (nm v : List Char) (rest : Data) (fuel : Nat)
    (hn : ∀ c ∈ nm, isCmakeChar c = true) (hf : nm.length + 4 ≤ fuel) :
    substCmake false ((nm, .str v) :: rest) fuel ('$' :: '{' :: (nm ++ ['}'])) = .ok (v, []) := by
  obtain ⟨g, rfl⟩ : ∃ g, fuel = g + 1 + 1 := ⟨fuel - 2, by omega⟩
  unfold substCmake
  rw [parseLine_var_step _ (g + 1) [] nm [] [] hn (by omega)]
  simp [parseLine, varVal, varMiss, Data.get?, List.lookup, Val.cmakeStr]

example : substCmake false [(['A'], .str "x${A}${${A}}@A@".toList)] 5 "${A}".toList
    = .ok ("x${A}${${A}}@A@".toList, []) := by
  char_lists
  decide +kernel

/-- the same for `@A@` in both cmake formats -/
theorem cmake_self_reference_at_one_pass (atOnly : Bool) (nm v : List Char) (rest : Data) (fuel : Nat)
    (hne : nm ≠ []) (hn : ∀ c ∈ nm, isCmakeChar c = true) (hf : 2 ≤ fuel) :
    substCmake atOnly ((nm, .str v) :: rest) fuel ('@' :: (nm ++ ['@'])) = .ok (v, []) := by
  obtain ⟨g, rfl⟩ : ∃ g, fuel = g + 1 + 1 := ⟨fuel - 2, by omega⟩
  unfold substCmake
  rw [parseLine_at_step atOnly _ (g + 1) [] nm [] [] hne hn]
  simp [parseLine, varVal, varMiss, Data.get?, List.lookup, Val.cmakeStr]

/-- truthiness as `do_define_cmake` uses it (`not v`, `bool(v)`): a string is true iff non-empty, an integer iff
non-zero, a boolean is itself -/
theorem cmake_truthiness (s : List Char) (i : Int) (b : Bool) :
    (Val.str s).truthy = !s.isEmpty ∧ (Val.int i).truthy = (i != 0) ∧ (Val.bool b).truthy = b :=
  ⟨rfl, rfl, rfl⟩

/-- **the `#cmakedefine` table**.  `nm` is the second token of the directive (`t0` the directive word, `extra` the
remaining tokens), `is01` = the line says `cmakedefine01`.
 * undefined: `/* #undef NAME */`, resp. `#define NAME 0` for `cmakedefine01`;
 * defined but false (`''`, `0`, `false`): `/* #undef NAME */`;
 * `cmakedefine01`, defined: `#define NAME 1` / `#define NAME 0` by truthiness — for str, int and bool alike;
 * true value, no further tokens: `#define NAME`;
 * true value with further tokens: `#define NAME <tokens, a token that is a key replaced by str(value)>`, blanks
   normalised, then ONE replacement pass of the format (so `cmake_one_pass_all_lines` applies to it). -/
theorem cmakedefine_table (atOnly : Bool) (d : Data) (fuel : Nat) (line t0 nm : List Char)
    (extra : List (List Char)) (h : splitWs ((lstrip line).drop 1) = t0 :: nm :: extra) :
    (d.get? nm = none → hasSub sCmakedefine01 line = false →
      defineCmake atOnly d fuel line = .ok (sUndefOpen ++ nm ++ sUndefClose)) ∧
    (d.get? nm = none → hasSub sCmakedefine01 line = true →
      defineCmake atOnly d fuel line = .ok (sDefine ++ nm ++ " 0\n".toList)) ∧
    (∀ v, d.get? nm = some v → v.truthy = false → hasSub sCmakedefine01 line = false →
      defineCmake atOnly d fuel line = .ok (sUndefOpen ++ nm ++ sUndefClose)) ∧
    (∀ v, d.get? nm = some v → hasSub sCmakedefine01 line = true → '@' ∉ nm → '$' ∉ nm → nm.length + 12 ≤ fuel →
      defineCmake atOnly d fuel line = .ok (sDefine ++ nm ++ [' ', if v.truthy then '1' else '0', '\n'])) ∧
    (∀ v nm0 z, d.get? nm = some v → v.truthy = true → hasSub sCmakedefine01 line = false → extra = [] →
      nm = nm0 ++ [z] → isSpace z = false → '@' ∉ nm → '$' ∉ nm → nm.length + 12 ≤ fuel →
      defineCmake atOnly d fuel line = .ok (sDefine ++ nm ++ ['\n'])) ∧
    (∀ v, d.get? nm = some v → v.truthy = true → hasSub sCmakedefine01 line = false →
      defineCmake atOnly d fuel line =
        (substCmake atOnly d fuel (strip (sDefine ++ nm ++ ' ' :: joinSp (extra.map fun tok =>
          match d.get? tok with
          | some w => w.pyStr
          | none => tok)) ++ ['\n'])).map (·.1)) := by
  have h' : splitWs (lstrip line).tail = t0 :: nm :: extra := by simpa using h
  refine ⟨?_, ?_, ?_, ?_, ?_, ?_⟩
  · intro hv hb
    simp [defineCmake, h', hv, hb]
  · intro hv hb
    simp [defineCmake, h', hv, hb]
  · intro v hv ht hb
    simp [defineCmake, h', hv, hb, ht]
  · intro v hv hb h1 h2 hf
    simp only [defineCmake, h, hv, hb, Bool.not_true, Bool.false_and, Bool.false_eq_true, if_false, if_true]
    have := substCmake_define atOnly d fuel (nm ++ [' ']) [] (if v.truthy then '1' else '0')
      (by split <;> decide) (by simp) (by split <;> simp [h1]) (by split <;> simp [h2]) (by simp; omega)
    cases ht : v.truthy <;> simpa [ht] using this
  · intro v nm0 z hv ht hb he hnm hz h1 h2 hf
    subst hnm
    simp only [defineCmake, h, hv, hb, ht, he, Bool.not_false, Bool.not_true, Bool.and_false, Bool.false_eq_true,
      if_false, List.map_nil, joinSp]
    exact substCmake_define atOnly d fuel nm0 [' '] z hz (by decide) h1 h2 (by simp at hf; omega)
  · intro v hv ht hb
    simp only [defineCmake, h, hv, hb, ht, Bool.not_false, Bool.not_true, Bool.and_false, Bool.false_eq_true, if_false]
    rfl

example : splitWs ((lstrip "  # cmakedefine01 FOO \n".toList).drop 1) = ["cmakedefine01".toList, "FOO".toList] ∧
    hasSub sCmakedefine01 "  # cmakedefine01 FOO \n".toList = true := by
  char_lists
  decide +kernel

example : defineCmake false [("FOO".toList, .str "0".toList)] 100 "#cmakedefine01 FOO\n".toList
    = .ok "#define FOO 1\n".toList := by
  char_lists
  decide +kernel
example : defineCmake false [("FOO".toList, .int 0)] 100 "#cmakedefine01 FOO\n".toList
    = .ok "#define FOO 0\n".toList := by
  char_lists
  decide +kernel
example : defineCmake false [("VAR".toList, .str "value".toList)] 100 "#cmakedefine VAR x ${VAR} VAR".toList
    = .ok "#define VAR x value value\n".toList := by
  char_lists
  decide +kernel

/-- a directive without a name is an error (`IndexError` in the implementation), never a silent copy -/
theorem cmakedefine_needs_name (atOnly : Bool) (d : Data) (fuel : Nat) (line : List Char)
    (h : (splitWs ((lstrip line).drop 1)).length < 2) : defineCmake atOnly d fuel line = .error .indexError := by
  unfold defineCmake
  split
  · rename_i heq
    rw [heq] at h
    simp at h
    omega
  · rfl

/-! ### the file layer over bytes: `do_conf_file(src, dst, data, format, encoding)`

`confFileBytes c` decodes the input bytes with the codec `c`, substitutes, and encodes the result with the
*same* codec.  The codec is a parameter; the hypotheses used are stated explicitly. -/

/-- input that is not valid in the encoding is a read error (a `MesonException`), for every format and data -/
theorem file_undecodable_is_read_error (c : Codec) (fmt : Format) (d : Data) (fuel : Nat) (src : Bytes)
    (h : c.decode src = none) : confFileBytes c fmt d fuel src = .error .read := by
  simp [confFileBytes, h]

/-- **placeholder-free files are copied byte for byte** in any encoding that round-trips
(`encode (decode b) = b` on valid input), whatever their line endings and non-ASCII content (meson format) -/
theorem file_bytes_copy_meson (c : Codec) (hrt : ∀ b t, c.decode b = some t → c.encode t = some b)
    (d : Data) (fuel : Nat) (src : Bytes) (text : List Char) (hd : c.decode src = some text)
    (h1 : '@' ∉ text) (h2 : '#' ∉ text) :
    confFileBytes c .meson d fuel src = .ok src := by
  simp [confFileBytes, hd, copy_identity_meson d fuel text h1 h2, hrt src text hd]

/-- the same for the cmake formats -/
theorem file_bytes_copy_cmake (c : Codec) (hrt : ∀ b t, c.decode b = some t → c.encode t = some b)
    (atOnly : Bool) (d : Data) (fuel : Nat) (src : Bytes) (text : List Char) (hd : c.decode src = some text)
    (h1 : '@' ∉ text) (h2 : '#' ∉ text) (h3 : '$' ∉ text) (hf : ∀ l ∈ splitLines text, l.length < fuel) :
    confFileBytes c (if atOnly then .cmakeAt else .cmake) d fuel src = .ok src := by
  simp [confFileBytes, hd, copy_identity_cmake atOnly d fuel text h1 h2 h3 hf, hrt src text hd]

/-- (meson format, one line, stateless encoding: `encode (a ++ b) = encode a ++ encode b`) the bytes of the
line and of the result are, segment by segment, the encodings of the segment's source resp. replacement, and
on every literal segment the two coincide: the bytes outside the placeholders are copied unchanged, in place -/
theorem file_bytes_preserved (c : Codec) (hc : c.Stateless) (d : Data) (s : List Char) (sb ob : Seg → Bytes)
    (hsrc : ∀ sg ∈ segments s, c.encode sg.src = some (sb sg))
    (hout : ∀ sg ∈ segments s, c.encode (render d sg) = some (ob sg)) :
    c.encode s = some ((segments s).flatMap sb) ∧
    c.encode (substMeson d s) = some ((segments s).flatMap ob) ∧
    (∀ ch, Seg.lit ch ∈ segments s → ob (.lit ch) = sb (.lit ch)) := by
  refine ⟨?_, encode_flatMap c hc _ _ _ hout, ?_⟩
  · have := encode_flatMap c hc Seg.src sb (segments s) hsrc
    rwa [segments_partition] at this
  · -- source and replacement of a literal segment are both `[ch]`
    exact fun ch hm => Option.some.inj ((hout _ hm).symm.trans (hsrc _ hm))

/-- the same for the cmake formats (outside the nested-name carve-out) -/
theorem file_bytes_preserved_cmake (c : Codec) (hc : c.Stateless) (atOnly : Bool) (d : Data) (fuel : Nat)
    (line : List Char) (segs : List CSeg) (hf : line.length < fuel) (h : cmakeSegs atOnly fuel line = .ok segs)
    (sb ob : CSeg → Bytes)
    (hsrc : ∀ sg ∈ segs, c.encode sg.src = some (sb sg))
    (hout : ∀ sg ∈ segs, c.encode (sg.text d) = some (ob sg)) :
    c.encode line = some (segs.flatMap sb) ∧
    (∃ miss, substCmake atOnly d fuel line = .ok (segs.flatMap (CSeg.text d), miss) ∧
      c.encode (segs.flatMap (CSeg.text d)) = some (segs.flatMap ob)) ∧
    (∀ ch, CSeg.lit ch ∈ segs → ob (.lit ch) = sb (.lit ch)) := by
  refine ⟨?_, ⟨_, cmake_one_pass atOnly d fuel line segs hf h, encode_flatMap c hc _ _ _ hout⟩, ?_⟩
  · have := encode_flatMap c hc CSeg.src sb segs hsrc
    rwa [cmake_segments_partition atOnly fuel line segs h] at this
  · exact fun ch hm => Option.some.inj ((hout _ hm).symm.trans (hsrc _ hm))

/-- iso-8859-1 meets the hypotheses -/
theorem latin1_is_stateless : latin1.Stateless := latin1_stateless

example : confFileBytes latin1 .meson [(['A'], .str [Char.ofNat 0xfc])] 0 [0x78, 0xe9, 0x40, 0x41, 0x40, 0x0d, 0x0a]
    = .ok [0x78, 0xe9, 0xfc, 0x0d, 0x0a] := by decide +kernel
example : confFileBytes latin1 .meson [(['A'], .str [Char.ofNat 0x20ac])] 0 [0x40, 0x41, 0x40] = .error .write := by
  decide +kernel

theorem header_shape (f : HdrFormat) (guard : Option (List Char)) (es : List Entry) :
    dumpHeader f guard es = hdrPrelude f guard ++ (sortEntries es).flatMap (entryText f) ++ hdrEpilogue f guard := rfl

theorem entry_directive (f : HdrFormat) (e : Entry) :
    ∃ comment, entryText f e = comment ++ directive f e.key e.val := ⟨_, rfl⟩

/-- **exactly the keys, once each, in sorted (code-point) order**; with distinct keys (a dict) the order is
strict, so the emitted key sequence is *the* sorted key list -/
theorem header_keys_sorted_once (es : List Entry) :
    (sortEntries es).Perm es ∧
    (sortEntries es).Pairwise (fun a b => strLe a.key b.key = true) ∧
    ((es.map (·.key)).Nodup →
      (sortEntries es).Pairwise (fun a b => strLe a.key b.key = true ∧ a.key ≠ b.key)) := by
  refine ⟨sortEntries_perm es, sortEntries_sorted es, fun hnd => ?_⟩
  have hnd' : ((sortEntries es).map (·.key)).Nodup :=
    ((sortEntries_perm es).map (·.key)).nodup_iff.mpr hnd
  have h1 := sortEntries_sorted es
  have h2 : (sortEntries es).Pairwise (fun a b => a.key ≠ b.key) := by
    simpa [List.Nodup, List.pairwise_map] using hnd'
  exact List.Pairwise.and h1 h2 |>.imp (fun h => h)

/-- two sorted duplicate-free key sequences with the same elements are equal: the output order is
determined by the key set alone (insertion order of the dict is irrelevant) -/
theorem header_order_canonical (es es' : List Entry) (hp : es.Perm es') (hnd : (es.map (·.key)).Nodup) :
    (sortEntries es).map (·.key) = (sortEntries es').map (·.key) := by
  have p1 : ((sortEntries es).map (·.key)).Perm ((sortEntries es').map (·.key)) :=
    (((sortEntries_perm es).trans hp).trans (sortEntries_perm es').symm).map _
  have sorted (es : List Entry) : ((sortEntries es).map (·.key)).Pairwise (fun a b => strLe a b = true) :=
    List.pairwise_map.mpr (sortEntries_sorted es)
  exact List.Perm.eq_of_pairwise (fun a b _ _ => isStrLe.antisymm a b) (sorted es) (sorted es') p1

example : (sortEntries [⟨"b".toList, .bool true, none⟩, ⟨"B".toList, .int 1, none⟩, ⟨"a10".toList, .str [], none⟩,
    ⟨"a2".toList, .bool false, none⟩]).map (·.key) = ["B".toList, "a10".toList, "a2".toList, "b".toList] := by
  char_lists
  decide +kernel

/-! ### the call site: action dispatch of `configure_file()`

`cfRun c fuel a` models `Interpreter.func_configure_file` for the keyword set `a` (`Template/Dispatch.lean`): the
count `kwargs[x] not in [None, False]` and the branch chain `… is not None / … is not None / kwargs['copy']` are
modelled separately; the theorems below say that they agree and that the *presence* of `configuration:` — not the
content of the data — selects template processing. -/

/-- **exactly one action**: zero, two or three of `configuration` / `command` / `copy` are an error; a call that
succeeds had exactly one of them, and the branch that ran is that one -/
theorem cf_exactly_one_action (c : Codec) (fuel : Nat) (a : CfArgs) :
    ((presentActions a).length = 0 → cfRun c fuel a = .error .noAction) ∧
    ((presentActions a).length = 2 → ∃ x y, cfRun c fuel a = .error (.twoActions x y)) ∧
    ((presentActions a).length = 3 → cfRun c fuel a = .error .threeActions) ∧
    (∀ o, cfRun c fuel a = .ok o → presentActions a = [o.action]) := by
  refine ⟨?_, ?_, ?_, ?_⟩
  · intro h
    have : presentActions a = [] := List.eq_nil_of_length_eq_zero h
    simp [cfRun, this]
  · intro h
    match hp : presentActions a, h with
    | [x, y], _ => exact ⟨x, y, by simp [cfRun, hp]⟩
  · intro h
    match hp : presentActions a, h with
    | [x, y, z], _ => simp [cfRun, hp]
  · intro o ho
    unfold cfRun at ho
    split at ho
    · cases ho
    · rename_i x hp
      split at ho
      · cases ho
      · -- one action present: the three flags decide which, and the chain takes the same one
        rw [(cfBranch_ok ho).1]
        unfold presentActions at hp ⊢
        revert hp
        cases a.configuration.entries?.isSome <;> cases a.command <;> cases a.copy <;> simp
    · cases ho
    · cases ho

/-- `capture: true` needs `command:` — in every other mode the call is an error, nothing is written -/
theorem cf_capture_requires_command (c : Codec) (fuel : Nat) (a : CfArgs) (hcap : a.capture = true)
    (hcmd : a.command = false) : ∀ o, cfRun c fuel a ≠ .ok o := by
  intro o ho
  unfold cfRun at ho
  split at ho <;> first | cases ho | skip
  simp [hcap, hcmd] at ho

/-- **`configuration:` present — with any data, the empty one included — ⇒ the template is processed**: the
result of the call is exactly `do_conf_file` on the input bytes with that data (substituted bytes in the codec of
`encoding:`, the undefined names, the useless-data flag) and the data object is marked used. -/
theorem cf_configuration_processes_template (c : Codec) (fuel : Nat) (a : CfArgs) (es : List Entry) (src : Bytes)
    (hconf : a.configuration.entries? = some es) (hcmd : a.command = false) (hcopy : a.copy = false)
    (hcap : a.capture = false) (hin : a.inputs = [src]) :
    cfRun c fuel a =
      match confFileFull c a.format (dataOf es) fuel src with
      | .error e => .error (.file e)
      | .ok (b, miss, useless) => .ok ⟨.configuration, .bytes b, miss, useless, true⟩ := by
  rw [cfRun_single c fuel a _ (presentActions_conf a es hconf hcmd hcopy)]
  simp only [hcap, hcmd, Bool.false_and, Bool.false_eq_true, if_false, cfBranch, hconf, hin, List.length_singleton,
    Nat.lt_irrefl, gt_iff_lt]
  cases confFileFull c a.format (dataOf es) fuel src with
  | error e => rfl
  | ok r =>
    obtain ⟨b, miss, u⟩ := r
    rfl

theorem confFileFull_bytes (c : Codec) (fmt : Format) (d : Data) (fuel : Nat) (src : Bytes) :
    (confFileFull c fmt d fuel src).map (·.1) = confFileBytes c fmt d fuel src := by
  unfold confFileFull confFileBytes
  cases c.decode src with
  | none => rfl
  | some text =>
    simp only
    cases confFile fmt d fuel text with
    | error e => rfl
    | ok r =>
      obtain ⟨out, miss, u⟩ := r
      simp only
      cases c.encode out <;> rfl

/-- **empty data still substitutes and reports** (meson format, text without `#`): with `configuration: {}` or an
unpopulated `configuration_data()` every line is rewritten by the one-pass substitution — each `@name@` replaced by
the empty text, escapes resolved, everything else copied — and a name is reported **iff** it is a substituted
placeholder of some line -/
theorem cf_empty_configuration_meson (c : Codec) (fuel : Nat) (a : CfArgs) (src : Bytes) (text : List Char)
    (hconf : a.configuration = .dict [] ∨ a.configuration = .cdata []) (hcmd : a.command = false)
    (hcopy : a.copy = false) (hcap : a.capture = false) (hin : a.inputs = [src]) (hfmt : a.format = .meson)
    (hd : c.decode src = some text) (hh : '#' ∉ text) (b : Bytes)
    (he : c.encode ((splitLines text).flatMap (substMeson [])) = some b) :
    ∃ o, cfRun c fuel a = .ok o ∧ o.action = .configuration ∧ o.out = .bytes b ∧ o.used = true ∧
      ∀ nm, nm ∈ o.missing ↔ ∃ l ∈ splitLines text, Seg.var nm ∈ segments l := by
  have hes : a.configuration.entries? = some [] := by
    rcases hconf with h | h <;> simp [h, ConfKw.entries?]
  rw [cf_configuration_processes_template c fuel a [] src hes hcmd hcopy hcap hin]
  simp only [confFileFull, hd, hfmt, dataOf, List.map_nil, confFile_meson_nohash [] fuel text hh, he]
  refine ⟨_, rfl, rfl, rfl, rfl, fun nm => ?_⟩
  simp only [List.mem_flatMap, missing_iff, Data.get?, List.lookup, and_true]

example : (splitLines "n=[@NAME@] \\@X\\@\r\n@OTHER@".toList).flatMap (substMeson []) = "n=[] @X@\r\n".toList ∧
    (splitLines "n=[@NAME@] \\@X\\@\r\n@OTHER@".toList).flatMap (missingMeson []) = ["NAME".toList, "OTHER".toList] := by
  char_lists
  decide +kernel

/-- **`configuration:` without `input:` generates the header** — for every data, the empty one included: the file
is `_dump_c_header` (c, nasm) resp. the key-sorted JSON object of exactly the entries (`header_keys_sorted_once`
says what that header defines) -/
theorem cf_configuration_without_input_generates_header (c : Codec) (fuel : Nat) (a : CfArgs) (es : List Entry)
    (hconf : a.configuration.entries? = some es) (hcmd : a.command = false) (hcopy : a.copy = false)
    (hcap : a.capture = false) (hin : a.inputs = []) :
    cfRun c fuel a = .ok ⟨.configuration, headerFile a.outputFormat a.macroName es, [], false, true⟩ := by
  rw [cfRun_single c fuel a _ (presentActions_conf a es hconf hcmd hcopy)]
  simp [hcap, cfBranch, hconf, hin]

example : headerFile .c none [] = .bytes ((String.ofList (hdrPrelude .c none)).toUTF8.toList) := by
  simp [headerFile, dumpHeader, sortEntries, hdrEpilogue]

/-- a dict and a `configuration_data()` object with the same entries are processed alike -/
theorem cf_dict_same_as_object (c : Codec) (fuel : Nat) (a : CfArgs) (es : List Entry)
    (hd : ∀ e ∈ es, e.desc = none) :
    cfRun c fuel { a with configuration := .dict es } = cfRun c fuel { a with configuration := .cdata es } := by
  have : (es.map fun e => (⟨e.key, e.val, none⟩ : Entry)) = es :=
    (List.map_congr_left fun e he => by rw [← hd e he]; rfl).trans (List.map_id es)
  have he : (ConfKw.dict es).entries? = (ConfKw.cdata es).entries? := by rw [ConfKw.entries?, this, ConfKw.entries?]
  simp only [cfRun, presentActions, cfBranch, he]

theorem cf_copy_copies_bytes (c : Codec) (fuel : Nat) (a : CfArgs) (src : Bytes)
    (hconf : a.configuration = .absent) (hcmd : a.command = false) (hcopy : a.copy = true)
    (hcap : a.capture = false) (hin : a.inputs = [src]) :
    cfRun c fuel a = .ok ⟨.copy, .bytes src, [], false, false⟩ := by
  simp [cfRun, presentActions, cfBranch, hconf, ConfKw.entries?, hcmd, hcopy, hcap, hin]

/-- **a successful call in configuration or copy mode has written the output file** (only a `command:` without
`capture:` leaves the writing to the command): the fall-through of the branch chain is unreachable -/
theorem cf_success_writes_output (c : Codec) (fuel : Nat) (a : CfArgs) (o : CfOut)
    (h : cfRun c fuel a = .ok o) (hm : o.action ≠ .command) : o.out ≠ .untouched := by
  have hone := (cf_exactly_one_action c fuel a).2.2.2 o h
  rw [cfRun_single c fuel a _ hone] at h
  split at h
  · cases h
  · intro hout
    obtain ⟨ha, hu⟩ := cfBranch_ok h
    obtain ⟨hc, hcmd | hcopy⟩ := hu hout
    · rw [hc, hcmd] at ha
      exact hm ha
    · cases hcmd : a.command
      · simp [presentActions, hc, hcmd, hcopy] at hone
      · rw [hc, hcmd] at ha
        exact hm ha

end MesonModel.Props.C14
