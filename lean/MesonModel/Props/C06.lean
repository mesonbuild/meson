/-
C06 — Configuration is deterministic and does not disturb unchanged outputs.

Every modelled emitter takes the iteration order of each unordered Python collection as a `List`;
"independent of hash randomisation" is invariance under `List.Perm` (written `~`).  Minted identifiers
are the parameter `fresh`.  Where the real emitter still does not satisfy the statement (minted dependency names,
unconditional writers), the full statement is kept as a `def … : Prop`, refuted on a concrete witness
(`…_counterexample`) and the provable part is `…_partial`.  The emitters repaired in /repo by 8af551c,
41e7e99 and 880fde3 are modelled as repaired and their theorems are at full strength.
-/
import MesonModel.Det.FsLemmas
import MesonModel.Det.EnvLemmas

namespace MesonModel.Props.C06
open MesonModel.Det List

/-- `sorted(s)` of a set of strings does not depend on the order the set is iterated in -/
theorem sorted_perm_invariant {l₁ l₂ : List Str} (p : l₁ ~ l₂) : sortedStrs l₁ = sortedStrs l₂ :=
  sortedStrs_perm p

theorem sorted_is_perm (l : List Str) : sortedStrs l ~ l := sortedStrs_perm_self l

/-! ### `NinjaBuildElement.write`, `NinjaBuild.write` -/

/-- two build elements that differ at most in the iteration order of their `deps`/`orderdeps` sets -/
structure SameUpToSetOrder (e₁ e₂ : BuildElem) : Prop where
  outs : e₁.outs = e₂.outs
  implicitOuts : e₁.implicitOuts = e₂.implicitOuts
  rule : e₁.rule = e₂.rule
  useRsp : e₁.useRsp = e₂.useRsp
  ins : e₁.ins = e₂.ins
  deps : e₁.deps ~ e₂.deps
  orderdeps : e₁.orderdeps ~ e₂.orderdeps

inductive AllSameUpToSetOrder : List BuildElem → List BuildElem → Prop where
  | nil : AllSameUpToSetOrder [] []
  | cons {a b l₁ l₂} : SameUpToSetOrder a b → AllSameUpToSetOrder l₁ l₂ → AllSameUpToSetOrder (a :: l₁) (b :: l₂)

theorem buildLine_perm_invariant {e₁ e₂ : BuildElem} (h : SameUpToSetOrder e₁ e₂) :
    buildLine e₁ = buildLine e₂ := by
  unfold buildLine
  simp only [h.outs, h.implicitOuts, h.rule, h.useRsp, h.ins, sortedStrs_perm h.deps, sortedStrs_perm h.orderdeps,
    h.deps.length_eq, h.orderdeps.length_eq]

/-- the whole `build.ninja` body -/
theorem ninjaWrite_perm_invariant (rules : List Str) {bs₁ bs₂ : List BuildElem}
    (h : AllSameUpToSetOrder bs₁ bs₂) : ninjaWrite rules bs₁ = ninjaWrite rules bs₂ := by
  have : bs₁.mapM buildLine = bs₂.mapM buildLine := by
    induction h with
    | nil => rfl
    | cons hab _ ih => simp only [mapM_cons, buildLine_perm_invariant hab, ih]
  unfold ninjaWrite
  rw [this]

/-- non-vacuity: two different iteration orders, one line -/
def exElem (deps : List Str) : BuildElem := ⟨[['o']], [], ['r'], false, [['i']], deps, []⟩

example : buildLine (exElem [['b'], ['a']]) = buildLine (exElem [['a'], ['b']]) :=
  buildLine_perm_invariant (e₁ := exElem [['b'], ['a']]) (e₂ := exElem [['a'], ['b']])
    ⟨rfl, rfl, rfl, rfl, rfl, Perm.swap _ _ _, Perm.refl _⟩

/-! ### exe-wrapper scratch-file name -/

/-- only the `unset_vars` set is unordered; the operations themselves are an ordered list (program order) -/
theorem envHashInput_perm_invariant (R : List EnvOp × List Str → Str) (ops : List EnvOp)
    {u₁ u₂ : List Str} (p : u₁ ~ u₂) : envHashInput R ops u₁ = envHashInput R ops u₂ := by
  unfold envHashInput
  rw [sortedStrs_perm p]

theorem wrapperName_perm_invariant (H : Str → Str) (R : List EnvOp × List Str → Str) (ctx : GenCtx)
    (b c w cap f : Str) (ops : List EnvOp) {u₁ u₂ : List Str} (p : u₁ ~ u₂) :
    wrapperName H R ctx b (some (ops, u₁)) c w cap f = wrapperName H R ctx b (some (ops, u₂)) c w cap f := by
  unfold wrapperName
  simp only []
  rw [envHashInput_perm_invariant R ops p]

/-- the name is a function of the serialised content alone: not of identifiers minted during the run, nor of how many
wrappers were generated before (so command lines are stable over regenerations) -/
theorem wrapper_name_function_of_content (H : Str → Str) (R : List EnvOp × List Str → Str) (ctx₁ ctx₂ : GenCtx)
    (b : Str) (env : Option (List EnvOp × List Str)) (c w cap f : Str) :
    wrapperName H R ctx₁ b env c w cap f = wrapperName H R ctx₂ b env c w cap f := rfl

theorem wrapperName_fresh_invariant (H : Str → Str) (R : List EnvOp × List Str → Str) (n : Nat)
    (fresh₁ fresh₂ : Nat → Str) (b : Str) (env : Option (List EnvOp × List Str)) (c w cap f : Str) :
    wrapperName H R ⟨n, fresh₁⟩ b env c w cap f = wrapperName H R ⟨n, fresh₂⟩ b env c w cap f := rfl

/-! ### `_dump_c_header` -/

/-- the generated header is a function of the key ↦ (value, description) mapping -/
theorem dumpCHeader_perm_invariant (nasm : Bool) (macroName : Str)
    {l₁ l₂ : List (Str × ConfVal × Str)} (nd : (l₁.map Prod.fst).Nodup) (p : l₁ ~ l₂) :
    dumpCHeader nasm macroName l₁ = dumpCHeader nasm macroName l₂ := by
  unfold dumpCHeader
  have hk : sortedStrs (l₁.map Prod.fst) = sortedStrs (l₂.map Prod.fst) := sortedStrs_perm (p.map _)
  have hl : ∀ k, l₁.lookup k = l₂.lookup k := lookup_perm nd p
  simp only [hk, hl]

/-! ### `intro-buildoptions.json`: `sorted(opts.items())` with `OptionKey.__lt__` (after 8af551c) -/

/-- `OptionKey.__lt__` is the strict part of a total order on option keys (`None` subproject first, then
subproject, machine, name): `not (b < a)` is `a ≤ b` -/
theorem optKeyLt_is_strict_total_order : (∀ a b : OptKey, (!optKeyLt b a) = keyLe a b) ∧ TotalLe keyLe :=
  ⟨optKeyLt_eq, keyLe_totalLe⟩

def kLto : OptKey := ⟨none, 1, "b_lto".toList⟩
def kPie : OptKey := ⟨none, 1, "b_pie".toList⟩

theorem addKeys_perm_invariant {l₁ l₂ : List OptKey} (s : Str) (p : l₁ ~ l₂) :
    addKeys l₁ s = addKeys l₂ s := by
  unfold addKeys
  rw [pySortedBy_optKeyLt_perm p]

/-- regression witness of the defect repaired by 8af551c: two iteration orders of the base options,
one output (before the repair `sorted()` was the identity on keys without subproject) -/
example : addKeys [kLto, kPie] [] = addKeys [kPie, kLto] [] := addKeys_perm_invariant _ (Perm.swap _ _ _)

theorem keysOf_perm {s₁ s₂ : List (OptKey × OptKind)} (p : s₁ ~ s₂) (k : OptKind) :
    keysOf s₁ k ~ keysOf s₂ k := (p.filter _).map _

theorem listBuildoptions_perm_invariant {s₁ s₂ : List (OptKey × OptKind)} (p : s₁ ~ s₂) :
    listBuildoptions s₁ = listBuildoptions s₂ := by
  unfold listBuildoptions
  have a := fun k s => addKeys_perm_invariant s (keysOf_perm p k)
  have c := addKeys_perm_invariant "compiler".toList
    ((mergeSort_perm (keysOf s₁ .compiler) fun a b => decide (a.machine ≤ b.machine)).trans
      ((keysOf_perm p _).trans
        (mergeSort_perm (keysOf s₂ .compiler) fun a b => decide (a.machine ≤ b.machine)).symm))
  have u := addKeys_perm_invariant "user".toList ((keysOf_perm p .project).map
    fun k => if k.sub = some [] then { k with sub := none } else k)
  simp only [a, c, u]

/-- end to end: configure (base options arrive by iterating the *set* `Compiler.base_options`, in any
order), then introspect — one output -/
theorem introBuildoptions_perm_invariant (store : List (OptKey × OptKind)) {b₁ b₂ : List OptKey}
    (p : b₁ ~ b₂) : introBuildoptions store b₁ = introBuildoptions store b₂ :=
  listBuildoptions_perm_invariant (addBaseOptions_perm (Perm.refl _) p)

/-! ### `intro-tests.json`: `depends`, `LD_LIBRARY_PATH` (after 41e7e99) -/

theorem testDepends_perm_invariant {l₁ l₂ : List Str} (p : l₁ ~ l₂) :
    testDepends l₁ = testDepends l₂ := sortedStrs_perm p

theorem testDepends_is_perm (l : List Str) : testDepends l ~ l := sortedStrs_perm_self l

theorem ldLibraryPath_perm_invariant {l₁ l₂ : List Str} (p : l₁ ~ l₂) :
    ldLibraryPath l₁ = ldLibraryPath l₂ := by
  unfold ldLibraryPath
  rw [sortedStrs_perm p]

/-! ### `intro-targets.json`: `dependencies` -/

def targetDependencies_fresh_invariant_full : Prop :=
  ∀ (fresh₁ fresh₂ : Nat → Str) (deps : List DepRef),
    targetDependencies fresh₁ deps = targetDependencies fresh₂ deps

/-- false of the code: an anonymous `declare_dependency()` is listed under its minted name -/
theorem targetDependencies_fresh_invariant_counterexample : ¬ targetDependencies_fresh_invariant_full := by
  intro h
  have := h (fun _ => "1".toList) (fun _ => "2".toList) [.anon 0]
  revert this
  decide +kernel

/-- holds for targets all of whose external dependencies were found by name -/
theorem targetDependencies_fresh_invariant_partial (fresh₁ fresh₂ : Nat → Str) (deps : List DepRef)
    (h : ∀ d ∈ deps, ∃ n, d = .named n) :
    targetDependencies fresh₁ deps = targetDependencies fresh₂ deps := by
  unfold targetDependencies
  apply map_congr_left
  intro d hd
  obtain ⟨n, rfl⟩ := h d hd
  rfl

example : targetDependencies (fun _ => "1".toList) [.named "zlib".toList] =
    targetDependencies (fun _ => "2".toList) [.named "zlib".toList] :=
  targetDependencies_fresh_invariant_partial _ _ _ (by simp)

/-! ### `intro-install_plan.json`: `exclude_files`, `exclude_dirs` (after 41e7e99) -/

theorem installPlanExcludes_perm_invariant {f₁ f₂ d₁ d₂ : List Str} (pf : f₁ ~ f₂) (pd : d₁ ~ d₂) :
    installPlanExcludes f₁ d₁ = installPlanExcludes f₂ d₂ := by
  unfold installPlanExcludes
  rw [sortedStrs_perm pf, sortedStrs_perm pd]

theorem installPlanExcludes_is_perm (f d : List Str) :
    (installPlanExcludes f d).1 ~ d ∧ (installPlanExcludes f d).2 ~ f :=
  ⟨sortedStrs_perm_self d, sortedStrs_perm_self f⟩

/-! ### `DepFile.get_all_dependencies` → `build_def_files` → REGENERATE_BUILD inputs -/

/-- the result depends only on the *relation* "target has dependency": not on the order of the rules,
not on the iteration order of any `Target.deps` set, not on repetitions -/
theorem getAllDependencies_perm_invariant {df₁ df₂ : List (Str × List Str)} (name : Str)
    (hl : df₁.length = df₂.length)
    (h : ∀ t x, x ∈ depsAt df₁ t ↔ x ∈ depsAt df₂ t) :
    getAllDependencies df₁ name = getAllDependencies df₂ name := by
  unfold getAllDependencies
  apply sortedSet_ext
  intro x
  simp only [mem_flatMap]
  have r := reachN_ext h df₁.length (S₁ := [name]) (S₂ := [name]) (fun _ => Iff.rfl)
  rw [← hl]
  constructor
  · rintro ⟨t, ht, hx⟩
    exact ⟨t, (r t).mp ht, (h t x).mp hx⟩
  · rintro ⟨t, ht, hx⟩
    exact ⟨t, (r t).mpr ht, (h t x).mpr hx⟩

theorem getAllDependencies_rule_order_invariant {df₁ df₂ : List (Str × List Str)} (name : Str)
    (nd : (df₁.map Prod.fst).Nodup) (p : df₁ ~ df₂) :
    getAllDependencies df₁ name = getAllDependencies df₂ name :=
  getAllDependencies_perm_invariant name p.length_eq (fun t x => by rw [depsAt_perm nd p t])

theorem getAllDependencies_dep_order_invariant (df : List (Str × List Str)) (f : List Str → List Str)
    (hf : ∀ l, f l ~ l) (name : Str) :
    getAllDependencies (df.map fun e => (e.1, f e.2)) name = getAllDependencies df name := by
  apply getAllDependencies_perm_invariant name (by simp)
  intro t x
  unfold depsAt
  rw [lookup_map_snd]
  cases df.lookup t with
  | none => exact Iff.rfl
  | some v => exact (hf v).mem_iff

theorem getAllDependencies_mem (df : List (Str × List Str)) (name x : Str) :
    x ∈ getAllDependencies df name ↔ ∃ t, t ∈ reachN df df.length [name] ∧ x ∈ depsAt df t := by
  unfold getAllDependencies
  rw [mem_sortedSet, mem_flatMap]

/-! ### pkg-config `Requires:` lines -/

/-- `format_reqs` does not depend on the iteration order of any `version_reqs[name]` set -/
theorem formatReqs_perm_invariant (reqs : List Str) {v₁ v₂ : Str → List Str} (h : ∀ n, v₁ n ~ v₂ n) :
    formatReqs reqs v₁ = formatReqs reqs v₂ := by
  unfold formatReqs
  congr 2
  funext name
  rw [(h name).isEmpty_eq, sortedStrs_perm (h name)]

def formatReqsUnsorted_perm_invariant_full : Prop :=
  ∀ (reqs : List Str) (v₁ v₂ : Str → List Str), (∀ n, v₁ n ~ v₂ n) →
    formatReqsUnsorted reqs v₁ = formatReqsUnsorted reqs v₂

/-- without `sorted()`: one package, two constraints, two iteration orders, two `Requires:` lines -/
theorem formatReqsUnsorted_perm_invariant_counterexample : ¬ formatReqsUnsorted_perm_invariant_full := by
  intro h
  have := h [['f']] (fun _ => [">=1".toList, "<2".toList]) (fun _ => ["<2".toList, ">=1".toList])
    (fun _ => Perm.swap _ _ _)
  revert this
  decide +kernel

/-! ### dependency cache key; `GeneratedList.depends` -/

/-- the cache-key component depends only on the *set* of strings given: order and repetitions of the keyword's list do
not matter -/
theorem depIdentifierListValue_perm_invariant {l₁ l₂ : List Str} (h : ∀ x, x ∈ l₁ ↔ x ∈ l₂) :
    depIdentifierListValue l₁ = depIdentifierListValue l₂ := sortedSet_ext h

theorem depIdentifierListValue_mem (l : List Str) (x : Str) : x ∈ depIdentifierListValue l ↔ x ∈ l :=
  mem_sortedSet l x

def depIdentifierListValueUnsorted_perm_invariant_full : Prop :=
  ∀ l₁ l₂ : List Str, l₁ ~ l₂ → depIdentifierListValueUnsorted l₁ = depIdentifierListValueUnsorted l₂

/-- the defect repaired by 0cba8d8, on record: two processes, two iteration orders, two cache keys -/
theorem depIdentifierListValueUnsorted_perm_invariant_counterexample :
    ¬ depIdentifierListValueUnsorted_perm_invariant_full := by
  intro h
  have := h [['a'], ['b']] [['b'], ['a']] (Perm.swap _ _ _)
  revert this
  decide +kernel

theorem genlistDepends_aux (acc l : List Str) (h : (acc ++ l).Nodup) :
    l.foldl (fun acc a => if a ∈ acc then acc else acc ++ [a]) acc = acc ++ l := by
  induction l generalizing acc with
  | nil => simp
  | cons x xs ih =>
    have hx : x ∉ acc := by
      intro hm
      have := (nodup_append.mp h).2.2 x hm x mem_cons_self
      exact this rfl
    simp only [foldl_cons, hx, if_false]
    rw [ih (acc ++ [x]) (by simpa using h)]
    simp

/-- `GeneratedList.depends` as an ordered set (089f6af): for distinct targets it is exactly the order in
which `process()` received them — no iteration-order parameter is left in the emitter -/
theorem genlistDepends_keeps_argument_order (added : List Str) (h : added.Nodup) :
    genlistDepends added = added := by
  unfold genlistDepends
  simpa using genlistDepends_aux [] added (by simpa using h)

example : genlistDepends [['c'], ['a'], ['c'], ['b']] = [['c'], ['a'], ['b']] := by decide +kernel

/-! ### cached compiler checks: a reconfigure gives the verdict a fresh configuration gives -/

/-- the invariant a pickling function must preserve: if the verdict only reads the projection `π` of a
result and pickling keeps `π`, then the cached answer on reconfigure is the fresh answer -/
theorem pickle_roundtrip_preserves_verdict {K P} [DecidableEq K] (π : CheckResult → P)
    (v : CheckResult → Bool) (hv : ∀ r r', π r = π r' → v r = v r')
    (pickle : CheckResult → CheckResult) (hp : ∀ r, π (pickle r) = π r) (run : K → CheckResult) (k : K) :
    reconfigureVerdict v pickle run k = freshVerdict v run k := by
  simp only [reconfigureVerdict, freshVerdict, cachedCompile, saveLoad, lookup_nil, map_cons, map_nil,
    lookup_cons_self]
  exact hv _ _ (hp _)

/-- the code: results are pickled whole (no `__getstate__`), so every verdict function is preserved -/
theorem cached_verdict_eq_fresh {K} [DecidableEq K] (v : CheckResult → Bool) (run : K → CheckResult) (k : K) :
    reconfigureVerdict v id run k = freshVerdict v run k :=
  pickle_roundtrip_preserves_verdict id v (fun _ _ h => congrArg v h) id (fun _ => rfl) run k

/-- dropping stderr is fine for verdicts that read the exit status only … -/
theorem dropStderr_preserves_returncode_verdicts {K} [DecidableEq K] (f : Int → Bool)
    (run : K → CheckResult) (k : K) :
    reconfigureVerdict (fun r => f r.returncode) dropStderr run k = freshVerdict (fun r => f r.returncode) run k :=
  pickle_roundtrip_preserves_verdict (fun r => r.returncode) _ (fun _ _ h => by simp only [h]) dropStderr
    (fun _ => rfl) run k

/-- … but not for `has_arguments` of GNU-like compilers: -/
def dropStderr_preserves_gnuHasArguments_full : Prop :=
  ∀ (langIsC : Bool) (run : Unit → CheckResult),
    reconfigureVerdict (gnuHasArguments langIsC) dropStderr run () = freshVerdict (gnuHasArguments langIsC) run ()

/-- gcc, language C, `-Wnon-virtual-dtor`: exit status 0 and a note on stderr.  Fresh: unsupported.
Reconfigured with the stderr-less cached result: supported — build.ninja gains the flag -/
theorem dropStderr_preserves_gnuHasArguments_counterexample : ¬ dropStderr_preserves_gnuHasArguments_full := by
  intro h
  -- the message in three pieces: the kernel's `String.toList` is quadratic in the length of a literal
  have := h true (fun _ => ⟨0, [], "cc1: warning: command-line option ".toList ++ "'-Wnon-virtual-dtor' ".toList ++
    "is valid for C++/ObjC++ but not for C".toList⟩)
  revert this
  decide +kernel

/-- `replace_if_different(dst, tmp)` with equal contents: `dst` keeps content, mode **and mtime**, the
temporary is gone, every other file is as before — the file system is the old one minus `tmp` -/
theorem replace_if_different_keeps_mtime (fs : FS) (dst tmp : Str) (d t : FileSt)
    (hd : fs.get dst = some d) (ht : fs.get tmp = some t) (hne : tmp ≠ dst)
    (same : d.content = t.content) :
    (replaceIfDifferent fs dst tmp).get dst = some d ∧
    (replaceIfDifferent fs dst tmp).get tmp = none ∧
    (∀ q, q ≠ tmp → (replaceIfDifferent fs dst tmp).get q = fs.get q) ∧
    (replaceIfDifferent fs dst tmp).clock = fs.clock := by
  rw [replaceIfDifferent_same hd ht same]
  refine ⟨?_, ?_, fun q hq => ?_, rfl⟩
  · rw [get_remove, if_neg hne.symm, hd]
  · rw [get_remove, if_pos rfl]
  · rw [get_remove, if_neg hq]

theorem replace_if_different_updates (fs : FS) (dst tmp : Str) (d t : FileSt)
    (hd : fs.get dst = some d) (ht : fs.get tmp = some t) (hne : tmp ≠ dst)
    (diff : d.content ≠ t.content) :
    (replaceIfDifferent fs dst tmp).get dst = some t := by
  have hr := replaceIfDifferent_replace ht fun d' e => (Option.some.inj (hd.symm.trans e)) ▸ diff
  rw [hr, get_replace ht, if_pos rfl]

/-- `do_conf_file` (write `dst~`, `copymode(src, dst~)`, `replace_if_different(dst, dst~)`) with unchanged
content: **every** file is in the state it was — `dst` keeps content, mode and mtime whatever the
template's mode is — and the temporary is gone -/
theorem doConfFile_unchanged_keeps_state (fs : FS) (src dst : Str) (s old : FileSt)
    (hs : fs.get src = some s) (hd : fs.get dst = some old) (hsrc : src ≠ tmpOf dst) :
    (∀ q, q ≠ tmpOf dst → (doConfFile fs src dst old.content).get q = fs.get q) ∧
    (doConfFile fs src dst old.content).get (tmpOf dst) = none := by
  have g := get_confStage hs hsrc old.content
  have ht := g (tmpOf dst)
  rw [if_pos rfl] at ht
  have hd' := g dst
  rw [if_neg (tmpOf_ne dst).symm, hd] at hd'
  rw [doConfFile, replaceIfDifferent_same hd' ht rfl]
  constructor
  · intro q hq
    rw [get_remove, if_neg hq, g, if_neg hq]
  · rw [get_remove, if_pos rfl]

theorem doConfFile_changed_installs (fs : FS) (src dst c : Str) (s old : FileSt)
    (hs : fs.get src = some s) (hd : fs.get dst = some old) (hsrc : src ≠ tmpOf dst) (hc : old.content ≠ c) :
    (doConfFile fs src dst c).get dst = some ⟨c, fs.clock + 1, s.mode⟩ := by
  have g := get_confStage hs hsrc c
  have ht := g (tmpOf dst)
  rw [if_pos rfl] at ht
  rw [doConfFile, replaceIfDifferent_replace ht, get_replace ht, if_pos rfl]
  intro d e
  rw [g, if_neg (tmpOf_ne dst).symm, hd] at e
  exact Option.some.inj e ▸ hc

/-- why the order and the comparison matter: with the replace done *before* `copymode` and a comparison that also
looks at the mode, "unchanged content ⇒ unchanged state" … -/
def doConfFileSwapped_unchanged_keeps_state_full : Prop :=
  ∀ (fs : FS) (src dst : Str) (s old : FileSt), fs.get src = some s → fs.get dst = some old →
    old.mode = s.mode → src ≠ tmpOf dst →
    (doConfFileSwapped fs src dst old.content).get dst = some old

/-- … is false as soon as the template's mode is not the default one: script template 0755 (= 493),
output already in place with that mode and the right text, one more run: new mtime -/
theorem doConfFileSwapped_unchanged_keeps_state_counterexample :
    ¬ doConfFileSwapped_unchanged_keeps_state_full := by
  intro h
  have := h ⟨[("s.in".toList, ⟨"x".toList, 1, 493⟩), ("s".toList, ⟨"x".toList, 2, 493⟩)], 10⟩
    "s.in".toList "s".toList ⟨"x".toList, 1, 493⟩ ⟨"x".toList, 2, 493⟩ rfl rfl rfl (by decide +kernel)
  revert this
  decide +kernel

/-- bytes and mode come out right in that variant — only the mtime moves, which is why nothing but an
mtime comparison on a non-default-mode template can see it -/
example :
    (doConfFileSwapped ⟨[("s.in".toList, ⟨"x".toList, 1, 493⟩), ("s".toList, ⟨"x".toList, 2, 493⟩)], 10⟩
      "s.in".toList "s".toList "x".toList).get "s".toList = some ⟨"x".toList, 11, 493⟩ := by decide +kernel

example :
    (doConfFile ⟨[("s.in".toList, ⟨"x".toList, 1, 493⟩), ("s".toList, ⟨"x".toList, 2, 493⟩)], 10⟩
      "s.in".toList "s".toList "x".toList).get "s".toList = some ⟨"x".toList, 2, 493⟩ := by decide +kernel

theorem writeOut_content (fs : FS) (w : Writer) (p c : Str) (old : FileSt) (hp : fs.get p = some old) :
    ((writeOut fs w p c).get p).map FileSt.content = some c := by
  rw [get_writeOut hp]
  have : ¬ p = tmpOf p := fun e => tmpOf_ne p e.symm
  cases w <;> simp [this]
  by_cases h : old.content = c <;> simp [h]

theorem writeOut_nochange (fs : FS) (w : Writer) (p : Str) (old : FileSt)
    (hp : fs.get p = some old) (ht : fs.get (tmpOf p) = none) (q : Str) :
    ((writeOut fs w p old.content).get q).map FileSt.content = (fs.get q).map FileSt.content ∧
    ((w = .viaReplaceIfDifferent ∨ q ≠ p) → (writeOut fs w p old.content).get q = fs.get q) := by
  rw [get_writeOut hp]
  have hne := tmpOf_ne p
  -- at `p` the content stays, its temporary is absent before and after, no other path is touched
  by_cases b : q = p
  · subst b
    cases w <;> simp [hp, hne.symm]
  · by_cases a : q = tmpOf p
    · subst a
      cases w <;> simp [ht, hne]
    · cases w <;> simp [a, b]

theorem writeOut_rid_unchanged_keeps_mtime (fs : FS) (p : Str) (old : FileSt) (hp : fs.get p = some old)
    (ht : fs.get (tmpOf p) = none) (q : Str) :
    (writeOut fs .viaReplaceIfDifferent p old.content).get q = fs.get q :=
  (writeOut_nochange fs _ p old hp ht q).2 (Or.inl rfl)

/-- the writers that remain unconditional: unchanged content, new mtime.
`inPlace` = compile_commands.json (`open(…, 'wb')`) -/
def inPlace_unchanged_keeps_mtime_full : Prop :=
  ∀ (fs : FS) (p : Str) (old : FileSt), fs.get p = some old →
    (writeOut fs .inPlace p old.content).get p = some old

theorem inPlace_unchanged_keeps_mtime_counterexample : ¬ inPlace_unchanged_keeps_mtime_full := by
  intro h
  have := h ⟨[("compile_commands.json".toList, ⟨"[]".toList, 0, 420⟩)], 5⟩ "compile_commands.json".toList
    ⟨"[]".toList, 0, 420⟩ lookup_cons_self
  revert this
  decide +kernel

/-- `viaReplace` = `write_intro_info` (tmp_dump.json + `os.replace`) and build.ninja: every reconfigure installs a new file -/
def viaReplace_unchanged_keeps_mtime_full : Prop :=
  ∀ (fs : FS) (p : Str) (old : FileSt), fs.get p = some old →
    (writeOut fs .viaReplace p old.content).get p = some old

theorem viaReplace_unchanged_keeps_mtime_counterexample : ¬ viaReplace_unchanged_keeps_mtime_full := by
  intro h
  have := h ⟨[("intro-tests.json".toList, ⟨"[]".toList, 0, 420⟩)], 5⟩ "intro-tests.json".toList
    ⟨"[]".toList, 0, 420⟩ lookup_cons_self
  revert this
  decide +kernel

theorem unconditional_writers_keep_content_partial (fs : FS) (w : Writer) (p : Str) (old : FileSt)
    (hp : fs.get p = some old) :
    ((writeOut fs w p old.content).get p).map FileSt.content = some old.content :=
  writeOut_content fs w p old.content old hp

/-- what a reconfigure promises about the outputs `outs` it rewrites -/
structure NoChange (fs : FS) (outs : List (Writer × Str × Str)) : Prop where
  /-- every output exists already with exactly the content that will be written -/
  same : ∀ o ∈ outs, ∃ st, fs.get o.2.1 = some st ∧ st.content = o.2.2
  /-- no stale temporaries, and no output is another output's temporary -/
  noTmp : ∀ o ∈ outs, fs.get (tmpOf o.2.1) = none
  tmpFresh : ∀ o ∈ outs, ∀ o' ∈ outs, tmpOf o.2.1 ≠ o'.2.1

theorem NoChange.tail {fs : FS} {o : Writer × Str × Str} {outs : List (Writer × Str × Str)}
    (h : NoChange fs (o :: outs)) (fs' : FS)
    (hc : ∀ q, (fs'.get q).map FileSt.content = (fs.get q).map FileSt.content) :
    NoChange fs' outs := by
  refine ⟨fun o' ho' => ?_, fun o' ho' => ?_,
    fun a ha b hb => h.tmpFresh a (mem_cons_of_mem _ ha) b (mem_cons_of_mem _ hb)⟩
  · obtain ⟨st, h1, h2⟩ := h.same o' (mem_cons_of_mem _ ho')
    simpa only [h1, ← h2, Option.map_some, Option.map_eq_some_iff] using hc o'.2.1
  · simpa only [h.noTmp o' (mem_cons_of_mem _ ho'), Option.map_none, Option.map_eq_none_iff] using
      hc (tmpOf o'.2.1)

/-- **Re-running configuration when nothing changed**: over any sequence of modelled writers,
(1) every file's *content* is what it was (in particular `build.ninja`, written through
`build.ninja~` + `os.replace`), and (2) every file that is only ever written through
`replace_if_different` (configure_file outputs, generated headers, cmake package files, and after
880fde3 pkg-config files and depmf.json) keeps its complete state, mtime included.  -/
theorem reconfigure_noop_identity (fs : FS) (outs : List (Writer × Str × Str)) (h : NoChange fs outs) :
    (∀ q, ((configure fs outs).get q).map FileSt.content = (fs.get q).map FileSt.content) ∧
    (∀ q, (∀ o ∈ outs, o.2.1 = q → o.1 = .viaReplaceIfDifferent) → (configure fs outs).get q = fs.get q) := by
  induction outs generalizing fs with
  | nil => exact ⟨fun _ => rfl, fun _ _ => rfl⟩
  | cons o outs ih =>
    obtain ⟨w, p, c⟩ := o
    obtain ⟨old, hp, hc⟩ := h.same (w, p, c) mem_cons_self
    simp only at hp hc
    subst hc
    have ht := h.noTmp (w, p, old.content) mem_cons_self
    simp only at ht
    have step := writeOut_nochange fs w p old hp ht
    have h' := h.tail (writeOut fs w p old.content) (fun q => (step q).1)
    obtain ⟨ih1, ih2⟩ := ih (writeOut fs w p old.content) h'
    simp only [configure, foldl_cons] at ih1 ih2 ⊢
    refine ⟨fun q => (ih1 q).trans (step q).1, ?_⟩
    intro q hq
    rw [ih2 q (fun o ho => hq o (mem_cons_of_mem _ ho))]
    apply (step q).2
    by_cases e : q = p
    · exact Or.inl (hq (w, p, old.content) mem_cons_self e.symm)
    · exact Or.inr e

/-- non-vacuity: a build directory with a config header, build.ninja, a .pc file and
compile_commands.json; reconfigure rewrites all four with the same text: contents identical,
`config.h` and `a.pc` keep their mtimes -/
example :
    let fs : FS := ⟨[("config.h".toList, ⟨"#define A\n".toList, 1, 420⟩),
                     ("build.ninja".toList, ⟨"rule x\n".toList, 2, 420⟩),
                     ("a.pc".toList, ⟨"Name: a\n".toList, 3, 420⟩),
                     ("cc.json".toList, ⟨"[]".toList, 4, 420⟩)], 10⟩
    let outs := [(Writer.viaReplaceIfDifferent, "config.h".toList, "#define A\n".toList),
                 (Writer.viaReplaceIfDifferent, "a.pc".toList, "Name: a\n".toList),
                 (Writer.inPlace, "cc.json".toList, "[]".toList),
                 (Writer.viaReplace, "build.ninja".toList, "rule x\n".toList)]
    (configure fs outs).get "config.h".toList = some ⟨"#define A\n".toList, 1, 420⟩ ∧
    (configure fs outs).get "build.ninja".toList = some ⟨"rule x\n".toList, 14, 420⟩ ∧
    (configure fs outs).get "a.pc".toList = some ⟨"Name: a\n".toList, 3, 420⟩ ∧
    (configure fs outs).get "cc.json".toList = some ⟨"[]".toList, 13, 420⟩ := by
  decide +kernel

/-! ### environment variables → option values (`Environment._set_default_options_from_env`) -/

/-- the function reads the environment through `os.environ.get` only: two environments that answer every
lookup alike are indistinguishable (extra variables, shadowed duplicates, order) -/
theorem setDefaultOptionsFromEnv_function_of_map (c : EnvCfg) {env₁ env₂ : EnvMap}
    (h : ∀ k, env₁.lookup k = env₂.lookup k) (options : OptDict) :
    setDefaultOptionsFromEnv c env₁ options = setDefaultOptionsFromEnv c env₂ options := by
  unfold setDefaultOptionsFromEnv
  congr 1
  funext k
  exact h k

/-- **independent of the order of environment variables**: the process environment enumerated in any order (any
permutation of the association list, names unique) gives the same `self.options` and the same `self.env_opts`, entry
for entry and in the same dict order -/
theorem setDefaultOptionsFromEnv_env_order_invariant (c : EnvCfg) {env₁ env₂ : EnvMap}
    (nd : (env₁.map Prod.fst).Nodup) (p : env₁ ~ env₂) (options : OptDict) :
    setDefaultOptionsFromEnv c env₁ options = setDefaultOptionsFromEnv c env₂ options :=
  setDefaultOptionsFromEnv_function_of_map c (lookup_perm nd p) options

/-- **independent of hash randomisation**: `LANGUAGES_USING_LDFLAGS` / `LANGUAGES_USING_CPPFLAGS` are sets; iterated
in any order they give the same `self.options` (dict order included) and an `env_opts` that answers every
`.get(key)` alike (only its dict order follows the set order, and nothing iterates it) -/
theorem setDefaultOptionsFromEnv_set_order_invariant (c : EnvCfg) {ld cpp : List Str}
    (pl : c.ldLangs ~ ld) (pc : c.cppLangs ~ cpp) (look : Str → Option Str) (options : OptDict) :
    (setDefaultOptionsFromEnvL c look options).1 = (setDefaultOptionsFromEnvL (c.reorder ld cpp) look options).1 ∧
    ∀ k, (setDefaultOptionsFromEnvL c look options).2.lookup k
       = (setDefaultOptionsFromEnvL (c.reorder ld cpp) look options).2.lookup k := by
  unfold setDefaultOptionsFromEnvL
  have h : DictEq _ _ := foldl_rel (l := withMachines (envOptsTable c)) (DictEq.refl [])
    fun o _ _ _ h => envStep_congr c pl pc look h o
  exact foldl_rel (r := fun s₁ s₂ : OptDict × OptDict => s₁.1 = s₂.1 ∧ DictEq s₁.2 s₂.2) ⟨rfl, h⟩
    fun o _ _ _ h => moveStep_congr h o

/-- on record: the single walk over `os.environ` (variables handled in the order they are met) … -/
def setDefaultOptionsFromEnvWalk_env_order_invariant_full : Prop :=
  ∀ (c : EnvCfg) (env₁ env₂ : EnvMap), (env₁.map Prod.fst).Nodup → env₁ ~ env₂ → ∀ options,
    setDefaultOptionsFromEnvWalk c env₁ options = setDefaultOptionsFromEnvWalk c env₂ options

def envCC : EnvMap := [("CFLAGS".toList, "-DA".toList), ("CPPFLAGS".toList, "-DB".toList)]

/-- … is not a function of the environment map: CFLAGS met before CPPFLAGS gives `c_args = [-DA, -DB]`, met
after it `[-DB, -DA]` -/
theorem setDefaultOptionsFromEnvWalk_env_order_invariant_counterexample :
    ¬ setDefaultOptionsFromEnvWalk_env_order_invariant_full := by
  intro h
  have := h liveCfg envCC envCC.reverse (by decide +kernel) (Perm.swap _ _ _) []
  revert this
  decide +kernel

/-! ### environment → compile / link arguments (`Environment.add_lang_args`) -/

/-- `add_lang_args` reads `env_opts` through `.get` only -/
theorem addLangArgs_function_of_mapping (pa pl : Option (List Str)) {e₁ e₂ : OptDict}
    (h : ∀ k, e₁.lookup k = e₂.lookup k) (lang : Str) (m : Nat) (ld : Bool) :
    addLangArgs pa pl e₁ lang m ld = addLangArgs pa pl e₂ lang m ld := by
  unfold addLangArgs
  rw [h, h]

/-- **end to end**: the `<lang>_args` / `<lang>_link_args` taken from CFLAGS-like variables, CPPFLAGS and LDFLAGS are a
function of the environment *map* and of the language *sets*: neither the order in which the environment
enumerates its variables nor the iteration order of the two sets reaches them -/
theorem langArgsFromEnv_order_invariant (c : EnvCfg) {env₁ env₂ : EnvMap} {ld cpp : List Str}
    (nd : (env₁.map Prod.fst).Nodup) (p : env₁ ~ env₂) (pl : c.ldLangs ~ ld) (pc : c.cppLangs ~ cpp)
    (lang : Str) (m : Nat) (drv : Bool) :
    langArgsFromEnv c env₁ lang m drv = langArgsFromEnv (c.reorder ld cpp) env₂ lang m drv := by
  unfold langArgsFromEnv
  rw [setDefaultOptionsFromEnv_env_order_invariant c nd p []]
  exact addLangArgs_function_of_mapping none none
    (setDefaultOptionsFromEnv_set_order_invariant c pl pc (fun k => env₂.lookup k) []).2 lang m drv

/-- precedence: a pending value (command line, machine file) replaces the environment's, and then the compile
arguments are *not* added to the link arguments -/
theorem addLangArgs_pending_overrides_env (v : List Str) (pl : Option (List Str)) (e : OptDict) (lang : Str)
    (m : Nat) (drv : Bool) :
    (addLangArgs (some v) pl e lang m drv).1 = v ∧
    (addLangArgs (some v) pl e lang m drv).2 = (addLangArgs (some v) pl e lang m false).2 := by
  simp [addLangArgs]

/-- precedence: with nothing pending, a linker driver links with `<lang>_link_args` from the environment followed by
the compile arguments from the environment -/
theorem addLangArgs_env_link_gets_compile_args (e : OptDict) (lang : Str) (m : Nat) :
    (addLangArgs none none e lang m true).2 =
      (addLangArgs none none e lang m false).2 ++ (addLangArgs none none e lang m true).1 := by
  simp [addLangArgs]

def envAll : EnvMap :=
  [("CPPFLAGS".toList, "-DP".toList), ("LDFLAGS".toList, "-L/x".toList), ("CFLAGS".toList, "-O2 -g".toList),
   ("CXXFLAGS".toList, "-DX".toList), ("PKG_CONFIG_PATH".toList, "/a::/b:/a".toList)]

/-- the live tables: `c_args` = CFLAGS then CPPFLAGS, `c_link_args` = LDFLAGS then CFLAGS then CPPFLAGS — with
CPPFLAGS and LDFLAGS listed *before* CFLAGS in the environment -/
example : langArgsFromEnv liveCfg envAll "c".toList 1 true =
    (["-O2", "-g", "-DP"].map String.toList, ["-L/x", "-O2", "-g", "-DP"].map String.toList) := by decide +kernel

example : langArgsFromEnv liveCfg envAll.reverse "c".toList 1 true = langArgsFromEnv liveCfg envAll "c".toList 1 true :=
  (langArgsFromEnv_order_invariant liveCfg (ld := liveLdLangs) (cpp := liveCppLangs) (by decide +kernel)
    (reverse_perm envAll).symm (Perm.refl _) (Perm.refl _) _ _ _).symm

/-- PKG_CONFIG_PATH goes to `self.options` (duplicates and empty elements removed) -/
example : (setDefaultOptionsFromEnv liveCfg envAll []).1 =
    [(envKey 0 "pkg_config_path".toList, ["/a", "/b"].map String.toList),
     (envKey 1 "pkg_config_path".toList, ["/a", "/b"].map String.toList)] := by decide +kernel

/-! ### two more emitters that print a set: `build_rpaths` of the install plan, the `depaccumulate` statement -/

theorem installPlanBuildRpaths_perm_invariant {l₁ l₂ : List Str} (p : l₁ ~ l₂) :
    installPlanBuildRpaths l₁ = installPlanBuildRpaths l₂ := sortedStrs_perm p

theorem installPlanBuildRpaths_function_of_set {l₁ l₂ : List Str} (n₁ : l₁.Nodup) (n₂ : l₂.Nodup)
    (h : ∀ x, x ∈ l₁ ↔ x ∈ l₂) : installPlanBuildRpaths l₁ = installPlanBuildRpaths l₂ :=
  sortedStrs_set_ext n₁ n₂ h

theorem installPlanBuildRpaths_is_perm (l : List Str) : installPlanBuildRpaths l ~ l := sortedStrs_perm_self l

/-- the inputs of the `depaccumulate` statement depend only on the *set* of scan files: not on the order in which linked
targets are visited, nor on the iteration order of the set comprehension, nor on which of the two sources gave a file -/
theorem depaccumulateInputs_function_of_set (json : Str) {l₁ o₁ l₂ o₂ : List Str}
    (h : ∀ x, x ∈ l₁ ++ o₁ ↔ x ∈ l₂ ++ o₂) :
    depaccumulateInputs json l₁ o₁ = depaccumulateInputs json l₂ o₂ := by
  unfold depaccumulateInputs
  rw [sortedSet_ext h]

theorem depaccumulateInputs_mem (json : Str) (l o : List Str) (x : Str) :
    x ∈ depaccumulateInputs json l o ↔ x = json ∨ x ∈ l ∨ x ∈ o := by
  unfold depaccumulateInputs
  rw [mem_cons, mem_sortedSet, mem_append]

theorem depaccumulateLine_function_of_set (scan json : Str) {l₁ o₁ l₂ o₂ : List Str}
    (h : ∀ x, x ∈ l₁ ++ o₁ ↔ x ∈ l₂ ++ o₂) :
    depaccumulateLine scan json l₁ o₁ = depaccumulateLine scan json l₂ o₂ := by
  unfold depaccumulateLine
  rw [depaccumulateInputs_function_of_set json h]

example : depaccumulateLine ['s'] ['j'] [['b'], ['a'], ['b']] [['c']] =
    depaccumulateLine ['s'] ['j'] [['c'], ['a']] [['b'], ['a']] :=
  depaccumulateLine_function_of_set _ _ (by
    intro x
    simp only [mem_append, mem_cons, not_mem_nil, or_false]
    grind)

end MesonModel.Props.C06
