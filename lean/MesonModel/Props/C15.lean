/-
C15 — the introspection files describe the build that was generated.

`MesonModel/Intro/Model.lean` defines, over flat string records extracted from the real files, what it means for
intro-targets.json to agree with build.ninja (`AgreesTargets`), intro-tests/benchmarks.json with the pickled test
records (`AgreesTests`), intro-install_plan.json / intro-installed.json with install.dat (`AgreesInstall`),
intro-buildoptions.json with the values `get_option()` returned (`AgreesOptions`) and
intro-buildsystem_files.json with the files that were read (`AgreesBuildFiles`).

Proved here, for all inputs:
* every Boolean checker the driver evaluates is sound and complete for its relation (`check…_iff`);
* the relations that speak about sets are invariant under permutation of their arguments;
* what agreement buys (no output unaccounted for, every installed record named with the destination used, …);
* the shape of intro-install_plan.json (one entry per source path) cannot describe a source that is installed
  twice (`plan_keyed_by_path_cannot_name_a_source_installed_twice`) — the model-level reason of a recorded finding;
* for the test files the producers themselves are modelled (`MesonModel/Intro/TestSer.lean`:
  `Backend.create_test_serialisation` over a heap of shared, mutable `EnvironmentVariables` objects, `mintro.get_test_list`)
  and the agreement is a theorem about every test table and every heap: the second serialisation (the one `mintro`
  makes) returns what the first (pickled for `meson test`) returned, and intro-tests.json describes exactly the pickled
  records (`intro_tests_describe_what_meson_test_unpickles`, `intro_tests_agree`); with `copy.copy` instead of
  `copy.deepcopy` the same code does not have the property (`shallow_copy_*`).

The quantifier "for all projects and configurations" is discharged per instance by the harness for targets,
install data, options and build files (level translation_validation); for the test entries only the step from a
project to its test table is per instance.
-/
import MesonModel.Intro.Model
import MesonModel.Intro.TestSerLemmas

namespace MesonModel.Props.C15
open MesonModel.Intro

theorem sameSetB_iff {α} [DecidableEq α] (a b : List α) : sameSetB a b = true ↔ SameSet a b := by
  simp only [sameSetB, SameSet, Bool.and_eq_true, List.all_eq_true, decide_eq_true_eq]
  exact ⟨fun h x => ⟨h.1 x, h.2 x⟩, fun h => ⟨fun x => (h x).1, fun x => (h x).2⟩⟩

theorem SameSet.perm_left {α} {a a' b : List α} (h : a.Perm a') : SameSet a b ↔ SameSet a' b := by
  simp only [SameSet, h.mem_iff]

theorem SameSet.perm_right {α} {a b b' : List α} (h : b.Perm b') : SameSet a b ↔ SameSet a b' := by
  simp only [SameSet, h.mem_iff]

theorem touches_iff (t : Target) (e : Edge) : touches t e = true ↔ ∃ o ∈ e.outs, o ∈ t.files := by
  unfold touches
  simp

/-- how the checkers write an implication -/
theorem not_or_eq_true_iff_imp {a b : Bool} : (!a || b) = true ↔ (a = true → b = true) := by
  cases a <;> simp

theorem checkFiles_iff (t : Target) (es : List Edge) : checkFiles t es = true ↔ FilesExact t es := by
  simp only [checkFiles, FilesExact, Bool.and_eq_true, List.all_eq_true, List.any_eq_true, decide_eq_true_eq,
    Bool.or_assoc, not_or_eq_true_iff_imp, touches_iff]

theorem checkSources_iff (t : Target) (es : List Edge) : checkSources t es = true ↔ SourcesExact t es :=
  sameSetB_iff _ _

/-- per group: language / compiler / parameters of every `target_sources` group against the rule, command and ARGS of the
compile statements that consume its sources -/
theorem checkGroups_iff (t : Target) (es : List Edge) : checkGroups t es = true ↔ GroupsExact t es := by
  simp only [checkGroups, GroupsExact, Bool.and_eq_true, List.all_eq_true, List.any_eq_true, decide_eq_true_eq,
    not_or_eq_true_iff_imp, and_assoc]

theorem checkTarget_iff (t : Target) (es : List Edge) : checkTarget t es = true ↔ TargetOk t es := by
  unfold checkTarget TargetOk
  rw [Bool.and_eq_true, Bool.and_eq_true, checkFiles_iff, checkSources_iff, checkGroups_iff, and_assoc]

theorem checkClaimed_iff (ts : List Target) (es : List Edge) :
    checkClaimed ts es = true ↔ ∀ e ∈ es, isTargetEdge e = true → ∃ t ∈ ts, ∃ o ∈ e.outs, o ∈ t.files := by
  simp only [checkClaimed, List.all_eq_true, List.any_eq_true, not_or_eq_true_iff_imp, touches_iff]

theorem checkTargets_iff (ts : List Target) (es : List Edge) :
    checkTargets ts es = true ↔ AgreesTargets ts es := by
  simp only [checkTargets, AgreesTargets, Bool.and_eq_true, List.all_eq_true, checkTarget_iff, checkClaimed_iff]

theorem consumed_mem_perm (t : Target) {es es' : List Edge} (h : es.Perm es') (x : Str) :
    x ∈ consumed t es ↔ x ∈ consumed t es' := by
  unfold consumed
  cases t.kind with
  | build => simp only [List.mem_flatMap, List.mem_filter, h.mem_iff]
  | custom => simp only [List.mem_flatMap, List.mem_filter, h.mem_iff]
  | phony => exact Iff.rfl
  | other => exact Iff.rfl

theorem targetOk_perm_edges (t : Target) {es es' : List Edge} (h : es.Perm es') :
    TargetOk t es ↔ TargetOk t es' := by
  unfold TargetOk FilesExact SourcesExact GroupsExact SameSet
  simp only [h.mem_iff, consumed_mem_perm t h]

theorem agreesTargets_perm_edges (ts : List Target) {es es' : List Edge} (h : es.Perm es') :
    AgreesTargets ts es ↔ AgreesTargets ts es' := by
  unfold AgreesTargets
  simp only [h.mem_iff, targetOk_perm_edges _ h]

theorem agreesTargets_perm_targets {ts ts' : List Target} (es : List Edge) (h : ts.Perm ts') :
    AgreesTargets ts es ↔ AgreesTargets ts' es := by
  unfold AgreesTargets
  simp only [h.mem_iff]

/-- what the mutation "drop one output of a multi-output target" breaks -/
theorem agreesTargets_no_unreported_output {ts : List Target} {es : List Edge} (h : AgreesTargets ts es)
    {t : Target} (ht : t ∈ ts) {e : Edge} (he : e ∈ es) (hp : producesFor t e = true)
    {f : Str} (hf : f ∈ e.outs) (hft : f ∈ t.files) : ∀ o ∈ e.outs, o ∈ t.files :=
  (h.1 t ht).1.2 e he hp ⟨f, hf, hft⟩

theorem agreesTargets_every_file_produced {ts : List Target} {es : List Edge} (h : AgreesTargets ts es)
    {t : Target} (ht : t ∈ ts) {f : Str} (hf : f ∈ t.files) : ∃ e ∈ es, f ∈ e.outs := by
  obtain ⟨e, he, _, hfe⟩ := (h.1 t ht).1.1 f hf
  exact ⟨e, he, hfe⟩

theorem agreesTargets_compile_input_reported {ts : List Target} {es : List Edge} (h : AgreesTargets ts es)
    {t : Target} (ht : t ∈ ts) (hk : t.kind = .build) {e : Edge} (he : e ∈ es) (hc : isCompileFor t e = true)
    {x : Str} (hx : x ∈ e.ins) : x ∈ t.srcs := by
  have hs := (h.1 t ht).2.1
  refine (hs x).2 ?_
  unfold consumed
  rw [hk]
  simp only [List.mem_flatMap, List.mem_filter]
  exact ⟨e, ⟨he, hc⟩, hx⟩

theorem agreesTargets_group_language {ts : List Target} {es : List Edge} (h : AgreesTargets ts es)
    {t : Target} (ht : t ∈ ts) (hk : t.kind = .build) {g : Group} (hg : g ∈ t.groups) {s : Str} (hs : s ∈ g.srcs) :
    ∃ e ∈ es, s ∈ e.ins ∧ startsWith e.rule (g.language ++ "_COMPILER".toList) = true ∧ e.exe = g.compiler ∧
      e.args = g.params := by
  obtain ⟨e, he, _, hse, hm⟩ := ((h.1 t ht).2.2 hk).1 g hg s hs
  unfold groupMatches at hm
  simp only [Bool.and_eq_true, decide_eq_true_eq] at hm
  exact ⟨e, he, hse, hm.1.1, hm.1.2, hm.2⟩

theorem checkTest_iff (i : IntroTest) (s : SerTest) : checkTest i s = true ↔ AgreesTest i s := by
  unfold checkTest AgreesTest
  simp only [Bool.and_eq_true, decide_eq_true_eq, sameSetB_iff, and_assoc]

theorem checkForall2_iff : ∀ (is : List IntroTest) (ss : List SerTest),
    checkForall2 is ss = true ↔ AllPairs AgreesTest is ss
  | [], [] => ⟨fun _ => .nil, fun _ => rfl⟩
  | [], _ :: _ => ⟨fun h => (nomatch h), fun h => (nomatch h)⟩
  | _ :: _, [] => ⟨fun h => (nomatch h), fun h => (nomatch h)⟩
  | i :: is, s :: ss => by
    rw [checkForall2, Bool.and_eq_true, checkTest_iff, checkForall2_iff is ss]
    exact ⟨fun h => .cons h.1 h.2, fun | .cons h1 h2 => ⟨h1, h2⟩⟩

theorem checkTests_iff (is : List IntroTest) (ss : List SerTest) (ids : List Str) :
    checkTests is ss ids = true ↔ AgreesTests is ss ids := by
  unfold checkTests AgreesTests
  rw [Bool.and_eq_true, checkForall2_iff]
  simp only [List.all_eq_true, decide_eq_true_eq]

theorem allPairs_length {α β} {R : α → β → Prop} {l₁ : List α} {l₂ : List β} (h : AllPairs R l₁ l₂) :
    l₁.length = l₂.length := by
  induction h with
  | nil => rfl
  | cons _ _ ih => simp [ih]

theorem agreesTests_length {is : List IntroTest} {ss : List SerTest} {ids : List Str}
    (h : AgreesTests is ss ids) : is.length = ss.length := allPairs_length h.1

theorem agreesTest_cmd {i : IntroTest} {s : SerTest} (h : AgreesTest i s) : i.cmd = s.fname ++ s.cmdArgs := h.2.1

theorem agreesTest_perm_depends (i : IntroTest) (s : SerTest) (d' : List Str) (hd : i.depends.Perm d') :
    AgreesTest i s ↔ AgreesTest { i with depends := d' } s := by
  unfold AgreesTest
  simp only [SameSet.perm_left hd]

theorem getEnv_set_single (n : Str) (vs : List Str) (sep : Str) :
    getEnv [⟨.set, n, vs, sep⟩] [] = [(n, joinSep sep vs)] := rfl

theorem lookup_assign_same (env : List (Str × Str)) (k v : Str) : lookup (assign env k v) k = some v := by
  induction env with
  | nil => simp [assign, lookup]
  | cons kv r ih =>
    obtain ⟨a, w⟩ := kv
    unfold assign
    by_cases h : a = k
    · simp [h, lookup]
    · simp [h, lookup, ih]

theorem getEnv_snoc (ops : List EnvOp) (op : EnvOp) (base : List (Str × Str)) :
    getEnv (ops ++ [op]) base = assign (getEnv ops base) op.name (applyOp (getEnv ops base) op) := by
  unfold getEnv
  rw [List.foldl_append]
  rfl

theorem getEnv_last_set (ops : List EnvOp) (base : List (Str × Str)) (n : Str) (vs : List Str) (sep : Str) :
    lookup (getEnv (ops ++ [⟨.set, n, vs, sep⟩]) base) n = some (joinSep sep vs) := by
  rw [getEnv_snoc]
  exact lookup_assign_same _ _ _

theorem getEnv_last_prepend (ops : List EnvOp) (base : List (Str × Str)) (n : Str) (vs : List Str) (sep cur : Str)
    (h : lookup (getEnv ops base) n = some cur) :
    lookup (getEnv (ops ++ [⟨.prepend, n, vs, sep⟩]) base) n = some (joinSep sep (vs ++ [cur])) := by
  rw [getEnv_snoc, lookup_assign_same]
  simp only [applyOp, h]

theorem getEnv_last_append (ops : List EnvOp) (base : List (Str × Str)) (n : Str) (vs : List Str) (sep : Str) :
    lookup (getEnv (ops ++ [⟨.append, n, vs, sep⟩]) base) n =
      some (match lookup (getEnv ops base) n with
            | none => joinSep sep vs
            | some cur => joinSep sep (cur :: vs)) := by
  rw [getEnv_snoc, lookup_assign_same]
  simp only [applyOp]
  cases lookup (getEnv ops base) n <;> rfl

theorem checkPrereq_iff (us : List TestUse) (ts : List TargetFiles) (prereq : List Str) :
    checkPrereq us ts prereq = true ↔ AgreesPrereq us ts prereq := sameSetB_iff _ _

theorem checkCmdCovered_iff (us : List TestUse) (ts : List TargetFiles) :
    checkCmdCovered us ts = true ↔ CmdCovered us ts := by
  simp only [checkCmdCovered, CmdCovered, List.all_eq_true, not_or_eq_true_iff_imp, decide_eq_true_eq]

/-- the independent witness for `depends`: prerequisites named by build.ninja, built files on the command line -/
theorem checkTestDeps_iff (us : List TestUse) (ts : List TargetFiles) (prereq : List Str) :
    checkTestDeps us ts prereq = true ↔ AgreesTestDeps us ts prereq := by
  unfold checkTestDeps AgreesTestDeps
  rw [Bool.and_eq_true, checkPrereq_iff, checkCmdCovered_iff]

theorem agreesPrereq_perm (us : List TestUse) (ts : List TargetFiles) {p p' : List Str} (h : p.Perm p') :
    AgreesPrereq us ts p ↔ AgreesPrereq us ts p' := SameSet.perm_right h

theorem agreesPrereq_prereq_listed {us : List TestUse} {ts : List TargetFiles} {prereq : List Str}
    (h : AgreesPrereq us ts prereq) {x : Str} (hx : x ∈ prereq) :
    ∃ u ∈ us, ∃ d ∈ u.depends, firstOutput ts d = some x := by
  have hm := (h x).2 hx
  unfold dependsOutputs at hm
  simp only [List.mem_filterMap, List.mem_flatMap] at hm
  obtain ⟨d, ⟨u, hu, hd⟩, hf⟩ := hm
  exact ⟨u, hu, d, hd, hf⟩

theorem checkPlan_iff (dirs : List (Str × Str)) (pfx : Str) (plan : List PlanEntry) (recs : List InstRec) :
    checkPlan dirs pfx plan recs = true ↔ AgreesPlan dirs pfx plan recs := by
  unfold checkPlan AgreesPlan
  simp only [Bool.and_eq_true, List.all_eq_true, List.any_eq_true, decide_eq_true_eq]

theorem checkInstalled_iff (pfx : Str) (inst : List (Str × Str)) (recs : List InstRec) :
    checkInstalled pfx inst recs = true ↔ AgreesInstalled pfx inst recs := by
  unfold checkInstalled AgreesInstalled
  simp only [Bool.and_eq_true, List.all_eq_true, List.any_eq_true, decide_eq_true_eq]

theorem checkInstall_iff (dirs : List (Str × Str)) (pfx : Str) (plan : List PlanEntry) (inst : List (Str × Str))
    (planRecs instRecs : List InstRec) :
    checkInstall dirs pfx plan inst planRecs instRecs = true ↔ AgreesInstall dirs pfx plan inst planRecs instRecs := by
  unfold checkInstall AgreesInstall
  rw [Bool.and_eq_true, checkPlan_iff, checkInstalled_iff]

theorem agreesPlan_perm {dirs : List (Str × Str)} {pfx : Str} {plan plan' : List PlanEntry} {recs recs' : List InstRec}
    (hp : plan.Perm plan') (hr : recs.Perm recs') :
    AgreesPlan dirs pfx plan recs ↔ AgreesPlan dirs pfx plan' recs' := by
  unfold AgreesPlan
  simp only [hp.mem_iff, hr.mem_iff]

theorem agreesInstalled_perm {pfx : Str} {inst inst' : List (Str × Str)} {recs recs' : List InstRec}
    (hi : inst.Perm inst') (hr : recs.Perm recs') :
    AgreesInstalled pfx inst recs ↔ AgreesInstalled pfx inst' recs' := by
  unfold AgreesInstalled
  simp only [hi.mem_iff, hr.mem_iff]

theorem agreesPlan_names_every_record {dirs : List (Str × Str)} {pfx : Str} {plan : List PlanEntry}
    {recs : List InstRec} (h : AgreesPlan dirs pfx plan recs) {r : InstRec} (hr : r ∈ recs) :
    ∃ p ∈ plan, p.sect = sectionOf r ∧ p.path = r.path ∧
      (expandDest dirs pfx p.dest).map normDest = some (normDest (destUsed pfx r)) ∧ p.tag = r.tag ∧
      p.subproject = r.subproject := h.1 r hr

theorem agreesPlan_names_nothing_else {dirs : List (Str × Str)} {pfx : Str} {plan : List PlanEntry}
    {recs : List InstRec} (h : AgreesPlan dirs pfx plan recs) {p : PlanEntry} (hp : p ∈ plan) :
    ∃ r ∈ recs, p.path = r.path ∧ p.tag = r.tag := by
  obtain ⟨r, hr, hm⟩ := h.2 p hp
  exact ⟨r, hr, hm.2.1, hm.2.2.2.1⟩

/-- A JSON object keyed by the source path holds one entry per (section, path).  When the same source is
installed to two different destinations, no such object agrees with install.dat. -/
theorem plan_keyed_by_path_cannot_name_a_source_installed_twice (dirs : List (Str × Str)) (pfx : Str)
    (r₁ r₂ : InstRec) (hs : sectionOf r₁ = sectionOf r₂) (hp : r₁.path = r₂.path)
    (hd : normDest (destUsed pfx r₁) ≠ normDest (destUsed pfx r₂))
    (plan : List PlanEntry) (hu : KeysUnique plan) (recs : List InstRec) (h₁ : r₁ ∈ recs) (h₂ : r₂ ∈ recs) :
    ¬ AgreesPlan dirs pfx plan recs := by
  intro h
  obtain ⟨p, hpm, m1⟩ := h.1 r₁ h₁
  obtain ⟨q, hqm, m2⟩ := h.1 r₂ h₂
  have hpq : p = q := hu p hpm q hqm (by rw [m1.1, m2.1, hs]) (by rw [m1.2.1, m2.2.1, hp])
  subst hpq
  have e1 := m1.2.2.1
  have e2 := m2.2.2.1
  rw [e1] at e2
  exact hd (Option.some.inj e2)

theorem hasRow_iff (rows : List OptRow) (n : Str) : hasRow rows n = true ↔ ∃ r ∈ rows, r.name = n := by
  unfold hasRow
  simp

theorem checkOption_iff (rows : List OptRow) (o : Observed) : checkOption rows o = true ↔ AgreesOption rows o := by
  simp only [checkOption, AgreesOption, Bool.and_eq_true, hasRow_iff, List.all_eq_true, not_or_eq_true_iff_imp,
    decide_eq_true_eq]

theorem checkOptions_iff (rows : List OptRow) (obs : List Observed) :
    checkOptions rows obs = true ↔ AgreesOptions rows obs := by
  simp only [checkOptions, AgreesOptions, List.all_eq_true, checkOption_iff]

theorem hasRow_perm {rows rows' : List OptRow} (h : rows.Perm rows') (n : Str) : hasRow rows n = hasRow rows' n := by
  rw [Bool.eq_iff_iff, hasRow_iff, hasRow_iff]
  simp only [h.mem_iff]

theorem rowNameFor_perm {rows rows' : List OptRow} (h : rows.Perm rows') (o : Observed) :
    rowNameFor rows o = rowNameFor rows' o := by
  unfold rowNameFor
  simp only [hasRow_perm h]

theorem agreesOptions_perm {rows rows' : List OptRow} {obs obs' : List Observed} (hr : rows.Perm rows')
    (ho : obs.Perm obs') : AgreesOptions rows obs ↔ AgreesOptions rows' obs' := by
  unfold AgreesOptions AgreesOption
  simp only [hr.mem_iff, ho.mem_iff, rowNameFor_perm hr]

theorem agreesOptions_toplevel {rows : List OptRow} {obs : List Observed} (h : AgreesOptions rows obs)
    {o : Observed} (ho : o ∈ obs) (htop : o.sub = []) (hproj : o.builtin = false) :
    ∃ r ∈ rows, r.name = o.name ∧ r.value = o.value := by
  obtain ⟨⟨r, hr, hn⟩, hv⟩ := h o ho
  have : rowNameFor rows o = o.name := by
    unfold rowNameFor
    simp [htop, hproj]
  exact ⟨r, hr, by rw [hn, this], hv r hr hn⟩

/-- a row that shows a subproject option's own value cannot agree once the subproject read another (e.g. a yielded)
value: the model-level form of the defect repaired in /repo ec2d585 (a row must show the effective value) -/
theorem stale_row_disagrees (rows : List OptRow) (r : OptRow) (o : Observed) (hr : r ∈ rows)
    (hn : r.name = rowNameFor rows o) (hv : r.value ≠ o.value) (obs : List Observed) (ho : o ∈ obs) :
    ¬ AgreesOptions rows obs := fun h => hv ((h o ho).2 r hr hn)

/-- native build (no rows for the build machine): reading `build.<opt>` is described by the same row as reading
`<opt>` -- the project's own row `P:<opt>` when there is one, else the global row (Builtin-options.md, "In native
builds, the build and host machines are the same, and the unprefixed option alone will suffice") -/
theorem rowNameFor_build_option_in_native_build (rows : List OptRow) (sub n value : Str)
    (hn : startsWith n "build.".toList = false)
    (h1 : hasRow rows ("build.".toList ++ n) = false) (h2 : hasRow rows (sub ++ ':' :: ("build.".toList ++ n)) = false) :
    rowNameFor rows ⟨sub, "build.".toList ++ n, true, value⟩ = rowNameFor rows ⟨sub, n, true, value⟩ := by
  have hp : startsWith ("build.".toList ++ n) "build.".toList = true := by
    simp [startsWith]
  have hd : ("build.".toList ++ n).drop 6 = n := by simp
  simp only [rowNameFor, hp, h1, h2, hn, hd, Bool.not_false, Bool.and_true, if_true, Bool.false_and]
  simp

theorem checkBuildFiles_iff (listed read : List Str) :
    checkBuildFiles listed read = true ↔ AgreesBuildFiles listed read := sameSetB_iff _ _

theorem agreesBuildFiles_perm {l l' r r' : List Str} (hl : l.Perm l') (hr : r.Perm r') :
    AgreesBuildFiles l r ↔ AgreesBuildFiles l' r' := by
  unfold AgreesBuildFiles
  rw [SameSet.perm_left hl, SameSet.perm_right hr]

theorem agreesBuildFiles_dedup_insensitive (x : Str) (l r : List Str) (hx : x ∈ l) :
    AgreesBuildFiles (x :: l) r ↔ AgreesBuildFiles l r := by
  have : ∀ y, y ∈ x :: l ↔ y ∈ l := fun y => ⟨fun h => (List.mem_cons.1 h).elim (· ▸ hx) id, List.mem_cons_of_mem _⟩
  simp only [AgreesBuildFiles, SameSet, this]

section producers
open MesonModel.Intro.TestSer

/-- the references of a test table are objects of the heap -/
def TableIn (tests : List Test) (h : Heap) : Prop := ∀ t ∈ tests, t.env < h.nObjs

theorem tableIn_sorted {tests : List Test} {h : Heap} (ht : TableIn tests h) : TableIn (byPriority tests) h :=
  fun t hm => ht t ((mem_sortBy _ t tests).1 hm)

/-- **`create_test_serialisation` is a function of values.**  Whatever the heap looks like (which objects are
shared between tests, what earlier calls allocated), the call raises exactly when the value-level reading `serPure`
raises, and otherwise returns records whose pickled form is what `serPure` computes from the values of the tests'
environments; every object that existed before the call still denotes what it denoted. -/
theorem create_test_serialisation_is_a_function_of_values (bd : Str) (darwin : Bool) (tests : List Test) (h : Heap)
    (hw : h.wf) (ht : TableIn tests h) :
    match mapE (serPure bd darwin h.envOf) (byPriority tests) with
    | .error e => createSer .deep bd darwin tests h = .error e
    | .ok vs => ∃ ss h', createSer .deep bd darwin tests h = .ok (ss, h') ∧ Frame h h' ∧ pickle h' ss = vs := by
  have := createAll_deep bd darwin (byPriority tests) h hw (tableIn_sorted ht)
  unfold createSer
  cases hm : mapE (serPure bd darwin h.envOf) (byPriority tests) with
  | error e =>
    rw [hm] at this
    exact this
  | ok vs =>
    rw [hm] at this
    obtain ⟨ss, h', e, fr, _, pv⟩ := this
    exact ⟨ss, h', e, fr, pv⟩

theorem createSer_ok {bd : Str} {darwin : Bool} {tests : List Test} {h : Heap} (hw : h.wf) (ht : TableIn tests h)
    {ss : List Ser} {h' : Heap} (hc : createSer .deep bd darwin tests h = .ok (ss, h')) :
    Frame h h' ∧ mapE (serPure bd darwin h.envOf) (byPriority tests) = .ok (pickle h' ss) := by
  have := create_test_serialisation_is_a_function_of_values bd darwin tests h hw ht
  cases hm : mapE (serPure bd darwin h.envOf) (byPriority tests) with
  | error e =>
    rw [hm, hc] at this
    cases this
  | ok vs =>
    rw [hm] at this
    obtain ⟨ss2, h2, e, fr, pv⟩ := this
    rw [hc] at e
    cases e
    exact ⟨fr, congrArg _ pv.symm⟩

/-- the call does not change what the tests' own environments hold (no second-use aliasing) -/
theorem create_test_serialisation_leaves_the_table_alone (bd : Str) (darwin : Bool) (tests : List Test) (h : Heap)
    (hw : h.wf) (ht : TableIn tests h) {ss : List Ser} {h' : Heap}
    (hc : createSer .deep bd darwin tests h = .ok (ss, h')) :
    h'.wf ∧ TableIn tests h' ∧ ∀ t ∈ tests, h'.envOf t.env = h.envOf t.env :=
  have fr := (createSer_ok hw ht hc).1
  ⟨fr.1, fun t hm => Nat.lt_of_lt_of_le (ht t hm) fr.2.1, fun t hm => fr.2.2 t.env (ht t hm)⟩

/-- **idempotence**: serialising the same table again, on the heap the first call left behind, succeeds and gives
the same records (the class of the seeded change C15-c8) -/
theorem second_serialisation_equals_first (bd : Str) (darwin : Bool) (tests : List Test) (h : Heap)
    (hw : h.wf) (ht : TableIn tests h) {s1 : List Ser} {h1 : Heap}
    (hc : createSer .deep bd darwin tests h = .ok (s1, h1)) :
    ∃ s2 h2, createSer .deep bd darwin tests h1 = .ok (s2, h2) ∧ pickle h2 s2 = pickle h1 s1 := by
  obtain ⟨w1, t1, same⟩ := create_test_serialisation_leaves_the_table_alone bd darwin tests h hw ht hc
  have second := create_test_serialisation_is_a_function_of_values bd darwin tests h1 w1 t1
  have hcongr : mapE (serPure bd darwin h1.envOf) (byPriority tests) = mapE (serPure bd darwin h.envOf) (byPriority tests) :=
    mapE_congr _ _ _ (fun t hm => serPure_congr bd darwin _ _ t (same t ((mem_sortBy _ t tests).1 hm)))
  rw [hcongr, (createSer_ok hw ht hc).2] at second
  obtain ⟨s2, h2, e2, _, p2⟩ := second
  exact ⟨s2, h2, e2, p2⟩

theorem configure_succeeds (bd : Str) (darwin : Bool) (tests : List Test) (h : Heap) (hw : h.wf) (ht : TableIn tests h)
    {s1 : List Ser} {h1 : Heap} (hc : createSer .deep bd darwin tests h = .ok (s1, h1)) :
    ∃ intro, configure .deep bd darwin tests h = .ok (pickle h1 s1, intro) := by
  obtain ⟨s2, h2, e2, _⟩ := second_serialisation_equals_first bd darwin tests h hw ht hc
  exact ⟨getTestList h2 s2, by simp [configure, hc, e2]⟩

/-- **the property's clause for tests, for every test table**: intro-tests.json (computed from the second
serialisation) lists, entry by entry, the command, arguments, environment, suites, dependencies and scheduling
fields of the records pickled for `meson test` (computed by the first) -/
theorem intro_tests_describe_what_meson_test_unpickles (bd : Str) (darwin : Bool) (tests : List Test) (h : Heap)
    (hw : h.wf) (ht : TableIn tests h) {pickled : List (SerTest × List Str)} {intro : List IntroTest}
    (hc : configure .deep bd darwin tests h = .ok (pickled, intro)) :
    intro = pickled.map introOfPickled := by
  unfold configure at hc
  cases h1 : createSer .deep bd darwin tests h with
  | error e =>
    rw [h1] at hc
    cases hc
  | ok r1 =>
    obtain ⟨s1, ha⟩ := r1
    obtain ⟨s2, h2, e2, p2⟩ := second_serialisation_equals_first bd darwin tests h hw ht h1
    rw [h1] at hc
    simp only [e2] at hc
    cases hc
    rw [getTestList_eq, p2]

theorem agreesTest_introOfPickled (p : SerTest × List Str) (hu : p.2 = []) : AgreesTest (introOfPickled p) p.1 := by
  unfold AgreesTest introOfPickled
  simp [hu, envUsed_nil, SameSet]

theorem allPairs_map_introOfPickled : ∀ (l : List (SerTest × List Str)), (∀ p ∈ l, p.2 = []) →
    AllPairs AgreesTest (l.map introOfPickled) (l.map Prod.fst)
  | [], _ => AllPairs.nil
  | p :: r, h => AllPairs.cons (agreesTest_introOfPickled p (h p (by simp)))
      (allPairs_map_introOfPickled r (fun q hq => h q (by simp [hq])))

/-- the same in the vocabulary of the per-instance relation: when no test environment unsets a variable, the
produced pair of files stands in `AgreesTest`, position by position -/
theorem intro_tests_agree (bd : Str) (darwin : Bool) (tests : List Test) (h : Heap)
    (hw : h.wf) (ht : TableIn tests h) {pickled : List (SerTest × List Str)} {intro : List IntroTest}
    (hc : configure .deep bd darwin tests h = .ok (pickled, intro)) (hu : ∀ p ∈ pickled, p.2 = []) :
    AllPairs AgreesTest intro (pickled.map Prod.fst) := by
  rw [intro_tests_describe_what_meson_test_unpickles bd darwin tests h hw ht hc]
  exact allPairs_map_introOfPickled pickled hu

theorem unset_variable_absent (ops : List EnvOp) (unset : List Str) (k v : Str) (hk : k ∈ unset) :
    (k, v) ∉ envUsed ops unset := by
  simp [envUsed, hk]

theorem byPriority_mem (tests : List Test) (t : Test) : t ∈ byPriority tests ↔ t ∈ tests := mem_sortBy _ t tests

/-! the same code with `copy.copy` (seeded change C15-c8): a table of one test whose program links a shared library -/

def sLib : Tgt :=
  ⟨1, "lib@sha".toList, .sharedLibrary, "sub".toList, "libl.so".toList, ["libl.so".toList], [(.sharedLibrary, "sub".toList)]⟩

def sExe : Tgt :=
  ⟨2, "t@exe".toList, .executable, [], "t".toList, ["t".toList], [(.executable, []), (.sharedLibrary, "sub".toList)]⟩

def sTest (env : Nat) (name : String) : Test :=
  ⟨name.toList, ["p".toList], .target sExe, [.str "a".toList, .target sLib], [], env, "True".toList, "30".toList, none,
    "exitcode".toList, 0⟩

/-- a heap with one environment object holding `set A=1` -/
def sHeap : Heap := ⟨1, 1, fun _ => ⟨0, 0⟩, fun _ => [⟨.set, ['A'], [['1']], [':']⟩], fun _ => []⟩

def agreesB (r : Except Err (List (SerTest × List Str) × List IntroTest)) : Bool :=
  match r with
  | .ok (p, i) => decide (i = p.map introOfPickled)
  | .error _ => false

def ldOf (r : Except Err (List (SerTest × List Str) × List IntroTest)) : List (List (Option Str)) :=
  match r with
  | .ok (_, i) => i.map (fun e => [lookup e.env "LD_LIBRARY_PATH".toList])
  | .error _ => []

example : agreesB (configure .deep "/b".toList false [sTest 0 "one"] sHeap) = true := by decide +kernel

/-- with a shallow copy the introspected entry has the directory twice, `meson test` once -/
theorem shallow_copy_second_serialisation_differs :
    agreesB (configure .shallow "/b".toList false [sTest 0 "one"] sHeap) = false ∧
    ldOf (configure .shallow "/b".toList false [sTest 0 "one"] sHeap) = [[some "/b/sub:/b/sub".toList]] ∧
    ldOf (configure .deep "/b".toList false [sTest 0 "one"] sHeap) = [[some "/b/sub".toList]] := by decide +kernel

/-- … and two tests given one `environment()` object contaminate each other (all four prepends of the two calls land in
the one shared list) -/
theorem shallow_copy_leaks_between_tests :
    ldOf (configure .shallow "/b".toList false [sTest 0 "one", sTest 0 "two"] sHeap)
      = [[some "/b/sub:/b/sub:/b/sub:/b/sub".toList], [some "/b/sub:/b/sub:/b/sub:/b/sub".toList]] ∧
    ldOf (configure .deep "/b".toList false [sTest 0 "one", sTest 0 "two"] sHeap)
      = [[some "/b/sub".toList], [some "/b/sub".toList]] := by decide +kernel

end producers

/-! The hypotheses are satisfiable, the checkers discriminate (samples; the theorems above are the claim). -/

section examples

private def s (x : String) : Str := x.toList

private def exe : Target :=
  { id := s "app@exe", kind := .build, files := [s "/b/app"], priv := s "/b/app.p/", srcs := [s "/s/main.c", s "/b/gen.c", s "/s/x.cpp"],
    groups := [⟨s "c", [s "cc"], [s "-O2"], [s "/s/main.c", s "/b/gen.c"]⟩, ⟨s "cpp", [s "c++"], [s "-O2"], [s "/s/x.cpp"]⟩] }
private def ct : Target :=
  { id := s "gen@cus", kind := .custom, files := [s "/b/gen.c", s "/b/gen.h"], priv := s "/b/gen.c.p/", srcs := [s "/s/in.txt"] }
private def edges : List Edge :=
  [ ⟨s "CUSTOM_COMMAND", [s "/b/gen.c", s "/b/gen.h"], [s "/s/in.txt"], [], []⟩,
    ⟨s "c_COMPILER", [s "/b/app.p/main.c.o"], [s "/s/main.c"], [s "cc"], [s "-O2"]⟩,
    ⟨s "c_COMPILER", [s "/b/app.p/gen.c.o"], [s "/b/gen.c"], [s "cc"], [s "-O2"]⟩,
    ⟨s "cpp_COMPILER", [s "/b/app.p/x.cpp.o"], [s "/s/x.cpp"], [s "c++"], [s "-O2"]⟩,
    ⟨s "cpp_LINKER", [s "/b/app"], [s "/b/app.p/main.c.o", s "/b/app.p/gen.c.o", s "/b/app.p/x.cpp.o"], [], []⟩,
    ⟨s "phony", [s "/b/all"], [s "/b/app"], [], []⟩ ]

example : AgreesTargets [exe, ct] edges := (checkTargets_iff _ _).1 (by decide +kernel)
/-- one output of the two-output target not reported -/
example : ¬ AgreesTargets [exe, { ct with files := [s "/b/gen.c"] }] edges :=
  fun h => absurd ((checkFiles_iff _ _).2 (h.1 _ (.tail _ (.head _))).1) (by decide +kernel)
/-- the C++ source listed in the C group (same parameters, the C compiler): same source set, wrong group -/
example : ¬ AgreesTargets [{ exe with groups := [⟨s "c", [s "cc"], [s "-O2"], [s "/s/main.c", s "/b/gen.c", s "/s/x.cpp"]⟩] }, ct] edges :=
  fun h => absurd ((checkGroups_iff _ _).2 (h.1 _ (.head _)).2.2) (by decide +kernel)
/-- parameters that are not the ARGS of the statement -/
example : ¬ AgreesTargets [{ exe with groups := [⟨s "c", [s "cc"], [s "-O0"], [s "/s/main.c", s "/b/gen.c"]⟩, ⟨s "cpp", [s "c++"], [s "-O2"], [s "/s/x.cpp"]⟩] }, ct] edges :=
  fun h => absurd ((checkGroups_iff _ _).2 (h.1 _ (.head _)).2.2) (by decide +kernel)
/-- a source not reported -/
example : ¬ AgreesTargets [{ exe with srcs := [s "/s/main.c"] }, ct] edges :=
  fun h => absurd ((checkSources_iff _ _).2 (h.1 _ (.head _)).2.1) (by decide +kernel)
/-- a target missing from intro-targets.json -/
example : ¬ AgreesTargets [exe] edges := fun h => absurd ((checkClaimed_iff _ _).2 h.2) (by decide +kernel)

private def ser : SerTest :=
  { name := s "t", fname := [s "/b/app"], cmdArgs := [s "--x"], env := [⟨.set, s "A", [s "1", s "2"], s ":"⟩, ⟨.prepend, s "A", [s "0"], s ":"⟩],
    workdir := s "None", timeout := s "30", suite := [s "p:fast"], isParallel := s "True", priority := s "0",
    protocol := s "exitcode", depends := [s "app@exe", s "gen@cus"], extraPaths := [] }
private def it : IntroTest :=
  { name := s "t", cmd := [s "/b/app", s "--x"], env := [(s "A", s "0:1:2")], workdir := s "None", timeout := s "30",
    suite := [s "p:fast"], isParallel := s "True", priority := s "0", protocol := s "exitcode",
    depends := [s "gen@cus", s "app@exe"], extraPaths := [] }

example : AgreesTests [it] [ser] [s "app@exe", s "gen@cus"] := (checkTests_iff _ _ _).1 (by decide +kernel)
example : ¬ AgreesTests [{ it with depends := [s "app@exe"] }] [ser] [s "app@exe", s "gen@cus"] :=
  fun h => absurd ((checkTests_iff _ _ _).2 h) (by decide +kernel)
/-- the first dependency of the entry is no target id -/
example : ¬ AgreesTests [it] [ser] [s "app@exe"] := fun h => absurd (h.2 _ (.head _) _ (.head _)) (by decide +kernel)

private def tfs : List TargetFiles := [⟨s "app@exe", [s "/b/app"]⟩, ⟨s "gen@cus", [s "/b/gen.c", s "/b/gen.h"]⟩]
example : AgreesTestDeps [⟨[s "app@exe", s "gen@cus"], [s "/b/app", s "--x", s "/b/gen.h"]⟩] tfs [s "/b/gen.c", s "/b/app"] :=
  (checkTestDeps_iff _ _ _).1 (by decide +kernel)
/-- the indexed output on the command line, its target not among `depends` -/
example : ¬ AgreesTestDeps [⟨[s "app@exe"], [s "/b/app", s "/b/gen.h"]⟩] tfs [s "/b/gen.c", s "/b/app"] :=
  fun h => absurd ((checkTestDeps_iff _ _ _).2 h) (by decide +kernel)
/-- a prerequisite of build.ninja that no test lists -/
example : ¬ AgreesTestDeps [⟨[s "app@exe"], [s "/b/app"]⟩] tfs [s "/b/gen.c", s "/b/app"] :=
  fun h => absurd ((checkTestDeps_iff _ _ _).2 h) (by decide +kernel)

private def dirs : List (Str × Str) := [(s "bindir", s "bin"), (s "includedir", s "include"), (s "datadir", s "share")]
private def recs : List InstRec :=
  [ ⟨.targets, [], s "/b/app", s "bin", s "runtime", []⟩,
    ⟨.headers, [], s "/s/a.h", s "include/", s "devel", s "sp"⟩,
    ⟨.data, s "configure", s "/b/conf.h", s "include/conf.h", s "devel", []⟩,
    ⟨.data, [], s "/s/d.txt", s "share/x/d.txt", [], []⟩ ]
private def plan : List PlanEntry :=
  [ ⟨s "targets", s "/b/app", s "{bindir}/app", s "runtime", []⟩,
    ⟨s "headers", s "/s/a.h", s "{includedir}/a.h", s "devel", s "sp"⟩,
    ⟨s "configure", s "/b/conf.h", s "{includedir}/conf.h", s "devel", []⟩,
    ⟨s "data", s "/s/d.txt", s "share/x/d.txt", [], []⟩ ]

example : AgreesPlan dirs (s "/usr") plan recs := (checkPlan_iff _ _ _ _).1 (by decide +kernel)
/-- the fourth record is not named -/
example : ¬ AgreesPlan dirs (s "/usr") (plan.take 3) recs :=
  fun h => absurd (h.1 _ (.tail _ (.tail _ (.tail _ (.head _))))) (by decide +kernel)
/-- the first record is named with another tag -/
example : ¬ AgreesPlan dirs (s "/usr") (⟨s "targets", s "/b/app", s "{bindir}/app", s "devel", []⟩ :: plan.drop 1) recs :=
  fun h => absurd (h.1 _ (.head _)) (by decide +kernel)
example : AgreesInstalled (s "/usr") [(s "/b/app", s "/usr/bin/app"), (s "/s/a.h", s "/usr/include/a.h")] (recs.take 2) :=
  (checkInstalled_iff _ _ _).1 (by decide +kernel)

example : AgreesOptions [⟨s "c", s "c"⟩, ⟨s "sp:c", s "c"⟩, ⟨s "werror", s "false"⟩]
    [⟨[], s "c", false, s "c"⟩, ⟨s "sp", s "c", false, s "c"⟩, ⟨s "sp", s "werror", true, s "false"⟩] :=
  (checkOptions_iff _ _).1 (by decide +kernel)
/-- three addressing forms with pairwise different values: global row, top-level-only row `:name`, subproject row -/
example : AgreesOptions [⟨s "warning_level", s "2"⟩, ⟨s ":warning_level", s "3"⟩, ⟨s "sp:warning_level", s "0"⟩]
    [⟨[], s "warning_level", true, s "3"⟩, ⟨s "sp", s "warning_level", true, s "0"⟩, ⟨s "other", s "warning_level", true, s "2"⟩] :=
  (checkOptions_iff _ _).1 (by decide +kernel)
/-- the top-level-only row shows the global value although the top-level project read the override -/
example : ¬ AgreesOptions [⟨s "warning_level", s "2"⟩, ⟨s ":warning_level", s "2"⟩] [⟨[], s "warning_level", true, s "3"⟩] :=
  fun h => absurd ((checkOptions_iff _ _).2 h) (by decide +kernel)
/-- native build: `build.c_args` is described by the row `c_args`; cross build: by its own row -/
example : AgreesOptions [⟨s "c_args", s "['-DN']"⟩] [⟨[], s "build.c_args", true, s "['-DN']"⟩] := (checkOptions_iff _ _).1 (by decide +kernel)
example : ¬ AgreesOptions [⟨s "c_args", s "['-DX']"⟩, ⟨s "build.c_args", s "[]"⟩] [⟨[], s "build.c_args", true, s "['-DX']"⟩] :=
  fun h => absurd ((checkOptions_iff _ _).2 h) (by decide +kernel)
/-- the defect repaired in /repo ec2d585: the subproject read `c`, the row showed the option's own value `b` -/
example : ¬ AgreesOptions [⟨s "c", s "c"⟩, ⟨s "sp:c", s "b"⟩] [⟨s "sp", s "c", false, s "c"⟩] :=
  fun h => absurd ((checkOptions_iff _ _).2 h) (by decide +kernel)

example : AgreesBuildFiles [s "/s/meson.build", s "/s/sub/meson.build"] [s "/s/sub/meson.build", s "/s/meson.build", s "/s/meson.build"] :=
  (checkBuildFiles_iff _ _).1 (by decide +kernel)
example : ¬ AgreesBuildFiles [s "/s/meson.build"] [s "/s/sub/meson.build", s "/s/meson.build"] :=
  fun h => absurd ((checkBuildFiles_iff _ _).2 h) (by decide +kernel)

end examples

end MesonModel.Props.C15
