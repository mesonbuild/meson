/-
C05 — the build graph is dependency-complete: any valid schedule builds the same thing.

Over the execution model `MesonModel/Graph/Model.lean` (steps with declared inputs/outputs and an arbitrary deterministic
behaviour `reads`/`act`), for *all* graphs, initial file systems and schedules.  `Hermetic`: every step only looks at
paths that no step produces or that a declared ancestor produces.  `ReplayOK` (what the executor measures per step):
every step replayed on "initial files + reference outputs of its declared ancestors" succeeds with the reference content.
Under both, **every** complete valid schedule ends in exactly the reference state (`replay_ok_all_schedules`); under
`Hermetic` and single authorship of paths any two give the same result (`hermetic_implies_confluent`).  Conversely, if `j`
is not a declared ancestor of `i` some complete valid schedule runs `i` while every path `j` writes still has its initial
content (`missing_edge_has_bad_schedule`; a concrete graph: `Example.missing_edge_counterexample`).

Over the derivation model `MesonModel/Graph/HeaderDeps.lean` (BuildTarget.process_sourcelist / add_deps, NinjaBackend
get_generated_headers + the header_deps loop of generate_target + order_deps_to_strings), for *all* well-formed target
tables: every generated header a compile statement of a target may read (outputs of the generated elements handed to the
target directly or through `declare_dependency(sources:)` at any depth, in any form — whole custom target, index,
generator list, repeated, mixed — and generator-made headers of the libraries of its link_with / link_whole closure) is
among the order-only inputs the backend declares for it (`declared_order_only_covers_may_read`), so such a compile
statement satisfies `Hermetic` (`compile_step_hermetic_of_model`).
-/
import MesonModel.Graph.Lemmas
import MesonModel.Graph.HeaderDepsLemmas

namespace MesonModel.Props.C05
open MesonModel.Graph

variable {ι F C : Type} [DecidableEq ι] [DecidableEq F]

/-- per-step hermetic replay against a reference decides all schedules -/
theorem replay_ok_all_schedules {g : Graph ι F C} {init ref : FS F C} (hh : Hermetic g) (hf : RefFrame g init ref)
    (hrep : ReplayOK g init ref) (s : List ι) (hv : Valid g s) (hc : Complete g s) : run g init s = some ref := by
  rcases replay_invariant hh hrep hv with ⟨st, hrun, hst⟩
  unfold run
  rw [hrun]
  congr 1
  funext f
  rw [hst f]
  split
  · rfl
  · next hno =>
    symm
    apply hf
    intro j hj hm
    exact hno (mem_outsOf.2 ⟨j, List.mem_reverse.2 (hc j hj), hm⟩)

theorem hermetic_success_transfers {g : Graph ι F C} {init ref : FS F C} (hd : DisjointOuts g) (hh : Hermetic g)
    {s₁ s₂ : List ι} (v₁ : Valid g s₁) (c₁ : Complete g s₁) (v₂ : Valid g s₂) (c₂ : Complete g s₂)
    (h₁ : run g init s₁ = some ref) : run g init s₂ = some ref := by
  have hc₁ : ∀ i, i ∈ g.steps → i ∈ s₁.reverse := fun i hi => List.mem_reverse.2 (c₁ i hi)
  rcases run_gives_replayOK hd hh v₁ hc₁ h₁ with ⟨hf, hrep⟩
  exact replay_ok_all_schedules hh hf hrep s₂ v₂ c₂

/-- any two complete valid schedules of a dependency-complete graph yield the same thing (both fail or both succeed
    with the same final file contents) — every topological order, every interleaving of atomic steps -/
theorem hermetic_implies_confluent {g : Graph ι F C} {init : FS F C} (hd : DisjointOuts g) (hh : Hermetic g)
    {s₁ s₂ : List ι} (v₁ : Valid g s₁) (c₁ : Complete g s₁) (v₂ : Valid g s₂) (c₂ : Complete g s₂) :
    run g init s₁ = run g init s₂ := by
  cases h₁ : run g init s₁ with
  | some ref => exact (hermetic_success_transfers hd hh v₁ c₁ v₂ c₂ h₁).symm
  | none =>
    cases h₂ : run g init s₂ with
    | none => rfl
    | some ref =>
      have := hermetic_success_transfers hd hh v₂ c₂ v₁ c₁ h₂
      rw [h₁] at this
      cases this

/-- the hypothesis as the property states it: each step reads only sources / configure-time files (paths no step
    writes) and outputs of its declared ancestors -/
theorem hermetic_of_reads_subset {g : Graph ι F C} (src : F → Prop) (hd : DisjointOuts g)
    (hsrc : ∀ f, src f → ∀ j, j ∈ g.steps → f ∉ (g.step j).outs)
    (hr : ∀ i, i ∈ g.steps → ∀ f, f ∈ (g.step i).reads →
      src f ∨ ∃ j, j ∈ g.steps ∧ Anc g i j ∧ f ∈ (g.step j).outs) : Hermetic g := by
  intro i hi f hf j hj hfj
  rcases hr i hi f hf with hs | ⟨k, hk, ha, hfk⟩
  · exact absurd hfj (hsrc f hs j hj)
  · by_cases e : k = j
    · exact e ▸ ha
    · exact absurd hfj (hd k hk j hj e f hfk)

/-- if `j` is not a declared ancestor of `i`, some complete valid schedule runs `i` before `j`, and when `i` starts
    nothing `j` writes has been written: a step that needs an output of `j` fails there or reads stale content -/
theorem missing_edge_has_bad_schedule {g : Graph ι F C} {init : FS F C} (hd : DisjointOuts g) {s : List ι}
    (hv : Valid g s) (hc : Complete g s) {i j : ι} (hi : i ∈ g.steps) (hj : j ∈ g.steps) (hij : j ≠ i)
    (hna : ¬ Anc g i j) :
    ∃ a b, Valid g (a ++ i :: b) ∧ Complete g (a ++ i :: b) ∧ (a ++ i :: b).Perm s ∧ j ∈ b ∧
      ∀ st, run g init a = some st → ∀ f, f ∈ (g.step j).outs → st f = init f := by
  rcases reorder_first hv (fun k hk => List.mem_reverse.2 (hc k hk)) hi hj hij hna with ⟨x, y, hvx, hcx, hjx, hperm⟩
  have e : (y.reverse ++ i :: x.reverse).reverse = x ++ i :: y := by simp
  refine ⟨y.reverse, x.reverse, ?_, fun k hk => ?_, ?_, List.mem_reverse.2 hjx, fun st hrun f hf => ?_⟩
  · rw [Valid, e]
    exact hvx
  · exact List.mem_reverse.1 (e ▸ hcx k hk)
  · exact (e ▸ (List.reverse_perm _).symm).trans (hperm.trans (List.reverse_perm s))
  · rw [run, List.reverse_reverse] at hrun
    exact runH_frame hrun f fun m => outsOf_disjoint hd hvx (mem_outsOf_cons.2 (Or.inr m)) (mem_outsOf.2 ⟨j, hjx, hf⟩)

theorem valid_iff_topological_order {g : Graph ι F C} (s : List ι) :
    Valid g s ↔ s.Nodup ∧ (∀ i, i ∈ s → i ∈ g.steps) ∧
      (∀ a i b, s = a ++ i :: b → ∀ j, Pred g i j → j ∈ a) := by
  unfold Valid
  rw [validH_iff]
  refine and_congr (List.reverse_perm s).nodup_iff (and_congr (by simp)
    ⟨fun hp a i b e j hj => ?_, fun hp x i y e j hj => ?_⟩)
  · exact List.mem_reverse.1 (hp b.reverse i a.reverse (by simp [e]) j hj)
  · exact List.mem_reverse.1 (hp y.reverse i x.reverse (by simpa using congrArg List.reverse e) j hj)

theorem independent_steps_commute (s t : Step F C) (σ : FS F C) (h1 : ∀ f, f ∈ s.outs → f ∉ t.outs)
    (h2 : ∀ f, f ∈ s.outs → f ∉ t.reads) (h3 : ∀ f, f ∈ t.outs → f ∉ s.reads) :
    (exec s σ).bind (exec t) = (exec t σ).bind (exec s) := exec_comm s t σ h1 h2 h3

/-- parallel execution of a batch of steps that were all enabled when the batch started (each reads the state at the
    start of the batch) is the sequential execution of the batch -/
theorem parallel_batch_eq_sequential {g : Graph ι F C} (hh : Hermetic g) {h b : List ι} (hv : ValidH g h)
    (hb : ∀ i, i ∈ b → i ∈ g.steps ∧ i ∉ h ∧ Enabled g h i) (st : FS F C) :
    runBatchH g st b = runH g st b := by
  apply runBatchH_eq_runH
  intro i hi f hf m
  rcases mem_outsOf.1 m with ⟨j, hj, hm⟩
  have ha : Anc g i j := hh i (hb i hi).1 f hf j (hb j hj).1 hm
  exact (hb j hj).2.1 (hv.enabled_anc (hb i hi).2.2 ha)

theorem validScheduleB_decides {g : Graph ι F C} (s : List ι) :
    (validScheduleB g s = true ↔ Valid g s) ∧ (completeB g s = true ↔ Complete g s) :=
  ⟨validScheduleB_iff s, completeB_iff s⟩

/-- the driver's ancestor sets: sound always, complete whenever the run-time closedness check passes (it is reported
    with every answer) -/
theorem ancestorsB_exact {g : Graph ι F C} (i : ι) (hc : ancClosedB g i (ancestorsB g i) = true) (j : ι) :
    j ∈ ancestorsB g i ↔ Anc g i j :=
  ⟨ancestorsB_sound, anc_complete_of_closed hc⟩

section derivation
open MesonModel.Graph.HeaderDeps

/-- declared ⊇ may-read, for every well-formed target table: whatever the form and the route by which the outputs of a
    producer reach the target, each header among them is an order-only input of the target's compile statements -/
theorem declared_order_only_covers_may_read {tb : Table} (hwf : WF tb) {t : Nat} (ht : t < tb.tgts.length) {p : Str}
    (h : MayRead tb t p) : p ∈ orderOnly tb t := by
  unfold orderOnly headerDeps
  rw [List.map_append, List.map_map, List.map_map]
  rcases h with ⟨g, o, hg, ho, hh, rfl⟩ | ⟨l, outs, o, hr, hg, ho, hh, rfl⟩
  · refine List.mem_append_right _ (List.mem_map.2 ⟨_, mem_loopHeaders
      (handed_generated hwf.depsBefore _ (hwf.rootsInRange t) hg) ho hh, rfl⟩)
  · have hl : l < t := hr.lt hwf
    have hp : (tb.tgt l).priv ≠ [] := hwf.privNamed l (by omega)
    have hm := reach_genHeaders hwf hr (t + 1) (by omega) _
      (mem_ownGenHeaders (priv := (tb.tgt l).priv) (handed_generated hwf.depsBefore _ (hwf.rootsInRange l) hg) ho hh)
    refine List.mem_append_left _ (List.mem_map.2 ⟨_, hm, ?_⟩)
    simp [orderDepStr, hasDirPart_joinPath hp]

theorem output_declared {tb : Table} (hwf : WF tb) {t : Nat} (ht : t < tb.tgts.length) {dir : Str} {o : Out} {g : Gen}
    (h : Handed tb (tb.tgt t) g) (e : g = .cti dir o ∨ ∃ os, g = .ct dir os ∧ o ∈ os) (k : headerish o.cls = true) :
    joinPath dir o.name ∈ orderOnly tb t := by
  apply declared_order_only_covers_may_read hwf ht
  refine Or.inl ⟨g, o, h, ?_, k, ?_⟩
  · rcases e with rfl | ⟨os, rfl, hm⟩
    · exact List.mem_singleton_self o
    · exact hm
  · rcases e with rfl | ⟨os, rfl, _⟩ <;> rfl

/-- two different outputs of one custom target that arrive by different routes (`ct[i]` / `ct`) -/
theorem both_outputs_of_one_producer_declared {tb : Table} (hwf : WF tb) {t : Nat} (ht : t < tb.tgts.length)
    {dir : Str} {o₁ o₂ : Out} {g₁ g₂ : Gen} (h₁ : Handed tb (tb.tgt t) g₁) (h₂ : Handed tb (tb.tgt t) g₂)
    (e₁ : g₁ = .cti dir o₁ ∨ ∃ os, g₁ = .ct dir os ∧ o₁ ∈ os) (e₂ : g₂ = .cti dir o₂ ∨ ∃ os, g₂ = .ct dir os ∧ o₂ ∈ os)
    (k₁ : headerish o₁.cls = true) (k₂ : headerish o₂.cls = true) :
    joinPath dir o₁.name ∈ orderOnly tb t ∧ joinPath dir o₂.name ∈ orderOnly tb t :=
  ⟨output_declared hwf ht h₁ e₁ k₁, output_declared hwf ht h₂ e₂ k₂⟩

/-- `Hermetic` at a compile statement that carries the derived order-only inputs and, among the paths that some step
    produces, reads only its declared inputs and generated headers it may read -/
theorem compile_step_hermetic_of_model {ι C : Type} [DecidableEq ι] {g : Graph ι Str C} {tb : Table} (hwf : WF tb) {t : Nat}
    (ht : t < tb.tgts.length) {i : ι} (hins : ∀ p, p ∈ orderOnly tb t → p ∈ (g.step i).ins)
    (hreads : ∀ f, f ∈ (g.step i).reads → (∃ j, j ∈ g.steps ∧ f ∈ (g.step j).outs) → f ∈ (g.step i).ins ∨ MayRead tb t f) :
    ∀ f, f ∈ (g.step i).reads → ∀ j, j ∈ g.steps → f ∈ (g.step j).outs → Anc g i j := by
  intro f hf j hj hfj
  have hin : f ∈ (g.step i).ins := by
    rcases hreads f hf ⟨j, hj, hfj⟩ with h | h
    · exact h
    · exact hins f (declared_order_only_covers_may_read hwf ht h)
  exact Anc.base ⟨hj, f, hin, hfj⟩

/-- the well-formedness bit the driver reports with every `hdeps` answer discharges the hypothesis `WF` -/
theorem wfB_sound {tb : Table} (h : wfB tb = true) : WF tb := wfB_implies_WF h

end derivation

/-! The hypotheses are satisfiable, and the conclusion fails without them. -/

namespace DerivationExample
open MesonModel.Graph.HeaderDeps

/- gen = custom_target(output: ['x.c', 'x.h']);  d = declare_dependency(sources: gen[1]);
   executable('app', 'main.c', gen[0], dependencies: d);  lib = static_library('l', g.process('a.in'));
   executable('app2', 'main2.c', gen[0], gen, link_with: lib) -/
def xc : Out := ⟨"x.c".toList, .source⟩
def xh : Out := ⟨"x.h".toList, .header⟩
def tb : Table :=
  { deps := [{ sources := [.cti [] xh] }],
    tgts := [{ kind := .executable, priv := "app.p".toList, sources := [.cti [] xc], deps := [0] },
             { kind := .static, priv := "libl.a.p".toList,
               sources := [.glist [⟨"a.c".toList, .source⟩, ⟨"a.h".toList, .header⟩]] },
             { kind := .executable, priv := "app2.p".toList, sources := [.cti [] xc, .ct [] [xc, xh]], linkWith := [1] }] }

example : wfB tb = true := by decide +kernel
example : WF tb := wfB_sound (by decide +kernel)
example : orderOnly tb 0 = ["x.h".toList] := by decide +kernel
example : orderOnly tb 1 = ["libl.a.p/a.h".toList, "libl.a.p/a.h".toList] := by decide +kernel
example : orderOnly tb 2 = ["libl.a.p/a.h".toList, "x.h".toList] := by decide +kernel
example : MayRead tb 0 "x.h".toList :=
  Or.inl ⟨.cti [] xh, xh, Or.inr ⟨0, .root (by decide), by decide⟩, by decide, by decide, by decide⟩

end DerivationExample

namespace Example

/- paths: 0 gen.h.in (source)  1 gen.h  2 main.c (source)  3 main.o  4 app  5 other.txt
   steps: 0 generate gen.h   1 compile main.c (includes gen.h)   2 link   3 an unrelated generator -/

def actGen : List (Option Nat) → Option (Nat → Nat)
  | [some v] => some (fun _ => v + 1)
  | _ => none

def actCompile : List (Option Nat) → Option (Nat → Nat)
  | [some a, some b] => some (fun _ => a * 10 + b)
  | _ => none

def actLink : List (Option Nat) → Option (Nat → Nat)
  | [some a] => some (fun _ => a + 100)
  | _ => none

def stepsOK : Nat → Step Nat Nat
  | 0 => { ins := [0], outs := [1], reads := [0], act := actGen }
  | 1 => { ins := [2, 1], outs := [3], reads := [2, 1], act := actCompile }   -- `|| gen.h` declared
  | 2 => { ins := [3], outs := [4], reads := [3], act := actLink }
  | _ => { ins := [0], outs := [5], reads := [0], act := actGen }

def stepsBad : Nat → Step Nat Nat
  | 1 => { ins := [2], outs := [3], reads := [2, 1], act := actCompile }       -- the order-only edge is missing
  | i => stepsOK i

def gOK : Graph Nat Nat Nat := { steps := [0, 1, 2, 3], step := stepsOK }
def gBad : Graph Nat Nat Nat := { steps := [0, 1, 2, 3], step := stepsBad }

def init : FS Nat Nat := fun f => if f = 0 then some 5 else if f = 2 then some 7 else none

theorem gOK_disjoint : DisjointOuts gOK := by
  unfold DisjointOuts
  decide +kernel

/-- every producer of something a step reads is among the ancestors the driver's closure computes -/
theorem gOK_hermetic : Hermetic gOK := fun i hi f hf j hj hfj =>
  ancestorsB_sound ((by decide +kernel : ∀ i ∈ gOK.steps, ∀ f ∈ (gOK.step i).reads, ∀ j ∈ gOK.steps,
    f ∈ (gOK.step j).outs → j ∈ ancestorsB gOK i) i hi f hf j hj hfj)

/-- four different complete valid schedules of `gOK` … -/
example : [[0, 1, 2, 3], [3, 0, 1, 2], [0, 3, 1, 2], [0, 1, 3, 2]].all
    (fun s => validScheduleB gOK s && completeB gOK s) = true := by decide +kernel

/-- … to which the confluence theorem applies (the hypotheses are satisfiable) … -/
example : run gOK init [0, 1, 2, 3] = run gOK init [3, 0, 1, 2] :=
  hermetic_implies_confluent gOK_disjoint gOK_hermetic
    ((validScheduleB_iff _).1 (by decide)) ((completeB_iff _).1 (by decide))
    ((validScheduleB_iff _).1 (by decide)) ((completeB_iff _).1 (by decide))

/-- … and they do succeed: app = (7*10 + (5+1)) + 100 -/
example : (run gOK init [3, 0, 1, 2]).map (fun st => [st 1, st 3, st 4, st 5]) =
    some [some 6, some 76, some 176, some 6] := by decide +kernel

example : validScheduleB gOK [1, 0, 2, 3] = false := by decide +kernel

/-- without the order-only edge on the generated header, running the compile first is a valid schedule, and it fails,
    while the declaration order succeeds: the conclusion of `hermetic_implies_confluent` is false for `gBad` -/
theorem missing_edge_counterexample :
    ¬ (∀ s₁ s₂, Valid gBad s₁ → Complete gBad s₁ → Valid gBad s₂ → Complete gBad s₂ →
        run gBad init s₁ = run gBad init s₂) := by
  intro h
  have e := h [0, 1, 2, 3] [1, 0, 2, 3]
    ((validScheduleB_iff _).1 (by decide)) ((completeB_iff _).1 (by decide))
    ((validScheduleB_iff _).1 (by decide)) ((completeB_iff _).1 (by decide))
  have e' := congrArg Option.isSome e
  revert e'
  decide +kernel

/-- and `gBad` indeed violates the hypothesis: step 1 reads path 1, written by step 0, which is not its ancestor;
    `missing_edge_has_bad_schedule` applies to it -/
example : ¬ Hermetic gBad := fun h =>
  List.not_mem_nil (anc_complete_of_closed (i := 1) (A := []) (by decide +kernel)
    (h 1 (by decide) 1 (by decide) 0 (by decide) (by decide)))

end Example

end MesonModel.Props.C05
