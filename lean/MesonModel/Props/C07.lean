import MesonModel.Options.InvLemmas
import MesonModel.Options.MergeLemmas
import MesonModel.Options.TopLemmas
import MesonModel.Options.WfLemmas
import MesonModel.Options.ParentLemmas
import MesonModel.Options.SubLemmas
import MesonModel.Options.ComposeLemmas
import MesonModel.Options.BuiltinLemmas
/-
C07 — option values resolve by the documented precedence and are always valid.
Statements over the model `MesonModel.Options` (options.py:356-640, 773-1474; cmdline.py:234-249).
-/
namespace MesonModel.Props.C07
open MesonModel.Options MesonModel.Options.M

/-! ## validity: "a value violating an option's type, choices or range is always rejected and a stored
value always satisfies them" -/

/-- whatever `validate_value` accepts, the value it returns satisfies the option's type, choices and range -/
theorem validate_result_conforms (k : Kind) (v v' : Val) (h : validate k v = .ok v') : conforms k v' = true :=
  validate_sound h

theorem conforming_value_accepted (k : Kind) (v : Val) (h : conforms k v = true) : validate k v = .ok v :=
  validate_of_conforms h

/-- a value of the option's own type that violates its choices or range is rejected with `MesonException` -/
theorem nonconforming_value_rejected (k : Kind) (v : Val) (ht : nativeType k v = true)
    (hc : conforms k v = false) : validate k v = .error .meson :=
  validate_rejects_nonconforming ht hc

/-- after any sequence of API calls — whatever their arguments, and including calls that raise half-way — every
option object (reachable or stale) holds a value of its own type, within its choices and range -/
theorem stored_value_valid (ops : List Op) (s : Store) (h : HeapValid s) : HeapValid (run s ops) :=
  MesonModel.Life.Keeps.run_ops heapValid_opInv ops s h

theorem stored_value_valid_from_new (ops : List Op) (cross : Bool) : HeapValid (run (Store.new cross) ops) :=
  stored_value_valid ops _ (by
    intro o ho
    simp [Store.new] at ho)

/-- in particular: whatever `get_value_for` returns for an option without override is a legal value of the
object it was read from (own value), or of the parent it yields to -/
theorem own_value_conforms (ops : List Op) (cross : Bool) (id : Nat) (o : Obj)
    (ho : (run (Store.new cross) ops).heap[id]? = some o) : conforms o.kind o.value = true :=
  stored_value_valid_from_new ops cross o (List.mem_of_getElem? ho)

/-! ## effective value: override > yielding parent > own value (options.py:855-864) -/

theorem override_wins (s : Store) (k : Key) (id : Nat) (o : Obj) (v : Val) (sub : Str)
    (hr : resolveId s (ensureKey s k) = .ok id) (ho : s.heap[id]? = some o)
    (ha : alookup (ensureKey s k) s.augments = some v) (hs : (ensureKey s k).sub = some sub) :
    getValueFor s k = .ok v := by
  rw [getValueFor_eq s k id o hr ho, ha]
  simp [hs]

/-- a yielding option without override has the *parent object's* value -/
theorem yielding_takes_parent (s : Store) (k : Key) (id pid : Nat) (o p : Obj)
    (hr : resolveId s (ensureKey s k) = .ok id) (ho : s.heap[id]? = some o)
    (ha : alookup (ensureKey s k) s.augments = none)
    (hy : o.yielding = true) (hp : o.parent = some pid) (hh : s.heap[pid]? = some p) :
    getValueFor s k = .ok p.value := by
  rw [getValueFor_eq s k id o hr ho, ha]
  simp [hy, hp, hh]

theorem effective_value_source (s : Store) (k : Key) (id : Nat) (o : Obj) (v : Val)
    (hr : resolveId s (ensureKey s k) = .ok id) (ho : s.heap[id]? = some o)
    (ha : alookup (ensureKey s k) s.augments = none) (hv : getValueFor s k = .ok v) :
    (o.yielding = false ∧ v = o.value) ∨
    (o.yielding = true ∧ ∃ pid p, o.parent = some pid ∧ s.heap[pid]? = some p ∧ v = p.value) := by
  rw [getValueFor_eq s k id o hr ho, ha] at hv
  cases hy : o.yielding with
  | false => exact .inl ⟨rfl, by simpa [hy, eq_comm] using hv⟩
  | true =>
    simp only [hy, if_true] at hv
    split at hv
    · cases hv
    · split at hv
      · exact .inr ⟨rfl, _, _, ‹_›, ‹_›, (Except.ok.inj hv).symm⟩
      · cases hv

/-! ### validity of *effective* values (what `get_value_for` reports, own or yielded) -/

/-- `add_project_option` links a parent only when `type(parent) is type(valobj)`;
as an invariant of every call sequence, a linked parent always has the child's class (same constructor —
a feature option is *not* a combo option, although `UserFeatureOption` subclasses `UserComboOption`) -/
theorem yielding_parent_same_kind (ops : List Op) (cross : Bool) (i pid : Nat) (o : Obj)
    (ho : (run (Store.new cross) ops).heap[i]? = some o) (hp : o.parent = some pid) :
    ∃ p : Obj, (run (Store.new cross) ops).heap[pid]? = some p ∧ p.kind.sameClass o.kind = true :=
  parentOk_run ops _ (parentOk_new cross) i o pid ho hp

/-- the Python type(s) an option class stores -/
def classType : Kind → Val → Bool
  | .string, .str _ => true
  | .boolean, .bool _ => true
  | .integer _ _, .int _ => true
  | .umask, .int _ => true
  | .umask, .str _ => true
  | .combo _, .str _ => true
  | .feature, .str _ => true
  | .array _, .arr _ => true
  | _, _ => false

theorem classType_of_conforms {k : Kind} {v : Val} (h : conforms k v = true) : classType k v = true := by
  cases k <;> cases v <;> simp_all [conforms, classType]

theorem classType_sameClass {k k' : Kind} {v : Val} (h : k.sameClass k' = true) (hv : classType k v = true) :
    classType k' v = true := by
  cases k <;> cases k' <;> cases h <;> cases v <;> exact hv

/-- what an option reports without override — its own value or, when yielding, its parent's — always has the
type of the option's *own* class, in every reachable store -/
theorem effective_value_has_own_type (ops : List Op) (cross : Bool) (k : Key) (id : Nat) (o : Obj) (v : Val)
    (hr : resolveId (run (Store.new cross) ops) (ensureKey (run (Store.new cross) ops) k) = .ok id)
    (ho : (run (Store.new cross) ops).heap[id]? = some o)
    (ha : alookup (ensureKey (run (Store.new cross) ops) k) (run (Store.new cross) ops).augments = none)
    (hv : getValueFor (run (Store.new cross) ops) k = .ok v) : classType o.kind v = true := by
  have hval := stored_value_valid_from_new ops cross
  rcases effective_value_source _ k id o v hr ho ha hv with ⟨_, rfl⟩ | ⟨_, pid, p, hp, hpp, rfl⟩
  · exact classType_of_conforms (hval o (List.mem_of_getElem? ho))
  · obtain ⟨p', hpp', hsame⟩ := yielding_parent_same_kind ops cross id pid o ho hp
    cases hpp.symm.trans hpp'
    exact classType_sameClass hsame (classType_of_conforms (hval p (List.mem_of_getElem? hpp)))

/-- the full statement "an effective value satisfies the option's own type, choices and range" … -/
def effective_value_valid_full : Prop :=
  ∀ (ops : List Op) (cross : Bool) (k : Key) (id : Nat) (o : Obj) (v : Val),
    resolveId (run (Store.new cross) ops) (ensureKey (run (Store.new cross) ops) k) = .ok id →
    (run (Store.new cross) ops).heap[id]? = some o →
    alookup (ensureKey (run (Store.new cross) ops) k) (run (Store.new cross) ops).augments = none →
    getValueFor (run (Store.new cross) ops) k = .ok v → conforms o.kind v = true

def ymTop : Key := ⟨"ym".toList, some [], .host⟩
def ymSub : Key := ⟨"ym".toList, some "sub".toList, .host⟩
def ymOps : List Op :=
  [.addProject ymTop { kind := .combo ["a".toList, "b".toList, "c".toList], default := .str "c".toList },
   .addProject ymSub { kind := .combo ["a".toList, "b".toList], default := .str "a".toList, yielding := true }]

/-- … is false of the code: a yielding combo option with choices `[a, b]` reports `c` when the same-class
parent, whose choices are `[a, b, c]`, holds `c` (recorded finding `effective-value-invalid:yield:C->C`;
classes are compared, choices and ranges are not) -/
theorem effective_value_valid_counterexample : ¬ effective_value_valid_full := by
  intro h
  have := h ymOps false ymSub 1
    { kind := .combo ["a".toList, "b".toList], value := .str "a".toList, default := .str "a".toList,
      yielding := true, readonly := false, parent := some 0 } (.str "c".toList) (by rfl) (by rfl) (by rfl) (by rfl)
  revert this
  decide

/-- it holds whenever the linked parent is declared with the same class *and*
limits (`p.kind = o.kind`), in particular for every non-yielding option -/
theorem effective_value_valid_partial (ops : List Op) (cross : Bool) (k : Key) (id : Nat) (o : Obj) (v : Val)
    (hr : resolveId (run (Store.new cross) ops) (ensureKey (run (Store.new cross) ops) k) = .ok id)
    (ho : (run (Store.new cross) ops).heap[id]? = some o)
    (ha : alookup (ensureKey (run (Store.new cross) ops) k) (run (Store.new cross) ops).augments = none)
    (hsame : o.yielding = true → ∀ pid p, o.parent = some pid →
      (run (Store.new cross) ops).heap[pid]? = some p → p.kind = o.kind)
    (hv : getValueFor (run (Store.new cross) ops) k = .ok v) : conforms o.kind v = true := by
  have hval := stored_value_valid_from_new ops cross
  rcases effective_value_source _ k id o v hr ho ha hv with ⟨_, rfl⟩ | ⟨hy, pid, p, hp, hpp, rfl⟩
  · exact hval o (List.mem_of_getElem? ho)
  · rw [← hsame hy pid p hp hpp]
    exact hval p (List.mem_of_getElem? hpp)

/-- the "did the declaration change?" test of `update_project_options` (`type(old) is type(new)` and
`choices_are_different`) sees every constraint, a bound that is introduced or removed included; hence an object
that is kept validates exactly as the declaration in force does -/
theorem unchanged_declaration_is_equal (k k' : Kind) (hc : k.sameClass k' = true)
    (hd : k.choicesDiffer k' = false) : k = k' := by
  cases k <;> cases k' <;> simp_all [Kind.sameClass, Kind.choicesDiffer]

/-- `set_option` on an existing option (no prefix/builtin sanitisation in the way) with a
value its class rejects raises, and the store is exactly what it was -/
theorem invalid_rejected (s : Store) (k : Key) (v : Val) (first : Bool) (id : Nat) (o : Obj) (e : Err)
    (hn : (k.name == sPrefix) = false) (hb : s.isBuiltin k = false)
    (hr : resolveId s k = .ok id) (ho : s.heap[id]? = some o) (hv : validate o.kind v = .error e) :
    setOption k v first s = (.error e, s) := by
  simp [setOption, setOptionCore, setOptionTail, sanitizeForSet, resolveForSet, Bind.bind, M.bind, M.get, hn, hb, hr,
    M.pure, getObj, ho, hv, M.ofExcept, M.fail]

/-- no builtin is called `opt`, the name the test stores below use -/
theorem isBuiltin_opt (s : Store) (sub : Option Str) (h : s.moduleOptions = []) :
    s.isBuiltin ⟨"opt".toList, sub, .host⟩ = false := by
  have : Tables.builtinNames.contains "opt".toList = false := by decide +kernel
  rw [Store.isBuiltin, this, h]
  rfl

/-- the hypotheses of `invalid_rejected` are satisfiable: combo option `opt`, value outside the choices -/
example : ∃ s k v id o e, (k.name == sPrefix) = false ∧ s.isBuiltin k = false ∧ resolveId s k = .ok id ∧
    s.heap[id]? = some o ∧ validate o.kind v = .error e :=
  ⟨run (Store.new false) [.addSystem ⟨"opt".toList, none, .host⟩ { kind := .combo ["a".toList, "b".toList], default := .str "a".toList }],
   ⟨"opt".toList, none, .host⟩, .str "zz".toList, 0,
   { kind := .combo ["a".toList, "b".toList], value := .str "a".toList, default := .str "a".toList,
     yielding := false, readonly := false, parent := none }, .meson,
   by decide +kernel, isBuiltin_opt _ _ (by rfl), by rfl, by rfl, by rfl⟩

/-! ## what the mutating calls report, and what hangs on it

`set_option` returns `changed`; `meson configure` saves only when some call reported a change, and the
`buildtype` → `debug`/`optimization` expansion runs only then.  So for the property ("the value from the
highest-priority source is the effective one", the command line of `meson configure` being the latest such source)
the report must be: *the effective value for that key changed*. -/

/-- **per-project override (`:n` or `sub:n`, only the global option object exists)**: `set_option` completes (the
option is not read-only, or this is a first invocation), reports `changed` **iff the value the project saw before —
its stored override `x`, else the global value — differs from the new one**, and afterwards the project sees the new
value.  Heap, key table and every other override are as before. -/
theorem set_override_reports_change_iff_effective_value_changes (s : Store) (ks : Key) (v w : Val) (first : Bool)
    (id : Nat) (o : Obj) (x : Option Val) (sub : Str) (hm : ks.machine = .host) (hs : ks.sub = some sub)
    (hn : (ks.name == sPrefix) = false) (hbt : (ks.name == sBuildtype) = false)
    (g : GoodSub ks id s o x) (hv : validate o.kind v = .ok w) (hro : o.readonly = false ∨ first = true) :
    ∃ changed s', setOption ks v first s = (.ok changed, s') ∧
      (changed = true ↔ getValueFor s ks ≠ .ok w) ∧
      getValueFor s' ks = .ok w ∧
      s'.heap = s.heap ∧ s'.options = s.options ∧ (∀ k', k' ≠ ks → alookup k' s'.augments = alookup k' s.augments) := by
  refine ⟨x.getD o.value != w, { s with augments := ainsert ks w s.augments }, ?_, ?_, ?_, rfl, rfl, ?_⟩
  · rw [setOption_override s ks v w first id o x sub hm hs hn hbt g hv]
    rcases hro with h | h <;> simp [h]
  · rw [g.value hm sub hs]
    by_cases e : x.getD o.value = w <;> simp [e]
  · exact (g.afterSet w).value hm sub hs
  · intro k' hk'
    simp [alookup_ainsert, Ne.symm hk']

/-- a read-only option: the same call outside a first invocation raises exactly when the value would change (after
the override was written, as in Python: the exception escapes, nothing is rolled back) -/
theorem set_override_readonly_raises_iff_changed (s : Store) (ks : Key) (v w : Val) (id : Nat) (o : Obj)
    (x : Option Val) (sub : Str) (hm : ks.machine = .host) (hs : ks.sub = some sub)
    (hn : (ks.name == sPrefix) = false) (hbt : (ks.name == sBuildtype) = false)
    (g : GoodSub ks id s o x) (hv : validate o.kind v = .ok w) (hro : o.readonly = true) :
    (getValueFor s ks = .ok w → (setOption ks v false s).1 = .ok false) ∧
    (getValueFor s ks ≠ .ok w → (setOption ks v false s).1 = .error .meson) := by
  rw [setOption_override s ks v w false id o x sub hm hs hn hbt g hv, g.value hm sub hs]
  by_cases e : x.getD o.value = w <;> simp [e, hro]

/-- the same through `set_from_configure_command` (what `meson configure -Dsub:n=v` runs; its `set_user_option` is, on
an override and for any `first_invocation`, `set_option`: `setUserOption_override_eq`): `dirty` is reported **iff** the
value the project sees changes -/
theorem configure_override_dirty_iff_effective_value_changes (s : Store) (ks : Key) (v w : Val)
    (id : Nat) (o : Obj) (x : Option Val) (sub : Str) (hm : ks.machine = .host) (hs : ks.sub = some sub)
    (hn : (ks.name == sPrefix) = false) (hbt : (ks.name == sBuildtype) = false)
    (g : GoodSub ks id s o x) (hv : validate o.kind v = .ok w) (hro : o.readonly = false) :
    ∃ dirty s', setFromConfigureCommand [(ks, some v)] s = (.ok dirty, s') ∧
      (dirty = true ↔ getValueFor s ks ≠ .ok w) ∧ getValueFor s' ks = .ok w := by
  obtain ⟨c, s', h1, h2, h3, _⟩ := set_override_reports_change_iff_effective_value_changes s ks v w false id o x sub hm hs
    hn hbt g hv (Or.inl hro)
  refine ⟨c, s', ?_, h2, h3⟩
  simp [setFromConfigureCommand, buildtypeFirst, hbt, setFromConfigure, configureOne, M.bind,
    setUserOption_override_eq s ks v false id o x sub hm hs g, h1, M.pure]

/-- **a registered, non-yielding option (global `n`, or a project option under its own key)**: `changed` **iff** its
effective value changes, and afterwards it is the new value -/
theorem set_registered_reports_change_iff_effective_value_changes (s : Store) (k : Key) (v w : Val) (first : Bool)
    (id : Nat) (o : Obj) (hm : k.machine = .host)
    (hn : (k.name == sPrefix) = false) (hbt : (k.name == sBuildtype) = false)
    (g : Good k id s o) (hv : validate o.kind v = .ok w) (hro : o.readonly = false ∨ first = true) :
    ∃ changed s', setOption k v first s = (.ok changed, s') ∧
      (changed = true ↔ getValueFor s k ≠ .ok w) ∧ getValueFor s' k = .ok w := by
  refine ⟨o.value != w, _, ?_, ?_, (g.afterSet w).value hm⟩
  · rw [setOption_existing s k v w first id o hm hn hbt g hv]
    rcases hro with h | h <;> simp [h]
  · rw [g.value hm]
    by_cases e : o.value = w <;> simp [e]

/-- "`buildtype` sets `debug`/`optimization` unless they are given explicitly" for a **per-project** buildtype
(`:buildtype`, `sub:buildtype`) on one `meson configure` command line, in either textual order
(`set_from_configure_command` moves every `buildtype` entry to the front; before that repair the explicit value
listed *before* the buildtype was overwritten: `-Dsub:optimization=g -Dsub:buildtype=release` gave `3`).
`-D:buildtype` on the `meson setup` command line is `setup_root_buildtype_unless_explicit`. -/
def configure_buildtype_unless_explicit_full : Prop :=
  ∀ sub ∈ [[], "sub".toList], ∀ (explicitFirst : Bool),
    let k (n : Str) : Key := ⟨n, some sub, .host⟩
    let bt : Key × Option Val := (k sBuildtype, some (.str "release".toList))
    let conf (a : Key × Option Val) : Store :=
      run (coreDataInit (Store.new false)).2 [.configure (if explicitFirst then [a, bt] else [bt, a])]
    (getValueFor (conf (k sOptimization, some (.str "g".toList))) (k sOptimization)).toOption = some (.str "g".toList) ∧
    (getValueFor (conf (k sDebug, some (.bool true))) (k sDebug)).toOption = some (.bool true) ∧
    (getValueFor (conf (k sDebug, some (.bool true))) (k sOptimization)).toOption = some (.str "3".toList)

/-! ## the documented eight-step order for subprojects -/

/-- `subproject_precedence`, merge level: what `initialize_from_subproject_call`
applies for option `n` of subproject `sub` is the highest-priority source present, in the documented order
8 > 7 > 6 > 5 > (4,3: global value stands) > 2.  (Source 1, and 3/4 themselves, were applied to the global
option by the top-level call; `override_wins` says the override, when present, wins over it.)
`ofirst a b` is `a` when it is defined, else `b`; `alast k d` is the binding of `k` in the dict `d`
(`dict_binding_is_lookup`). -/
theorem subproject_merge_precedence (sub n : Str) (m : Machine) (po : List Key) (ps spcall pdo cmd mf d : Dict)
    (h : mergeSub po ps sub spcall pdo cmd mf = .ok d) :
    alookup ⟨n, some sub, m⟩ d =
      ofirst (alast ⟨n, some sub, m⟩ cmd)
      (ofirst (alast ⟨n, some sub, m⟩ mf)
      (ofirst (alast ⟨n, none, m⟩ spcall)
      (ofirst (alast ⟨n, some sub, m⟩ ps)
      (if ((alast ⟨n, none, m⟩ cmd).isSome || (alast ⟨n, none, m⟩ mf).isSome)
            && !(po.contains ⟨n, some [], m⟩) then none
       else alast ⟨n, none, m⟩ pdo)))) :=
  mergeSub_lookup sub n m po ps spcall pdo cmd mf d h

theorem dict_binding_is_lookup (k : Key) (d : Dict) (h : (d.map Prod.fst).Nodup) : alast k d = alookup k d :=
  alast_eq_alookup k d h

example : mergeSub [] [] "sub".toList [] [(⟨"o".toList, none, .host⟩, .str "x".toList)] [] [] =
    .ok [(⟨"o".toList, some "sub".toList, .host⟩, .str "x".toList)] := by rfl

/-! ## top-level precedence through the whole call, generally

`Good k id s o` (Options/TopLemmas.lean) says: option `k` exists in `s` with object `id`, which currently is
`o`, is not yielding, has no override, is not a builtin (no path sanitisation), and no option of another
name shares its object (`OwnObject`; objects are allocated per key).  `cleaned kind v` is what `validate_value` makes
of `v` (`v` itself when it is rejected); `NoPrefix d`: no entry of `d` is named `prefix`. -/

/-- the dicts may hold any other options, valid or not, `buildtype`, subproject and build-machine keys, pending
options; only `prefix` entries and other variants of the same name are excluded.  If
`initialize_from_top_level_project_call` completes, the option holds the cleaned value of the first source that
gives it in the order command line, machine file, `project(default_options)`, and otherwise what it held before (its
declared default). -/
theorem toplevel_precedence (k : Key) (id : Nat) (s s' : Store) (o : Obj) (pdo cmd mf : Dict)
    (hm : k.machine = .host) (hs : k.sub = none)
    (hn : (k.name == sPrefix) = false) (hbt : (k.name == sBuildtype) = false)
    (hd : k.name ≠ sDebug ∧ k.name ≠ sOptimization)
    (hnp : (Tables.nopfxTable.map (·.1)).contains k.name = false)
    (g : Good k id s o)
    (h1 : NoPrefix pdo) (h2 : NoPrefix cmd) (h3 : NoPrefix mf)
    (hp : ∀ kv ∈ pdo, kv.1 = k ∨ kv.1.name ≠ k.name)
    (hc : ∀ kv ∈ cmd, kv.1 = k ∨ kv.1.name ≠ k.name)
    (hf : ∀ kv ∈ mf, kv.1 = k ∨ kv.1.name ≠ k.name)
    (hrun : initTop pdo cmd mf s = (.ok (), s')) :
    getValueFor s' k = .ok
      (match ofirst (alast k cmd) (ofirst (alast k mf) (alast k pdo)) with
       | some v => cleaned o.kind v
       | none => o.value) := by
  obtain ⟨o', g', _, _, hv⟩ := initTop_good k k id s s' o pdo cmd mf rfl hm hs hm (fun _ _ _ => rfl) hn hbt hd hnp g h1 h2 h3
    (fun kv h => (hp kv h).imp_right .inr) (fun kv h => (hc kv h).imp_right .inr) (fun kv h => (hf kv h).imp_right .inr) hrun
  exact (g'.value hm).trans (congrArg Except.ok hv)

/-- in every reachable store each key has its own object, inside the heap -/
theorem object_table_wellformed (ops : List Op) (cross : Bool) : Wf (run (Store.new cross) ops) :=
  wf_run ops _ (wf_new cross)

/-- `toplevel_precedence` for every store the API can produce: the `OwnObject` hypothesis is discharged by the
invariant, what remains are the facts about option `k` itself -/
theorem toplevel_precedence_reachable (ops : List Op) (cross : Bool) (k : Key) (id : Nat) (s' : Store) (o : Obj)
    (pdo cmd mf : Dict)
    (hm : k.machine = .host) (hs : k.sub = none)
    (hn : (k.name == sPrefix) = false) (hbt : (k.name == sBuildtype) = false)
    (hd : k.name ≠ sDebug ∧ k.name ≠ sOptimization)
    (hnp : (Tables.nopfxTable.map (·.1)).contains k.name = false)
    (hopt : alookup k (run (Store.new cross) ops).options = some id)
    (hobj : (run (Store.new cross) ops).heap[id]? = some o)
    (hnb : (run (Store.new cross) ops).isBuiltin k = false)
    (haug : alookup k (run (Store.new cross) ops).augments = none)
    (hny : o.yielding = false)
    (h1 : NoPrefix pdo) (h2 : NoPrefix cmd) (h3 : NoPrefix mf)
    (hp : ∀ kv ∈ pdo, kv.1 = k ∨ kv.1.name ≠ k.name)
    (hc : ∀ kv ∈ cmd, kv.1 = k ∨ kv.1.name ≠ k.name)
    (hf : ∀ kv ∈ mf, kv.1 = k ∨ kv.1.name ≠ k.name)
    (hrun : initTop pdo cmd mf (run (Store.new cross) ops) = (.ok (), s')) :
    getValueFor s' k = .ok
      (match ofirst (alast k cmd) (ofirst (alast k mf) (alast k pdo)) with
       | some v => cleaned o.kind v
       | none => o.value) :=
  toplevel_precedence k id _ s' o pdo cmd mf hm hs hn hbt hd hnp
    ⟨hopt, hobj, (object_table_wellformed ops cross).ownObject hopt, hnb, haug, hny⟩ h1 h2 h3 hp hc hf hrun

/-- `toplevel_precedence` for a **project option declared by the top-level project** (`:n` is the registered
option; `-Dn=v`, a machine file's `n = v` and `default_options: ['n=v']` address it without subproject), with the
same exclusions; in addition `n` is not a compiler/base/backend name, whose values wait as pending options. -/
theorem toplevel_precedence_project_option (n : Str) (id : Nat) (s s' : Store) (o : Obj) (pdo cmd mf : Dict)
    (hn : (n == sPrefix) = false) (hbt : (n == sBuildtype) = false)
    (hd : n ≠ sDebug ∧ n ≠ sOptimization)
    (hnp : (Tables.nopfxTable.map (·.1)).contains n = false)
    (hpend : acceptAsPending ⟨n, none, .host⟩ true = false)
    (hg : alookup (⟨n, none, .host⟩ : Key) s.options = none)
    (g : Good ⟨n, some [], .host⟩ id s o)
    (h1 : NoPrefix pdo) (h2 : NoPrefix cmd) (h3 : NoPrefix mf)
    (hp : ∀ kv ∈ pdo, kv.1 = ⟨n, none, .host⟩ ∨ kv.1.name ≠ n)
    (hc : ∀ kv ∈ cmd, kv.1 = ⟨n, none, .host⟩ ∨ kv.1.name ≠ n)
    (hf : ∀ kv ∈ mf, kv.1 = ⟨n, none, .host⟩ ∨ kv.1.name ≠ n)
    (hrun : initTop pdo cmd mf s = (.ok (), s')) :
    getValueFor s' ⟨n, some [], .host⟩ = .ok
      (match ofirst (alast ⟨n, none, .host⟩ cmd) (ofirst (alast ⟨n, none, .host⟩ mf) (alast ⟨n, none, .host⟩ pdo)) with
       | some v => cleaned o.kind v
       | none => o.value) := by
  obtain ⟨o', g', _, _, hv⟩ := initTop_good ⟨n, some [], .host⟩ ⟨n, none, .host⟩ id s s' o pdo cmd mf rfl rfl rfl rfl
    (fun st v ho => setUserOption_via_root st n v id (by rw [ho]; exact g.opt) (by rw [ho]; exact hg) hpend)
    hn hbt hd hnp g h1 h2 h3 (fun kv h => (hp kv h).imp_right .inr) (fun kv h => (hc kv h).imp_right .inr)
    (fun kv h => (hf kv h).imp_right .inr) hrun
  exact (g'.value rfl).trans (congrArg Except.ok hv)

/-- the frame the three rest on (`framed_initInv`), for one call: a `set_user_option` for an option of another name — whatever it does: write
an object, write an override, expand `buildtype`, reset the prefix directories, park a pending value, raise —
leaves everything `get_value_for k` depends on unchanged -/
theorem set_user_option_frame (k : Key) (id : Nat) (key : Key) (v : Val) (first : Bool) (s : Store)
    (hname : key.name ≠ k.name) (hnp : (Tables.nopfxTable.map (·.1)).contains k.name = false)
    (hd : key.name = sBuildtype → k.name ≠ sDebug ∧ k.name ≠ sOptimization)
    (hown : OwnObject k.name id s) : SameObs k id s (setUserOption key v first s).2 :=
  (Fr.setUserOption k id key v first hname hnp hd).run s hown

/-! ## subproject precedence through the whole call, generally

`GoodSub ks id s o x` (Options/SubLemmas.lean): the option is a global one (object `id` = `o`, not yielding, own
object), the subproject has no option object of its own under `ks = sub:n`, it is not a builtin with path
sanitisation, and `x` is the per-subproject override present before the call (`none` on a first configuration). -/

/-- the dicts may hold any other options, valid or not, `buildtype`, other subprojects, pending options; entries
naming `n` must be host-machine keys.  If `initialize_from_subproject_call` completes, what subproject `sub` sees for
option `n` is
* an override that already existed (`x`), else
* the cleaned value of the **last defined** source among the documented steps
  8 command line `sub:n`, 7 machine file `sub:n`, 6 `subproject(default_options:)`, 5 parent `sub:n`
  (`pending_subproject_options`, recorded by the top-level call), 2 the subproject's own `default_options` —
  step 2 only when neither machine file (3) nor command line (4) give the global `n` (or `n` is a top-level
  project option), else
* the global value `o.value`, which by `toplevel_precedence` is the first of steps 4, 3, 1, default. -/
theorem subproject_precedence (n sub : Str) (id : Nat) (s s' : Store) (o : Obj) (x : Option Val)
    (spcall pdo cmd mf : Dict)
    (hn : (n == sPrefix) = false) (hbt : (n == sBuildtype) = false)
    (hdn : n ≠ sDebug ∧ n ≠ sOptimization)
    (hnp : (Tables.nopfxTable.map (·.1)).contains n = false)
    (g : GoodSub ⟨n, some sub, .host⟩ id s o x)
    (hin : ∀ k ∈ (pdo ++ spcall ++ s.pendingSub ++ mf ++ cmd).map Prod.fst, k.name = n → k.machine = .host)
    (hrun : initSub sub spcall pdo cmd mf s = (.ok (), s')) :
    getValueFor s' ⟨n, some sub, .host⟩ = .ok (x.getD
      (((ofirst (alast ⟨n, some sub, .host⟩ cmd)
        (ofirst (alast ⟨n, some sub, .host⟩ mf)
        (ofirst (alast ⟨n, none, .host⟩ spcall)
        (ofirst (alast ⟨n, some sub, .host⟩ s.pendingSub)
        (if ((alast ⟨n, none, .host⟩ cmd).isSome || (alast ⟨n, none, .host⟩ mf).isSome)
              && !(s.projectOptions.contains ⟨n, some [], .host⟩) then none
         else alast ⟨n, none, .host⟩ pdo))))).map (cleaned o.kind)).getD o.value)) := by
  cases hd : mergeSub s.projectOptions s.pendingSub sub spcall pdo cmd mf with
  | error e =>
    simp [initSub, Bind.bind, M.bind, M.get, hd, M.ofExcept, M.fail] at hrun
  | ok d =>
    have hother := merged_other s.projectOptions s.pendingSub sub n spcall pdo cmd mf d hd hin
    rw [initSub_value ⟨n, some sub, .host⟩ id s s' o x sub spcall pdo cmd mf d rfl rfl hn hbt hdn hnp g hd hother hrun,
      mergeSub_lookup sub n .host s.projectOptions s.pendingSub spcall pdo cmd mf d hd]

/-! ## the two calls composed: the documented eight steps in one statement -/

/-- `initialize_from_top_level_project_call(pdoTop, cmd, mf)` followed by
`initialize_from_subproject_call(sub, spcall, pdoSub, cmd, mf)` — the same command line and machine files, as meson
passes them: for a global option `n` (a builtin-like option without path sanitisation; `Pair`: no object, project
option, override or recorded value under `sub:n` yet), if both calls complete, subproject `sub` sees the cleaned value
of the **last defined** of the documented sources

    1 parent `default_options` `n` < 2 the subproject's own `default_options` < 3 machine file `n` < 4 command line `n`
    < 5 parent `default_options` `sub:n` < 6 `subproject(default_options:)` < 7 machine file `sub:n` < 8 command line `sub:n`

else the value the option held before (its declared default).  (Step 2 yields to 3 and 4, which enter through the
global value together with 1 — `toplevel_precedence`; the entries may be mixed with any other options, valid or not,
`buildtype`, other subprojects, pending options.) -/
theorem subproject_precedence_composed (n sub : Str) (id : Nat) (s0 s1 s2 : Store) (o : Obj)
    (pdoTop cmd mf spcall pdoSub : Dict) (hsub : sub ≠ [])
    (hn : (n == sPrefix) = false) (hbt : (n == sBuildtype) = false)
    (hdn : n ≠ sDebug ∧ n ≠ sOptimization)
    (hnp : (Tables.nopfxTable.map (·.1)).contains n = false)
    (p : Pair n sub id s0.projectOptions s0 o none)
    (h1 : NoPrefix pdoTop) (h2 : NoPrefix cmd) (h3 : NoPrefix mf)
    (hp : ∀ kv ∈ pdoTop, kv.1 = ⟨n, none, .host⟩ ∨ kv.1 = ⟨n, some sub, .host⟩ ∨ kv.1.name ≠ n)
    (hc : ∀ kv ∈ cmd, kv.1 = ⟨n, none, .host⟩ ∨ kv.1 = ⟨n, some sub, .host⟩ ∨ kv.1.name ≠ n)
    (hf : ∀ kv ∈ mf, kv.1 = ⟨n, none, .host⟩ ∨ kv.1 = ⟨n, some sub, .host⟩ ∨ kv.1.name ≠ n)
    (hin : ∀ k ∈ (pdoSub ++ spcall).map Prod.fst, k.name = n → k.machine = .host)
    (hrun1 : initTop pdoTop cmd mf s0 = (.ok (), s1))
    (hrun2 : initSub sub spcall pdoSub cmd mf s1 = (.ok (), s2)) :
    getValueFor s2 ⟨n, some sub, .host⟩ = .ok
      (match ofirst (alast ⟨n, some sub, .host⟩ cmd)                                    -- 8
            (ofirst (alast ⟨n, some sub, .host⟩ mf)                                     -- 7
            (ofirst (alast ⟨n, none, .host⟩ spcall)                                     -- 6
            (ofirst (alast ⟨n, some sub, .host⟩ pdoTop)                                 -- 5
            (if ((alast ⟨n, none, .host⟩ cmd).isSome || (alast ⟨n, none, .host⟩ mf).isSome)
                  && !(s0.projectOptions.contains ⟨n, some [], .host⟩) then none
             else alast ⟨n, none, .host⟩ pdoSub)))) with                                -- 2, unless 3 or 4 is given
       | some v => cleaned o.kind v
       | none =>
         match ofirst (alast ⟨n, none, .host⟩ cmd)                                      -- 4
               (ofirst (alast ⟨n, none, .host⟩ mf)                                      -- 3
               (alast ⟨n, none, .host⟩ pdoTop)) with                                    -- 1
         | some v => cleaned o.kind v
         | none => o.value) := by
  obtain ⟨o1, p1, hk1, hv1⟩ := initTop_pair s0 s1 o none pdoTop cmd mf hsub hn hbt hdn hnp p h1 h2 h3 hp hc hf hrun1
  have hhost : ∀ (d : Dict), (∀ kv ∈ d, kv.1 = (⟨n, none, .host⟩ : Key) ∨ kv.1 = ⟨n, some sub, .host⟩ ∨ kv.1.name ≠ n) →
      ∀ k ∈ d.map Prod.fst, k.name = n → k.machine = .host := by
    intro d hd k hk hkn
    obtain ⟨kv, hkv, rfl⟩ := List.mem_map.mp hk
    rcases hd kv hkv with h | h | h
    · rw [h]
    · rw [h]
    · exact absurd hkn h
  have hin' : ∀ k ∈ (pdoSub ++ spcall ++ s1.pendingSub ++ mf ++ cmd).map Prod.fst, k.name = n → k.machine = .host := by
    simp only [List.map_append, List.forall_mem_append] at hin ⊢
    exact ⟨⟨⟨hin, p1.pshost⟩, hhost mf hf⟩, hhost cmd hc⟩
  rw [subproject_precedence n sub id s1 s2 o1 none spcall pdoSub cmd mf hn hbt hdn hnp p1.goodSub hin' hrun2,
    alast_eq_alookup _ _ p1.psnd, p1.ps, p1.proj, hk1, hv1, ofirst_none]
  generalize ofirst _ (ofirst _ (ofirst _ (ofirst _ _))) = x
  cases x <;> rfl

/-- in **any** store: a yielding subproject option without override whose parent pointer is the current object
of the top-level option `:n` reports exactly what the top-level project sees for `:n` -/
theorem yielding_reports_parent_option (s : Store) (n sub : Str) (idc idp : Nat) (c p : Obj)
    (hc : alookup ⟨n, some sub, .host⟩ s.options = some idc) (hco : s.heap[idc]? = some c)
    (hca : alookup ⟨n, some sub, .host⟩ s.augments = none)
    (hy : c.yielding = true) (hpar : c.parent = some idp)
    (hp : alookup ⟨n, some [], .host⟩ s.options = some idp) (hpo : s.heap[idp]? = some p)
    (hpa : alookup ⟨n, some [], .host⟩ s.augments = none) (hpy : p.yielding = false) :
    getValueFor s ⟨n, some sub, .host⟩ = getValueFor s ⟨n, some [], .host⟩ := by
  rw [getValueFor_inheriting s _ idc idp c p rfl hc hco hca hy hpar hpo,
    getValueFor_own rfl (resolveId_registered rfl hp) hpo hpa hpy]

/-- `yielding_takes_parent` through `initialize_from_subproject_call`: if no source addresses the yielding option
itself (the merged dict holds nothing for `sub:n`; entries naming `n` are host-machine keys), then after the call it
still reports the parent object's value — whatever else the call sets, expands, parks or rejects on the way (the
call's result may even be an exception) -/
theorem yielding_takes_parent_through_subproject_call (s : Store) (n sub : Str) (idc idp : Nat) (c p : Obj)
    (spcall pdo cmd mf d : Dict)
    (hdn : n ≠ sDebug ∧ n ≠ sOptimization)
    (hnp : (Tables.nopfxTable.map (·.1)).contains n = false)
    (hc : alookup ⟨n, some sub, .host⟩ s.options = some idc) (hco : s.heap[idc]? = some c)
    (hca : alookup ⟨n, some sub, .host⟩ s.augments = none)
    (hy : c.yielding = true) (hpar : c.parent = some idp) (hpo : s.heap[idp]? = some p)
    (hownc : OwnObject n idc s) (hownp : OwnObject n idp s)
    (hd : mergeSub s.projectOptions s.pendingSub sub spcall pdo cmd mf = .ok d)
    (hnone : alookup ⟨n, some sub, .host⟩ d = none)
    (hin : ∀ k ∈ (pdo ++ spcall ++ s.pendingSub ++ mf ++ cmd).map Prod.fst, k.name = n → k.machine = .host) :
    getValueFor (initSub sub spcall pdo cmd mf s).2 ⟨n, some sub, .host⟩ = .ok p.value := by
  have hP : ∀ kv ∈ d, kv.1.sub ≠ some sub ∨ kv.1.name ≠ n := by
    intro kv hkv
    rcases merged_other s.projectOptions s.pendingSub sub n spcall pdo cmd mf d hd hin kv hkv with h | h
    · exact absurd h (not_mem_of_alookup_none hnone kv hkv)
    · exact h
  have f1 := initSub_frame ⟨n, some sub, .host⟩ idc s sub spcall pdo cmd mf d hd hP hnp hdn hownc
  have f2 := initSub_frame ⟨n, some sub, .host⟩ idp s sub spcall pdo cmd mf d hd hP hnp hdn hownp
  generalize (initSub sub spcall pdo cmd mf s).2 = s' at f1 f2
  obtain ⟨_, ho, _, _, hh1, ha1⟩ := f1
  have hh2 := f2.2.2.2.2.1
  exact getValueFor_inheriting s' _ idc idp c p rfl (by rw [ho]; exact hc) (hh1.trans hco) (ha1.trans hca) hy hpar (hh2.trans hpo)

/-! ### through the whole state machine, for every subset of the sources

The scenarios below run the *complete* model (`add_system_option` / `add_project_option`,
`initialize_from_top_level_project_call`, `initialize_from_subproject_call`, `get_value_for`) on every subset of the
value sources with pairwise distinct values, and compare with the documented order (`effTop`, `effSub`).
They are checked by kernel evaluation for all 2^3 resp. 2^8 subsets (at top level the fourth source, the declared
default, is always present). -/

def kOpt : Key := ⟨"opt".toList, none, .host⟩
def kRoot : Key := ⟨"opt".toList, some [], .host⟩
def kSub : Key := ⟨"opt".toList, some "sub".toList, .host⟩
def cval (i : Nat) : Val := .str ['c', Char.ofNat (48 + i)]
def comboSpec : ObjSpec := { kind := .combo ((List.range 10).map (fun i => ['c', Char.ofNat (48 + i)])), default := cval 0 }
def src (b : Bool) (k : Key) (i : Nat) : Dict := if b then [(k, cval i)] else []

/-- documented top-level order: command line (3), machine file (2), `project(default_options)` (1), default (0) -/
def effTop (b : Fin 8) : Option Val :=
  some (if b.val.testBit 2 then cval 3 else if b.val.testBit 1 then cval 2 else if b.val.testBit 0 then cval 1 else cval 0)

/-- documented subproject order: the last present of sources 1..8, else the default -/
def effSub (b : Fin 256) : Option Val :=
  some ((List.range 8).foldl (fun acc i => if b.val.testBit i then cval (i + 1) else acc) (cval 0))

def topScenario (project : Bool) (b : Fin 8) : Option Val :=
  let s := run (Store.new false)
    [if project then .addProject kRoot comboSpec else .addSystem kOpt comboSpec,
     .initTop (src (b.val.testBit 0) kOpt 1) (src (b.val.testBit 2) kOpt 3) (src (b.val.testBit 1) kOpt 2)]
  (getValueFor s kRoot).toOption

def subScenario (b : Fin 256) : Option Val :=
  let bit (i : Nat) : Bool := b.val.testBit i
  let pdoTop := src (bit 0) kOpt 1 ++ src (bit 4) kSub 5
  let mf := src (bit 2) kOpt 3 ++ src (bit 6) kSub 7
  let cmd := src (bit 3) kOpt 4 ++ src (bit 7) kSub 8
  let s := run (Store.new false) [.addSystem kOpt comboSpec, .initTop pdoTop cmd mf,
    .initSub "sub".toList (src (bit 5) kOpt 6) (src (bit 1) kOpt 2) cmd mf]
  (getValueFor s kSub).toOption

/-- the store of `subScenario` before the two calls: the facts the precedence theorems ask of option `opt` and of
subproject `sub`'s view of it -/
theorem pair_opt : Pair "opt".toList "sub".toList 0 (run (Store.new false) [.addSystem kOpt comboSpec]).projectOptions
    (run (Store.new false) [.addSystem kOpt comboSpec])
    { kind := comboSpec.kind, value := cval 0, default := cval 0, yielding := false, readonly := false, parent := none }
    none := by
  have hps : (run (Store.new false) [.addSystem kOpt comboSpec]).pendingSub = [] := by rfl
  refine ⟨⟨by rfl, by rfl, (object_table_wellformed _ _).ownObject (k := kOpt) (by rfl), isBuiltin_opt _ _ (by rfl),
    by rfl, rfl⟩, by rfl, rfl, by rfl, isBuiltin_opt _ _ (by rfl), by rfl, ?_, by rfl, ?_⟩
  · rw [hps]
    exact List.nodup_nil
  · rw [hps]
    exact fun _ h => nomatch h

/-- the hypotheses of `toplevel_precedence` are satisfiable (and its conclusion is what the scenario shows) -/
example : Good kOpt 0 (run (Store.new false) [.addSystem kOpt comboSpec])
    { kind := comboSpec.kind, value := cval 0, default := cval 0, yielding := false, readonly := false, parent := none } :=
  pair_opt.good

/-- the hypotheses of `subproject_precedence` are satisfiable -/
example : GoodSub kSub 0 (run (Store.new false) [.addSystem kOpt comboSpec])
    { kind := comboSpec.kind, value := cval 0, default := cval 0, yielding := false, readonly := false, parent := none }
    none :=
  pair_opt.goodSub

/-- the hypotheses of `subproject_precedence_composed` are satisfiable: the store of `subScenario` before the calls -/
example : Pair "opt".toList "sub".toList 0 (run (Store.new false) [.addSystem kOpt comboSpec]).projectOptions
    (run (Store.new false) [.addSystem kOpt comboSpec])
    { kind := comboSpec.kind, value := cval 0, default := cval 0, yielding := false, readonly := false, parent := none }
    none :=
  pair_opt

/-- the hypotheses of `toplevel_precedence_project_option` are satisfiable: a combo project option `:opt` -/
example : Good kRoot 0 (run (Store.new false) [.addProject kRoot comboSpec])
      { kind := comboSpec.kind, value := cval 0, default := cval 0, yielding := false, readonly := false, parent := none } ∧
    alookup kOpt (run (Store.new false) [.addProject kRoot comboSpec]).options = none ∧
    acceptAsPending kOpt true = false :=
  ⟨⟨by rfl, by rfl, (object_table_wellformed _ _).ownObject (by rfl), isBuiltin_opt _ _ (by rfl), by rfl, rfl⟩,
    by rfl, by decide +kernel⟩

def yieldScenario (yielding : Bool) (b : Fin 8) : Option Val :=
  let s := run (Store.new false)
    [.addProject kRoot comboSpec,
     .initTop (src (b.val.testBit 0) kOpt 1) (src (b.val.testBit 2) kOpt 3) (src (b.val.testBit 1) kOpt 2),
     .updateProject "sub".toList [(kSub, { comboSpec with default := cval 9, yielding := yielding })],
     .initSub "sub".toList [] [] (src (b.val.testBit 2) kOpt 3) (src (b.val.testBit 1) kOpt 2)]
  (getValueFor s kSub).toOption

def kBt : Key := ⟨"buildtype".toList, none, .host⟩
def kDbg : Key := ⟨"debug".toList, none, .host⟩
def kOptim : Key := ⟨"optimization".toList, none, .host⟩
def sv (s : String) : Val := .str s.toList

def btScenario (pdo cmd : Dict) : Option Val × Option Val :=
  let s := run (Store.new false) [.initBuiltins, .initTop pdo (reorderCmd cmd) []]
  ((getValueFor s kDbg).toOption, (getValueFor s kOptim).toOption)

/-- one source (0 = `project(default_options)`, 1 = machine file, 2 = command line after the real re-ordering)
holding the given entries in the given textual order -/
def btFrom (src : Fin 3) (entries : Dict) : Option Val × Option Val :=
  let s := run (Store.new false) [.initBuiltins,
    .initTop (if src.val = 0 then entries else []) (if src.val = 2 then reorderCmd entries else [])
             (if src.val = 1 then entries else [])]
  ((getValueFor s kDbg).toOption, (getValueFor s kOptim).toOption)

def pair (first : Bool) (a b : Key × Val) : Dict := if first then [a, b] else [b, a]

/-- `buildtype_sets_dependents_unless_explicit`, full statement: in each of the three sources, for every
`buildtype` of the table, an explicitly given `debug` resp. `optimization` survives the `buildtype` expansion in
*either* textual order, and the other dependent still follows the table.  (Before the repair of
`initialize_from_top_level_project_call` this was false for `default_options` and machine files:
`['debug=true', 'buildtype=release']` ended with `debug=false`.) -/
def buildtype_unless_explicit_full : Prop :=
  ∀ row ∈ Tables.defaultDependents, ∀ (src : Fin 3) (explicitFirst : Bool),
    (∀ dbg : Bool,
      btFrom src (pair explicitFirst (kDbg, sv (if dbg then "true" else "false")) (kBt, .str row.1)) =
        (some (.bool dbg), some (.str row.2.1))) ∧
    (∀ o ∈ ["0", "g", "1", "2", "3", "s", "plain"],
      btFrom src (pair explicitFirst (kOptim, sv o) (kBt, .str row.1)) = (some (.bool row.2.2), some (sv o)))

/-! ### the same for a subproject: `buildtype` and an explicit dependent at any two of the steps that address
the subproject (2 own `default_options`, 5 parent `sub:opt`, 6 `subproject(default_options:)`, 7 machine file
`sub:opt`, 8 command line `sub:opt`), in either textual order when they share a step -/

def kS (n : String) : Key := ⟨n.toList, some "sub".toList, .host⟩
def kG (n : String) : Key := ⟨n.toList, none, .host⟩

/-- the five dicts `(pdoTop, pdoSub, spcall, mf, cmd)` with `n = v` placed at `step` -/
def atStep (step : Fin 5) (n : String) (v : Val) : Dict × Dict × Dict × Dict × Dict :=
  match step.val with
  | 0 => ([], [(kG n, v)], [], [], [])
  | 1 => ([(kS n, v)], [], [], [], [])
  | 2 => ([], [], [(kG n, v)], [], [])
  | 3 => ([], [], [], [(kS n, v)], [])
  | _ => ([], [], [], [], [(kS n, v)])

def subBt (sb sd : Fin 5) (depFirst : Bool) (dep : String) (dv : Val) : Option Val × Option Val × Option Val :=
  let a := atStep sd dep dv
  let b := atStep sb "buildtype" (sv "release")
  let j (x y : Dict) : Dict := if depFirst then x ++ y else y ++ x
  let pdoTop := j a.1 b.1
  let pdoSub := j a.2.1 b.2.1
  let spcall := j a.2.2.1 b.2.2.1
  let mf := j a.2.2.2.1 b.2.2.2.1
  let cmd := reorderCmd (j a.2.2.2.2 b.2.2.2.2)
  let s := run (Store.new false) [.initBuiltins, .initTop pdoTop cmd mf, .initSub "sub".toList spcall pdoSub cmd mf]
  ((getValueFor s (kS "buildtype")).toOption, (getValueFor s (kS "debug")).toOption,
   (getValueFor s (kS "optimization")).toOption)

theorem reorderCmd_buildtype_first (cmd : Dict) (v : Val) (h : alookup buildtypeKey cmd = some v) :
    reorderCmd cmd = (buildtypeKey, v) :: aerase buildtypeKey cmd := by
  simp [reorderCmd, h]

theorem reorderCmd_lookup (cmd : Dict) (k : Key) : alookup k (reorderCmd cmd) = alookup k cmd := by
  unfold reorderCmd
  cases h : alookup buildtypeKey cmd with
  | none => rfl
  | some v =>
    by_cases e : buildtypeKey = k
    · subst e; simp [alookup, h]
    · simp [alookup, e, alookup_aerase]

/-! ## the declared defaults as `CoreData.__init__` finalises them (coredata.py:236-263, 323-328) -/

theorem coredata_init_keeps_values_valid (s : Store) (h : HeapValid s) : HeapValid (coreDataInit s).2 :=
  Pres.coreDataInit.run s h

/-- what a builtin reports right after `CoreData.__init__`: its prefix-dependent value at the default prefix if it
has one, else its declared default — in a cross build the declared defaults of the table *after*
`builtin_options_libdir_cross_fixup` (regenerated from the live module on every run) -/
def builtinDefaultOk (cross : Bool) (row : Str × Kind × Val × Bool) : Bool :=
  let want : Val :=
    match alookup row.1 Tables.nopfxTable with
    | some m => (match alookup Tables.defaultPrefix m with | some v => .str v | none => row.2.2.1)
    | none => row.2.2.1
  (getValueFor (coreDataInit (Store.new cross)).2 ⟨row.1, none, .host⟩).toOption == some want

/-! ## options registered after the top-level call (backend, compiler, base options) -/

def kLate : Key := ⟨"backend_max_links".toList, none, .host⟩
def lateVal (i : Nat) : Val := .str [Char.ofNat (48 + i)]

/-- `-Dbackend_max_links`, machine file, `default_options` are parked as pending options by the top-level call in
their order of precedence; `add_system_option` (what `init_backend_options` does afterwards) applies the winner -/
def lateScenario (b : Fin 8) : Option Val :=
  let src (bit : Nat) (i : Nat) : Dict := if b.val.testBit bit then [(kLate, lateVal i)] else []
  let s := run (coreDataInit (Store.new false)).2
    [.initTop (src 0 1) (src 2 3) (src 1 2), .addSystem kLate { kind := .integer (some 0) none, default := .int 0 }]
  (getValueFor s kLate).toOption

/-- the three addressing forms of a late-registered option (`name`, `:name` for the top-level project only,
`sub:name`): each project sees the value addressed to it, else the global one, for every subset of the three forms
on the command line — both when the top-level project registers the option (then the subproject is initialised) and
when the subproject registers it first.  (Before the repair of `add_system_option_internal` the `:name` value stayed
pending forever.) -/
def lateAddrScenario (subFirst : Bool) (b : Fin 8) : Option Val × Option Val × Option Val :=
  let kR : Key := ⟨"backend_max_links".toList, some [], .host⟩
  let kS : Key := ⟨"backend_max_links".toList, some "sub".toList, .host⟩
  let ent (bit : Nat) (k : Key) (i : Nat) : Dict := if b.val.testBit bit then [(k, lateVal i)] else []
  let cmd := ent 0 kLate 1 ++ ent 1 kR 2 ++ ent 2 kS 3
  let spec : ObjSpec := { kind := .integer (some 0) none, default := .int 0 }
  let s := run (coreDataInit (Store.new false)).2
    (if subFirst then [.initTop [] cmd [], .initSub "sub".toList [] [] cmd [], .addSystem kS spec]
     else [.initTop [] cmd [], .addSystem kLate spec, .initSub "sub".toList [] [] cmd []])
  ((getValueFor s kLate).toOption, (getValueFor s kR).toOption, (getValueFor s kS).toOption)

def kDir (n : String) : Key := ⟨n.toList, none, .host⟩

def prefixScenario (pfx : String) : List (Option Val) :=
  let s := run (Store.new false) [.initBuiltins, .initTop [] [(prefixKey, sv pfx)] []]
  ["sysconfdir", "localstatedir", "sharedstatedir"].map (fun n => (getValueFor s (kDir n)).toOption)

/-! ## the scenarios, evaluated

The kernel keeps what it has computed within one declaration only, and the scenarios have most of their work in common
(`CoreData.__init__` on the builtin table, whose names are decoded at the first lookup that misses), so they are evaluated
in one statement, `evaluated_scenarios`; the theorems that follow it are its parts.  Instance search does not find
`Decidable` for that many facts at once (its size limit), so the two large groups are named and get their instances on
their own. -/

def BuildtypeScenarios : Prop :=
    configure_buildtype_unless_explicit_full ∧
    (∀ (explicitFirst : Bool),
      let k (n : Str) : Key := ⟨n, some [], .host⟩
      let bt : Key × Val := (k sBuildtype, .str "release".toList)
      let setup (a : Key × Val) : Store :=
        run (coreDataInit (Store.new false)).2 [.initTop [] (reorderCmd (if explicitFirst then [a, bt] else [bt, a])) []]
      (getValueFor (setup (k sOptimization, .str "1".toList)) (k sOptimization)).toOption = some (.str "1".toList) ∧
      (getValueFor (setup (k sDebug, .bool true)) (k sDebug)).toOption = some (.bool true)) ∧
    (∀ row ∈ Tables.defaultDependents, row.1 ≠ "debug".toList →
        btScenario [(kBt, .str row.1)] [] = (some (.bool row.2.2), some (.str row.2.1)) ∧
        btScenario [] [(kBt, .str row.1)] = (some (.bool row.2.2), some (.str row.2.1))) ∧
    buildtype_unless_explicit_full ∧
    (∀ (sb sd : Fin 5) (depFirst : Bool), depFirst = true ∨ sb = sd →
      subBt sb sd depFirst "debug" (sv "true") = (some (sv "release"), some (.bool true), some (sv "3")) ∧
      subBt sb sd depFirst "optimization" (sv "1") = (some (sv "release"), some (.bool false), some (sv "1")))

instance : Decidable BuildtypeScenarios := by
  unfold BuildtypeScenarios configure_buildtype_unless_explicit_full buildtype_unless_explicit_full
  infer_instance

/-- late options and prefix directories; the last part is where `setOption_buildtype_view` starts: both projects see a row
of `DEFAULT_DEPENDENTS` after `CoreData.__init__`, and every row can be written as overrides -/
def OtherScenarios : Prop :=
    (∀ b : Fin 8,
      lateScenario b = some (if b.val.testBit 2 then .int 3 else if b.val.testBit 1 then .int 2
                             else if b.val.testBit 0 then .int 1 else .int 0)) ∧
    (∀ (subFirst : Bool) (b : Fin 8),
      lateAddrScenario subFirst b =
        (let g : Val := if b.val.testBit 0 then .int 1 else .int 0
         (some g, some (if b.val.testBit 1 then .int 2 else g), some (if b.val.testBit 2 then .int 3 else g)))) ∧
    (prefixScenario "/usr" = [some (sv "/etc"), some (sv "/var"), some (sv "/var/lib")] ∧
      prefixScenario "/usr/local" = [some (sv "etc"), some (sv "/var/local"), some (sv "/var/local/lib")] ∧
      prefixScenario "/opt/x" = [some (sv "etc"), some (sv "var"), some (sv "com")]) ∧
    (∀ sub ∈ [[], "sub".toList],
      (∃ r ∈ Tables.defaultDependents, buildtypeView (coreDataInit (Store.new false)).2 sub = rowView r) ∧
      ∀ r ∈ Tables.defaultDependents, alookup r.1 Tables.defaultDependents = some r.2 ∧ r.1 ≠ sCustom ∧
        settable (coreDataInit (Store.new false)).2 ⟨sBuildtype, some sub, .host⟩ (.str r.1) = true ∧
        settable (coreDataInit (Store.new false)).2 ⟨sDebug, some sub, .host⟩ (.bool r.2.2) = true ∧
        settable (coreDataInit (Store.new false)).2 ⟨sOptimization, some sub, .host⟩ (.str r.2.1) = true)

instance : Decidable OtherScenarios := by
  unfold OtherScenarios
  infer_instance

theorem evaluated_scenarios :
    ((∀ (project : Bool) (b : Fin 8), topScenario project b = effTop b) ∧
     (∀ b : Fin 256, subScenario b = effSub b) ∧
     (∀ b : Fin 8, yieldScenario true b = effTop b ∧ yieldScenario false b = some (cval 9))) ∧
    BuildtypeScenarios ∧ OtherScenarios ∧
    (Tables.builtinOptions.all (builtinDefaultOk false) && Tables.builtinOptionsCross.all (builtinDefaultOk true)) = true := by
  decide +kernel

/-- `toplevel_precedence` on all 2^3 subsets of the three sources (the fourth source, the declared default, is
always present), for a builtin-like system option and for a top-level project option -/
theorem toplevel_precedence_all_subsets : ∀ (project : Bool) (b : Fin 8), topScenario project b = effTop b :=
  evaluated_scenarios.1.1

/-- `subproject_precedence` on all 2^8 subsets, through the whole state machine -/
theorem subproject_precedence_all_subsets : ∀ b : Fin 256, subScenario b = effSub b :=
  evaluated_scenarios.1.2.1

/-- a yielding subproject option has the parent's effective value, a non-yielding one its own default,
whatever subset of sources set the parent -/
theorem yielding_takes_parent_all_subsets : ∀ b : Fin 8,
    yieldScenario true b = effTop b ∧ yieldScenario false b = some (cval 9) :=
  evaluated_scenarios.1.2.2

theorem configure_buildtype_unless_explicit : configure_buildtype_unless_explicit_full :=
  evaluated_scenarios.2.1.1

/-- the same on the `meson setup` command line for the top-level project's own `-D:buildtype` (the re-ordering in
`cmdline.py` only knows the global key) -/
theorem setup_root_buildtype_unless_explicit : ∀ (explicitFirst : Bool),
    let k (n : Str) : Key := ⟨n, some [], .host⟩
    let bt : Key × Val := (k sBuildtype, .str "release".toList)
    let setup (a : Key × Val) : Store :=
      run (coreDataInit (Store.new false)).2 [.initTop [] (reorderCmd (if explicitFirst then [a, bt] else [bt, a])) []]
    (getValueFor (setup (k sOptimization, .str "1".toList)) (k sOptimization)).toOption = some (.str "1".toList) ∧
    (getValueFor (setup (k sDebug, .bool true)) (k sDebug)).toOption = some (.bool true) :=
  evaluated_scenarios.2.1.2.1

/-- `buildtype` alone sets `debug` and `optimization` by the documented table, from either source -/
theorem buildtype_sets_dependents :
    ∀ row ∈ Tables.defaultDependents, row.1 ≠ "debug".toList →
      btScenario [(kBt, .str row.1)] [] = (some (.bool row.2.2), some (.str row.2.1)) ∧
      btScenario [] [(kBt, .str row.1)] = (some (.bool row.2.2), some (.str row.2.1)) :=
  evaluated_scenarios.2.1.2.2.1

theorem buildtype_unless_explicit : buildtype_unless_explicit_full :=
  evaluated_scenarios.2.1.2.2.2.1

/-- on the command line the textual order does not matter: an explicit `debug` wins over `buildtype` -/
theorem buildtype_explicit_wins_on_cmdline :
    btScenario [] [(kDbg, sv "true"), (kBt, sv "release")] = (some (.bool true), some (sv "3")) ∧
    btScenario [] [(kBt, sv "release"), (kDbg, sv "true")] = (some (.bool true), some (sv "3")) := by
  have h := buildtype_unless_explicit ("release".toList, "3".toList, false) (by decide +kernel) 2
  exact ⟨(h true).1 true, (h false).1 true⟩

/-- the textual order matters only where the two entries share a step: a step fills one dict, so at different steps
each dict holds at most one of them -/
theorem subBt_order {sb sd : Fin 5} (h : sb ≠ sd) (dep : String) (dv : Val) :
    subBt sb sd false dep dv = subBt sb sd true dep dv := by
  obtain ⟨i, hi⟩ := sb
  obtain ⟨j, hj⟩ := sd
  have hi' : i = 0 ∨ i = 1 ∨ i = 2 ∨ i = 3 ∨ i = 4 := by omega
  have hj' : j = 0 ∨ j = 1 ∨ j = 2 ∨ j = 3 ∨ j = 4 := by omega
  rcases hi' with rfl | rfl | rfl | rfl | rfl <;> rcases hj' with rfl | rfl | rfl | rfl | rfl <;>
    first
    | exact absurd rfl h
    | simp only [subBt, atStep, List.nil_append, List.append_nil, if_true, Bool.false_eq_true, if_false]

/-- an explicit `debug` / `optimization` for the subproject wins over the subproject's `buildtype=release`
for all 25 pairs of steps and both orders (before the repair of `initialize_from_subproject_call` it was lost
in every one of them, e.g. own `default_options: ['buildtype=release']` with `-Dsub:optimization=1` gave 3) -/
theorem subproject_buildtype_unless_explicit : ∀ (sb sd : Fin 5) (depFirst : Bool),
    subBt sb sd depFirst "debug" (sv "true") = (some (sv "release"), some (.bool true), some (sv "3")) ∧
    subBt sb sd depFirst "optimization" (sv "1") = (some (sv "release"), some (.bool false), some (sv "1")) := by
  intro sb sd depFirst
  by_cases h : depFirst = true ∨ sb = sd
  · exact evaluated_scenarios.2.1.2.2.2.2 sb sd depFirst h
  · obtain ⟨hf, hne⟩ := not_or.mp h
    rw [(Bool.not_eq_true _).mp hf, subBt_order hne, subBt_order hne]
    exact evaluated_scenarios.2.1.2.2.2.2 sb sd true (.inl rfl)

theorem builtins_report_declared_default :
    (Tables.builtinOptions.all (builtinDefaultOk false) && Tables.builtinOptionsCross.all (builtinDefaultOk true)) = true :=
  evaluated_scenarios.2.2.2

/-- the documented special case: with a cross file, `libdir` defaults to `lib`, not to the build machine's guess -/
theorem cross_libdir_default_is_lib :
    (getValueFor (coreDataInit (Store.new true)).2 ⟨"libdir".toList, none, .host⟩).toOption
      = some (.str "lib".toList) := by
  have h := builtins_report_declared_default
  rw [Bool.and_eq_true, List.all_eq_true, List.all_eq_true] at h
  have hrow := h.2 ("libdir".toList, .string, .str "lib".toList, false) (by decide +kernel)
  have hnp : alookup "libdir".toList Tables.nopfxTable = none := by decide +kernel
  simp only [builtinDefaultOk, hnp] at hrow
  exact eq_of_beq hrow

/-- for every subset of the three sources the late-registered option ends with the value of the command line, else
the machine file, else `default_options`, else its default (after the repair of `Environment.init_backend_options`
this is also what the build directory reports; the extra round it made before is not part of the store) -/
theorem late_registered_option_precedence : ∀ b : Fin 8,
    lateScenario b = some (if b.val.testBit 2 then .int 3 else if b.val.testBit 1 then .int 2
                           else if b.val.testBit 0 then .int 1 else .int 0) :=
  evaluated_scenarios.2.2.1.1

theorem late_registered_option_addressing : ∀ (subFirst : Bool) (b : Fin 8),
    lateAddrScenario subFirst b =
      (let g : Val := if b.val.testBit 0 then .int 1 else .int 0
       (some g, some (if b.val.testBit 1 then .int 2 else g), some (if b.val.testBit 2 then .int 3 else g))) :=
  evaluated_scenarios.2.2.1.2.1

/-- one prefix of each of the three documented classes -/
theorem prefix_dirs_follow_prefix :
    prefixScenario "/usr" = [some (sv "/etc"), some (sv "/var"), some (sv "/var/lib")] ∧
    prefixScenario "/usr/local" = [some (sv "etc"), some (sv "/var/local"), some (sv "/var/local/lib")] ∧
    prefixScenario "/opt/x" = [some (sv "etc"), some (sv "var"), some (sv "com")] :=
  evaluated_scenarios.2.2.1.2.2.1

/-! ## `buildtype` given again for one project carries that project's `debug`/`optimization`

through the whole state machine on the builtin table: for the top-level project (`:buildtype`) and a subproject
(`sub:buildtype`), from every prior state — no override, or an override of any buildtype of the table, its dependents
in place — to every buildtype of the table, in particular **back to the value the global option has**; set through
`set_option`, `set_user_option` or `set_from_configure_command`. -/

def btAgain (sub : Str) (setter : Fin 3) (old : Option Str) (new : Str) : Option Val × Option Val × Option Val :=
  let k (n : Str) : Key := ⟨n, some sub, .host⟩
  let setOp (v : Str) : Op :=
    match setter.val with
    | 0 => .setOption (k sBuildtype) (.str v) false
    | 1 => .setUser (k sBuildtype) (.str v) false
    | _ => .configure [(k sBuildtype, some (.str v))]
  let s := run (coreDataInit (Store.new false)).2
    ((match old with | some b => [setOp b] | none => []) ++ [setOp new])
  ((getValueFor s (k sBuildtype)).toOption, (getValueFor s (k sDebug)).toOption, (getValueFor s (k sOptimization)).toOption)

/-- the call `btAgain` makes for `setter` -/
def btSetOp (sub : Str) (setter : Fin 3) (v : Str) : Op :=
  match setter.val with
  | 0 => .setOption ⟨sBuildtype, some sub, .host⟩ (.str v) false
  | 1 => .setUser ⟨sBuildtype, some sub, .host⟩ (.str v) false
  | _ => .configure [(⟨sBuildtype, some sub, .host⟩, some (.str v))]

theorem btAgain_eq (sub : Str) (setter : Fin 3) (old : Option Str) (new : Str) :
    btAgain sub setter old new = buildtypeView (run (coreDataInit (Store.new false)).2
      ((match old with | some b => [btSetOp sub setter b] | none => []) ++ [btSetOp sub setter new])) sub := by
  unfold btAgain buildtypeView btSetOp
  rfl

/-- whichever of the three it is, on a settable key the call is `set_option` -/
theorem run_btSetOp (sub : Str) (setter : Fin 3) (s : Store) (v : Str)
    (h : settable s ⟨sBuildtype, some sub, .host⟩ (.str v) = true) :
    run s [btSetOp sub setter v] = (setOption ⟨sBuildtype, some sub, .host⟩ (.str v) false s).2 := by
  obtain ⟨n, hn⟩ := setter
  have hn3 : n = 0 ∨ n = 1 ∨ n = 2 := by omega
  rcases hn3 with rfl | rfl | rfl
  · exact bind_pure_snd _ _ s
  · exact (bind_pure_snd _ _ s).trans (congrArg Prod.snd (setUserOption_settable false h))
  · exact (run_configure_one s _ _).trans (congrArg Prod.snd (setUserOption_settable false h))

theorem buildtype_given_again_carries_dependents :
    ∀ sub ∈ [[], "sub".toList], ∀ (setter : Fin 3), ∀ old ∈ none :: Tables.defaultDependents.map (fun r => some r.1),
      ∀ row ∈ Tables.defaultDependents,
        btAgain sub setter old row.1 = (some (.str row.1), some (.bool row.2.2), some (.str row.2.1)) := by
  intro sub hsub setter old hold row hrow
  obtain ⟨⟨r0, hr0, hv0⟩, hall⟩ := evaluated_scenarios.2.2.1.2.2.2 sub hsub
  rw [btAgain_eq]
  -- from here on the initial store is any store with these two properties
  generalize (coreDataInit (Store.new false)).2 = s0 at hv0 hall ⊢
  have step : ∀ (s : Store) (r r' : Str × Str × Bool), (∀ k v, settable s k v = settable s0 k v) →
      r ∈ Tables.defaultDependents → r' ∈ Tables.defaultDependents → buildtypeView s sub = rowView r →
      buildtypeView (run s [btSetOp sub setter r'.1]) sub = rowView r' ∧
      ∀ k v, settable (run s [btSetOp sub setter r'.1]) k v = settable s0 k v := by
    intro s r r' hs hr hr' hview
    obtain ⟨a, -⟩ := hall r hr
    obtain ⟨a', c', hb, hd, ho⟩ := hall r' hr'
    rw [run_btSetOp sub setter s r'.1 ((hs _ _).trans hb)]
    obtain ⟨h1, h2⟩ := setOption_buildtype_view s sub false r r' a a' c' hview ((hs _ _).trans hb)
      ((hs _ _).trans hd) ((hs _ _).trans ho)
    exact ⟨h1, fun k v => (h2 k v).trans (hs k v)⟩
  rcases List.mem_cons.mp hold with rfl | h
  · exact (step s0 r0 row (fun _ _ => rfl) hr0 hrow hv0).1
  · obtain ⟨r, hr, rfl⟩ := List.mem_map.mp h
    obtain ⟨h1, h2⟩ := step s0 r0 r (fun _ _ => rfl) hr0 hr hv0
    exact (step _ r row h2 hr hrow h1).1

end MesonModel.Props.C07
