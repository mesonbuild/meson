/-
C13 — Compiler argument lists honour the append/override/dedup contract.

The lazy object (`_container`, `pre`, `post`, `needs_override_check`) is `State`, its operations
`Op`/`step`; the eager meaning is the same operations with a flush after each (`stepEager`), and
`specAdd` is the queue-free statement of what `+=` means.  The theorems quantify over every
classifier pair (`K.dd`, `K.pp`), every initial container and every operation list; the tables
regenerated from the live Python classes on every run (`clikeTables`, `baseTables`) enter only in
the theorems and examples that name them, which are re-checked by evaluation on each run.
-/
import MesonModel.ArgList.SpecLemmas
import MesonModel.ArgList.NativeLemmas
import MesonModel.ArgList.ToNativeLemmas
import MesonModel.ArgList.AssembleLemmas
import MesonModel.ArgList.RefLemmas
import MesonModel.ArgList.RegexLemmas
import MesonModel.Generated.ArgTables
import MesonModel.Py.CharLists

namespace MesonModel.Props.C13
open MesonModel.ArgList MesonModel.Generated

/-- **Main theorem (one object).** For every class configuration, every initial container and every
sequence of `+=`/`append`/`extend`/`append_direct`/`extend_direct`/`extend_preserving_lflags`/
`insert`/`[]=`/`del`/`[]`/`list()`/`copy()`/`len()`/`== list`/`to_native`/`reverse`/`reversed`/`pop`/
`remove`/`index`/`count`/`in`/`clear` operations, in any interleaving, the outputs of the lazily
flushed object are those of the object that is flushed after every operation.  No operation is
excluded (since the repairs 936d363 and 936b1b4 `len()` and `==` flush too). -/
theorem lazy_refines_eager (cfg : Cfg) (init : List Arg) (ops : List Op) :
    runLazy cfg (mk init) ops = runEager cfg (mk init) ops := by
  have := runLazy_eq_runEager_flush cfg ops (mk init) (inv_mk init)
  rwa [flush_mk] at this

theorem lazy_refines_eager_from (cfg : Cfg) (s : State) (hi : Inv cfg.K s) (ops : List Op) :
    runLazy cfg s ops = runEager cfg (flush cfg.K s) ops :=
  runLazy_eq_runEager_flush cfg ops s hi

/-- the final list (what the backend writes to the command line) is the eager one -/
theorem lazy_final_eq_eager_final (cfg : Cfg) (init : List Arg) (ops : List Op) :
    finalLazy cfg (mk init) ops = finalEager cfg (mk init) ops := by
  have := finalLazy_eq_finalEager_flush cfg ops (mk init) (inv_mk init)
  rwa [flush_mk] at this

theorem reachable_inv (cfg : Cfg) (init : List Arg) (ops : List Op) :
    Inv cfg.K (ops.foldl (fun s op => (step cfg s op).1) (mk init)) :=
  List.foldlRecOn ops _ (inv_mk init) fun s hs op _ => inv_step cfg s op hs

/-- `copy()` reads exactly what `list()` reads -/
theorem copy_reads_flushed_list (cfg : Cfg) (s : State) :
    (step cfg s .copy).2 = (step cfg s .iter).2 := rfl

/-- `len()` is the length of what `list()` reads (the statement that was false before 936d363:
`['-Dx'] += ['-Dx']` gave 2) -/
theorem len_is_length_of_list (cfg : Cfg) (s : State) :
    (step cfg s .len).2 = .nat (flush cfg.K s).container.length ∧
    (step cfg s .iter).2 = .list (flush cfg.K s).container := ⟨rfl, rfl⟩

def cfgOf (T : Tables) : Cfg := { K := T.classify, always := T.alwaysDedupArgs, native := .plain }

/-- the former failing input of `len()`, on the live C-like tables -/
example : runLazy (cfgOf clikeTables) (mk [['-', 'D', 'x']]) [.iadd [['-', 'D', 'x']], .len] = [.none, .nat 1] := by
  decide +kernel

/-! ### several objects: copies, `a + b`, `list + a`, `a += b`, `Cls(compiler, a)`, `a == b`

A script (`HOp`) works on a heap of objects.  The eager meaning flushes *every* object after every
operation (`hstepEager`).  All heap operations are covered, including `a == b` between two objects
that both have pending arguments (stale before 936b1b4). -/

/-- **Main theorem (any number of objects, reads and copies in between).** -/
theorem heap_lazy_refines_eager (cfg : Cfg) (ops : List HOp) :
    hrun cfg [] ops = hrunEager cfg [] ops :=
  hrun_eq_hrunEager_flush cfg ops [] (by intro s hs; cases hs)

theorem heap_lazy_refines_eager_from (cfg : Cfg) (h : List State) (hh : HInv cfg.K h) (ops : List HOp) :
    hrun cfg h ops = hrunEager cfg (flushAll cfg.K h) ops :=
  hrun_eq_hrunEager_flush cfg ops h hh

theorem heap_reachable_inv (cfg : Cfg) (ops : List HOp) :
    HInv cfg.K (ops.foldl (fun h op => (hstep cfg h op).1) []) :=
  List.foldlRecOn ops _ (fun _ hs => nomatch hs) fun h hh op _ => hinv_hstep cfg h op hh

theorem eq_objects_compares_eager_lists (cfg : Cfg) (h : List State) (i j : Nat) (si sj : State)
    (hi : h[i]? = some si) (hj : h[j]? = some sj) (hne : i ≠ j) :
    (hstep cfg h (.eqObj i j)).2 =
      .bool (decide ((flush cfg.K si).container = (flush cfg.K sj).container)) := by
  have : (h.set i (flush cfg.K si))[j]? = some sj := by
    rw [List.getElem?_set_ne hne]
    exact hj
  simp [hstep, hi, this]

/-- the former failing input of `==`: `['-Dx','-O2'] == (['-Dx'] += ['-O2'])` -/
example : hrun (cfgOf clikeTables) []
    [.new [['-', 'D', 'x'], ['-', 'O', '2']], .new [['-', 'D', 'x']], .on 1 (.iadd [['-', 'O', '2']]), .eqObj 0 1] =
    [.none, .none, .none, .bool true] := by
  decide +kernel

/-! ### sharing: list objects as locations

`RefModel.lean` makes the Python list objects explicit: memory is a store of list cells, an object holds
the address of its `_container`, the caller's lists are addresses too, and operations write through
addresses (in place, or re-binding to a fresh cell -- for every policy `pol`).  `Sep m` says that all
these addresses are different.  With the constructor that copies (`alias = false`) the machine *is* the
value-level machine, so the theorems above apply to every location; with the constructor that keeps the
caller's list the property fails. -/

theorem ref_machine_is_value_machine (pol : State → Op → Bool) (cfg : Cfg) (m : RMem) (op : ROp) (hs : Sep m) :
    absM (rstep false pol cfg m op).1 = (vstep cfg (absM m) op).1 ∧
    (rstep false pol cfg m op).2 = (vstep cfg (absM m) op).2 ∧
    Sep (rstep false pol cfg m op).1 :=
  rstep_simulates pol cfg m op hs

/-- scripts interleave constructors from caller-owned lists, caller-side changes of those lists
afterwards, operations fed with them, and copies -/
theorem ref_run_is_value_run (pol : State → Op → Bool) (cfg : Cfg) (ops : List ROp) :
    rrun false pol cfg emptyMem ops = vrun cfg (absM emptyMem) ops :=
  rrun_eq_vrun pol cfg ops emptyMem sep_empty

theorem ops_do_not_touch_other_locations (pol : State → Op → Bool) (cfg : Cfg) (m : RMem) (i : Nat) (op : Op)
    (hs : Sep m) :
    (∀ j, j ≠ i → (absM (rstep false pol cfg m (.on i op)).1).objs[j]? = (absM m).objs[j]?) ∧
    (absM (rstep false pol cfg m (.on i op)).1).xs = (absM m).xs := by
  rw [(rstep_simulates pol cfg m (.on i op) hs).1]
  simp only [vstep]
  cases (absM m).objs[i]? with
  | none => exact ⟨fun _ _ => rfl, rfl⟩
  | some s => exact ⟨fun j hj => by simp [List.getElem?_set_ne (Ne.symm hj)], rfl⟩

/-- the list handed to `+=`, `extend_direct`, `extend_preserving_lflags`, `==` is only read -/
theorem list_parameter_is_not_modified (pol : State → Op → Bool) (cfg : Cfg) (m : RMem) (i k : Nat) (lop : LOp)
    (hs : Sep m) :
    (∀ j, j ≠ i → (absM (rstep false pol cfg m (.onX i lop k)).1).objs[j]? = (absM m).objs[j]?) ∧
    (absM (rstep false pol cfg m (.onX i lop k)).1).xs = (absM m).xs := by
  rw [(rstep_simulates pol cfg m (.onX i lop k) hs).1]
  simp only [vstep]
  cases (absM m).objs[i]? with
  | none => exact ⟨fun _ _ => rfl, rfl⟩
  | some s =>
    cases (absM m).xs[k]? with
    | none => exact ⟨fun _ _ => rfl, rfl⟩
    | some l => exact ⟨fun j hj => by simp [List.getElem?_set_ne (Ne.symm hj)], rfl⟩

/-- constructing an object from the caller's list leaves all existing objects and all caller-owned lists as
they were, and the caller changing its list afterwards changes no object -/
theorem constructor_and_caller_frame (pol : State → Op → Bool) (cfg : Cfg) (m : RMem) (k : Nat) (a : Arg)
    (hs : Sep m) :
    (absM (rstep false pol cfg m (.newX k)).1).xs = (absM m).xs ∧
    (∀ j, j < m.objs.length → (absM (rstep false pol cfg m (.newX k)).1).objs[j]? = (absM m).objs[j]?) ∧
    (absM (rstep false pol cfg m (.xappend k a)).1).objs = (absM m).objs := by
  rw [(rstep_simulates pol cfg m (.newX k) hs).1, (rstep_simulates pol cfg m (.xappend k a) hs).1]
  simp only [vstep]
  cases (absM m).xs[k]? with
  | none => exact ⟨rfl, fun _ _ => rfl, rfl⟩
  | some l =>
    refine ⟨rfl, fun j hj => ?_, rfl⟩
    have : j < (absM m).objs.length := by simpa [absM] using hj
    simp [List.getElem?_append_left this]

/-- the script of the counterexample: one caller-owned list, an object built from it and extended, then a
second object built from the same list (what `BuildTarget.get_single_compile_base_args` does per source) -/
def sharedListScript : List ROp :=
  [.xlist [['-', 'O', '2'], ['-', 'g']], .newX 0, .on 0 (.iadd [['-', 'w']]), .on 0 .iter, .newX 0, .on 1 .iter]

/-- with the copying constructor the second object reads the caller's two arguments ... -/
theorem copying_constructor_on_witness :
    rrun false pyPolicy (cfgOf baseTables) emptyMem sharedListScript =
      [.none, .none, .none, .list [['-', 'O', '2'], ['-', 'g'], ['-', 'w']], .none, .list [['-', 'O', '2'], ['-', 'g']]] := by
  decide +kernel

/-- ... **with a constructor that keeps the caller's list the property fails**: the flush of the first
object writes into the shared list, the second object starts with the first one's argument ("an argument
is invented"), and the machine is not the value-level one -/
theorem aliasing_constructor_counterexample :
    rrun true pyPolicy (cfgOf baseTables) emptyMem sharedListScript =
      [.none, .none, .none, .list [['-', 'O', '2'], ['-', 'g'], ['-', 'w']], .none,
       .list [['-', 'O', '2'], ['-', 'g'], ['-', 'w']]] ∧
    rrun true pyPolicy (cfgOf baseTables) emptyMem sharedListScript ≠
      vrun (cfgOf baseTables) (absM emptyMem) sharedListScript := by
  decide +kernel

/-- one eager `+=` on a flushed object computes `specAdd` -- for every class, without any condition
on the tables (since the repair 661f340 the once-only test also looks at the running batch) -/
theorem eager_add_eq_spec (cfg : Cfg) (L b : List Arg) :
    (stepEager cfg (mk L) (.iadd b)).1 = mk (specAdd cfg.K L b) := by
  simp only [stepEager, step]
  rw [flush_eq_mk, eager_iadd_container]

theorem lazy_add_eq_spec (cfg : Cfg) (L b : List Arg) :
    finalLazy cfg (mk L) [.iadd b] = specAdd cfg.K L b := by
  simp only [finalLazy, step]
  exact eager_iadd_container L b

theorem append_is_iadd (cfg : Cfg) (s : State) (a : Arg) : step cfg s (.append a) = step cfg s (.iadd [a]) := rfl

/-- a sufficient table condition for "no argument is both prepend-type and once-only" (not a hypothesis
of any theorem here; the harness reports it per class) -/
theorem tablesOk_implies_noPrependUnique (T : Tables) (h : tablesOk T = true) : NoPrependUnique T.classify :=
  tablesOk_sound T h

/-- **per-run obligation on the regenerated C-like tables**: the kinds the property statement names --
`-I`/`-L` prepend- and override-type, `-D`/`-U`/`-isystem` override-type and appended, `-lfoo`, library
files and `-pthread` once-only, plain flags and objects never de-duplicated -/
theorem clike_statement_kinds :
    ([(['-', 'I', 'a'], true, Dedup.overridden), (['-', 'L', 'a'], true, .overridden),
      (['-', 'D', 'x'], false, .overridden), (['-', 'U', 'x'], false, .overridden),
      (['-', 'i', 's', 'y', 's', 't', 'e', 'm', '/', 'i'], false, .overridden),
      (['-', 'l', 'f', 'o', 'o'], false, .unique), (['x', '.', 'a'], false, .unique),
      (['/', 'l', 'i', 'b', 'y', '.', 's', 'o', '.', '1'], false, .unique),
      (['-', 'p', 't', 'h', 'r', 'e', 'a', 'd'], false, .unique),
      (['-', 'O', '2'], false, .noDedup), (['m', '.', 'o'], false, .noDedup)] :
        List (Arg × Bool × Dedup)).all
      (fun t => clikeTables.pp t.1 == t.2.1 && decide (clikeTables.dd t.1 = t.2.2)) = true := by
  decide +kernel

variable (K : Classify)

theorem nothing_invented (L b : List Arg) (x : Arg) : x ∈ specAdd K L b → x ∈ L ∨ x ∈ b :=
  mem_specAdd_iff.mp

theorem nothing_lost (L b : List Arg) (x : Arg) : x ∈ L ∨ x ∈ b → x ∈ specAdd K L b :=
  mem_specAdd_iff.mpr

theorem nodedup_keep_order_and_multiplicity (L b : List Arg) :
    (specAdd K L b).filter (fun a => K.dd a = .noDedup) =
      (b.filter (fun a => K.pp a)).filter (fun a => K.dd a = .noDedup) ++
      L.filter (fun a => K.dd a = .noDedup) ++
      (b.filter (fun a => !K.pp a)).filter (fun a => K.dd a = .noDedup) :=
  filter_specAdd _ L fun x _ hx => by simpa using hx

theorem nodedup_appended_in_order (L b : List Arg) (h : ∀ a, K.pp a = true → K.dd a ≠ .noDedup) :
    (specAdd K L b).filter (fun a => K.dd a = .noDedup) =
      L.filter (fun a => K.dd a = .noDedup) ++ b.filter (fun a => K.dd a = .noDedup) := by
  rw [nodedup_keep_order_and_multiplicity]
  have h1 : (b.filter (fun a => K.pp a)).filter (fun a => K.dd a = .noDedup) = [] := by
    simp only [List.filter_filter, List.filter_eq_nil_iff]
    intro a _
    by_cases hp : K.pp a = true
    · simp [hp, h a hp]
    · simp [hp]
  have h2 : (b.filter (fun a => !K.pp a)).filter (fun a => K.dd a = .noDedup) =
      b.filter (fun a => K.dd a = .noDedup) := by
    rw [List.filter_filter]
    apply List.filter_congr
    intro a _
    by_cases hp : K.pp a = true
    · simp [hp, h a hp]
    · simp [hp]
  rw [h1, h2]
  simp

theorem override_survivor_unique (L b : List Arg) (x : Arg) (hx : K.dd x = .overridden) (hb : x ∈ b) :
    (specAdd K L b).count x = 1 :=
  count_specAdd_ov hx hb

/-- a `-I`/`-L`-like (prepend- and override-type) argument of the batch survives in the front block; the
old copy in the list is gone -/
theorem override_survivor_position_front (L b : List Arg) (x : Arg) (hx : K.dd x = .overridden)
    (hp : K.pp x = true) (hb : x ∈ b) :
    ∃ front rest, specAdd K L b = front ++ rest ∧ front.Sublist b ∧ (∀ y ∈ front, K.pp y = true) ∧
      x ∈ front ∧ x ∉ rest := by
  have hacc : x ∈ accept K L b := mem_accept_of_not_unique (by rw [hx]; decide) hb
  refine ⟨specFront K L b, specMid K L b ++ specBack K L b, by simp [specAdd_eq], ?_, ?_, ?_, ?_⟩
  · exact ((keepFirst_sublist _ _).trans List.filter_sublist).trans (accept_sublist L b)
  · exact fun y hy => (mem_specFront.mp hy).2
  · exact mem_specFront.mpr ⟨hacc, hp⟩
  · intro hm
    rcases List.mem_append.mp hm with hm | hm
    · exact (mem_specMid.mp hm).2 hacc hx
    · simpa [hp] using (mem_specBack.mp hm).2

/-- a `-D`/`-U`/`-isystem`-like (override-type, not prepend-type) argument of the batch survives once, in
the back block, after all that is left of the old list -/
theorem override_survivor_position_back (L b : List Arg) (x : Arg) (hx : K.dd x = .overridden)
    (hp : K.pp x = false) (hb : x ∈ b) :
    ∃ front back, specAdd K L b = front ++ back ∧ back.Sublist b ∧ (∀ y ∈ back, K.pp y = false) ∧
      x ∈ back ∧ back.count x = 1 ∧ x ∉ front ∧ (∀ y ∈ L, y ∈ specAdd K L b → y ∈ front ∨ y ∈ b) := by
  have hacc : x ∈ accept K L b := mem_accept_of_not_unique (by rw [hx]; decide) hb
  have hback : x ∈ (accept K L b).filter (fun a => !K.pp a) := List.mem_filter.mpr ⟨hacc, by simp [hp]⟩
  refine ⟨specFront K L b ++ specMid K L b, specBack K L b, specAdd_eq L b, ?_, ?_, ?_, ?_, ?_, ?_⟩
  · exact ((keepLast_sublist _).trans List.filter_sublist).trans (accept_sublist L b)
  · exact fun y hy => (mem_specBack.mp hy).2
  · exact mem_keepLast.mpr hback
  · exact count_keepLast_ov hx hback
  · intro hm
    rcases List.mem_append.mp hm with hm | hm
    · simpa [hp] using (mem_specFront.mp hm).2
    · exact (mem_specMid.mp hm).2 hacc hx
  · intro y hy hin
    rw [specAdd_eq] at hin
    rcases List.mem_append.mp hin with h | h
    · exact Or.inl h
    · exact Or.inr ((accept_sublist L b).subset (mem_specBack.mp h).1)

theorem once_only_not_repeated (L b : List Arg) (x : Arg) (hx : K.dd x = .unique) :
    (x ∈ L → (specAdd K L b).count x = L.count x) ∧
    (x ∉ L → x ∈ b → (specAdd K L b).count x = 1) ∧
    (x ∉ L → (specAdd K L b).count x ≤ 1) := by
  rw [count_specAdd_of_not_ov (by rw [hx]; decide), count_accept_unique hx]
  refine ⟨?_, ?_, ?_⟩
  · intro h
    simp [h]
  · intro h hb
    simp [h, hb, List.count_eq_zero.mpr h]
  · intro h
    simp only [h, if_false, List.count_eq_zero.mpr h]
    split <;> omega

theorem nodedup_repeat_kept (L : List Arg) (a : Arg) (ha : K.dd a = .noDedup) (hL : a ∉ L) :
    (specAdd K L [a, a]).count a = 2 := by
  rw [count_specAdd_of_not_ov (by rw [ha]; decide), count_accept_of_not_unique (by rw [ha]; decide),
    List.count_eq_zero.mpr hL]
  simp

theorem repeat_dropped_iff (L : List Arg) (a : Arg) (hL : a ∉ L) :
    (specAdd K L [a, a]).count a = 1 ↔ K.dd a ≠ .noDedup := by
  constructor
  · intro h hn
    rw [nodedup_repeat_kept K L a hn hL] at h
    omega
  · intro h
    cases hd : K.dd a with
    | noDedup => exact absurd hd h
    | unique => exact (once_only_not_repeated K L [a, a] a hd).2.1 hL (by simp)
    | overridden => exact override_survivor_unique K L [a, a] a hd (by simp)

/-- for the base class (live tables): the repeat is dropped exactly for library files -- a name with one
of the documented suffixes, or a path the recogniser of `dedup1_regex` accepts (per-run obligation on the
regenerated tables) -/
theorem base_repeat_dropped_iff_library_file (L : List Arg) (a : Arg) (hL : a ∉ L) :
    (specAdd baseTables.classify L [a, a]).count a = 1 ↔
      (endsWithAny baseTables.dedup1Suffixes a = true ∨ dedup1Regex a = true) := by
  rw [repeat_dropped_iff baseTables.classify L a hL]
  simp only [Tables.classify, Tables.dd, baseTables, startsWithAny, endsWithAny, List.any_nil, List.not_mem_nil,
    Bool.false_eq_true, false_or, or_self, if_false]
  split <;> simp_all

/-- **what the recogniser must accept**: every path `dir/libNAME.so[.N[.N[.N]]]` -- `lib` at the start of
a path component (after `/` or `\` or at the very start), no line break in the name, at most three
version components, each one or more digits *of any length* -- is once-only for the base class (and so for
every class that does not classify it earlier) -/
theorem versioned_library_is_once_only (dir name : List Char) (comps : List (List Char))
    (hd : DirOk dir) (hn : ∀ x ∈ name, x ≠ '\n') (hl : comps.length ≤ 3) (hc : ∀ c ∈ comps, NumComp c) :
    baseTables.dd (dir ++ ['l', 'i', 'b'] ++ name ++ ['.', 's', 'o'] ++ comps.flatMap (fun c => '.' :: c)) = .unique := by
  have h := versioned_so_accepted dir name comps hd hn hl hc
  simp only [Tables.dd, baseTables, startsWithAny, endsWithAny, List.any_nil, List.not_mem_nil,
    Bool.false_eq_true, false_or, or_self, if_false, h, or_true, if_true]

/-- the hypotheses are met by `/usr/lib64/libcrypto.so.10`, `libicuuc.so.74.2`, `libboost_system.so.1.83.0` -/
example : baseTables.dd "/usr/lib64/libcrypto.so.10".toList = .unique ∧ baseTables.dd "libicuuc.so.74.2".toList = .unique ∧
    baseTables.dd "libboost_system.so.1.83.0".toList = .unique := by
  char_lists
  decide +kernel

/-- and the other side of each alternative: four components, a trailing dot, a non-numeric component, no
`lib` at the start of a component, upper case, `.so` not at the end -/
example : baseTables.dd "libfoo.so.1.2.3.4".toList = .noDedup ∧ baseTables.dd "libfoo.so.1.".toList = .noDedup ∧
    baseTables.dd "libfoo.so.1a".toList = .noDedup ∧ baseTables.dd "xlibfoo.so.1".toList = .noDedup ∧
    baseTables.dd "LIBFOO.SO.1".toList = .noDedup ∧ baseTables.dd "libfoo.so.1.bar".toList = .noDedup ∧
    baseTables.dd "dir/foo.so.12".toList = .noDedup := by
  char_lists
  decide +kernel

/-! ### once-only arguments on the implementation's `+=`, every class

Until 661f340 `DCompilerArgs` (where `-Lx.a` is prepend-type *and* once-only) kept both copies of a repeat
inside one batch; the statement below was false for it; it holds for every table. -/

theorem once_only_holds (T : Tables) (L b : List Arg) (x : Arg) (hx : T.classify.dd x = .unique) (hL : x ∉ L) :
    ((stepEager (cfgOf T) (mk L) (.iadd b)).1.container).count x ≤ 1 := by
  rw [eager_add_eq_spec (cfgOf T) L b]
  exact (once_only_not_repeated T.classify L b x hx).2.2 hL

/-- the former failing input, for every classifier: a once-only argument added twice in ONE `+=` to an
empty list is kept once (`x = -Lx.a` on the D tables was F-ARG-D) -/
theorem repeat_in_one_batch_dropped (cfg : Cfg) (x : Arg) (hx : cfg.K.dd x = .unique) :
    (finalLazy cfg (mk []) [.iadd [x, x]]).count x = 1 := by
  rw [lazy_add_eq_spec]
  exact (once_only_not_repeated cfg.K [] [x, x] x hx).2.1 (by simp) (by simp)

/-- the D tables as of 661f340 (literal, so that the example does not depend on future table edits) -/
def dTablesLit : Tables where
  prependPrefixes := [['-', 'I'], ['-', 'L']]
  dedup2Prefixes := [['-', 'I']]
  dedup2Suffixes := []
  dedup2Args := []
  dedup1Prefixes := []
  dedup1Suffixes := [['.', 'l', 'i', 'b'], ['.', 'd', 'l', 'l'], ['.', 's', 'o'], ['.', 'd', 'y', 'l', 'i', 'b'], ['.', 'a']]
  dedup1Args := []
  alwaysDedupArgs := []

/-- the hypothesis is met by `-Lx.a` on the D tables (prepend-type and once-only), and the model computes
one copy -/
example : dTablesLit.classify.dd ['-', 'L', 'x', '.', 'a'] = .unique ∧ dTablesLit.pp ['-', 'L', 'x', '.', 'a'] = true ∧
    finalLazy (cfgOf dTablesLit) (mk []) [.iadd [['-', 'L', 'x', '.', 'a'], ['-', 'L', 'x', '.', 'a']]] =
      [['-', 'L', 'x', '.', 'a']] := by
  decide +kernel

/-- **placement of `-Wl,--start-group` / `-Wl,--end-group`, for every list**: every library-like argument
is inside the group, the group is contiguous, nothing else moves -/
theorem to_native_group_placement (l : List Arg) :
    (addGroups l = l ∧ (l.filter groupFlags).length ≤ 1) ∨
    ∃ pre a mid b post, l = pre ++ (a :: (mid ++ (b :: post))) ∧
      groupFlags a = true ∧ groupFlags b = true ∧
      (∀ x ∈ pre, groupFlags x = false) ∧ (∀ x ∈ post, groupFlags x = false) ∧
      addGroups l = pre ++ (startGroup :: a :: (mid ++ (b :: endGroup :: post))) :=
  group_placement l

/-- both branches of the placement theorem occur -/
example : addGroups [['-', 'l', 'a'], ['x'], ['y', '.', 'a']] =
    [startGroup, ['-', 'l', 'a'], ['x'], ['y', '.', 'a'], endGroup] ∧ addGroups [['-', 'l', 'a'], ['x']] = [['-', 'l', 'a'], ['x']] := by
  decide +kernel

def groupMarkers : List Arg :=
  [['-', 'W', 'l', ',', '-', '-', 's', 't', 'a', 'r', 't', '-', 'g', 'r', 'o', 'u', 'p'],
   ['-', 'W', 'l', ',', '-', '-', 'e', 'n', 'd', '-', 'g', 'r', 'o', 'u', 'p']]

theorem to_native_only_inserts_groups (l : List Arg) :
    (addGroups l).filter (fun a => a ∉ groupMarkers) = l.filter (fun a => a ∉ groupMarkers) :=
  filter_addGroups _ (by decide) (by decide) l

theorem to_native_strip_only_removes (dirs l : List Arg) : (stripDefaults dirs l).Sublist l := by
  unfold stripDefaults
  split
  · exact List.Sublist.refl _
  · generalize (badIdx dirs l 0).reverse = idx
    induction idx generalizing l with
    | nil => exact List.Sublist.refl _
    | cons i is ih => exact (ih (l.eraseIdx i)).trans (List.eraseIdx_sublist ..)

/-- without a GNU-like linker and without default directories `to_native` is the list itself -/
theorem to_native_plain (l : List Arg) : nativeList .plain l = l ∧ nativeList (.clike false []) l = l := by
  simp [nativeList, stripDefaults]

/-! ### `to_native` as a whole: flush, group markers, default-include stripping

`CLikeCompilerArgs.to_native` = `flush_pre_post`, then (GNU-like linkers) the group markers, then the removal
of `-isystem <default include dir>`, then `compiler.unix_args_to_native` (the identity copy of
`Compiler.unix_args_to_native` for every compiler the harness runs; MSVC-style translation is not modelled).
`DirsAbs dirs`: the default directories are absolute paths -- they are `os.path.realpath` results. -/

/-- **the index loop is the index-free pass `stripSpec`**: a bare `-isystem` followed by a default directory
goes together with the directory, a joined `-isystem<dir>`/`-isystem=<dir>` naming one goes, all else stays -/
theorem to_native_strip_is_spec (dirs l : List Arg) (hd : DirsAbs dirs) :
    stripDefaults dirs l = stripSpec dirs l :=
  stripDefaults_eq_stripSpec dirs (dirsOk_of_abs hd) l

/-- the hypothesis is needed: with a "directory" that itself looks like `-isystem` the index list repeats
an index and an unrelated argument is popped -/
example : stripDefaults [isys] [isys, isys, isys, ['k']] = [] ∧ stripSpec [isys] [isys, isys, isys, ['k']] = [isys, ['k']] := by
  decide +kernel

/-- **nothing is invented but the two markers, order is kept** (every class flavour, every directory list) -/
theorem to_native_nothing_invented (n : Native) (l : List Arg) :
    ((nativeList n l).filter (fun a => a ∉ groupMarkers)).Sublist l := by
  cases n with
  | plain => exact List.filter_sublist
  | clike gnu dirs =>
    simp only [nativeList]
    refine ((to_native_strip_only_removes dirs _).filter _).trans ?_
    cases gnu
    · exact List.filter_sublist
    · simp only [if_true]
      rw [to_native_only_inserts_groups]
      exact List.filter_sublist

/-- **nothing is lost but default-directory `-isystem` arguments**: the arguments that are not the bare word
`-isystem`, not a joined form naming a default directory, not a default directory and not a marker come
out exactly as they went in -- same order, same multiplicity -/
theorem to_native_nothing_lost (gnu : Bool) (dirs l : List Arg) (hd : DirsAbs dirs) (p : Arg → Bool)
    (hp : ∀ x, p x = true → survives dirs x = true ∧ x ∉ groupMarkers) :
    (nativeList (.clike gnu dirs) l).filter p = l.filter p := by
  rw [nativeList_clike gnu dirs l hd, stripSpec_filter dirs p (fun x hx => (hp x hx).1)]
  cases gnu
  · rfl
  · have hm : ∀ m ∈ groupMarkers, p m = false := fun m hm => by
      cases h : p m
      · rfl
      · exact absurd hm (hp m h).2
    exact filter_addGroups p (hm _ (by decide)) (hm _ (by decide)) l

theorem to_native_keeps_count (gnu : Bool) (dirs l : List Arg) (hd : DirsAbs dirs) (x : Arg)
    (hx : survives dirs x = true) (hm : x ∉ groupMarkers) :
    (nativeList (.clike gnu dirs) l).count x = l.count x := by
  have h := to_native_nothing_lost gnu dirs l hd (fun y => y == x)
    (by
      intro y hy
      simp at hy
      subst hy
      exact ⟨hx, hm⟩)
  rw [List.count_eq_length_filter, List.count_eq_length_filter, h]

/-- the hypotheses are met by ordinary arguments, and a joined default directory does not survive -/
example : survives [['/', 'u']] ['-', 'l', 'm'] = true ∧ survives [['/', 'u']] ['-', 'i', 's', 'y', 's', 't', 'e', 'm', '/', 'v'] = true ∧
    survives [['/', 'u']] ['-', 'i', 's', 'y', 's', 't', 'e', 'm', '/', 'u'] = false ∧ DirsAbs [['/', 'u']] := by
  refine ⟨by decide, by decide, by decide, ?_⟩
  intro d hd
  simp at hd
  subst hd
  rfl

/-- **the markers enclose every library argument** (GNU-like linker): what is left of `pre` and `post`, outside
the markers, holds no library-like argument -/
theorem to_native_markers_enclose_libraries (dirs l : List Arg) (hd : DirsAbs dirs) :
    ((l.filter groupFlags).length ≤ 1 ∧ nativeList (.clike true dirs) l = stripSpec dirs l) ∨
    ∃ pre span post, l = pre ++ span ++ post ∧ 2 ≤ (span.filter groupFlags).length ∧
      nativeList (.clike true dirs) l =
        stripSpec dirs pre ++ startGroup :: (stripSpec dirs span ++ endGroup :: stripSpec dirs post) ∧
      (∀ x ∈ stripSpec dirs pre, groupFlags x = false) ∧ (∀ x ∈ stripSpec dirs post, groupFlags x = false) := by
  rcases nativeList_gnu_shape dirs l hd with h | ⟨pre, a, mid, b, post, hl, ha, hb, hpre, hpost, hn⟩
  · exact Or.inl h
  · refine Or.inr ⟨pre, a :: (mid ++ [b]), post, by simp [hl], ?_, hn,
      fun x hx => hpre x (mem_stripSpec hx), fun x hx => hpost x (mem_stripSpec hx)⟩
    simp only [List.filter_cons, ha, if_true, List.filter_append, hb, List.filter_nil, List.length_cons,
      List.length_append, List.length_nil]
    omega

/-- **the markers appear at most once more than in the input**, and only as a pair, only for a GNU-like
linker with at least two library-like arguments -/
theorem to_native_markers_at_most_once (gnu : Bool) (dirs l : List Arg) (hd : DirsAbs dirs) :
    ((nativeList (.clike gnu dirs) l).count startGroup = l.count startGroup ∧
      (nativeList (.clike gnu dirs) l).count endGroup = l.count endGroup) ∨
    (gnu = true ∧ 2 ≤ (l.filter groupFlags).length ∧
      (nativeList (.clike gnu dirs) l).count startGroup = l.count startGroup + 1 ∧
      (nativeList (.clike gnu dirs) l).count endGroup = l.count endGroup + 1) := by
  rw [count_nativeList gnu dirs l hd (survives_startGroup hd), count_nativeList gnu dirs l hd (survives_endGroup hd)]
  cases gnu
  · exact Or.inl ⟨rfl, rfl⟩
  · rw [if_pos rfl]
    rcases group_placement l with ⟨h, _⟩ | ⟨pre, a, mid, b, post, hl, ha, hb, _, _, hg⟩
    · rw [h]
      exact Or.inl ⟨rfl, rfl⟩
    · have e1 : (endGroup == startGroup) = false := by decide
      have e2 : (startGroup == endGroup) = false := by decide
      refine Or.inr ⟨rfl, ?_, ?_, ?_⟩
      · rw [hl]
        simp only [List.filter_cons, ha, if_true, List.filter_append, hb, List.length_cons, List.length_append]
        omega
      · rw [hg, hl]
        simp only [List.count_append, List.count_cons, beq_self_eq_true, if_true, e1, Bool.false_eq_true, if_false]
        omega
      · rw [hg, hl]
        simp only [List.count_append, List.count_cons, beq_self_eq_true, if_true, e2, Bool.false_eq_true, if_false]
        omega

theorem to_native_markers_fresh (gnu : Bool) (dirs l : List Arg) (hd : DirsAbs dirs)
    (h1 : startGroup ∉ l) (h2 : endGroup ∉ l) :
    (nativeList (.clike gnu dirs) l).count startGroup ≤ 1 ∧ (nativeList (.clike gnu dirs) l).count endGroup ≤ 1 := by
  have c1 := List.count_eq_zero.mpr h1
  have c2 := List.count_eq_zero.mpr h2
  rcases to_native_markers_at_most_once gnu dirs l hd with ⟨a, b⟩ | ⟨_, _, a, b⟩ <;> omega

theorem to_native_non_gnu (dirs l : List Arg) (hd : DirsAbs dirs) :
    nativeList (.clike false dirs) l = stripSpec dirs l :=
  nativeList_clike false dirs l hd

/-- both branches on one list: GNU-like with default directories, and not GNU-like -/
example : nativeList (.clike true [['/', 'u']]) [['-', 'l', 'a'], isys, ['/', 'u'], ['x', '.', 'a'], isys ++ ['/', 'u'], ['m', '.', 'o']] =
      [startGroup, ['-', 'l', 'a'], ['x', '.', 'a'], endGroup, ['m', '.', 'o']] ∧
    nativeList (.clike false [['/', 'u']]) [['-', 'l', 'a'], isys, ['/', 'u'], ['x', '.', 'a'], isys ++ ['/', 'u'], ['m', '.', 'o']] =
      [['-', 'l', 'a'], ['x', '.', 'a'], ['m', '.', 'o']] := by
  decide +kernel

/-- **`to_native(copy=True)` does not modify the receiver**: the object is left flushed -- the same eager
list -- and every later operation sequence gives the outputs it would have given without the call -/
theorem to_native_copy_leaves_receiver (cfg : Cfg) (s : State) (hi : Inv cfg.K s) (ops : List Op) :
    (step cfg s (.toNative true)).1 = flush cfg.K s ∧
    runLazy cfg (step cfg s (.toNative true)).1 ops = runLazy cfg s ops ∧
    finalLazy cfg (step cfg s (.toNative true)).1 ops = finalLazy cfg s ops := by
  refine ⟨rfl, ?_, ?_⟩
  · show runLazy cfg (flush cfg.K s) ops = _
    rw [runLazy_eq_runEager_flush cfg ops _ (inv_flush s), flush_flush, ← runLazy_eq_runEager_flush cfg ops s hi]
  · show finalLazy cfg (flush cfg.K s) ops = _
    rw [finalLazy_eq_finalEager_flush cfg ops _ (inv_flush s), flush_flush, ← finalLazy_eq_finalEager_flush cfg ops s hi]

/-- whereas `copy=False` turns the receiver into the native list -/
theorem to_native_in_place (cfg : Cfg) (s : State) :
    (step cfg s (.toNative false)).1.container = nativeList cfg.native (flush cfg.K s).container := rfl

theorem finalLazy_eq_foldl (cfg : Cfg) (ops : List Op) (s : State) :
    finalLazy cfg s ops = (flush cfg.K (ops.foldl (fun s op => (step cfg s op).1) s)).container := by
  induction ops generalizing s with
  | nil => rfl
  | cons op ops ih => exact ih _

/-- after any operation sequence on a constructed object, `to_native` returns the native form of the
*eager* final list -/
theorem to_native_of_lazy_is_native_of_eager (cfg : Cfg) (init : List Arg) (ops : List Op) (c : Bool) :
    (step cfg (ops.foldl (fun s op => (step cfg s op).1) (mk init)) (.toNative c)).2 =
      .list (nativeList cfg.native (finalEager cfg (mk init) ops)) := by
  rw [← lazy_final_eq_eager_final, finalLazy_eq_foldl]
  rfl

/-! ### the backend's assembly of one compile line

`Assemble.lean` spells out, group by group, what `_generate_single_compile_base_args`,
`generate_basic_compiler_args`, `_generate_single_compile_target_args` and `_generate_single_compile` add
and in which order (`Sources`: the abstract argument groups and the conditions the code tests). -/

/-- **the assembled lazy objects denote the eager fold**: the list the backend reads is the base-option list,
eagerly extended by the target list, which is itself the eager fold over the groups in the documented order
(with the `/Zi` fix after the `<lang>_args` option group) -/
theorem backend_assembly_is_eager (K : Classify) (src : Sources) : compileLine K src = compileSpec K src :=
  compileLine_eq src

theorem to_native_of_compile_line (cfg : Cfg) (src : Sources) (c : Bool) :
    (step cfg (compileLazy cfg.K src) (.toNative c)).2 = .list (nativeList cfg.native (compileSpec cfg.K src)) := by
  rw [← backend_assembly_is_eager]
  rfl

/-- the documented order of the groups of the target list, for an executable with `werror`, one found
dependency, implicit include directories and one `include_directories` object -/
example (a b c d e f g h i j k : List Arg) :
    let src : Sources := {
      visibility := [], baseOpts := [], noStdlib := a, always := b, warn := c, werror := true, werrorArgs := d,
      optionCompile := [], optionStd := [], optimization := [], debug := [], project := e, globalArgs := f, ext := g,
      kind := .executable true, picArgs := [], pieArgs := h, deps := [⟨true, i, []⟩, ⟨false, k, k⟩], fortran := false, fortranIncs := [],
      showDep := [], implicitIncs := true, customTargetDirs := [], incDirs := [⟨[(j, k)], []⟩], extra := k, isD := false, dFeatures := [],
      srcDirInc := a, buildDirInc := b, privateDirInc := c }
    earlyGroups src ++ basicLateGroups src ++ ninjaGroups src =
      [a, b, c, d, [], [], [], [], e, f, g, h, i, [], [], [], j, k, k, a, b, c] := by
  intro src
  rfl

/-- **a later-added setting wins** (`-D`/`-U`/`-isystem`-like: override-type, appended): if `y` is added by
group `g` and by no later group, and `x` is in the list by then and not added again from `g` on, then in the
assembled list `x` comes before `y`, and `y` occurs exactly once -- the compiler sees the later setting last -/
theorem later_setting_wins (K : Classify) (L0 : List Arg) (B : List (List Arg)) (g : List Arg) (C : List (List Arg))
    (x y : Arg) (hx : x ∈ assembleFrom K L0 B) (hxg : x ∉ g) (hxC : ∀ c ∈ C, x ∉ c)
    (hy : y ∈ g) (hyC : ∀ c ∈ C, y ∉ c) (hd : K.dd y = .overridden) (hp : K.pp y = false) :
    [x, y].Sublist (assembleFrom K L0 (B ++ g :: C)) ∧ (assembleFrom K L0 (B ++ g :: C)).count y = 1 :=
  assembleFrom_after_group L0 B g C x y hxC hyC hy hd [x, y] (by simp)
    ((pair_specAdd _ g x y hx hxg hy (by rw [hd]; decide)).1 hp)

/-- **the `-I`/`-L` of a later group goes in front** (override- and prepend-type): under the same conditions
`y` comes before `x`, and occurs exactly once -- the later-added directory is searched first -/
theorem later_include_goes_in_front (K : Classify) (L0 : List Arg) (B : List (List Arg)) (g : List Arg)
    (C : List (List Arg)) (x y : Arg) (hx : x ∈ assembleFrom K L0 B) (hxg : x ∉ g) (hxC : ∀ c ∈ C, x ∉ c)
    (hy : y ∈ g) (hyC : ∀ c ∈ C, y ∉ c) (hd : K.dd y = .overridden) (hp : K.pp y = true) :
    [y, x].Sublist (assembleFrom K L0 (B ++ g :: C)) ∧ (assembleFrom K L0 (B ++ g :: C)).count y = 1 :=
  assembleFrom_after_group L0 B g C x y hxC hyC hy hd [y, x] (by simp [or_comm])
    ((pair_specAdd _ g x y hx hxg hy (by rw [hd]; decide)).2 hp)

/-- what "`x` is in the list by then" means: it was there at the start or an earlier group added it -/
theorem in_assembled_iff (K : Classify) (L0 : List Arg) (gs : List (List Arg)) (x : Arg) :
    x ∈ assembleFrom K L0 gs ↔ x ∈ L0 ∨ ∃ g ∈ gs, x ∈ g := mem_assembleFrom

/-- the last step of `_generate_single_compile`: a target-level setting wins over the base-option list, a
target-level `-I` goes in front of it -/
theorem target_list_over_base_list (K : Classify) (src : Sources) (x y : Arg)
    (hx : x ∈ assembleFrom K [] [src.visibility, src.baseOpts]) (hxT : x ∉ targetArgsSpec K src)
    (hy : y ∈ targetArgsSpec K src) (hd : K.dd y = .overridden) :
    (K.pp y = false → [x, y].Sublist (compileSpec K src)) ∧ (K.pp y = true → [y, x].Sublist (compileSpec K src)) :=
  pair_specAdd _ _ x y hx hxT hy (by rw [hd]; decide)

/-- **shape of every assembled list**: started from an empty list, the prepend-type arguments (`-I`, `-L`)
form a front block and everything else follows -/
theorem assembled_blocks (K : Classify) (gs : List (List Arg)) :
    ∃ A B, assembleFrom K [] gs = A ++ B ∧ (∀ a ∈ A, K.pp a = true) ∧ (∀ b ∈ B, K.pp b = false) :=
  assembleFrom_blocks gs [] [] [] rfl (by simp) (by simp)

/-- the three statements on the live C-like tables: `-DX=1` of the first group, `-DX=2` of the last; include
directories of three groups, `-Ia` given again by the last -/
example :
    assembleFrom clikeTables.classify [] ["-DX=1".toList :: ["-Ia".toList], ["-O2".toList, "-Ib".toList], ["-DX=2".toList, "-Ia".toList]] =
      ["-Ia".toList, "-Ib".toList, "-DX=1".toList, "-O2".toList, "-DX=2".toList] := by
  char_lists
  decide +kernel

end MesonModel.Props.C13
