/-
C01 — build definitions evaluate exactly as the language reference prescribes.

Property theorems over the evaluator model (`MesonModel/Eval/Model.lean`), for ALL trees / values / states.  The
operator and method tables the statements depend on are the regenerated ones (`Generated/EvalTables.lean`).
-/
import MesonModel.Eval.Lemmas
import MesonModel.Eval.Frame
import MesonModel.Eval.StrLemmas

namespace MesonModel.Props.C01
open MesonModel.Eval MesonModel.Generated MesonModel.Py

/-- the state in which the children of a node on line `ln` are evaluated: `s` after `setLine ln`
(`current_node` is the parent) -/
abbrev at_ (s : St) (ln : Nat) : St := { s with line := ln }

/- the entry points for `subdir()` / `subproject()` (`hooksFor files` for a source tree `files`); a theorem that
takes `hk` holds for all of them (those about names left alone, `subdir()` and `subproject()` speak of
`hooksAt files fuel` itself) -/
variable (hk : Hooks)

/-- if the left operand of `and` is false, the right operand is not evaluated (not even when it would fail) -/
theorem and_short_circuit (ln : Nat) (l r : Node) (s s1 : St) (v : Val)
    (hl : eval hk l (at_ s ln) = .ok (some v) s1)
    (hv : operatorCall v .bool none = .ok (.bool false)) :
    eval hk (.and_ ln l r) s =
      .ok (some (.bool false))
        { s1 with cov := .note cs!"and:short-circuit" :: .unary .bool v.ty none :: s1.cov } := by
  unfold eval
  simp [bind, EvalM.bind, setLine, hl, truth, liftE, hv, tag, pure, EvalM.pure]

theorem and_right_operand_irrelevant (ln : Nat) (l r r' : Node) (s s1 : St) (v : Val)
    (hl : eval hk l (at_ s ln) = .ok (some v) s1)
    (hv : operatorCall v .bool none = .ok (.bool false)) :
    eval hk (.and_ ln l r) s = eval hk (.and_ ln l r') s := by
  rw [and_short_circuit hk ln l r s s1 v hl hv, and_short_circuit hk ln l r' s s1 v hl hv]

theorem or_short_circuit (ln : Nat) (l r : Node) (s s1 : St) (v : Val)
    (hl : eval hk l (at_ s ln) = .ok (some v) s1)
    (hv : operatorCall v .bool none = .ok (.bool true)) :
    eval hk (.or_ ln l r) s =
      .ok (some (.bool true))
        { s1 with cov := .note cs!"or:short-circuit" :: .unary .bool v.ty none :: s1.cov } := by
  unfold eval
  simp [bind, EvalM.bind, setLine, hl, truth, liftE, hv, tag, pure, EvalM.pure]

theorem or_right_operand_irrelevant (ln : Nat) (l r r' : Node) (s s1 : St) (v : Val)
    (hl : eval hk l (at_ s ln) = .ok (some v) s1)
    (hv : operatorCall v .bool none = .ok (.bool true)) :
    eval hk (.or_ ln l r) s = eval hk (.or_ ln l r') s := by
  rw [or_short_circuit hk ln l r s s1 v hl hv, or_short_circuit hk ln l r' s s1 v hl hv]

/-- a failing left operand decides the whole expression too -/
theorem and_left_error (ln : Nat) (l r r' : Node) (s s1 : St) (e : ErrK)
    (hl : eval hk l (at_ s ln) = .err e s1) :
    eval hk (.and_ ln l r) s = .err e s1 ∧ eval hk (.or_ ln l r') s = .err e s1 := by
  constructor <;>
  unfold eval <;>
  simp [bind, EvalM.bind, setLine, hl]

/-- unary operators and truth values: `-x` only for `int`, `not x` and the truth value used by
`and` / `or` / `if` / `?:` only for `bool` — every other operand type is an error: the holder's table has
no entry -/
theorem unary_operand_types (v : Val) :
    (v.ty ≠ .int → operatorCall v .uminus none = .error .invalidCode) ∧
    (v.ty ≠ .bool → operatorCall v .not_ none = .error .invalidCode) ∧
    (v.ty ≠ .bool → operatorCall v .bool none = .error .invalidCode) := by
  refine ⟨fun h => ?_, fun h => ?_, fun h => ?_⟩ <;>
  apply operatorCall_of_no_entry <;>
  revert h <;>
  cases v.ty <;>
  decide +kernel

/-- only `bool` has a truth value: `and`/`or`/`if`/ternary on anything else is an error -/
theorem truth_only_bool (v : Val) (b : Bool) (h : operatorCall v .bool none = .ok (.bool b)) :
    v = .bool b := by
  by_cases hv : v.ty = .bool
  · cases v <;> first | cases hv | skip
    cases h
    rfl
  · rw [(unary_operand_types v).2.2 hv] at h
    cases h

example : ∃ s1, eval (hooksFor []) (.and_ 1 (.bool 1 false) (.id 1 cs!"undefined")) {} = .ok (some (.bool false)) s1 :=
  ⟨_, and_short_circuit (hooksFor []) 1 (.bool 1 false) _ {} _ (.bool false) rfl rfl⟩

/-- `a / b` is the floor of the quotient -/
theorem div_floor (a b : Int) (hb : b ≠ 0) :
    operatorCall (.int a) .div (some (.int b)) = .ok (.int (pyFloorDiv a b)) ∧
    (b > 0 → b * pyFloorDiv a b ≤ a ∧ a < b * pyFloorDiv a b + b) ∧
    (b < 0 → a ≤ b * pyFloorDiv a b ∧ b * pyFloorDiv a b + b < a) :=
  ⟨(operatorCall_typed (t := .int) rfl rfl).trans (if_neg hb), pyFloorDiv_pos a b, pyFloorDiv_neg a b⟩

/-- `a % b` has the sign of the divisor and is smaller in magnitude -/
theorem mod_sign_of_divisor (a b : Int) (hb : b ≠ 0) :
    operatorCall (.int a) .mod (some (.int b)) = .ok (.int (pyMod a b)) ∧
    (b > 0 → 0 ≤ pyMod a b ∧ pyMod a b < b) ∧ (b < 0 → b < pyMod a b ∧ pyMod a b ≤ 0) := by
  refine ⟨?_, ?_, ?_⟩
  · exact (operatorCall_typed (t := .int) rfl rfl).trans (if_neg hb)
  · intro h
    have := pyFloorDiv_pos a b h
    unfold pyMod
    omega
  · intro h
    have := pyFloorDiv_neg a b h
    unfold pyMod
    omega

theorem div_mod_identity (a b : Int) : b * pyFloorDiv a b + pyMod a b = a := by
  unfold pyMod
  omega

theorem div_by_zero_is_error (a : Int) :
    operatorCall (.int a) .div (some (.int 0)) = .error .invalidArguments ∧
    operatorCall (.int a) .mod (some (.int 0)) = .error .invalidArguments :=
  ⟨operatorCall_typed (t := .int) rfl rfl, operatorCall_typed (t := .int) rfl rfl⟩

/-- the evaluator computes exactly this for every pair of operand expressions -/
theorem eval_div (ln : Nat) (l r : Node) (s s1 s2 : St) (a b : Int) (hb : b ≠ 0)
    (hl : eval hk l (at_ s ln) = .ok (some (.int a)) s1) (hr : eval hk r s1 = .ok (some (.int b)) s2) :
    eval hk (.arith ln .div l r) s =
      .ok (some (.int (pyFloorDiv a b))) { s2 with cov := .bin .int .div .int false none :: s2.cov } := by
  unfold eval
  simp [bind, EvalM.bind, setLine, hl, hr, liftE, arithOp, (div_floor a b hb).1, Val.ty, pure, EvalM.pure]

example : pyFloorDiv 7 (-2) = -4 ∧ pyMod 7 (-2) = -1 ∧ pyFloorDiv (-7) 2 = -4 ∧ pyMod (-7) 2 = 1 := by decide

/-- what the reference promises: operands of different types are never combined -/
def no_implicit_conversion_full : Prop :=
  ∀ (op : Op) (l r : Val), strictOp op = true → l.ty ≠ r.ty → ¬ (l.ty = .arr ∧ op = .plus) →
    ∃ e, operatorCall l op (some r) = .error e ∧ e ≠ .unsupported

/-- what the code does: the statement holds except for `int <op> bool` (`isinstance(True, int)`).
The proof is reflective: `strictTableOk` is a decidable fact about the REGENERATED operator table
(re-checked by `decide` whenever the table changes), `rejects_sound` relates it to `operatorCall`. -/
theorem no_implicit_conversion_partial (op : Op) (l r : Val) (hop : strictOp op = true)
    (hty : l.ty ≠ r.ty) (happend : ¬ (l.ty = .arr ∧ op = .plus))
    (hquirk : ¬ (l.ty = .int ∧ r.ty = .bool)) :
    ∃ e, operatorCall l op (some r) = .error e ∧ e ≠ .unsupported := by
  apply rejects_sound
  have h := strictTable_spec strictTableOk_holds l.ty op r.ty
  simpa [strictCase, hop, hty, happend, hquirk] using h

/-- the retained quirk: every `int` operator accepts a `bool` right operand as 0/1 -/
theorem no_implicit_conversion_counterexample : ¬ no_implicit_conversion_full := by
  intro h
  obtain ⟨e, he, _⟩ := h .plus (.int 1) (.bool true) rfl (by decide) (by decide)
  have : operatorCall (.int 1) .plus (some (.bool true)) = .ok (.int 2) := by rfl
  rw [this] at he
  cases he

theorem bool_is_int_quirk (a : Int) (b : Bool) :
    operatorCall (.int a) .plus (some (.bool b)) = .ok (.int (a + if b then 1 else 0)) ∧
    operatorCall (.bool b) .plus (some (.int a)) = .error .invalidCode ∧
    operatorCall (.bool b) .equals (some (.int a)) = .error .invalidArguments :=
  ⟨operatorCall_typed (t := .int) rfl rfl, rfl, rfl⟩

/-- inside containers equality is Python's `==`: `[1] == [true]` -/
theorem container_equality_quirk : pyEq (.arr [.int 1]) (.arr [.bool true]) = true := by decide

example : ∃ e, operatorCall (.str cs!"a") .plus (some (.int 1)) = .error e ∧ e ≠ .unsupported :=
  no_implicit_conversion_partial .plus _ _ rfl (by decide) (by decide) (by decide)

/-- ANY binary operator whose table entry rejects the operand type fails with a type error (`rejects` reads the
regenerated `opTable`; only for `==` / `!=` of range and subproject objects, which the table leaves unchecked, does it
know the body) -/
theorem typed_operator_rejects (l r : Val) (op : Op) (h : rejects l.ty op r.ty = true) :
    ∃ e, operatorCall l op (some r) = .error e ∧ e ≠ .unsupported := rejects_sound l r op h

/-- which operand types each container accepts for `in` / `not in` and `[]`, as a table fact:
* `x in str`, `x in dict`, `dict[x]` need a `str`; `str[i]`, `array[i]` need an `int`
  (and, the quirk again, accept a `bool`);
* `int`, `bool`, subproject objects support none of them; `range` supports only `[]`;
* NOT strict by design: `x in array` accepts every type (an element of another type is just absent). -/
theorem container_operand_types :
    (∀ t, t ≠ .str → rejects .str .in_ t = true ∧ rejects .str .notIn t = true ∧
                     rejects .dict .in_ t = true ∧ rejects .dict .notIn t = true ∧
                     rejects .dict .index t = true) ∧
    (∀ t, t ≠ .int → t ≠ .bool → rejects .str .index t = true ∧ rejects .arr .index t = true) ∧
    (∀ t op, (op = .in_ ∨ op = .notIn ∨ op = .index) →
        rejects .int op t = true ∧ rejects .bool op t = true ∧ rejects .subproj op t = true) ∧
    (∀ t, rejects .range .in_ t = true ∧ rejects .range .notIn t = true) ∧
    (∀ t, rejects .arr .in_ t = false ∧ rejects .arr .notIn t = false) := by
  -- each `rejects lt op t` reduces, for a variable `t`, to the `isinstance` test of the table's entry for (lt, op)
  have hstr : ∀ t, t ≠ Ty.str → (!instTy t .str) = true := by
    intro t h
    cases t <;> first | rfl | exact absurd rfl h
  have hint : ∀ t, t ≠ Ty.int → t ≠ Ty.bool → (!instTy t .int) = true := by
    intro t h1 h2
    cases t <;> first | rfl | exact absurd rfl h1 | exact absurd rfl h2
  refine ⟨fun t h => ?_, fun t h1 h2 => ?_, fun t op h => ?_, fun t => ⟨rfl, rfl⟩, fun t => ⟨rfl, rfl⟩⟩
  · exact ⟨hstr t h, hstr t h, hstr t h, hstr t h, hstr t h⟩
  · exact ⟨hint t h1 h2, hint t h1 h2⟩
  · rcases h with rfl | rfl | rfl <;> exact ⟨rfl, rfl, rfl⟩

/-- `range(..)[x]` has no operand check at all: a non-integer index escapes as a Python `TypeError`
(an error, but not Meson's own type error) -/
theorem range_index_unchecked (a b c : Int) (k : Str) :
    operatorCall (.range a b c) .index (some (.str k)) = .error .pyTypeError := rfl

/-- `and` / `or` with a non-`bool` left operand fail (no truthiness of `''`, `0`, `[]`, …) -/
theorem logic_operands_must_be_bool (ln : Nat) (l r : Node) (s s1 : St) (v : Val)
    (hl : eval hk l (at_ s ln) = .ok (some v) s1) (hv : v.ty ≠ .bool) :
    eval hk (.and_ ln l r) s = .err .invalidCode { s1 with cov := .unary .bool v.ty (some .invalidCode) :: s1.cov } ∧
    eval hk (.or_ ln l r) s = .err .invalidCode { s1 with cov := .unary .bool v.ty (some .invalidCode) :: s1.cov } := by
  have hb := (unary_operand_types v).2.2 hv
  constructor <;>
  unfold eval <;>
  simp [bind, EvalM.bind, setLine, hl, truth, liftE, hb]

/-- method arguments: a positional argument that is not an instance of the type the method's
decorator declares (signature read from the live decorator into `methodSigs`) is a type error, and so
is a wrong argument count -/
theorem method_args_strict (t : Ty) (name : Str) (req opt : List PyTy) (args : List Val)
    (hs : sigOf t name = some (.pos req opt)) :
    (allInst args (req ++ opt) = false → argCheck t name args = .error .invalidArguments) ∧
    (args.length < req.length ∨ args.length > req.length + opt.length →
      argCheck t name args = .error .invalidArguments) := by
  simp only [argCheck, hs, typedPos]
  refine ⟨fun h => ?_, fun h => ?_⟩
  · simp [h]
  · rcases h with h | h
    · rw [if_pos h]
    · rw [if_pos h, ite_self]

theorem method_varargs_strict (t : Ty) (name : Str) (ty : PyTy) (min : Nat) (args : List Val)
    (hs : sigOf t name = some (.var ty min)) (h : args.all (fun v => isInstance v ty) = false) :
    argCheck t name args = .error .invalidArguments := by
  simp only [argCheck, hs, typedVar]
  split
  · rfl
  · simp [h]

theorem method_nopos_strict (t : Ty) (name : Str) (args : List Val)
    (hs : sigOf t name = some .noPos) (h : args ≠ []) : argCheck t name args = .error .invalidArguments := by
  simp only [argCheck, hs, noPos]
  cases args with
  | nil => exact absurd rfl h
  | cons a r => rfl

def sigTypes : MSig → List PyTy
  | .noPos => []
  | .pos r o => r ++ o
  | .var t _ => [t]

def untypedParams : List (Ty × Str) :=
  (EvalTables.methodSigs.filter (fun e => (sigTypes e.2.2).contains .object)).map (fun e => (e.1, e.2.1))

/-- the declared parameter types, as a fact about the regenerated signature table: every parameter is
`str`, `int` or `object`; the `object` (deliberately untyped) ones are exactly the searched element
of `array.contains`, the fallbacks of `array.get` / `dict.get` / `subproject.get_variable` and the
arguments of `str.format` -/
theorem method_parameter_types :
    (EvalTables.methodSigs.all fun e => (sigTypes e.2.2).all fun t => t == .str || t == .int || t == .object) = true ∧
    untypedParams = [(.subproj, cs!"get_variable"), (.str, cs!"format"), (.arr, cs!"contains"), (.arr, cs!"get"),
                     (.dict, cs!"get")] := by
  constructor <;> decide +kernel

example : methodCall (.str cs!"abc") cs!"contains" [.int 1] [] = .error .invalidArguments := by rfl
example : methodCall (.dict []) cs!"has_key" [.str cs!"a", .str cs!"b"] [] = .error .invalidArguments := by rfl

/-! ### stringification (`stringifyUserArguments`: `message()`, `.format()`, f-strings) -/

/-- the texts of the scalars: a bool is `true`/`false`, an int its decimal digits, a string itself at
top level and single-quoted inside a container -/
theorem stringify_scalars (q : Bool) (b : Bool) (i : Int) (s : Str) :
    stringify q (.bool b) = some (if b then cs!"true" else cs!"false") ∧
    stringify q (.int i) = some (intStr i) ∧
    stringify false (.str s) = some s ∧
    stringify true (.str s) = some (['\''] ++ s ++ ['\'']) := ⟨rfl, rfl, rfl, rfl⟩

/-- a bool never prints like an int (in particular `true`/`1` and `false`/`0` differ), whatever the
quoting level of either -/
theorem stringify_bool_ne_int (q q' : Bool) (b : Bool) (i : Int) :
    stringify q (.bool b) ≠ stringify q' (.int i) := by
  intro h
  have h' : (if b then cs!"true" else cs!"false") = intStr i := by
    simpa [stringify] using h
  have hc := intStr_chars i
  rw [← h'] at hc
  cases b
  · have := hc 'f' (by simp)
    simp [isDigit] at this
  · have := hc 't' (by simp)
    simp [isDigit] at this

theorem stringify_int_injective (q q' : Bool) (i j : Int) (h : stringify q (.int i) = stringify q' (.int j)) :
    i = j := intStr_injective i j (by simpa [stringify] using h)

theorem stringify_bool_injective (q q' : Bool) (a b : Bool) (h : stringify q (.bool a) = stringify q' (.bool b)) :
    a = b := by
  cases a <;> cases b <;> first | rfl | (simp [stringify] at h)

/-- inside a container a string is quoted, so it cannot be taken for an int or a bool either -/
theorem stringify_quoted_str_ne_scalar (q : Bool) (s : Str) (b : Bool) (i : Int) :
    stringify true (.str s) ≠ stringify q (.bool b) ∧ stringify true (.str s) ≠ stringify q (.int i) := by
  constructor
  · cases b <;> simp [stringify]
  · intro h
    have h' : '\'' :: (s ++ ['\'']) = intStr i := by simpa [stringify] using h
    have := intStr_chars i '\'' (by rw [← h']; simp)
    simp [isDigit] at this

/-- the one collision there is, by design: at top level a string prints verbatim, so `'1'` and `1`
(or `'true'` and `true`) give the same text -/
theorem stringify_toplevel_str_verbatim :
    stringify false (.str cs!"1") = stringify false (.int 1) ∧
    stringify false (.str cs!"true") = stringify false (.bool true) := by decide

/-- arrays, at any nesting depth and whatever the outer quoting level: `[`, the elements printed in
QUOTED mode separated by `, `, `]`; the array is printable iff every element is -/
theorem stringify_array (q : Bool) (l : List Val) :
    (∀ xs, printedAs l xs →
      stringify q (.arr l) = some (['['] ++ joinStr [',', ' '] xs ++ [']'])) ∧
    (stringify q (.arr l) = none ↔ stringifyL l = none) := by
  constructor
  · intro xs h
    simp [stringify, (stringifyL_spec l xs).mpr h]
  · simp [stringify]

/-- dictionaries: `{`, then `'key' : value` (value in quoted mode) in insertion order, `}` -/
theorem stringify_dict_entry (q : Bool) (k : Str) (v : Val) (x : Str) (h : stringify true v = some x) :
    stringify q (.dict [(k, v)]) = some (['{'] ++ (['\''] ++ k ++ ['\'', ' ', ':', ' '] ++ x) ++ ['}']) := by
  simp [stringify, stringifyD, h, joinStr]

example : stringify false (.arr [.int 1, .bool true, .str cs!"1", .arr [.bool false, .int 0]]) =
    some cs!"[1, true, '1', [false, 0]]" := by decide

theorem methodCall_str (s name : Str) (args : List Val) (kw : List (Str × Val))
    (h : (methodsOf .str).contains name = true) : methodCall (.str s) name args kw = strMethod s name args kw := by
  unfold methodCall
  rw [show (methodsOf (Val.str s).ty).contains name = true from h]
  rfl

/-- `.format()` is: stringify the arguments, split the TEMPLATE into pieces, one pass over the pieces -/
theorem format_method (s : Str) (raw : List Val) (strs : List Str) (h : stringifyArgs raw = some strs) :
    methodCall (.str s) cs!"format" raw [] =
      (match substPieces strs (fmtPieces s 0) with
       | some r => .ok (.str r)
       | none => .error .invalidArguments) := by
  rw [methodCall_str _ _ _ _ (by decide)]
  unfold strMethod
  have e1 : ¬ (cs!"format" = cs!"contains") := by decide
  have e2 : ¬ (cs!"format" = cs!"startswith") := by decide
  have e3 : ¬ (cs!"format" = cs!"endswith") := by decide
  simp only [e1, e2, e3, ↓reduceIte, noKw, List.isEmpty_nil, bind, Except.bind, h, formatGo_eq_pieces]
  cases substPieces strs (fmtPieces s 0) <;> rfl

/-- THE statement about `.format()`, for every template and every argument list:
* the pieces are a partition of the template (rendering them gives the template back) and every
  placeholder piece is a non-empty run of digits between two `@`;
* if every placeholder number has an argument, the result is the concatenation, in template order,
  of the literal characters and of each placeholder's argument text — each placeholder replaced
  exactly once, and the inserted text is not scanned again (the pieces depend on the template only);
* if some placeholder number has no argument the call is an error — also when other placeholders
  are fine. -/
theorem format_replaces_each_placeholder_once (s : Str) (raw : List Val) (strs : List Str)
    (h : stringifyArgs raw = some strs) :
    renderPieces (fmtPieces s 0) = s ∧
    (∀ ds, .var ds ∈ fmtPieces s 0 → ds ≠ [] ∧ ∀ c ∈ ds, isDigit c = true) ∧
    ((∀ ds, .var ds ∈ fmtPieces s 0 → natOfDigits ds < strs.length) →
      methodCall (.str s) cs!"format" raw [] = .ok (.str ((fmtPieces s 0).map (pieceText strs)).flatten)) ∧
    ((∃ ds, .var ds ∈ fmtPieces s 0 ∧ strs.length ≤ natOfDigits ds) →
      methodCall (.str s) cs!"format" raw [] = .error .invalidArguments) := by
  refine ⟨by simpa using renderPieces_fmtPieces s 0, fmtPieces_vars s 0, ?_, ?_⟩
  · intro hall
    rw [format_method s raw strs h]
    cases hs : substPieces strs (fmtPieces s 0) with
    | none =>
      obtain ⟨ds, hm, hle⟩ := (substPieces_none_iff strs _).mp hs
      have := hall ds hm
      omega
    | some out => simp only [substPieces_some strs _ out hs]
  · intro hex
    rw [format_method s raw strs h, (substPieces_none_iff strs _).mpr hex]

/-- in particular, whatever text an argument has — even another placeholder — it comes out verbatim -/
theorem format_inserted_text_inert (a b : Str) :
    methodCall (.str cs!"@0@") cs!"format" [.str a] [] = .ok (.str a) ∧
    methodCall (.str cs!"<@1@|@0@>") cs!"format" [.str a, .str b] [] =
      .ok (.str (['<'] ++ b ++ ['|'] ++ a ++ ['>'])) := by
  constructor
  · rw [format_method _ _ [a] rfl]
    have : fmtPieces cs!"@0@" 0 = [.var cs!"0"] := by rfl
    simp [this, substPieces, natOfDigits, digitVal]
  · rw [format_method _ _ [a, b] rfl]
    have : fmtPieces cs!"<@1@|@0@>" 0 = [.lit '<', .var cs!"1", .lit '|', .var cs!"0", .lit '>'] := by rfl
    simp [this, substPieces, natOfDigits, digitVal]

example : methodCall (.str cs!"@0@@1@") cs!"format" [.str cs!"@1@", .str cs!"x"] [] = .ok (.str cs!"@1@x") := by
  rfl
example : methodCall (.str cs!"@0@ @2@") cs!"format" [.int 1, .bool true] [] = .error .invalidArguments := by
  rfl
example : methodCall (.str cs!"@0@|@0@|@1@") cs!"format" [.int 1, .bool true] [] = .ok (.str cs!"1|1|true") := by
  rfl

/-- an f-string is: split the template at `@identifier@`, look every name up in the variable table,
stringify (top level: unquoted), concatenate — one pass, the state untouched -/
theorem fstring_substitution (ln : Nat) (tpl : Str) (st : St) :
    eval hk (.fstr ln tpl) st =
      (match fstrSubst st.vars (fstringPieces tpl 0) with
       | .ok t => .ok (some (.str t)) (at_ st ln)
       | .error e => .err e (at_ st ln)) ∧
    renderPieces (fstringPieces tpl 0) = tpl := by
  refine ⟨?_, by simpa using renderPieces_fstringPieces tpl 0⟩
  unfold eval
  simp only [bind, EvalM.bind, setLine, fstring, fstringGo_eq]
  cases fstrSubst st.vars (fstringPieces tpl 0) <;> rfl

theorem fstring_undefined_is_error (vars : List (Str × Val)) : ∀ (ps : List FPiece) (nm : Str),
    .var nm ∈ ps → lookup nm vars = none → ∃ e, fstrSubst vars ps = .error e
  | [], nm, h, _ => nomatch h
  | p :: r, nm, h, hn => by
    rcases List.mem_cons.mp h with rfl | h
    · exact ⟨.invalidCode, by simp [fstrSubst, hn]⟩
    · obtain ⟨e, he⟩ := fstring_undefined_is_error vars r nm h hn
      exact fstrSubst_cons_error vars p r e he

theorem fstring_inserted_text_inert (v : Str) :
    fstrSubst [(cs!"x", .str v)] (fstringPieces cs!"<@x@>" 0) = .ok (['<'] ++ v ++ ['>']) := by
  have : fstringPieces cs!"<@x@>" 0 = [.lit '<', .var cs!"x", .lit '>'] := by rfl
  simp [this, fstrSubst, lookup, stringify, Except.map]

/-- `new.join(s.split(old)) == s.replace(old, new)` -/
theorem join_split_is_replace (s old new : Str) (h : old ≠ []) :
    joinStr new (splitOn s old) = replaceStr s old new := by
  unfold splitOn replaceStr
  have : old.isEmpty = false := by cases old <;> simp_all
  rw [join_splitGo old new s 0 [], this]
  simp

/-- `s.replace(x, x) == s` for every `x`, the empty string included -/
theorem replace_self (s x : Str) : replaceStr s x x = s := by
  unfold replaceStr
  cases x with
  | nil =>
    simp only [List.isEmpty_nil, ↓reduceIte, List.nil_append]
    induction s with
    | nil => rfl
    | cons c r ih => simp [ih]
  | cons a t =>
    simp only [List.isEmpty_cons, Bool.false_eq_true, ↓reduceIte]
    rw [replaceGo_self _ (by simp)]
    simp

/-- `sep.join(s.split(sep)) == s` -/
theorem join_split (s sep : Str) (h : sep ≠ []) : joinStr sep (splitOn s sep) = s :=
  (join_split_is_replace s sep sep h).trans (replace_self s sep)

/-- `strip()` is idempotent, also with an explicit character set, and leaves no blank at either end (`strip_ends`) -/
theorem strip_idempotent (s chars : Str) :
    strip (strip s) = strip s ∧ stripChars (stripChars s chars) chars = stripChars s chars := by
  simp only [strip_eq_trimBoth, stripChars_eq_trimBoth]
  exact ⟨trimBoth_idem _ s, trimBoth_idem _ s⟩

theorem strip_ends (s : Str) :
    (∀ a r, strip s = a :: r → isSpace a = false) ∧ (∀ a r, (strip s).reverse = a :: r → isSpace a = false) := by
  rw [strip_eq_trimBoth]
  exact trimBoth_ends isSpace s

/-- `s.contains(p)` holds exactly when `p` occurs in `s`; a prefix occurs; the empty string always does -/
theorem contains_iff_occurs (s p : Str) :
    (hasSub p s = true ↔ ∃ a b, s = a ++ p ++ b) ∧
    (p.isPrefixOf s = true → hasSub p s = true) ∧ hasSub [] s = true :=
  ⟨hasSub_iff p s, fun h => (hasSub_iff_infix p s).mpr (List.isPrefixOf_iff_prefix.mp h).isInfix,
    (hasSub_iff_infix [] s).mpr s.nil_infix⟩

/-- `substring(a, b)` inside the bounds is characters `a` … `b-1`; a negative start counts from the
end; a start at or beyond the end gives the empty string (never an error) -/
theorem substring_bounds (s : Str) :
    (∀ a b : Nat, a ≤ b → b ≤ s.length →
      sliceList s (some (a : Int)) (some (b : Int)) 1 = (s.drop a).take (b - a)) ∧
    (∀ (k : Nat) (e : Option Int), 1 ≤ k → k ≤ s.length →
      sliceList s (some (-(k : Int))) e 1 = sliceList s (some ((s.length - k : Nat) : Int)) e 1) ∧
    (∀ (a : Int) (e : Option Int), a ≥ s.length → sliceList s (some a) e 1 = []) := by
  refine ⟨?_, ?_, ?_⟩
  · intro a b hab hb
    unfold sliceList
    rw [sliceIndices_one]
    simp only [adjustIdx_nat a s.length (by omega), adjustIdx_nat b s.length hb]
    exact sliceIdxGo_one_filterMap s b hb s.length a (by omega)
  · intro k e h1 h2
    unfold sliceList
    rw [sliceIndices_one, sliceIndices_one]
    simp only [adjustIdx_neg k s.length h1 h2, adjustIdx_nat (s.length - k) s.length (by omega)]
  · intro a e ha
    unfold sliceList
    rw [sliceIndices_one]
    simp only [adjustIdx_ge a s.length ha]
    rw [sliceIdxGo_empty]
    · rfl
    · cases e with
      | none => simp
      | some x => exact adjustIdx_le x s.length

/-- `to_upper()` / `to_lower()` are idempotent and keep the length; `underscorify()` is idempotent,
keeps the length and leaves only `[A-Za-z0-9_]` -/
theorem case_and_underscorify_laws (s : Str) :
    (s.map upperC).map upperC = s.map upperC ∧ (s.map lowerC).map lowerC = s.map lowerC ∧
    (s.map upperC).length = s.length ∧
    underscorify (underscorify s) = underscorify s ∧ (underscorify s).length = s.length ∧
    (∀ c ∈ underscorify s, isAlnum c = true ∨ c = '_') := by
  refine ⟨?_, ?_, by simp, ?_, by simp [underscorify], ?_⟩
  · simp [List.map_map, Function.comp_def, upperC_idem]
  · simp [List.map_map, Function.comp_def, lowerC_idem]
  · unfold underscorify
    rw [List.map_map]
    apply List.map_congr_left
    intro c _
    simp only [Function.comp]
    by_cases h : isAlnum c
    · simp [h]
    · have : isAlnum '_' = false := by decide
      simp [h, this]
  · intro c hc
    unfold underscorify at hc
    obtain ⟨d, _, rfl⟩ := List.mem_map.mp hc
    by_cases h : isAlnum d
    · left
      simp [h]
    · right
      simp [h]

/-- what the evaluator's method dispatch computes for well-typed calls of the string methods: exactly
the functions the laws above are about (signatures read from the regenerated table) -/
theorem str_methods_compute (s p a b : Str) (parts : List Str) (i j : Int) :
    methodCall (.str s) cs!"contains" [.str p] [] = .ok (.bool (hasSub p s)) ∧
    methodCall (.str s) cs!"startswith" [.str p] [] = .ok (.bool (p.isPrefixOf s)) ∧
    methodCall (.str s) cs!"split" [.str p] [] =
      (if p.isEmpty then .error .invalidArguments else .ok (.arr ((splitOn s p).map .str))) ∧
    methodCall (.str s) cs!"join" [.arr (parts.map .str)] [] = .ok (.str (joinStr s parts)) ∧
    methodCall (.str s) cs!"replace" [.str a, .str b] [] = .ok (.str (replaceStr s a b)) ∧
    methodCall (.str s) cs!"strip" [] [] = .ok (.str (strip s)) ∧
    methodCall (.str s) cs!"strip" [.str p] [] = .ok (.str (stripChars s p)) ∧
    methodCall (.str s) cs!"substring" [.int i, .int j] [] = .ok (.str (sliceList s (some i) (some j) 1)) ∧
    methodCall (.str s) cs!"to_upper" [] [] = .ok (.str (s.map upperC)) ∧
    methodCall (.str s) cs!"to_lower" [] [] = .ok (.str (s.map lowerC)) ∧
    methodCall (.str s) cs!"underscorify" [] [] = .ok (.str (underscorify s)) := by
  refine ⟨rfl, rfl, rfl, ?_, rfl, rfl, rfl, rfl, rfl, rfl, rfl⟩
  have hf : flattenL [Val.arr (parts.map Val.str)] = parts.map Val.str := by
    simp [flattenL, flattenV, flattenL_strs]
  have hs : sigOf .str cs!"join" = some (.var .str 0) := by decide
  rw [methodCall_str _ _ _ _ (by decide)]
  simp [strMethod, hf, noKw, argCheck, hs, typedVar, strArgs_strs, bind, Except.bind, pure, Except.pure, isInstance, Val.ty]

/-- at the level of the language: `sep.join(s.split(sep)) == s` for every `s` and non-empty `sep` -/
theorem join_split_roundtrip (s sep : Str) (h : sep ≠ []) :
    methodCall (.str s) cs!"split" [.str sep] [] = .ok (.arr ((splitOn s sep).map .str)) ∧
    methodCall (.str sep) cs!"join" [.arr ((splitOn s sep).map .str)] [] = .ok (.str s) := by
  constructor
  · rw [(str_methods_compute s sep [] [] [] 0 0).2.2.1]
    cases sep with
    | nil => exact absurd rfl h
    | cons c r => rfl
  · rw [(str_methods_compute sep [] [] [] (splitOn s sep) 0 0).2.2.2.1, join_split s sep h]

/-- `i.to_string().to_int() == i` for every integer: the decimal text (an optional `-`, then digits,
never empty) is read back as the same number -/
theorem to_string_to_int_roundtrip (i : Int) :
    methodCall (.int i) cs!"to_string" [] [] = .ok (.str (intStr i)) ∧
    methodCall (.str (intStr i)) cs!"to_int" [] [] = .ok (.int i) := by
  constructor
  · have hf : intFormat i 0 cs!"dec" = intStr i := by
      unfold intFormat intStr
      simp
    rw [← hf]
    rfl
  · rw [methodCall_str _ _ _ _ (by decide)]
    have hs : sigOf .str cs!"to_int" = some .noPos := by decide
    simp [strMethod, flattenL, noKw, argCheck, hs, noPos, bind, Except.bind, pure, Except.pure, parseInt_intStr]

/-! concrete instances (the hypotheses above are satisfiable, the functions compute what is expected) -/

example : stringifyArgs [.int 1, .bool true, .str cs!"@0@"] = some [cs!"1", cs!"true", cs!"@0@"] := by rfl
example : renderPieces (fmtPieces cs!"a@0@@@12@b@" 0) = cs!"a@0@@@12@b@" ∧
    (fmtPieces cs!"a@0@@@12@b@" 0).length = 6 := by constructor <;> rfl
example : joinStr cs!"," (splitOn cs!"a,,b," cs!",") = cs!"a,,b," := join_split _ _ (by simp)
example : splitOn cs!"a,,b," cs!"," = [cs!"a", [], cs!"b", []] := by rfl
example : splitOn cs!"aaa" cs!"aa" = [[], cs!"a"] ∧ replaceStr cs!"aaa" cs!"aa" cs!"b" = cs!"ba" := by constructor <;> rfl
example : strip cs!"  a b \n" = cs!"a b" := by rfl
example : sliceList cs!"abcd" (some (-3)) (some 3) 1 = cs!"bc" ∧ sliceList cs!"abcd" (some 7) none 1 = [] := by
  constructor <;> rfl
example : hasSub cs!"b," cs!"ab,c" = true ∧ hasSub cs!"ba" cs!"ab,c" = false := by constructor <;> rfl
example : intStr (-120) = cs!"-120" ∧ parseInt cs!"-120" = some (-120) := by constructor <;> rfl
example : fstrSubst [(cs!"x", .str cs!"@y@"), (cs!"y", .int 3)] (fstringPieces cs!"@x@|@y@|@1@" 0) = .ok cs!"@y@|3|@1@" := by rfl
example : ∃ e, fstrSubst [(cs!"x", .int 1)] (fstringPieces cs!"@x@@nope@" 0) = .error e :=
  fstring_undefined_is_error _ _ cs!"nope"
    (by
      have : fstringPieces cs!"@x@@nope@" 0 = [.var cs!"x", .var cs!"nope"] := by rfl
      rw [this]
      simp) rfl

/-- `a[-k]` is the k-th element from the end -/
theorem index_negative (l : List Val) (k : Nat) (h1 : 1 ≤ k) (h2 : k ≤ l.length) :
    operatorCall (.arr l) .index (some (.int (-(k : Int)))) =
      operatorCall (.arr l) .index (some (.int ((l.length - k : Nat) : Int))) ∧
    operatorCall (.arr l) .index (some (.int (-(k : Int)))) = .ok (l[l.length - k]'(by omega)) := by
  rw [operatorCall_index_arr, operatorCall_index_arr, pyIndex_neg l k h1 h2,
    pyIndex_nonneg l (l.length - k) (by omega)]
  exact ⟨rfl, rfl⟩

/-- an index outside `[-len, len)` is an error, for arrays and strings alike -/
theorem index_bounds_error (l : List Val) (s : Str) (i : Int) :
    ((i < -(l.length : Int) ∨ i ≥ l.length) →
      operatorCall (.arr l) .index (some (.int i)) = .error .invalidArguments) ∧
    ((i < -(s.length : Int) ∨ i ≥ s.length) →
      operatorCall (.str s) .index (some (.int i)) = .error .invalidArguments) := by
  have hs : operatorCall (.str s) .index (some (.int i)) =
      (match pyIndex s i with | some c => .ok (.str [c]) | none => .error .invalidArguments) :=
    operatorCall_typed (t := .int) rfl rfl
  constructor <;> intro h
  · rw [operatorCall_index_arr, pyIndex_oob l i h]
  · rw [hs, pyIndex_oob s i h]

/-- a non-integer index is an error (no conversion of `'0'` to `0`) -/
theorem index_type_error (l : List Val) (k : Str) :
    operatorCall (.arr l) .index (some (.str k)) = .error .invalidArguments := rfl

/-- `keys()` is the sorted list (code-point order) of exactly the dictionary's keys -/
theorem keys_sorted (d : List (Str × Val)) :
    methodCall (.dict d) cs!"keys" [] [] = .ok (.arr ((dictKeysSorted d).map .str)) ∧
    Sorted (dictKeysSorted d) ∧ (dictKeysSorted d).Perm (d.map (·.1)) :=
  ⟨rfl, sortStrs_sorted _, sortStrs_perm _⟩

example : dictKeysSorted [(cs!"b", .int 1), (cs!"a", .int 2), (cs!"B", .int 3)] = [cs!"B", cs!"a", cs!"b"] := by
  decide

/-- `break` in the body ends the loop at once: the remaining items are never bound or visited -/
theorem foreach_break (body : EvalM Unit) (vars : List Str) (vals : List Val) (rest : List (List Val))
    (s s1 s2 : St) (hb : bindVars vars vals s = .ok () s1) (hbody : body s1 = .sig true s2) :
    forLoop body vars (vals :: rest) s = .ok () { s2 with cov := .note cs!"foreach:break" :: s2.cov } := by
  simp [forLoop, hb, hbody]

/-- `continue` skips the rest of the body and goes on with the next item, exactly like a body that
ran to its end -/
theorem foreach_continue (body : EvalM Unit) (vars : List Str) (vals : List Val) (rest : List (List Val))
    (s s1 s2 : St) (hb : bindVars vars vals s = .ok () s1) (hbody : body s1 = .sig false s2) :
    forLoop body vars (vals :: rest) s =
      forLoop body vars rest { s2 with cov := .note cs!"foreach:continue" :: s2.cov } := by
  simp [forLoop, hb, hbody]

theorem foreach_next (body : EvalM Unit) (vars : List Str) (vals : List Val) (rest : List (List Val))
    (s s1 s2 : St) (hb : bindVars vars vals s = .ok () s1) (hbody : body s1 = .ok () s2) :
    forLoop body vars (vals :: rest) s = forLoop body vars rest s2 := by
  simp [forLoop, hb, hbody]

theorem bindVars_no_signal : ∀ (vars : List Str) (vals : List Val) (s s' : St) (b : Bool),
    bindVars vars vals s ≠ .sig b s'
  | [], _, s, s', b => by simp [bindVars, pure, EvalM.pure]
  | _ :: _, [], s, s', b => by simp [bindVars, pure, EvalM.pure]
  | n :: ns, v :: vs, s, s', b => by
    simp only [bindVars, bind, EvalM.bind, setVar]
    cases h : isBuiltin n
    · simp only [Bool.false_eq_true, ↓reduceIte]
      exact bindVars_no_signal ns vs _ s' b
    · simp

/-- a `break`/`continue` request never leaves the loop that encloses it, whatever the body does -/
theorem foreach_absorbs_signals (body : EvalM Unit) (vars : List Str) :
    ∀ (items : List (List Val)) (s s' : St) (b : Bool), forLoop body vars items s ≠ .sig b s'
  | [], s, s', b => by simp [forLoop, pure, EvalM.pure]
  | vals :: rest, s, s', b => by
    simp only [forLoop]
    cases h1 : bindVars vars vals s with
    | ok u s1 =>
      simp only []
      cases h2 : body s1 with
      | ok u2 s2 => exact foreach_absorbs_signals body vars rest _ s' b
      | err e s2 => simp
      | sig b2 s2 =>
        cases b2
        · exact foreach_absorbs_signals body vars rest _ s' b
        · simp
      | done s2 => simp
    | err e s1 => simp
    | sig b1 s1 => exact absurd h1 (bindVars_no_signal vars vals s _ _)
    | done s1 => simp

/-- so a whole `foreach` statement never propagates one (provided the iterated expression does not) -/
theorem foreach_statement_absorbs (ln : Nat) (vars : List Str) (items : Node) (block : List Node)
    (s s' : St) (b : Bool) (hi : ∀ t, eval hk items (at_ s ln) ≠ .sig b t) :
    eval hk (.foreach ln vars items block) s ≠ .sig b s' := by
  unfold eval
  simp only [bind, EvalM.bind, setLine]
  cases h1 : eval hk items { s with line := ln } with
  | ok a s1 =>
    simp only [liftE]
    cases h2 : iterItems a vars.length with
    | ok tuples =>
      simp only []
      cases h3 : forLoop (execBlock hk block) vars tuples
          { s1 with cov := Tag.foreach (Option.map Val.ty a) none :: s1.cov } with
      | ok u s2 => simp [pure, EvalM.pure]
      | err e s2 => simp
      | sig b2 s2 => exact absurd h3 (foreach_absorbs_signals _ _ _ _ _ _)
      | done s2 => simp
    | error e => simp
  | err e s1 => simp
  | sig b1 s1 =>
    intro hc
    cases hc
    exact hi _ h1
  | done s1 => simp

/-- iteration order: arrays in index order, dictionaries in insertion order, `range(a, b, s)`
as a, a+s, … -/
theorem foreach_iteration_order (l : List Val) (d : List (Str × Val)) :
    iterItems (some (.arr l)) 1 = .ok (l.map ([·])) ∧
    iterItems (some (.dict d)) 2 = .ok (d.map (fun e => [.str e.1, e.2])) ∧
    iterItems (some (.range 1 7 2)) 1 = .ok [[.int 1], [.int 3], [.int 5]] := by
  refine ⟨rfl, rfl, by rfl⟩

/-- `name = v`: the new table is the old one with `name` bound to the value; nothing else moves -/
theorem assignment_no_alias (ln : Nat) (name : Str) (v : Node) (s s1 : St) (x : Val)
    (hd : s.depth = 0) (hb : isBuiltin name = false)
    (hv : eval hk v (at_ s ln) = .ok (some x) s1) :
    eval hk (.assign ln name v) s = .ok none { s1 with vars := insert name x s1.vars } ∧
    lookup name (insert name x s1.vars) = some x ∧
    ∀ y, y ≠ name → lookup y (insert name x s1.vars) = lookup y s1.vars := by
  refine ⟨?_, lookup_insert_self _ _ _, fun y hy => lookup_insert_ne _ hy _⟩
  have h0 : ¬ (({ s with line := ln } : St).depth ≠ 0) := by simpa using hd
  unfold eval
  simp only [bind, EvalM.bind, setLine, getSt]
  rw [if_neg h0]
  simp only [at_] at hv
  simp only [EvalM.bind, hv, setVar, hb]
  simp [pure, EvalM.pure]

/-- `name += e` builds a NEW value from the old value of `name` and binds it to `name`; every other
name (in particular one that was assigned from `name` before) keeps the value it had -/
theorem plus_assign_fresh (ln : Nat) (name : Str) (e : Node) (s s1 : St) (add old new : Val)
    (hb : isBuiltin name = false)
    (he : eval hk e (at_ s ln) = .ok (some add) s1)
    (hold : lookup name s1.vars = some old)
    (hplus : operatorCall old .plus (some add) = .ok new) :
    eval hk (.plusassign ln name e) s =
      .ok none { s1 with vars := insert name new s1.vars,
                         cov := .bin old.ty .plus add.ty true none :: s1.cov } ∧
    ∀ y, y ≠ name → lookup y (insert name new s1.vars) = lookup y s1.vars := by
  refine ⟨?_, fun y hy => lookup_insert_ne _ hy _⟩
  simp only [at_] at he
  unfold eval
  simp only [bind, EvalM.bind, setLine, he, getVar, hb, hold, liftE, setVar, Bool.false_eq_true,
    ↓reduceIte, hplus]
  simp [pure, EvalM.pure]

/-- THE immutability statement, for every tree, every state and every source tree: whatever
evaluating `n` does — finishing, failing, or leaving through `break`/`continue`/`subdir_done()` — a
name that `n` does not syntactically (re)bind (`mayWrite x n = false`: no `x = …`, `x += …`,
`foreach x`, no `set_variable` / `unset_variable` call, whose target is computed, and no `subdir()`,
whose file shares the table) is bound to exactly the value it had before.  In particular `b += …`,
a method call, an operator on a value obtained from `a`, or a whole `subproject()` never changes `a`. -/
theorem no_operation_changes_another_name (files : Files) (fuel : Nat) (x : Str) (n : Node)
    (h : mayWrite x n = false) (s : St) :
    lookup x (eval (hooksAt files fuel) n s).st.vars = lookup x s.vars := by
  have := frame_eval x (hooksAt files fuel) (hooksAt_subproject_frame files fuel) n h
  unfold FrameM at this
  exact this s

/-- the same for a whole block of statements (a build file, a loop body, an `if` arm) -/
theorem block_changes_only_assigned_names (files : Files) (fuel : Nat) (x : Str) (b : List Node)
    (h : mayWriteL x b = false) (s : St) :
    lookup x (execBlock (hooksAt files fuel) b s).st.vars = lookup x s.vars := by
  have := frame_execBlock x (hooksAt files fuel) (hooksAt_subproject_frame files fuel) b h
  unfold FrameM at this
  exact this s

theorem leave_keeps (prev : Str) (r : Res Unit) :
    ((match leaveSubdir prev r () with
        | .ok _ s2 => .ok none s2
        | .err e s2 => .err e s2
        | .sig b s2 => .sig b s2
        | .done s2 => .done s2 : Res (Option Val))).st.vars = r.st.vars ∧
    ((match leaveSubdir prev r () with
        | .ok _ s2 => .ok none s2
        | .err e s2 => .err e s2
        | .sig b s2 => .sig b s2
        | .done s2 => .done s2 : Res (Option Val))).st.out = r.st.out := by
  cases r <;> exact ⟨rfl, rfl⟩

/-- `subdir('d')` IS the execution of d's block in place: the block is run by the same evaluator on
the caller's own state — same variable table, same log — with only the directory bookkeeping
switched (and restored afterwards); `subdir_done()` inside ends the file, not the caller.  For every
file table, every fuel level and every state meeting `func_subdir`'s preconditions. -/
theorem subdir_shares_env (files : Files) (fuel : Nat) (d : Str) (block : List Node) (s : St)
    (h : SubdirOk files s d block) :
    let dir := joinPath s.subdir d
    let inPlace := execBlock (hooksAt files fuel) block { s with visited := dir :: s.visited, subdir := dir }
    ({ s with visited := dir :: s.visited, subdir := dir } : St).vars = s.vars ∧
    (hooksAt files (fuel + 1)).subdir d s =
      (match leaveSubdir s.subdir inPlace () with
        | .ok _ s2 => .ok none s2
        | .err e s2 => .err e s2
        | .sig b s2 => .sig b s2
        | .done s2 => .done s2) ∧
    ((hooksAt files (fuel + 1)).subdir d s).st.vars = inPlace.st.vars ∧
    ((hooksAt files (fuel + 1)).subdir d s).st.out = inPlace.st.out := by
  intro dir inPlace
  have e : (hooksAt files (fuel + 1)).subdir d s = _ := enterSubdir_eq _ files d block s h
  refine ⟨rfl, e, ?_, ?_⟩ <;> rw [e]
  · exact (leave_keeps s.subdir inPlace).1
  · exact (leave_keeps s.subdir inPlace).2

/-- entering the same directory twice is an error, and so is a directory without a build file -/
theorem subdir_twice_is_error (files : Files) (fuel : Nat) (d : Str) (s : St)
    (h1 : hasSub ['.', '.'] d = false) (h2 : (s.subdir.isEmpty && d = cs!"subprojects") = false)
    (h3 : (s.subdir.isEmpty && cs!"meson-".isPrefixOf d) = false) (h4 : d.isEmpty = false)
    (h5 : d.head? ≠ some '/') (h6 : plainPath d = true) :
    (s.visited.contains (joinPath s.subdir d) = true →
      (hooksAt files (fuel + 1)).subdir d s = .err .invalidArguments s) ∧
    (s.visited.contains (joinPath s.subdir d) = false → fileOf files (joinPath s.subdir d) = none →
      (hooksAt files (fuel + 1)).subdir d s =
        .err .interpreterException { s with visited := joinPath s.subdir d :: s.visited }) := by
  show (_ → enterSubdir _ files d s = _) ∧ (_ → _ → enterSubdir _ files d s = _)
  unfold enterSubdir
  simp only [h1, h2, h3, h4, h5, h6, Bool.false_eq_true, ↓reduceIte, Bool.not_true]
  refine ⟨fun hv => ?_, fun hv hf => ?_⟩
  · simp only [hv, ↓reduceIte]
  · simp only [hv, hf, Bool.false_eq_true, ↓reduceIte]

/-- `subproject()` is isolated in both directions:
* the callee sees nothing of the caller's variables — the whole outcome (returned object, log, error)
  is the same whatever the caller's variable table holds;
* the caller's variable table is exactly what it was — no name of the subproject becomes visible. -/
theorem subproject_isolated (files : Files) (fuel : Nat) (name : Str) (s : St) (v' : List (Str × Val)) :
    ((hooksAt files (fuel + 1)).subproject name s).forgetVars =
      ((hooksAt files (fuel + 1)).subproject name { s with vars := v' }).forgetVars ∧
    ((hooksAt files (fuel + 1)).subproject name s).st.vars = s.vars :=
  ⟨enterSubproject_blind _ files name s v', enterSubproject_vars _ files name s⟩

theorem subproject_starts_empty (s : St) (name : Str) : (childState s name).vars = [] := rfl

/-- the only way in is `get_variable` on the returned object, which reads the subproject's final table -/
theorem subproject_get_variable (name : Str) (vars : List (Str × Val)) (k : Str) (dflt : Val) :
    methodCall (.subproj name vars) cs!"get_variable" [.str k] [] =
      (match lookup k vars with | some v => .ok v | none => .error .invalidArguments) ∧
    methodCall (.subproj name vars) cs!"get_variable" [.str k, dflt] [] =
      .ok ((lookup k vars).getD dflt) := by
  refine ⟨rfl, ?_⟩
  show (match lookup k vars with | some v => Except.ok v | none => Except.ok dflt) = _
  cases lookup k vars <;> rfl

example : mayWrite cs!"a" (.plusassign 3 cs!"b" (.arr 3 [.id 3 cs!"a"] [] false)) = false := by decide

/-- the documented example: `b = a; b += [2]` leaves `a` alone -/
def aliasProgram : List Node :=
  [.assign 1 cs!"a" (.arr 1 [.num 1 1] [] false), .assign 2 cs!"b" (.id 2 cs!"a"),
   .plusassign 3 cs!"b" (.arr 3 [.num 3 2] [] false)]

def varIs (r : Res Unit) (x : Str) (v : Val) : Bool :=
  match r with
  | .ok _ s => (match lookup x s.vars with | some w => pyEq w v && pyEq v w | none => false)
  | _ => false

example : varIs (runProgram aliasProgram) cs!"a" (.arr [.int 1]) = true ∧
          varIs (runProgram aliasProgram) cs!"b" (.arr [.int 1, .int 2]) = true := by decide +kernel

end MesonModel.Props.C01
