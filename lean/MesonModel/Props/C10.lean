import MesonModel.DepPolicy.Lemmas
import MesonModel.DepPolicy.Repeat
import MesonModel.DepPolicy.RegisterLemmas
import MesonModel.DepPolicy.CacheLemmas
import MesonModel.Generated.DepCacheTable
import MesonModel.DepPolicy.WrapLemmas
import MesonModel.DepPolicy.WrapFileLemmas
/-
C10 — Dependencies resolve by the documented fallback policy, from verified sources.

Part (a): theorems over `MesonModel.DepPolicy.lookup` (model of `DependencyFallbacksHolder.lookup`),
for every world, every request and every meaning `sat` of version constraints.
Part (b): theorems over `MesonModel.DepPolicy.Wrap.resolve` (model of `Resolver._resolve` for
wrap-file wraps), for every configuration, environment and *every fault function*.
Part (c): theorems over `MesonModel.DepPolicy.Cache` (model of `DependencyCache`, the persistent cache of
system dependencies), for every history of operations.
Part (d): theorems over `MesonModel.DepPolicy.WrapFile` (model of the wrap-file layer: which subproject
provides a dependency), for every file system and every listing order.
-/
namespace MesonModel.Props.C10
open MesonModel.DepPolicy

section dep
variable (sat : Str → List Str → Bool)

theorem implicitFallback_names (w : World) (req : Bool) : ∀ ns h, (implicitFallback w req ns h).names = h.names := by
  intro ns
  induction ns with
  | nil =>
    intro h
    rfl
  | cons n rest ih =>
    intro h
    rcases hp : findDepProvider w n with ⟨sp, v⟩
    simp only [implicitFallback, hp, apply_ite Holder.names, ih, ite_self]

theorem alookup_addImplicit_of_some (k : Str) (v : Dep × Bool) (d : Dep) :
    ∀ (names : List Str) (ov : List (Str × Dep × Bool)), alookup k ov = some v →
      alookup k (addImplicit ov d names) = some v :=
  alookup_addImplicit_some k v d

theorem prepare_names (w : World) (r : Request) (h : Holder) : (prepare w r h).names = h.names := by
  unfold prepare
  simp only []
  split
  · rw [implicitFallback_names]
  · rfl

/-- **Forced fallback never consults the system.** Whenever `lookup` has determined that fallback is
forced (`wrap_mode=forcefallback`, or `force_fallback_for` naming the dependency or the subproject) and
a fallback subproject is designated (explicit `fallback:` or an admitted wrap `[provide]` entry), the
lookup performs no `find_external_dependency` call and no read of the system-dependency cache. -/
theorem forced_never_consults_system (w : World) (r : Request) (h0 : Holder)
    (hm : mkHolder r = .ok h0) (hf : Forced (prepare w r h0)) :
    ∀ e ∈ (lookup sat w r).trace, e.isSystem = false :=
  lookup_trace sat (fun e => e.isSystem = false) w r h0 hm fun c hc req w e he =>
    Cand.emits_forced hf (getCandidates_forced _ hf c hc) (runCand_emits sat _ _ req w c e he)

/-- the hypothesis of `forced_never_consults_system` spelled out for an explicit `fallback: [sp, ...]` -/
theorem forced_explicit (w : World) (r : Request) (h0 : Holder) (sp : Str) (hsp : h0.spName = some sp)
    (hne : sp ≠ [])
    (hforce : w.wrapMode = .forcefallback ∨ w.fff.contains sp = true ∨ h0.names.any (fun n => w.fff.contains n) = true) :
    Forced (prepare w r h0) := by
  have ht' : truthy (some sp) = true := truthy_some hne
  unfold prepare
  simp only [hsp, ht', Bool.not_true, Bool.false_and, Bool.false_eq_true, if_false]
  refine ⟨?_, ht'⟩
  rcases hforce with h | h | h
  · simp only [h, beq_self_eq_true, Bool.true_or]
  · simp only [h, Bool.or_true]
  · simp only [h, Bool.or_true, Bool.true_or]

/-- **`wrap_mode=nofallback` never configures a subproject** (unless fallback is forced for this
dependency, which the documents give precedence): no call of `Interpreter.do_subproject` at all. -/
theorem nofallback_never_configures (w : World) (r : Request) (h0 : Holder)
    (hm : mkHolder r = .ok h0) (hn : NoFallback (prepare w r h0)) :
    ∀ e ∈ (lookup sat w r).trace, e.isSubproject = false :=
  lookup_trace sat (fun e => e.isSubproject = false) w r h0 hm fun c _ req w e he =>
    Cand.emits_nofallback hn (runCand_emits sat _ _ req w c e he)

/-- **An overridden dependency wins.** If the first name has an override (from
`meson.override_dependency` or recorded by an earlier successful lookup) that is found and satisfies the
version constraint, `lookup` returns exactly it — whatever the system, the wrap mode, the fallback
arguments and `required` are — without any effect.  (What it leaves of the world is the second half of
`lookup_eq_policy`.) -/
theorem override_wins (w : World) (r : Request) (h0 : Holder) (n : Str) (ns : List Str) (d : Dep) (ex : Bool)
    (hm : mkHolder r = .ok h0) (hn : h0.names = n :: ns)
    (ho : alookup n w.overrides = some (d, ex)) (hfound : d.found = true)
    (hv : checkVersion sat r.wanted d.version = true) :
    (lookup sat w r).out = .found d ∧ (lookup sat w r).trace = [] := by
  unfold lookup
  rw [hm]
  simp only []
  have hnames : (prepare w r h0).names = n :: ns := by rw [prepare_names, hn]
  have hc : ∃ rest, getCandidates (prepare w r h0) = Cand.cache n :: rest := by
    unfold getCandidates
    rw [hnames]
    exact ⟨_, rfl⟩
  rcases hc with ⟨rest, hc⟩
  rw [hc]
  simp [loop, runCand, getCachedDep, ho, hfound, hv]

/-- **`lookup` is the documented decision table.** For every meaning `sat` of version constraints, every
world (overrides, cache, system, wrap `[provide]` tables, subprojects and what configuring them does,
`wrap_mode`, `force_fallback_for`) and every request (any number of names, constraint, `required`,
`allow_fallback`, `fallback`) whose names are lower case, the model of
`DependencyFallbacksHolder.lookup` returns the outcome `policy` prescribes (errors compared as "an
error") and leaves exactly the world `policy` prescribes.  `policy` (`DepPolicy/Policy.lean`) is written
from the documents with the readings listed at its head, independently of `lookup`. -/
theorem lookup_eq_policy (w : World) (r : Request) (hwf : WellFormed r) :
    (lookup sat w r).out.simplify = (policy sat w r).1 ∧ (lookup sat w r).world = (policy sat w r).2 := by
  have h := lookup_eq_policy_core sat w r hwf
  exact ⟨congrArg Prod.fst h, congrArg Prod.snd h⟩

/-- **Repeated lookups with the same arguments return the same dependency** (at least one name, lower-case
names): the second lookup runs in the world the first one leaves. -/
theorem repeat_lookup_stable (w : World) (r : Request) (d : Dep) (hwf : WellFormed r) (hne : r.names ≠ [])
    (h : (lookup sat w r).out = .found d) :
    (lookup sat (lookup sat w r).world r).out = .found d := by
  have h1 := lookup_eq_policy sat w r hwf
  have hp : (policy sat w r).1 = .found d := by
    rw [← h1.1, h]
    rfl
  rw [h1.2]
  apply Outcome.simplify_eq_found
  rw [(lookup_eq_policy sat _ r hwf).1]
  exact policy_repeat sat w r d hne hp

theorem lookupSeq_eq_policySeq : ∀ (rs : List Request) (w : World), (∀ r ∈ rs, WellFormed r) →
    (lookupSeq sat w rs).map (fun x => (x.out.simplify, x.world)) = policySeq sat w rs := by
  intro rs
  induction rs with
  | nil =>
    intro w _
    rfl
  | cons r rest ih =>
    intro w hwf
    have ih' := ih (lookup sat w r).world (fun q hq => hwf q (List.mem_cons_of_mem _ hq))
    have hp : ((lookup sat w r).out.simplify, (lookup sat w r).world) = policy sat w r :=
      lookup_eq_policy_core sat w r (hwf r List.mem_cons_self)
    simp only [lookupSeq, policySeq]
    rw [← hp]
    have e1 : ∀ d, (Outcome.found d).simplify = POutcome.found d := fun _ => rfl
    have e2 : Outcome.notFound.simplify = POutcome.notFound := rfl
    have e3 : ∀ k, (Outcome.error k).simplify = POutcome.error := fun _ => rfl
    cases ho : (lookup sat w r).out <;> simp [ho, e1, e2, e3, ih']

/-! non-vacuity: a required `dependency('foo')` with `foo.wrap` providing it and nothing on the system
configures the subproject and returns its override; the second lookup returns the same object -/
def dFoo : Dep := { ident := "d".toList, found := true, version := "2.0".toList }
def w0 : World :=
  { wrapMode := .default, fff := [], overrides := [], cache := [], system := [],
    provides := [("foo".toList, "foosub".toList, none)],
    subs := [{ name := "foosub".toList, state := .no, configureOk := true,
               overrides := [("foo".toList, dFoo)], vars := [] }] }
def r0 : Request := { names := ["foo".toList], wanted := [], required := true, allowFallback := none, fallback := none }

example : WellFormed r0 := by
  intro n hn
  simp [r0] at hn
  subst hn
  decide +kernel
example : (lookup (fun _ _ => true) w0 r0).out = .found dFoo := by decide +kernel
example : (policy (fun _ _ => true) w0 r0).1 = .found dFoo := by decide +kernel

/-! non-vacuity of the precedence clause: `wrap_mode=nofallback`, `force_fallback_for=foo`, `foo` 1.0 on the system,
`foo.wrap`-style `[provide]` entry: the subproject is configured and answers; without `force_fallback_for` the
system's copy is returned and nothing is configured -/
def wNF (fff : List Str) : World :=
  { w0 with wrapMode := .nofallback, fff := fff, system := [("foo".toList, "1.0".toList)] }

example : (lookup (fun _ _ => true) (wNF ["foo".toList]) r0).out = .found dFoo
    ∧ Effect.configure "foosub".toList ∈ (lookup (fun _ _ => true) (wNF ["foo".toList]) r0).trace
    ∧ (policy (fun _ _ => true) (wNF ["foo".toList]) r0).1 = .found dFoo := by decide +kernel
example : (lookup (fun _ _ => true) (wNF ["foosub".toList]) r0).out = .found dFoo := by decide +kernel
example : (lookup (fun _ _ => true) (wNF []) r0).out = .found { ident := sysIdent "foo".toList "1.0".toList, found := true, version := "1.0".toList }
    ∧ (lookup (fun _ _ => true) (wNF []) r0).trace = [.cacheGet "foo".toList, .system "foo".toList] := by decide +kernel
/-- the variant with the `nofallback` test first (early return) is *not* the documented table: on the same world it
yields an error for the required lookup instead of the subproject's dependency -/
example : (plan (wNF ["foo".toList]) r0).forced = true ∧
    (if (wNF ["foo".toList]).wrapMode == .nofallback then (failure r0.required, wNF ["foo".toList])
     else fallbackStep (fun _ _ => true) (wNF ["foo".toList]) r0 (plan (wNF ["foo".toList]) r0) "foosub".toList none).1 = POutcome.error
    ∧ (fallbackStep (fun _ _ => true) (wNF ["foo".toList]) r0 (plan (wNF ["foo".toList]) r0) "foosub".toList none).1 = .found dFoo := by decide +kernel

/-! ### registration ∘ lookup: `meson.override_dependency()` then `dependency()` -/

/-- **Registration is the documented rule** ("if `static` is not given the override follows
`default_library`": `both` ⇒ it stands for the static and the shared flavour; a plain lookup finds every
override); this is `register_covers` of `DepPolicy/RegisterLemmas.lean`. -/
theorem registration_follows_default_library (t : OvTable) (name : Str) (d : Dep) (s : Option Bool) (dl : DefLib)
    (nat : Bool) (hne : name ≠ []) (hfresh : ∀ σ, tlookup ⟨nat, name, σ⟩ t = none) :
    ∃ t', overrideDependency t name d s dl nat = some t' ∧
      (∀ σ, tlookup ⟨nat, name, σ⟩ t' = if covers s dl σ then some (d, true) else none) ∧
      (∀ k : Key, (k.native ≠ nat ∨ k.name ≠ name) → tlookup k t' = tlookup k t) :=
  register_covers t name d s dl nat hne hfresh

/-- **An overridden dependency wins, through the real registration path.** After
`meson.override_dependency(name, d, static: s)` made in a (sub)project with `default_library = dl` on a
fresh name, every host lookup whose first name is `name` and whose `static:` keyword `σ` is covered by the
documented rule returns `d`, with no effect at all (no system lookup, no cache read, no subproject). -/
theorem register_then_lookup_wins (t : OvTable) (name : Str) (d : Dep) (s : Option Bool) (dl : DefLib) (σ : Option Bool)
    (hne : name ≠ []) (hfresh : ∀ σ', tlookup ⟨false, name, σ'⟩ t = none) (hcov : covers s dl σ = true)
    (r : Request) (h0 : Holder) (ns : List Str) (hm : mkHolder r = .ok h0) (hn : h0.names = name :: ns)
    (hfound : d.found = true) (hv : checkVersion sat r.wanted d.version = true) :
    ∃ t', overrideDependency t name d s dl false = some t' ∧
      ∀ w : World, w.overrides = slice t' false σ →
        (lookup sat w r).out = .found d ∧ (lookup sat w r).trace = [] := by
  rcases register_covers t name d s dl false hne hfresh with ⟨t', h1, h2, _⟩
  refine ⟨t', h1, ?_⟩
  intro w hw
  have ho : alookup name w.overrides = some (d, true) := by
    rw [hw, alookup_slice, h2 σ, hcov]
    rfl
  exact override_wins sat w r h0 name ns d true hm hn ho hfound hv

/-- the variant `if dl in {static, both} … elif dl in {shared, both}` is **not** the documented rule:
with `default_library=both` the shared flavour is never registered … -/
theorem register_elif_counterexample :
    ∃ t', overrideDependencyElif [] "foo".toList dFoo none .both false = some t' ∧
      covers none .both (some false) = true ∧ tlookup ⟨false, "foo".toList, some false⟩ t' = none := by
  refine ⟨_, rfl, rfl, ?_⟩
  decide +kernel

/-- … and `dependency('foo', static: false)` then returns the system's copy instead of the override -/
theorem register_elif_lookup_loses :
    ∃ t', overrideDependencyElif [] "foo".toList dFoo none .both false = some t' ∧
      (lookup (fun _ _ => true)
        { w0 with overrides := slice t' false (some false), system := [("foo".toList, "1.0".toList)], provides := [], subs := [] }
        { r0 with required := false }).out ≠ .found dFoo := by
  refine ⟨_, rfl, ?_⟩
  decide +kernel

/-- the real dispatch on the same input: the override is returned -/
example : ∃ t', overrideDependency [] "foo".toList dFoo none .both false = some t' ∧
      (lookup (fun _ _ => true)
        { w0 with overrides := slice t' false (some false), system := [("foo".toList, "1.0".toList)], provides := [], subs := [] }
        { r0 with required := false }).out = .found dFoo := by
  refine ⟨_, rfl, ?_⟩
  decide +kernel

/-! ### forced fallback takes precedence over `wrap_mode=nofallback`

docs/markdown/Subprojects.md: "`--force-fallback-for=list` … takes precedence over `--wrap-mode=nofallback`". -/

def stepTrace : Step → List Effect
  | .cont _ t => t
  | .hit _ _ t => t
  | .raise _ _ t => t

/-- the clause in the model of the code (`_do_subproject`): with `forcefallback` set the `nofallback` flag is not
looked at — `Interpreter.do_subproject` is entered whatever `wrap_mode` says … -/
theorem forced_enters_do_subproject (h : Holder) (wanted : List Str) (req : Bool) (w : World) (sp : Str)
    (hf : h.forcefallback = true) :
    Effect.doSubproject sp ∈ stepTrace (runCand sat h wanted req w (.subproject sp)) := by
  have h0 : Effect.doSubproject sp ∈ (doSubproject w sp req).2 := by
    rcases doSubproject_trace w sp req with ht | ht <;>
      rw [ht] <;>
      exact List.mem_cons_self
  simp only [runCand, hf, Bool.not_true, Bool.false_and, Bool.false_eq_true, if_false]
  generalize doSubproject w sp req = x at h0
  rcases x with ⟨_ | w', tr⟩
  · exact h0
  · simp only []
    generalize getSubprojectDep sat h w' wanted sp h.spVar = g
    rcases g with ⟨_ | d, tr'⟩ <;> exact List.mem_append_left _ h0

/-- … while an unforced lookup under `nofallback` never gets there -/
theorem unforced_nofallback_skips_do_subproject (h : Holder) (wanted : List Str) (req : Bool) (w : World) (sp : Str)
    (hf : h.forcefallback = false) (hn : h.nofallback = true) :
    stepTrace (runCand sat h wanted req w (.subproject sp)) = [] := by
  simp [runCand, hf, hn, stepTrace]

/-- the same clause in the documented decision table: a forced lookup under `wrap_mode=nofallback` whose fallback
subproject can be configured is answered from that subproject … -/
theorem policy_forced_beats_nofallback (w w' : World) (r : Request) (p : Plan) (sp : Str) (var : Option Str) (s s' : Sub)
    (hf : p.forced = true) (hs : findSub w sp = some s) (hst : s.state = .no)
    (hc : configured w s = some w') (hs' : getSubproject w' sp = some s') :
    fallbackStep sat w r p sp var = fromSubproject sat w' r s' var := by
  simp [fallbackStep, hf, hs, hst, hc, hs']

/-- … and an unforced one is not: nothing suitable -/
theorem policy_unforced_nofallback (w : World) (r : Request) (p : Plan) (sp : Str) (var : Option Str)
    (hf : p.forced = false) (hn : w.wrapMode = .nofallback) :
    fallbackStep sat w r p sp var = (failure r.required, w) := by
  simp [fallbackStep, hf, hn]

/-- `force_fallback_for` naming the dependency makes the plan forced, whatever `wrap_mode` is -/
theorem fff_forces (w : World) (r : Request) (n : Str) (hn : n ∈ r.names) (hf : w.fff.contains n = true) :
    forced0 w r = true := by
  unfold forced0
  have : r.names.any (fun n => w.fff.contains n) = true := List.any_eq_true.mpr ⟨n, hn, hf⟩
  simp only [Bool.or_eq_true]
  exact Or.inl (Or.inr this)

end dep

/-! ## Part (b): wrap acquisition -/
section wrap
open MesonModel.DepPolicy.Wrap

/-- **Hash gate.** On every run of the acquisition — URL, fallback URL, package cache, packagefiles;
source and patch; every fault function — an archive is handed to `unpack_archive` only if its
SHA-256 equals the hash the wrap file records for it. -/
theorem hash_gate (cfg : Cfg) (env : Env) (flt : Faults) (w : What) (sha h : Hash)
    (hused : Event.used w sha ∈ (resolve cfg env flt).st.trace)
    (hrec : (fileCfg cfg w).hash = some h) : sha = h :=
  resolve_gate cfg env flt _ hused h hrec

/-- nothing with a wrong digest is ever put into the package cache either -/
theorem hash_gate_cache (cfg : Cfg) (env : Env) (flt : Faults) (w : What) (sha h : Hash)
    (hst : Event.cacheStore w sha ∈ (resolve cfg env flt).st.trace)
    (hrec : (fileCfg cfg w).hash = some h) : sha = h :=
  resolve_gate cfg env flt _ hst h hrec

/-- **Nothing is fetched under `wrap_mode=nodownload`**: no download attempt from any URL. -/
theorem nodownload_no_fetch (cfg : Cfg) (env : Env) (flt : Faults) (hnd : cfg.nodownload = true)
    (w : What) (fb : Bool) : Event.fetch w fb ∉ (resolve cfg env flt).st.trace := by
  intro hmem
  have := resolve_gate cfg env flt _ hmem
  simp [GateEv, hnd] at this

/-- **A failed acquisition, unpack, patch or diff step removes the freshly created directory.** -/
theorem failed_step_removes_dir (cfg : Cfg) (env : Env) (flt : Faults)
    (hp : (resolve cfg env flt).phase = .patch ∨ (resolve cfg env flt).phase = .acquire) :
    (resolve cfg env flt).ok = false ∧ (resolve cfg env flt).st.dirExists = false ∧
    (resolve cfg env flt).st.dirBuild = false ∧ Event.rmtree ∈ (resolve cfg env flt).st.trace := by
  rcases resolve_exits cfg env flt with ⟨he, _⟩ | ⟨s, hs⟩ | ⟨e, ph, s, hs, _⟩
  · rw [he] at hp
    rcases hp with hp | hp <;> cases hp
  · rw [hs, finish_phase] at hp
    rcases hp with hp | hp <;> cases hp
  · rw [hs]
    simp [cleanup, St.log]

/-- the statement of C10 for the patch/diff step -/
theorem failed_patch_removes_dir (cfg : Cfg) (env : Env) (flt : Faults)
    (hp : (resolve cfg env flt).phase = .patch) :
    (resolve cfg env flt).ok = false ∧ (resolve cfg env flt).st.dirExists = false ∧
    (resolve cfg env flt).st.dirBuild = false ∧ Event.rmtree ∈ (resolve cfg env flt).st.trace :=
  failed_step_removes_dir cfg env flt (Or.inl hp)

/-- every failed run that started without the directory leaves no directory with a build file: a failed fetch,
verify, unpack, patch or diff removes the directory, a missing build file leaves one with nothing to accept -/
theorem failed_run_leaves_nothing_acceptable (cfg : Cfg) (env : Env) (flt : Faults)
    (hne : env.dirExists = false) (hfail : (resolve cfg env flt).ok = false) :
    (resolve cfg env flt).st.dirBuild = false := by
  rcases resolve_exits cfg env flt with ⟨_, hst, _⟩ | ⟨s, hs⟩ | ⟨e, ph, s, hs, _⟩
  · rw [hst]
    simp [initSt, hne]
  · rw [hs, finish_ok] at hfail
    rw [hs, finish_st]
    exact hfail
  · rw [hs]
    rfl

/-- ... so that no later run accepts a half-prepared subproject: after any failed run that started
without the directory, the next run (any faults) does not take the "directory with a build file is
already there" exit with success. -/
theorem failed_run_not_accepted_later (cfg : Cfg) (env : Env) (flt flt' : Faults)
    (hne : env.dirExists = false) (hfail : (resolve cfg env flt).ok = false) :
    ¬ ((resolve cfg (nextEnv env (resolve cfg env flt).st) flt').phase = .early ∧
       (resolve cfg (nextEnv env (resolve cfg env flt).st) flt').ok = true) := by
  have h := failed_run_leaves_nothing_acceptable cfg env flt hne hfail
  intro ⟨hph, hok⟩
  -- an early exit with success needs the build file among what the failed run left
  rcases resolve_exits cfg (nextEnv env (resolve cfg env flt).st) flt' with ⟨_, _, hb⟩ | ⟨s, hs⟩ | ⟨e, ph, s, hs, _⟩
  · have := hb hok
    simp [initSt, nextEnv, h] at this
  · rw [hs, finish_phase] at hph
    cases hph
  · rw [hs] at hok
    cases hok

/-! non-vacuity: concrete runs -/

def goodC : Content := { sha := 1, unpackOk := true, createsDir := true, hasBuildfile := true }
def evilC : Content := { sha := 2, unpackOk := true, createsDir := true, hasBuildfile := true }
def noBuildC : Content := { sha := 5, unpackOk := true, createsDir := true, hasBuildfile := false }
def urlCfg (nd : Bool) : Cfg :=
  { nodownload := nd, source := { hasFilename := true, hasUrl := true, hasFallbackUrl := true, hash := some 1 },
    hasPatchFilename := false, patch := { hasFilename := false, hasUrl := false, hasFallbackUrl := false, hash := none },
    hasPatchDirectory := false, leadDirMissing := false }
def urlEnv (diffs : List DiffEnv) (src : Content) : Env :=
  { dirExists := false, dirIsDir := true, dirBuild := false, cachedDir := none,
    source := { cache := none, pkgfile := none, url := .ok evilC, fallbackUrl := .ok src },
    patch := { cache := none, pkgfile := none, url := .wrapFail, fallbackUrl := .wrapFail },
    patchDirExists := false, patchDirBuild := false, diffs := diffs }
def noFaults : Faults := fun _ => .none

/-- tampered primary URL, good mirror: the tampered archive is fetched but never used; the good one is -/
example : (resolve (urlCfg false) (urlEnv [] goodC) noFaults).ok = true
    ∧ (resolve (urlCfg false) (urlEnv [] goodC) noFaults).st.trace =
      (List.replicate 1 (Event.fetch .source false)) ++ [.fetch .source true, .cacheStore .source 1, .used .source 1] := by decide +kernel
/-- the same under nodownload: an error, and nothing fetched -/
example : (resolve (urlCfg true) (urlEnv [] goodC) noFaults).ok = false
    ∧ (resolve (urlCfg true) (urlEnv [] goodC) noFaults).st.trace = [.rmtree] := by decide +kernel
/-- a diff that does not apply: phase `patch`, directory removed -/
example : (resolve (urlCfg false) (urlEnv [⟨true, false⟩] goodC) noFaults).phase = .patch
    ∧ (resolve (urlCfg false) (urlEnv [⟨true, false⟩] goodC) noFaults).st.dirExists = false := by decide +kernel

end wrap

/-! ## Part (c): the persistent cache of system dependencies (`CoreData.deps`) -/
section cache
open MesonModel.DepPolicy.Cache
open MesonModel.Generated

/-- **Obligation on the live source**: the type → option table written in
`DependencyCache.__calculate_subkey` (re-extracted on every run) is the documented relevance: pkg-config
results are keyed on `pkg_config_path`, CMake results on `cmake_prefix_path`, the others on neither. -/
theorem generated_table_is_documented : ∀ t, DepCacheTable.table t = relevant t := by
  intro t
  cases t <;> rfl

/-- **A cache hit is sound, for every history**: after any sequence of option changes, `put`s, `get`s and
`clear`s on both machines — across any number of configurations — a dependency returned by `get` was
stored while the search-path option relevant to *its* type had the value it has now. -/
theorem cache_hit_sound (ops : List Op) (b : Bool) (ident : List Char) (d : CDep)
    (h : get DepCacheTable.table ((run DepCacheTable.table init ops).1.mc b) ident = some d) :
    Reusable ((run DepCacheTable.table init ops).1.mc b).paths d := by
  have ht : DepCacheTable.table = relevant := funext generated_table_is_documented
  rw [ht] at h ⊢
  exact get_sound _ ((run_inv ops init init_inv).mc b) ident d h

/-- **A cached result is reused only while the search path that produced it is unchanged** (and a change of
the other option does not invalidate it): for an identifier cached once. -/
theorem cache_reused_iff_path_unchanged (c : MCache) (i id : List Char) (t : CType) (p' : Paths)
    (hfresh : slookup i c.subs = none) :
    get DepCacheTable.table { put DepCacheTable.table c i id t with paths := p' } i =
      if p'.sel (relevant t) = c.paths.sel (relevant t) then some ({ id := id, type := t, storedAt := c.paths } : CDep) else none := by
  have ht : DepCacheTable.table = relevant := funext generated_table_is_documented
  rw [ht]
  exact fresh_put_get c i id t p' hfresh

/-- the table with the pkg-config entry reading `cmake_prefix_path` -/
def swappedTable : CType → PathSel
  | .pkgconfig => .cmake
  | .cmake => .cmake
  | .other => .none

/-- … is refuted: a pkg-config result cached under one `pkg_config_path` is served under another -/
theorem swapped_table_unsound :
    ∃ (ops : List Op) (d : CDep),
      get swappedTable (run swappedTable init ops).1.host "foo".toList = some d ∧
      ¬ Reusable (run swappedTable init ops).1.host.paths d := by
  refine ⟨[.setPkg false ["/a".toList], .put false "foo".toList "d1".toList .pkgconfig, .setPkg false ["/b".toList]],
          { id := "d1".toList, type := .pkgconfig, storedAt := ⟨["/a".toList], []⟩ }, by decide +kernel, ?_⟩
  unfold Reusable
  decide +kernel

end cache

/-! ## Part (d): wrap files → which subproject provides a dependency -/
section wrapfile
open MesonModel.DepPolicy.WrapFile

/-- **The provider table is a function.** For every file system, every directory listing (in any order) and every
`wrapdb.json`: if `Resolver.load_wraps` succeeds, two wraps that declare the same dependency name (file name,
`dependency_names`, `name = variable`, a bare directory's own name) are one and the same wrap … -/
theorem provider_table_is_function (fs : FS) (fuel : Nat) (base : Path) (files dirs : List Str)
    (wdb : List (Str × List Str × List Str)) (r : Resolver) (h : loadWraps fs fuel base files dirs wdb = .ok r)
    (e1 e2 : Str × PkgDef) (h1 : e1 ∈ r.wraps) (h2 : e2 ∈ r.wraps) (k : Str)
    (hk1 : k ∈ keys e1.2.providedDeps) (hk2 : k ∈ keys e2.2.providedDeps) : e1.2 = e2.2 := by
  have hl := loadWraps_loaded fs fuel base files dirs wdb r h
  have a := hl.provider e1 h1 k hk1
  have b := hl.provider e2 h2 k hk2
  rw [a] at b
  exact Option.some.inj b

/-- … in other words **a name declared by two different wraps makes the code raise** (`WrapException`
'Multiple wrap files provide …'), whatever the order in which the wraps are registered -/
theorem duplicate_provide_raises (ws : List PkgDef) (w1 w2 : PkgDef) (k : Str) (h1 : w1 ∈ ws) (h2 : w2 ∈ ws) (hne : w1 ≠ w2)
    (hk1 : k ∈ keys w1.providedDeps) (hk2 : k ∈ keys w2.providedDeps) :
    ∃ e, addAll ws ⟨[], []⟩ = .error e := by
  cases h : addAll ws ⟨[], []⟩ with
  | error e => exact ⟨e, rfl⟩
  | ok t =>
    have a := (addAll_iff ws _ t h k w1).mpr (.inr ⟨h1, hk1⟩)
    rw [(addAll_iff ws _ t h k w2).mpr (.inr ⟨h2, hk2⟩)] at a
    exact absurd (Option.some.inj a).symm hne

/-- **`find_dep_provider` names the wrap that declares the name** (lower-cased), with the variable that wrap gives:
for a resolver in the state `load_wraps` leaves (`Loaded`), without `wrapdb.json`. -/
theorem find_dep_provider_spec (r : Resolver) (hl : Loaded r) (hdb : r.wrapdbDeps = []) (n sp : Str) (v : Option Str) :
    WrapFile.findDepProvider r n = (some sp, v) ↔
      ∃ e ∈ r.wraps, e.2.name = sp ∧ lower n ∈ keys e.2.providedDeps ∧ v = getVar (lower n) e.2.providedDeps := by
  unfold WrapFile.findDepProvider
  simp only [hdb]
  constructor
  · intro h
    cases hp : alookup (lower n) r.providedDeps with
    | none =>
      rw [hp] at h
      simp [alookup] at h
    | some w =>
      rw [hp] at h
      simp only [Prod.mk.injEq, Option.some.injEq] at h
      obtain ⟨⟨e, he, rfl⟩, hk⟩ := hl.sound _ _ hp
      exact ⟨e, he, h.1, hk, h.2.symm⟩
  · rintro ⟨e, he, hname, hk, hv⟩
    rw [hl.provider e he _ hk]
    simp [hname, hv]

/-- **Implicit provide**: every wrap `load_wraps` knows — `foo.wrap`, or a bare directory `foo` — is the provider
of its own name (asked in any case: the query is lower-cased); and when the wrap file has nothing else to say
(no `[provide]` entries) the answer carries no variable name. -/
theorem implicit_provide (r : Resolver) (hl : Loaded r) (e : Str × PkgDef) (he : e ∈ r.wraps) (q : Str)
    (hq : lower q = lower e.1) :
    (WrapFile.findDepProvider r q).1 = some e.1 ∧
    (e.2.providedDeps = [(lower e.1, none)] → WrapFile.findDepProvider r q = (some e.1, none)) := by
  unfold WrapFile.findDepProvider
  simp only [hq, hl.provides_own e he, (hl.own e he).2]
  refine ⟨trivial, ?_⟩
  intro hdeps
  simp [hdeps, getVar, alookup]

/-- a wrap file without a `[provide]` section (and not a redirect) declares exactly its own lower-cased name -/
theorem wrap_file_without_provide (fs : FS) (fuel : Nat) (dir : Path) (fname text ty : Str) (ini : Ini)
    (vals : List (Str × Str)) (p : PkgDef)
    (hr : readFile fs (dir ++ [fname]) = some text) (hp : parseWrap text = .ok (ini, ty, vals)) (hty : ty ≠ s "redirect")
    (hnp : alookup (s "provide") ini.sections = none)
    (h : fromWrapFile fs (fuel + 1) dir fname = .ok p) :
    p.name = fname.take (fname.length - 5) ∧ p.providedDeps = [(lower (fname.take (fname.length - 5)), none)] := by
  simp only [fromWrapFile, hr, hp, hty, if_false] at h
  split at h
  · cases h
  · rename_i q hq
    have hq' := mkPkg_own _ _ _ _ hq
    unfold parseProvideSection at h
    split at h
    · cases h
    · simp only [hnp] at h
      cases h
      exact ⟨hq'.1, hq'.2.1⟩

/-- **The lookup's view of the wrap files is the Resolver's**: in a world whose `[provide]` table is the one derived
from a loaded `Resolver`, `find_dep_provider` and `get_varname` as `DependencyFallbacksHolder.lookup` uses them answer
what the Resolver's methods answer. -/
theorem world_view_agrees (w : World) (r : Resolver) (hl : Loaded r) (hw : w.provides = providesOf r)
    (hdb : r.wrapdbDeps = []) :
    (∀ n, MesonModel.DepPolicy.findDepProvider w n = WrapFile.findDepProvider r n) ∧
    (∀ sp dep, MesonModel.DepPolicy.getVarname w sp dep = WrapFile.getVarname r sp dep) := by
  refine ⟨world_findDepProvider w r hw hdb, ?_⟩
  intro sp dep
  unfold MesonModel.DepPolicy.getVarname WrapFile.getVarname providesOf at *
  rw [hw, alookup_map]
  -- the Resolver answers `none` unless the wrap stored under `sp` declares `dep`; that wrap is then the provider of
  -- `dep`, and its name is `sp`
  have hno : (∀ v, alookup dep r.providedDeps = some v → v.name ≠ sp) →
      none = match alookup sp r.wraps with
        | some p => getVar dep p.providedDeps
        | none => none := by
    intro h
    cases hs : alookup sp r.wraps with
    | none => rfl
    | some p =>
      cases hdp : alookup dep p.providedDeps with
      | none => simp [getVar, hdp]
      | some x =>
        have hmem := alookup_mem sp p _ hs
        exact absurd (hl.own (sp, p) hmem).2 (h p (hl.provider (sp, p) hmem dep (mem_keys_of_alookup dep x _ hdp)))
  cases hd : alookup dep r.providedDeps with
  | none => exact hno fun v hv => nomatch hd.symm.trans hv
  | some v =>
    simp only [Option.map]
    by_cases hn : v.name = sp
    · rw [if_pos hn, ← hn, hl.stored hd]
    · rw [if_neg hn]
      exact hno fun v' hv' => Option.some.inj (hd.symm.trans hv') ▸ hn

/-- **The fallback of the documented policy is the subproject named by the provider.** For wrap files that load, a
world that sees them, and a required `dependency(n)` without `fallback:`/`allow_fallback: false`: if the Resolver's
`find_dep_provider(n)` names `sp`, the plan of the decision table designates exactly `sp` (with the variable the wrap
file gives) … -/
theorem fallback_is_provider (w : World) (r : Resolver) (hw : w.provides = providesOf r) (hdb : r.wrapdbDeps = [])
    (q : Request) (n sp : Str) (v : Option Str) (hn : q.names = [n]) (hlow : lower n = n) (hfb : q.fallback = none)
    (hallow : q.allowFallback ≠ some false) (hreq : q.required = true)
    (hp : WrapFile.findDepProvider r n = (some sp, v)) (hne : sp ≠ []) :
    (plan w q).fallback = some (sp, v) := by
  have h1 := world_findDepProvider w r hw hdb n
  rw [hp] at h1
  unfold MesonModel.DepPolicy.findDepProvider at h1
  rw [hlow] at h1
  have h2 : alookup n w.provides = some (sp, v) := by
    split at h1
    · rename_i ha
      cases h1
      exact ha
    · cases h1
  have hemp : sp.isEmpty = false := List.isEmpty_eq_false_iff.mpr hne
  have hal : (allowOf q == some false) = false := by
    unfold allowOf
    simp [hfb]
    exact hallow
  unfold plan explicitFallback
  simp only [hfb, hal, hn, firstProvider, h2, hemp, hreq]
  simp

/-- … and `DependencyFallbacksHolder.lookup` returns what the decision table prescribes with that plan
(`lookup_eq_policy`): the answer comes from the provider's subproject or — unless fallback is forced — the system. -/
theorem lookup_uses_provider (sat : Str → List Str → Bool) (w : World) (r : Resolver) (hw : w.provides = providesOf r)
    (hdb : r.wrapdbDeps = [])
    (q : Request) (n sp : Str) (v : Option Str) (hn : q.names = [n]) (hlow : lower n = n) (hfb : q.fallback = none)
    (hallow : q.allowFallback ≠ some false) (hreq : q.required = true) (hok : namesOk q.names = true)
    (hp : WrapFile.findDepProvider r n = (some sp, v)) (hne : sp ≠ []) :
    ∃ p : Plan, p.fallback = some (sp, v) ∧
      (lookup sat w q).out.simplify = (decide sat w q p).1 ∧ (lookup sat w q).world = (decide sat w q p).2 := by
  refine ⟨plan w q, fallback_is_provider w r hw hdb q n sp v hn hlow hfb hallow hreq hp hne, ?_⟩
  have hwf : WellFormed q := by
    intro x hx
    rw [hn] at hx
    simp at hx
    rw [hx]
    exact hlow
  have h := lookup_eq_policy sat w q hwf
  have hpol : policy sat w q = decide sat w q (plan w q) := by
    unfold policy fallbackArgOk
    simp [hok, hfb]
  rw [hpol] at h
  exact h

/-- **Wraps merged from a subproject's own `subprojects/` never displace an existing provider** (`merge_wraps`,
`ignore_dups=True`: the first wins) — except the entry of a bare directory that a merged wrap file now describes
(the documented replacement in `merge_wraps`). -/
theorem merged_wraps_never_displace (ws : List (Str × PkgDef)) (r r' : Resolver) (h : mergeWraps ws r = .ok r')
    (key : Str) (w : PkgDef) (hk : alookup key r.providedDeps = some w) (hne : ∀ e ∈ ws, key ≠ lower e.2.directory) :
    alookup key r'.providedDeps = some w :=
  mergeWraps_old ws r r' h key w hk hne

/-! non-vacuity, from file *texts*: `foosub.wrap` with a `[provide]` section, `bar.wrap` without -/

/-- a file text, given line by line: the kernel turns a string literal into its list of characters in time
quadratic in its length -/
def textOf (lines : List String) : Str := lines.flatMap fun l => l.toList ++ ['\n']

def fooWrapText : Str :=
  textOf ["[wrap-file]", "directory = foo-1.0", "# the archive", "source_url = https://example.invalid/foo.tgz", "",
          "[provide]", "dependency_names = foo-1.0, Foo", "foovar : foo_dep", "program_names = fooprog"]
def barWrapText : Str := textOf ["[wrap-git]", "url=https://example.invalid/bar.git"]
def fs0 : FS := [(["foosub.wrap".toList], fooWrapText), (["bar.wrap".toList], barWrapText)]
def rv0 : Except WErr Resolver := loadWraps fs0 4 [] ["bar.wrap".toList, "foosub.wrap".toList, "README".toList] ["foo-1.0".toList, "extra".toList] []

def barPkg : PkgDef :=
  { name := s "bar", type := some (s "git"), directory := s "bar", providedDeps := [(s "bar", none)],
    providedPrograms := [], redirected := false }
def fooPkg : PkgDef :=
  { name := s "foosub", type := some (s "file"), directory := s "foo-1.0",
    providedDeps := [(s "foosub", none), (s "foo-1.0", none), (s "foo", none), (s "foovar", some (s "foo_dep"))],
    providedPrograms := [s "fooprog"], redirected := false }
/-- what `load_wraps` makes of the two texts and the listing: the directory `foo-1.0` belongs to `foosub.wrap`,
`extra` is a bare directory -/
def rv0Loaded : Resolver :=
  { wraps := [(s "bar", barPkg), (s "foosub", fooPkg), (s "extra", dirPkg (s "extra"))],
    providedDeps := [(s "bar", barPkg), (s "foosub", fooPkg), (s "foo-1.0", fooPkg), (s "foo", fooPkg),
                     (s "foovar", fooPkg), (s "extra", dirPkg (s "extra"))],
    providedPrograms := [(s "fooprog", fooPkg)], wrapdbDeps := [], wrapdbProgs := [], loadedDirs := [[]] }

/-- the load of the two files, and the load with a `foo.wrap` carrying `bar.wrap`'s text beside them: stated together
so that the kernel reads and parses the shared texts once; the examples below only query the tables -/
theorem rv0_loaded : rv0.toOption = some rv0Loaded ∧
    (loadWraps ((["foo.wrap".toList], barWrapText) :: fs0) 4 [] ["foo.wrap".toList, "foosub.wrap".toList] [] []).toOption
      = none := by
  decide +kernel

example : (rv0.toOption.map (fun r => (keys r.wraps, keys r.providedDeps, keys r.providedPrograms)))
    = some (["bar".toList, "foosub".toList, "extra".toList],
            ["bar".toList, "foosub".toList, "foo-1.0".toList, "foo".toList, "foovar".toList, "extra".toList],
            ["fooprog".toList]) := by
  rw [rv0_loaded.1]
  decide +kernel
example : rv0.toOption.map (fun r => (WrapFile.findDepProvider r "FOO".toList, WrapFile.findDepProvider r "foovar".toList))
    = some ((some "foosub".toList, none), (some "foosub".toList, some "foo_dep".toList)) := by
  rw [rv0_loaded.1]
  decide +kernel
example : rv0.toOption.map (fun r => (WrapFile.findDepProvider r "bar".toList, WrapFile.findDepProvider r "nosuch".toList))
    = some ((some "bar".toList, none), (none, none)) := by
  rw [rv0_loaded.1]
  decide +kernel
example : rv0.toOption.map (fun r => findProgramProvider r ["x".toList, "fooprog".toList]) = some (some "foosub".toList) := by
  rw [rv0_loaded.1]
  decide +kernel
/-- two wrap files declaring `foo`: the load raises -/
example : (loadWraps ((["foo.wrap".toList], barWrapText) :: fs0) 4 [] ["foo.wrap".toList, "foosub.wrap".toList] [] []).toOption = none :=
  rv0_loaded.2
/-- text → tables → world → `dependency('foo')`: the provider's subproject is configured and answers -/
example : rv0.toOption.map (fun r =>
      let res := lookup (fun _ _ => true) { w0 with provides := providesOf r } r0
      (res.out, res.trace)) =
    some (.found dFoo, [.cacheGet "foo".toList, .system "foo".toList, .doSubproject "foosub".toList, .configure "foosub".toList]) := by
  rw [rv0_loaded.1]
  decide +kernel

end wrapfile

end MesonModel.Props.C10
