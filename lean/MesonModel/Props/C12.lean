/-
C12 — `meson test` runs each test once, isolates serial tests and reports truthfully.

The scheduler theorems quantify over every configuration and every finite schedule, i.e. every label
sequence `tr` with `Exec c tr s` (each label enabled in the state it is taken from; the environment chooses
which task moves next and with which result — this is where durations and interleavings live).
-/
import MesonModel.Sched.ReportLemmas
import MesonModel.Sched.ConfigLemmas
import MesonModel.Sched.SelectLemmas
import MesonModel.Sched.ReplayLemmas
import MesonModel.Sched.Timeout

namespace MesonModel.Props.C12
open MesonModel.Sched MesonModel.Sched.TestResult

/-- while a non-parallel test runs, no other test runs -/
theorem serial_exclusive {c : Config} {tr : List Label} {s : State} (h : Exec c tr s) {i j : Nat}
    (hp : c.isPar i = false) (hi : (s.st i).isRunning = true) (hj : (s.st j).isRunning = true) : i = j :=
  h.inv.serial_alone hp (St.running_active hi) (St.running_active hj)

/-- stronger: while the task of a non-parallel test exists and is not done, no other task is even waiting for
the semaphore (all earlier ones are done, no later one has been created) -/
theorem serial_alone {c : Config} {tr : List Label} {s : State} (h : Exec c tr s) {i j : Nat}
    (hp : c.isPar i = false) (hi : (s.st i).isActive = true) (hj : (s.st j).isActive = true) : i = j :=
  h.inv.serial_alone hp hi hj

/-- the same for the configuration `doit` builds from the declared `is_parallel` flags: runner `i` of the
repeated list is test `i % len`; a test declared non-parallel never runs together with anything -/
theorem declared_serial_exclusive (jobs reps maxfail : Nat) (declared : List Bool) {tr : List Label} {s : State}
    (h : Exec (mkConfig jobs reps maxfail declared) tr s) {i j : Nat} (hi : i < reps * declared.length)
    (hd : declared[i % declared.length]? = some false)
    (ri : (s.st i).isRunning = true) (rj : (s.st j).isRunning = true) : i = j :=
  serial_exclusive h (mkConfig_isPar_false _ _ _ _ _ (by rw [mkConfig_n]; exact hi) hd) ri rj

/-- with `--num-processes 1` (or a clamp to 1) nothing ever overlaps -/
theorem one_job_exclusive (jobs reps maxfail : Nat) (declared : List Bool) {tr : List Label} {s : State}
    (h : Exec (mkConfig jobs reps maxfail declared) tr s) (h1 : (mkConfig jobs reps maxfail declared).jobs ≤ 1)
    {i j : Nat} (ri : (s.st i).isRunning = true) (rj : (s.st j).isRunning = true) : i = j := by
  have li : i < (mkConfig jobs reps maxfail declared).n := h.inv.lt_n fun e => by rw [e] at ri; cases ri
  exact serial_exclusive h (mkConfig_isPar_jobs1 _ _ _ _ _ li h1) ri rj

/-- only tasks of the runner list ever run, so `countRunning` counts every running test -/
theorem running_is_counted {c : Config} {tr : List Label} {s : State} (h : Exec c tr s) {i : Nat}
    (ri : (s.st i).isRunning = true) : i < c.n :=
  h.inv.lt_n fun e => by rw [e] at ri; cases ri

theorem running_plus_free_slots {c : Config} {tr : List Label} {s : State} (h : Exec c tr s) :
    countRunning c s + s.sem = c.jobs := h.jobInv

theorem job_bound {c : Config} {tr : List Label} {s : State} (h : Exec c tr s) : countRunning c s ≤ c.jobs := by
  have := h.jobInv
  unfold JobInv at this
  unfold countRunning
  omega

/-- never more tests running than the *requested* number of jobs (`doit` only ever lowers it) -/
theorem job_bound_requested (jobs reps maxfail : Nat) (declared : List Bool) {tr : List Label} {s : State}
    (h : Exec (mkConfig jobs reps maxfail declared) tr s) :
    countRunning (mkConfig jobs reps maxfail declared) s ≤ jobs :=
  Nat.le_trans (job_bound h) (mkConfig_jobs_le _ _ _ _)

theorem started_at_most_once {c : Config} {tr : List Label} {s : State} (h : Exec c tr s) (i : Nat) :
    startCount i tr ≤ 1 := by
  rw [h.startCount_eq]
  split <;> omega

/-- a complete run without `--maxfail` and without a failure under `--repeat` started every runner exactly
once and has a processed result for each -/
theorem all_started_exactly_once_when_complete {c : Config} {tr : List Label} {s : State} (h : Exec c tr s)
    (hm : c.maxfail = 0) (hr : repeatFailed c s = false) (hf : s.main = .finished) :
    ∀ i, i < c.n → startCount i tr = 1 ∧ ∃ r, s.st i = .done r ∧ r.isFinished = true ∧ r ∈ resultsOf tr := by
  intro i hi
  rcases h.finished_dichotomy hf i with h1 | ⟨_, h1⟩
  · exact h1
  · rcases h1 hi with h2 | h2
    · rw [(h.cutInv.noMaxfail hm).1] at h2
      cases h2
    · rw [hr] at h2
      cases h2

/-- reports are truthful also when the run is cut short: in a complete run every test that was started has
exactly one processed, finished result (`TestSubprocess.wait` / `_run_cmd` absorb a cancellation, so it cannot
drop a started test: the model has no transition that ends a started test without a result) -/
theorem started_is_reported {c : Config} {tr : List Label} {s : State} (h : Exec c tr s)
    (hf : s.main = .finished) (i : Nat) (h1 : startCount i tr = 1) :
    ∃ r, s.st i = .done r ∧ r.isFinished = true ∧ r ∈ resultsOf tr := by
  rcases h.finished_dichotomy hf i with ⟨_, hd⟩ | ⟨h0, _⟩
  · exact hd
  · omega

/-- conversely: a runner that was never started in a complete run is excused only by an interruption
(which only `--maxfail` causes, after that many failures) or by a failure under `--repeat` -/
theorem unstarted_only_when_cut {c : Config} {tr : List Label} {s : State} (h : Exec c tr s)
    (hf : s.main = .finished) {i : Nat} (hi : i < c.n) (h0 : startCount i tr = 0) :
    (s.interrupted = true ∧ 0 < c.maxfail ∧ c.maxfail ≤ s.failCount) ∨
    (c.repeatGt1 = true ∧ 0 < s.failCount) := by
  rcases h.finished_dichotomy hf i with ⟨h1, _⟩ | ⟨_, hcut⟩
  · omega
  · rcases hcut hi with hq | hq
    · exact Or.inl ⟨hq, h.cutInv.interruptedWhy hq⟩
    · exact Or.inr (by simpa [repeatFailed] using hq)

/-- from every reachable state in which `_run_tests` has not returned, some transition is enabled
(the scheduler cannot deadlock; needs at least one job slot, which `doit` guarantees for `-j ≥ 1`) -/
theorem progress {c : Config} {tr : List Label} {s : State} (h : Exec c tr s) (hj : 1 ≤ c.jobs)
    (hn : s.main ≠ .finished) : ∃ l s', step c s l = some s' := by
  have hi := h.inv
  rcases forall_lt_or_exists (fun j => (s.st j).isTerminal) s.next with hall | ⟨j, hjl, hq⟩
  · -- every created task is done: the main coroutine can move
    cases hm : s.main with
    | finished => exact absurd hm hn
    | top =>
      by_cases hlt : s.next < c.n
      · exact ⟨_, _, (Step.launch hm hlt fun _ => hall).to_step⟩
      · exact ⟨_, _, (Step.loopEnd hm (by have := hi.next_le; omega)).to_step⟩
    | waitSerial =>
      exact ⟨_, _, (Step.serialDone hm (hall _ (by have := (hi.waitSerial hm).1; omega))).to_step⟩
    | final => exact ⟨_, _, (Step.allDone hm hall).to_step⟩
  · -- a created task is not done: it is active, and some task can move
    rcases St.not_terminal_cases _ hq with h1 | h1
    · exact absurd h1 (hi.launched j hjl)
    · exact active_progress hi h.jobInv hj h1

/-- an event log (test starts and reported results) accepted by the driver's `replay` is exactly what an
observer sees of some complete execution of the transition system; so every theorem above applies to every
run of the real scheduler whose log is accepted -/
theorem trace_checker_sound {c : Config} {evs : List Event} {s : State} (h : replay c evs = .ok s) :
    ∃ tr, Exec c tr s ∧ observe tr = evs ∧ s.main = .finished :=
  replay_sound h

/-- with `expected_exitcode: e` the status `e` passes; other statuses follow the same rule -/
theorem expected_exitcode_table (rc e : Int) (shouldFail : Bool) :
    classifyRun .exited rc (some e) shouldFail =
      if rc = e then (if shouldFail then UNEXPECTEDPASS else OK)
      else if rc = 77 then SKIP
      else if rc = 99 then ERROR
      else (if shouldFail then EXPECTEDFAIL else FAIL) := by
  simp only [classifyRun, completeExitCode, afterWait, completeBase, Generated.gnuSkipReturncode,
    Generated.gnuErrorReturncode, Option.getD]
  by_cases h0 : rc = e
  · subst h0
    cases shouldFail <;> simp
  · by_cases h77 : rc = 77
    · subst h77
      cases shouldFail <;> simp [h0]
    · by_cases h99 : rc = 99
      · subst h99
        cases shouldFail <;> simp [h0]
      · cases shouldFail <;> simp [h0, h77, h99]

/-- the documented exit-status rule (no `expected_exitcode`): 0 OK, 77 SKIP, 99 ERROR, anything else FAIL,
and `should_fail` inverts exactly OK and FAIL -/
theorem classification_table (rc : Int) (shouldFail : Bool) :
    classifyRun .exited rc none shouldFail =
      if rc = 0 then (if shouldFail then UNEXPECTEDPASS else OK)
      else if rc = 77 then SKIP
      else if rc = 99 then ERROR
      else (if shouldFail then EXPECTEDFAIL else FAIL) :=
  expected_exitcode_table rc 0 shouldFail

theorem timeout_classification (rc : Int) (e : Option Int) (shouldFail : Bool) :
    classifyRun .timedOut rc e shouldFail = TIMEOUT := by
  cases shouldFail <;> simp [classifyRun, completeExitCode, afterWait, completeBase]

theorem interrupt_classification (rc : Int) (e : Option Int) (shouldFail : Bool) :
    classifyRun .cancelled rc e shouldFail = INTERRUPT := by
  cases shouldFail <;> simp [classifyRun, completeExitCode, afterWait, completeBase]

/-- classification always yields a finished result (so `process_test_result` never hits its exit branch) -/
theorem classification_finished (w : WaitOutcome) (rc : Int) (e : Option Int) (shouldFail : Bool) :
    (classifyRun w rc e shouldFail).isFinished = true := by
  apply completeBase_finished
  cases w
  · intro h
    simp only [afterWait, ne_eq, not_true_eq_false, if_false] at h
    repeat' split at h
    all_goals cases h
  · simp [afterWait]
  · simp [afterWait]

/-- each counter equals the number of results of its class (FAIL, ERROR and INTERRUPT share `Fail`) -/
theorem tally_matches_classification (rs : List TestResult) :
    tallyOf rs =
      { ok := rs.countP (· == OK),
        expectedFail := rs.countP (· == EXPECTEDFAIL),
        fail := rs.countP (fun r => r == FAIL || r == ERROR || r == INTERRUPT),
        unexpectedPass := rs.countP (· == UNEXPECTEDPASS),
        skip := rs.countP (· == SKIP),
        ignored := rs.countP (· == IGNORED),
        timeout := rs.countP (· == TIMEOUT) } := by
  rw [tallyOf, foldl_add!]
  have : TestResult.countsAsFail = (fun r => r == FAIL || r == ERROR || r == INTERRUPT) := by
    funext r
    cases r <;> rfl
  simp [this]

theorem scheduler_tally {c : Config} {tr : List Label} {s : State} (h : Exec c tr s) :
    s.tally = tallyOf (resultsOf tr) ∧ ∀ r ∈ resultsOf tr, r.isFinished = true :=
  ⟨h.tally_eq, h.results_finished⟩

/-- non-zero exit status iff some processed result is bad (FAIL, ERROR, TIMEOUT, INTERRUPT, UNEXPECTEDPASS) -/
theorem exit_nonzero_iff_bad (rs : List TestResult) :
    (tallyOf rs).exitStatus ≠ 0 ↔ ∃ r, r ∈ rs ∧ r.isBad = true := by
  rw [← List.countP_pos_iff, ← totalFailures_tallyOf]
  unfold Tally.exitStatus
  split <;> simp_all

theorem exit_status_zero_or_one (t : Tally) : t.exitStatus = 0 ∨ t.exitStatus = 1 := by
  unfold Tally.exitStatus
  split <;> simp

/-- the printed summary always has the `Ok` and `Fail` rows and never a zero row otherwise -/
theorem summary_rows (t : Tally) :
    (0, t.ok) ∈ t.summaryRows ∧ (2, t.fail) ∈ t.summaryRows ∧
    ∀ p ∈ t.summaryRows, p.1 = 0 ∨ p.1 = 2 ∨ p.2 > 0 := by
  refine ⟨by simp [Tally.summaryRows], by simp [Tally.summaryRows], ?_⟩
  intro p hp
  simp only [Tally.summaryRows, List.mem_filter] at hp
  have := hp.2
  simp at this
  omega

/-! ### Totals against what was run, when the run is cut short (`--maxfail`, INTERRUPT results)

`Report` is the reporting state of `TestHarness` (`process_test_result`, `is_bad_result`, `maxfail_reached`,
`collected_failures`, `summary`, `total_failure_count`).  An operation list is any sequence of processed results
with `maxfail_reached` coming on at *any* points (`ROp.reach`) in addition to the points the rule of `run_test`
chooses; `m` is `--maxfail`. -/

/-- finished results never reach the `sys.exit('Unknown test result')` branch: the run of the reporting state
is defined for every result sequence and every placement of the flag -/
theorem report_defined (m : Nat) (ops : List ROp) (hf : ∀ r ∈ ropResults ops, r.isFinished = true) :
    ∃ h, Report.run m {} ops = some h :=
  Report.run_total m ops {} hf

/-- **printed totals = tally of the classifications, log = what was processed**: wherever `maxfail_reached`
comes on, the seven counters are the tally of exactly the processed results (INTERRUPTs of tests killed by the
cut included), the loggers (testlog.json) were handed exactly those results in order, and the numbers `summary()`
prints add up to the number of results processed -/
theorem report_totals (m : Nat) (ops : List ROp) (h : Report) (hr : Report.run m {} ops = some h) :
    h.tally = tallyOf (ropResults ops) ∧
    h.logged = ropResults ops ∧
    h.tally.printedTotal = (ropResults ops).length := by
  obtain ⟨hf, ht, hl⟩ := Report.run_tally hr
  have ht' : h.tally = tallyOf (ropResults ops) := ht
  refine ⟨ht', by simpa using hl, ?_⟩
  rw [Tally.printedTotal_eq_total, ht', total_tallyOf _ hf]

theorem report_rows (m : Nat) (ops : List ROp) (h : Report) (hr : Report.run m {} ops = some h) :
    h.tally.summaryRows = (tallyOf (ropResults ops)).summaryRows ∧
    h.tally.fail = (ropResults ops).countP (fun r => r == FAIL || r == ERROR || r == INTERRUPT) ∧
    h.tally.timeout = (ropResults ops).countP (· == TIMEOUT) := by
  obtain ⟨ht, _, _⟩ := report_totals m ops h hr
  rw [ht, tally_matches_classification]
  exact ⟨rfl, rfl, rfl⟩

/-- **exit status**: non-zero iff a bad result (FAIL, ERROR, TIMEOUT, INTERRUPT, UNEXPECTEDPASS) was processed —
wherever the flag came on -/
theorem report_exit_nonzero_iff_bad (m : Nat) (ops : List ROp) (h : Report) (hr : Report.run m {} ops = some h) :
    h.exitStatus ≠ 0 ↔ ∃ r, r ∈ ropResults ops ∧ r.isBad = true := by
  obtain ⟨ht, _, _⟩ := report_totals m ops h hr
  unfold Report.exitStatus
  rw [ht]
  exact exit_nonzero_iff_bad _

/-- `collected_failures` ("Summary of Failures") holds only processed bad results, and holds every processed bad
result other than INTERRUPT; so the totals cannot be derived from it (the interrupted tests of a `--maxfail` cut
are run, printed, logged and counted, but not listed) -/
theorem collected_failures_rule (m : Nat) (ops : List ROp) (h : Report) (hr : Report.run m {} ops = some h) :
    (∀ r ∈ h.collected, r ∈ ropResults ops ∧ r.isBad = true) ∧
    (∀ r ∈ ropResults ops, r.isBad = true → r ≠ INTERRUPT → r ∈ h.collected) := by
  obtain ⟨l, e, sub, sup⟩ := Report.run_collected hr
  rw [e, show ({} : Report).collected ++ l = l from rfl]
  exact ⟨sub, sup⟩

/-- under the rule of `run_test` alone (no outside switch of the flag): the list of failures is empty iff the
exit status is zero -/
theorem collected_empty_iff_exit_zero (m : Nat) (rs : List TestResult) (h : Report)
    (hr : Report.run m {} (rs.map .result) = some h) : h.collected = [] ↔ h.exitStatus = 0 := by
  have hex := report_exit_nonzero_iff_bad m _ h hr
  have hsub := (collected_failures_rule m _ h hr).1
  rw [ropResults_map] at hex hsub
  constructor
  · intro hnil
    apply Classical.byContradiction
    intro hne
    obtain ⟨r, hmem, hb⟩ := hex.mp hne
    rw [Report.run_results_collected (h := {}) (by simp) hr hnil r hmem] at hb
    cases hb
  · intro h0
    exact List.eq_nil_iff_forall_not_mem.mpr fun x hx => absurd h0 (hex.mpr ⟨x, hsub x hx⟩)

/-- the interrupted tests of a `--maxfail 1` cut: processed, logged, counted under `Fail`, exit status 1, and
left out of the list of failures -/
example : Report.run 1 {} [.result OK, .result FAIL, .result INTERRUPT, .result INTERRUPT, .result SKIP] =
    some { tally := { ok := 1, fail := 3, skip := 1 }, collected := [FAIL], maxfailReached := true,
           logged := [OK, FAIL, INTERRUPT, INTERRUPT, SKIP] } := by decide +kernel

/-- **every schedule**: the counters and `maxfail_reached` of the scheduler model are this reporting state fed
with the results in the order they were processed -/
theorem scheduler_report {c : Config} {tr : List Label} {s : State} (h : Exec c tr s) :
    ∃ rp, Report.run c.maxfail {} ((resultsOf tr).map .result) = some rp ∧
      rp.tally = s.tally ∧ rp.maxfailReached = s.maxfailReached ∧ rp.logged = resultsOf tr :=
  h.report

/-- **every schedule, cut or not**: the printed totals add up to the number of results processed, and the exit
status is non-zero iff one of them is bad -/
theorem scheduler_totals_add_up {c : Config} {tr : List Label} {s : State} (h : Exec c tr s) :
    s.tally.printedTotal = (resultsOf tr).length ∧
    (s.tally.exitStatus ≠ 0 ↔ ∃ r, r ∈ resultsOf tr ∧ r.isBad = true) := by
  obtain ⟨ht, hf⟩ := scheduler_tally h
  refine ⟨by rw [Tally.printedTotal_eq_total, ht, total_tallyOf _ hf], ?_⟩
  rw [ht]
  exact exit_nonzero_iff_bad _

/-- **what was reported is what was run**: in every schedule a runner has at most one processed result, and only
if its test was started; when `_run_tests` has returned — run to the end or cut short by `--maxfail` / a failure
under `--repeat` — the runners with a processed result are exactly the runners whose test was started.  With
`scheduler_totals_add_up` the printed totals therefore add up to the number of tests that were run -/
theorem reported_iff_started {c : Config} {tr : List Label} {s : State} (h : Exec c tr s) (i : Nat) :
    finishCount i tr ≤ startCount i tr ∧ startCount i tr ≤ 1 ∧
    (s.main = .finished → finishCount i tr = startCount i tr) := by
  rw [h.finishCount_eq, h.startCount_eq, St.isDone_eq]
  cases hst : (s.st i).started with
  | false => simp
  | true =>
    refine ⟨by split <;> simp, Nat.le_refl _, fun hf => ?_⟩
    have hl : i < s.next := h.inv.lt_next fun e => by rw [e] at hst; cases hst
    rw [h.cutInv.finishedTerminal hf i hl]
    rfl

/-- once `--maxfail` failures (FAIL / ERROR / INTERRUPT) have been processed, no further test is started, in any
schedule -/
theorem no_start_after_maxfail {c : Config} {tr : List Label} {l : Label} {s' : State}
    (h : Exec c (tr ++ [l]) s') (hm : c.maxfail > 0)
    (hf : (resultsOf tr).countP TestResult.countsAsFail ≥ c.maxfail) (i : Nat) : l ≠ .acquireStart i := by
  intro e
  subst e
  obtain ⟨s, hp, hs⟩ := h.snoc_inv
  have h1 := (step_acquireStart_guard hs).1
  have h2 := hp.maxfail_interrupts hm (by rw [hp.tally_eq, fail_tallyOf]; exact hf)
  rw [h1] at h2
  cases h2

/-- under `--repeat N` (N > 1) a processed FAIL / ERROR / INTERRUPT result stops the run: no further test is
started afterwards, in any schedule -/
theorem no_start_after_repeat_failure {c : Config} {tr : List Label} {l : Label} {s' : State}
    (h : Exec c (tr ++ [l]) s') (hr : c.repeatGt1 = true)
    (hf : ∃ r, r ∈ resultsOf tr ∧ r.countsAsFail = true) (i : Nat) : l ≠ .acquireStart i := by
  intro e
  subst e
  obtain ⟨s, hp, hs⟩ := h.snoc_inv
  have h1 := (step_acquireStart_guard hs).2
  have hpos : 0 < (resultsOf tr).countP TestResult.countsAsFail := List.countP_pos_iff.mpr hf
  have hfc : s.failCount > 0 := by
    unfold State.failCount
    rw [hp.tally_eq, fail_tallyOf]
    exact hpos
  have : repeatFailed c s = true := by
    simp [repeatFailed, hr, hfc]
  rw [h1] at this
  cases this

/-- `--repeat`: runner `it * len + i` is repetition `it` of selected test `i`; in a complete run that was not
cut every selected test is started exactly once in every repetition -/
theorem once_per_repetition (jobs reps : Nat) (declared : List Bool) {tr : List Label} {s : State}
    (h : Exec (mkConfig jobs reps 0 declared) tr s)
    (hr : repeatFailed (mkConfig jobs reps 0 declared) s = false) (hf : s.main = .finished)
    (it i : Nat) (hit : it < reps) (hi : i < declared.length) :
    startCount (it * declared.length + i) tr = 1 := by
  have hn := mkConfig_n jobs reps 0 declared
  have hlt : it * declared.length + i < (mkConfig jobs reps 0 declared).n := by
    rw [hn]
    calc it * declared.length + i < it * declared.length + declared.length := by omega
      _ = (it + 1) * declared.length := by rw [Nat.succ_mul]
      _ ≤ reps * declared.length := Nat.mul_le_mul_right _ hit
  exact (all_started_exactly_once_when_complete h rfl hr hf _ hlt).1

/-- the limit is disabled exactly by `--interactive`, a missing / zero / negative `timeout:` or a zero / negative
`--timeout-multiplier` -/
theorem timeout_disabled_iff (interactive : Bool) (t : Option Int) (m : Option Frac) :
    runnerTimeout interactive t m = none ↔
      (interactive = true ∨ t = none ∨ (∃ x, t = some x ∧ x ≤ 0) ∨ (∃ f, m = some f ∧ f.num ≤ 0)) := by
  unfold runnerTimeout
  cases interactive
  · cases t with
    | none => simp
    | some x =>
      by_cases hx : x ≤ 0
      · simp [hx]
      · cases m with
        | none => simp [hx]
        | some f =>
          by_cases hf : f.num ≤ 0
          · simp [hx, hf]
          · simp [hx, hf]
  · simp

/-- otherwise it is `timeout * multiplier` (just `timeout` without a multiplier), a positive number -/
theorem timeout_value (x : Int) (hx : 0 < x) :
    runnerTimeout false (some x) none = some ⟨x, 1⟩ ∧
    ∀ f : Frac, 0 < f.num → runnerTimeout false (some x) (some f) = some ⟨x * f.num, f.den⟩ := by
  have hx' : ¬ x ≤ 0 := by omega
  refine ⟨by simp [runnerTimeout, hx'], ?_⟩
  intro f hf
  have hf' : ¬ f.num ≤ 0 := by omega
  simp [runnerTimeout, hx', hf']

theorem timeout_positive (interactive : Bool) (t : Option Int) (m : Option Frac) (f : Frac)
    (h : runnerTimeout interactive t m = some f) : 0 < f.num := by
  unfold runnerTimeout at h
  cases interactive
  · cases t with
    | none => simp at h
    | some x =>
      by_cases hx : x ≤ 0
      · simp [hx] at h
      · cases m with
        | none =>
          simp [hx] at h
          subst h
          simp
          omega
        | some g =>
          by_cases hg : g.num ≤ 0
          · simp [hx, hg] at h
          · simp [hx, hg] at h
            subst h
            simp
            exact Int.mul_pos (by omega) (by omega)
  · simp at h

/-- a test declared with `timeout: 0` or a negative timeout is never reported TIMEOUT by the time limit, however
long it runs and whatever the multiplier: it is classified by its exit status -/
theorem nonpositive_timeout_never_times_out (x : Int) (hx : x ≤ 0) (m : Option Frac) (dur : Nat)
    (rc : Int) (e : Option Int) (sf : Bool) :
    (waitOutcome (runnerTimeout false (some x) m) dur).map (fun w => classifyRun w rc e sf) =
      some (classifyRun .exited rc e sf) := by
  have : runnerTimeout false (some x) m = none :=
    (timeout_disabled_iff false (some x) m).mpr (Or.inr (Or.inr (Or.inl ⟨x, rfl, hx⟩)))
  rw [this]
  rfl

/-- a test that outlives its (positive) limit is TIMEOUT whatever its exit status and flags; one that ends
before the limit is classified by its exit status -/
theorem limit_decides (f : Frac) (dur : Nat) (rc : Int) (e : Option Int) (sf : Bool) :
    (f.ltNat dur = true →
      (waitOutcome (some f) dur).map (fun w => classifyRun w rc e sf) = some TIMEOUT) ∧
    (f.gtNat dur = true →
      (waitOutcome (some f) dur).map (fun w => classifyRun w rc e sf) = some (classifyRun .exited rc e sf)) := by
  constructor
  · intro h
    simp [waitOutcome, h, timeout_classification]
  · intro h
    have h' : f.ltNat dur = false := by
      simp only [Frac.ltNat, Frac.gtNat, decide_eq_true_eq, decide_eq_false_iff_not] at h ⊢
      omega
    simp [waitOutcome, h, h']

example : runnerTimeout false (some 30) (some ⟨5, 2⟩) = some ⟨150, 2⟩ ∧
    runnerTimeout false (some (-1)) (some ⟨5, 2⟩) = none ∧ runnerTimeout false (some 30) (some ⟨0, 1⟩) = none ∧
    waitOutcome (some ⟨150, 2⟩) 76 = some .timedOut ∧ waitOutcome (some ⟨150, 2⟩) 75 = none := by decide +kernel

/-- `--slice i/n` over `i = 1..n` partitions the selected tests: concatenating the slices gives a permutation
of the list (for every list — duplicates included — and every `n ≥ 1`) -/
theorem slices_partition {α} (l : List α) (n : Nat) (hn : 1 ≤ n) :
    ((List.range n).flatMap (fun i => pySlice l (i + 1) n)).Perm l := by
  obtain ⟨m, rfl⟩ : ∃ m, n = m + 1 := ⟨n - 1, by omega⟩
  simpa [pySlice] using strides_perm m l

/-- … and distinct slices share no test -/
theorem slices_disjoint {α} (l : List α) (hl : l.Nodup) (n : Nat) (hn : 1 ≤ n) {i j : Nat} (hi : i < n) (hj : j < n)
    (hne : i ≠ j) (x : α) : x ∈ pySlice l (i + 1) n → x ∉ pySlice l (j + 1) n := by
  have hnd := ((slices_partition l n hn).nodup_iff).mpr hl
  exact nodup_flatMap_disjoint _ _ hnd i (List.mem_range.mpr hi) j (List.mem_range.mpr hj) hne x

theorem slice_sublist {α} (l : List α) (i n : Nat) : (pySlice l i n).Sublist l :=
  strideFrom_sublist _ _ _

/-- slices are taken by position -/
theorem slice_map {α β} (f : α → β) (l : List α) (i n : Nat) : pySlice (l.map f) i n = (pySlice l i n).map f :=
  strideFrom_map _ _ _ _

/-- `get_tests` with a slice: refused iff there are more slices than selected tests -/
theorem getTests_slice {α} (suitable : α → Bool) (tests : List α) (i n : Nat) :
    getTests suitable (some (i, n)) tests =
      if n > (tests.filter suitable).length then .error .tooManySlices
      else .ok (pySlice (tests.filter suitable) i n) := rfl

/-! ### Selection by positional test names (`meson test NAME…`, `tests_from_args`) -/

/-- a test is selected iff it is in the (suitable) test list and SOME argument matches it — for every argument
list (overlapping, duplicate, disjoint), every test list and every matching relation -/
theorem args_select_iff {α β} (m : α → β → Bool) (pats : List β) (tests out : List α)
    (h : testsFromArgs m pats tests = .ok out) (t : α) :
    t ∈ out ↔ t ∈ tests ∧ ∃ p, p ∈ pats ∧ m t p = true := by
  rw [testsFromArgs_ok h]
  simp [List.mem_filter, List.any_eq_true]

/-- each selected test once, in test-list order (a test matched by several arguments is not repeated) -/
theorem args_no_duplicates {α β} (m : α → β → Bool) (pats : List β) (tests out : List α)
    (h : testsFromArgs m pats tests = .ok out) :
    out.Sublist tests ∧ (tests.Nodup → out.Nodup) ∧
    out = tests.filter (fun t => pats.any (fun p => m t p)) := by
  have e := testsFromArgs_ok h
  refine ⟨by rw [e]; exact List.filter_sublist, fun hn => ?_, e⟩
  rw [e]
  exact hn.filter _

/-- the run is refused iff some argument matches no test at all -/
theorem args_refused_iff {α β} (m : α → β → Bool) (pats : List β) (tests : List α) :
    testsFromArgs m pats tests = .error .noMatch ↔ ∃ p, p ∈ pats ∧ ∀ t ∈ tests, m t p = false := by
  rw [testsFromArgs_error_iff]

/-- the documented argument forms: `name`, `:name` (any project), `project:` (all its tests), `project:name` -/
theorem arg_pattern_forms (prj nm : Str) (h1 : ':' ∉ prj) (hp : prj ≠ []) (hn : nm ≠ []) :
    (':' ∉ nm → argPattern nm = (['*'], nm)) ∧
    argPattern (':' :: nm) = (['*'], nm) ∧
    argPattern (prj ++ [':']) = (prj, ['*']) ∧
    argPattern (prj ++ ':' :: nm) = (prj, nm) := by
  refine ⟨?_, ?_, ?_, ?_⟩
  · intro h
    simp [argPattern, h]
  · have := splitSuite_colon [] nm (by simp)
    simp only [List.nil_append] at this
    simp [argPattern, this, hn]
  · have := splitSuite_colon prj [] h1
    simp [argPattern, this, hp]
  · have := splitSuite_colon prj nm h1
    simp [argPattern, this, hp, hn]

/-- `*` matches every name (so `project:` takes every test of the project), a pattern without wildcards matches
exactly itself -/
theorem glob_rules (s p : Str) (hp : ∀ c ∈ p, c ≠ '*' ∧ c ≠ '?') :
    globMatch ['*'] s = true ∧ (globMatch p s = true ↔ p = s) :=
  ⟨globMatch_star s, globMatch_literal p hp s⟩

/-- `get_tests` with positional arguments and a slice: still each test of the list at most once, in order -/
theorem getTestsArgs_no_duplicates {α β} (suitable : α → Bool) (m : α → β → Bool) (pats : List β)
    (slice : Option (Nat × Nat)) (tests out : List α)
    (h : getTestsArgs suitable m pats slice tests = .ok out) :
    out.Sublist tests ∧ (tests.Nodup → out.Nodup) := by
  suffices key : out.Sublist tests from ⟨key, fun hn => hn.sublist key⟩
  -- what the patterns select, if any are given, is a sublist of the suitable tests
  have s1 {ts1} (hq : (if pats.isEmpty then .ok (tests.filter suitable) else testsFromArgs m pats (tests.filter suitable)) =
      .ok ts1) : ts1.Sublist tests := by
    split at hq
    · cases hq
      exact List.filter_sublist
    · exact (args_no_duplicates m pats _ ts1 hq).1.trans List.filter_sublist
  revert h
  fun_cases getTestsArgs suitable m pats slice tests with
  | case1 | case3 => exact nofun
  | case2 ts ts1 hq =>
    rintro ⟨⟩
    exact s1 hq
  | case4 ts ts1 hq i n =>
    rintro ⟨⟩
    exact (slice_sublist _ _ _).trans (s1 hq)

/-- overlapping arguments `t1 t*` on tests t0 t1 t2: every test once -/
example : (testsFromArgs patMatches (["t1".toList, "t*".toList].map argPattern)
      ([("t0"), ("t1"), ("t2")].map (fun n => ({ name := n.toList, project := "p".toList, suites := [] } : TestDesc)))).toOption.map
        (·.map (·.name)) = some ["t0".toList, "t1".toList, "t2".toList] := by
  decide +kernel

/-- `test_in_suites`: some requested suite matches some suite entry of the test -/
theorem suite_selection_rule (testSuites suites : List Str) :
    testInSuites testSuites suites = true ↔
      ∃ sel, sel ∈ suites ∧ ∃ ps, ps ∈ testSuites ∧ suiteMatches sel ps = true := by
  simp [testInSuites, List.any_eq_true]

/-- `--suite name` selects tests of (sub)project `name` or of suite `name` -/
theorem suite_rule_name (name prj st : Str) (h1 : ':' ∉ name) (h2 : ':' ∉ prj) :
    suiteMatches name (prj ++ ':' :: st) = true ↔ (name = prj ∨ name = st) := by
  simp [suiteMatches, splitSuite_no_colon name h1, splitSuite_colon prj st h2]

/-- `--suite :suite` selects that suite in any (sub)project -/
theorem suite_rule_any_project (sname prj st : Str) (h0 : sname ≠ []) (h2 : ':' ∉ prj) :
    suiteMatches (':' :: sname) (prj ++ ':' :: st) = true ↔ st = sname := by
  have := splitSuite_colon [] sname (by simp)
  simp only [List.nil_append] at this
  simp [suiteMatches, this, splitSuite_colon prj st h2, h0]

/-- `--suite project:suite` selects that suite of that (sub)project only -/
theorem suite_rule_qualified (pm sname prj st : Str) (hp : pm ≠ []) (h0 : sname ≠ []) (h1 : ':' ∉ pm)
    (h2 : ':' ∉ prj) :
    suiteMatches (pm ++ ':' :: sname) (prj ++ ':' :: st) = true ↔ (prj = pm ∧ st = sname) := by
  simp [suiteMatches, splitSuite_colon pm sname h1, splitSuite_colon prj st h2, h0, hp]

/-- a test without a suite carries just its project name -/
theorem suite_rule_bare_project (name prj : Str) (h1 : ':' ∉ name) (h2 : ':' ∉ prj) (hn : prj ≠ []) :
    suiteMatches name prj = true ↔ (name = prj ∨ name = []) := by
  simp [suiteMatches, splitSuite_no_colon name h1, splitSuite_no_colon prj h2]

/-- `test_suitable`: `--no-suite` and `--exclude` drop, `--suite` (when given) keeps only members -/
theorem test_suitable_rule (mainProject : Str) (incl excl names : List Str) (t : TestDesc) :
    testSuitable mainProject incl excl names t = true ↔
      (testInSuites t.suites excl = false ∧
       ¬ (mainProject = t.project ∧ t.name ∈ names) ∧
       (t.project ++ [':'] ++ t.name) ∉ names ∧
       (incl ≠ [] → testInSuites t.suites incl = true)) := by
  -- the chain of `if`s is the conjunction of its negated guards
  simp [testSuitable, Decidable.or_iff_not_imp_left]

/-! ### Facts read off the live module on every run (`MesonModel/Generated/SchedTables.lean`) -/

/-- the model's `TestResult` has exactly the members of the enum -/
theorem table_members : TestResult.all.map TestResult.name = Generated.testResultMembers := by decide +kernel

theorem table_is_bad : ∀ r ∈ TestResult.all, r.isBad = Generated.isBadMembers.contains r.name := by decide +kernel

theorem table_is_ok : ∀ r ∈ TestResult.all, r.isOk = Generated.isOkMembers.contains r.name := by decide +kernel

theorem table_is_finished :
    ∀ r ∈ TestResult.all, r.isFinished = Generated.isFinishedMembers.contains r.name := by decide +kernel

/-- which counter `process_test_result` bumps -/
def bumped (r : TestResult) : String :=
  match ({} : Tally).add r with
  | none => "exit"
  | some t =>
    if t.ok = 1 then "success_count" else if t.expectedFail = 1 then "expectedfail_count"
    else if t.fail = 1 then "fail_count" else if t.unexpectedPass = 1 then "unexpectedpass_count"
    else if t.skip = 1 then "skip_count" else if t.ignored = 1 then "ignored_count"
    else if t.timeout = 1 then "timeout_count" else "none"

theorem table_tally : TestResult.all.map (fun r => (r.name, bumped r)) = Generated.tallyTable := by decide +kernel

theorem table_total_failures :
    Generated.totalFailureCounters = ["fail_count", "timeout_count", "unexpectedpass_count"] := by decide +kernel

theorem table_gnu_codes : Generated.gnuSkipReturncode = 77 ∧ Generated.gnuErrorReturncode = 99 := by decide +kernel

/-! ### Non-vacuity: concrete schedules exist and reach the end -/

def runLabels (c : Config) : List Label → State → Option State
  | [], s => some s
  | l :: ls, s => (step c s l).bind (runLabels c ls)

theorem exec_of_run {c : Config} {tr0 : List Label} {s0 : State} (h : Exec c tr0 s0) :
    ∀ {ls : List Label} {s : State}, runLabels c ls s0 = some s → Exec c (tr0 ++ ls) s := by
  intro ls s hr
  refine h.append_path ?_
  clear h
  induction ls generalizing s0 with
  | nil =>
    cases hr
    exact .nil _
  | cons l ls ih =>
    simp only [runLabels, Option.bind_eq_some_iff] at hr
    obtain ⟨s1, hs, hr⟩ := hr
    exact .cons hs (ih hr)

/-- a label list that runs from the initial state is an execution; `f` reads off what is asked of its last state -/
theorem exec_of_runLabels {c : Config} {ls : List Label} {α : Type} (f : State → α) {a : α}
    (h : (runLabels c ls (init c)).map f = some a) : ∃ s, Exec c ls s ∧ f s = a := by
  cases hs : runLabels c ls (init c) with
  | none =>
    rw [hs] at h
    cases h
  | some s =>
    rw [hs] at h
    exact ⟨s, by simpa using exec_of_run (Exec.nil (c := c)) hs, Option.some.inj h⟩

/-- two parallel tests, then a serial one, then a parallel one, two jobs -/
def exConfig : Config := mkConfig 2 1 0 [true, true, false, true]

def exTrace : List Label :=
  [.launch, .launch, .acquireStart 0, .acquireStart 1, .finish 1 FAIL, .finish 0 OK, .launch, .acquireStart 2,
   .finish 2 SKIP, .serialDone, .launch, .loopEnd, .acquireStart 3, .finish 3 OK, .allDone]

example : ∃ s, Exec exConfig exTrace s ∧ s.main = .finished ∧ s.tally.exitStatus = 1 ∧
    startCount 2 exTrace = 1 ∧ exConfig.isPar 2 = false := by
  obtain ⟨s, hs, hf⟩ := exec_of_runLabels (c := exConfig) (ls := exTrace) (fun s => (s.main, s.tally.exitStatus))
    (a := (.finished, 1)) (by decide +kernel)
  exact ⟨s, hs, congrArg Prod.fst hf, congrArg Prod.snd hf, by decide +kernel, by decide +kernel⟩

/-- the hypotheses of `all_started_exactly_once_when_complete` are satisfiable (and those of `progress`) -/
example : exConfig.maxfail = 0 ∧ 1 ≤ exConfig.jobs ∧ exConfig.n = 4 := by decide +kernel

/-- a `--maxfail 1` schedule in which a running test is interrupted and a waiting one never starts -/
def exCut : Config := mkConfig 2 1 1 [true, true, true]

def exCutTrace : List Label :=
  [.launch, .launch, .launch, .loopEnd, .acquireStart 0, .acquireStart 1, .finish 0 FAIL, .finish 1 INTERRUPT, .allDone]

example : ∃ s, Exec exCut exCutTrace s ∧ s.main = .finished ∧ startCount 2 exCutTrace = 0 ∧
    s.interrupted = true := by
  obtain ⟨s, hs, hf⟩ := exec_of_runLabels (c := exCut) (ls := exCutTrace) (fun s => (s.main, s.interrupted))
    (a := (.finished, true)) (by decide +kernel)
  exact ⟨s, hs, congrArg Prod.fst hf, by decide +kernel, congrArg Prod.snd hf⟩

example : pySlice [10, 11, 12, 13, 14, 15, 16] 2 3 = [11, 14] := by decide +kernel

example : suiteMatches "p:a".toList "p:a".toList = true ∧ suiteMatches ":a".toList "q:a".toList = true ∧
    suiteMatches "a".toList "p:b".toList = false := by decide +kernel

/-- the hypotheses of `no_start_after_maxfail` are satisfiable: the `--maxfail 1` schedule above, cut after the
first failure, continues with the INTERRUPT of the test in flight — and by the theorem never with a start -/
example : ∃ s', Exec exCut (exCutTrace.take 7 ++ [.finish 1 INTERRUPT]) s' ∧ exCut.maxfail > 0 ∧
    (resultsOf (exCutTrace.take 7)).countP TestResult.countsAsFail ≥ exCut.maxfail := by
  obtain ⟨s, hs, _⟩ := exec_of_runLabels (c := exCut) (ls := exCutTrace.take 7 ++ [.finish 1 INTERRUPT])
    (fun _ => ()) (a := ()) (by decide +kernel)
  exact ⟨s, hs, by decide +kernel, by decide +kernel⟩

/-- `--repeat 2`, two tests, the first fails in the first repetition: hypotheses of `no_start_after_repeat_failure` -/
def exRep : Config := mkConfig 2 2 0 [true, true]

example : ∃ s', Exec exRep ([.launch, .launch, .acquireStart 0, .acquireStart 1, .finish 0 FAIL] ++ [.finish 1 OK]) s' ∧
    exRep.repeatGt1 = true ∧
    ∃ r, r ∈ resultsOf [.launch, .launch, .acquireStart 0, .acquireStart 1, .finish 0 FAIL] ∧ r.countsAsFail = true := by
  obtain ⟨s, hs, _⟩ := exec_of_runLabels (c := exRep)
    (ls := [.launch, .launch, .acquireStart 0, .acquireStart 1, .finish 0 FAIL] ++ [.finish 1 OK])
    (fun _ => ()) (a := ()) (by decide +kernel)
  exact ⟨s, hs, by decide +kernel, FAIL, by decide +kernel, by decide +kernel⟩

/-- in that cut `--maxfail 1` run: two tests started, two results processed, one runner never started -/
example : finishCount 0 exCutTrace = 1 ∧ finishCount 1 exCutTrace = 1 ∧ finishCount 2 exCutTrace = 0 ∧
    startCount 2 exCutTrace = 0 ∧ (resultsOf exCutTrace).length = 2 := by decide +kernel

end MesonModel.Props.C12
