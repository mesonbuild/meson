/-
C18 — TAP streams are interpreted per the TAP specification.

Property theorems over the model `MesonModel.Tap` of `mtest.py` `TAPParser` / `TestRunTAP`.
Streams are arbitrary lists of arbitrary strings (`List (List Char)`): every theorem quantifies over all
of them; stream-level statements are proved by induction over the line list through the invariant
`Delta`.  Vocabulary:

* `swallowed s l` — line `l` is consumed by YAML-block handling in state `s` (start marker right after a
  test under TAP ≥ 13, end marker, or a line carrying the block's indentation);
* `classify (rstrip l)` — which of the line regexes matches, with its groups;
* `countTests`, `maxNumber`, `planOf`, `hasBail`, `countPlans` — measures of an event list.

Totality ("no input makes the parser raise"): `parse_never_raises` over the exception-faithful layer (`int()`
partial beyond 4300 digits, `try/except` as in the source) plus the correspondence run.

Stream independence: the fresh parser is the explicit initial state `PState.init`, proved equal to the class
body of the live `TAPParser` (`fresh_parser_table`, regenerated on every run); `session_*` theorems say what
"the events of a stream depend on that stream only" means for sequences of streams in one process.

Consumer: `runTAP` is `TestRunTAP.parse` / `complete` / `TestRun._complete` as a state machine;
`verdict_classification` and its corollaries give the final result for every event list and exit status.
-/
import MesonModel.Tap.ConsumerLemmas
import MesonModel.Generated.TapTables
import MesonModel.Py.CharLists

namespace MesonModel.Props.C18
open MesonModel.Tap MesonModel.Py

/-! ### Tables regenerated from the source on every run -/

/-- the model's `TestResult` has exactly the members of the enum in `mtest.py`, in order -/
theorem members_table : TestResult.all.map TestResult.name = MesonModel.Generated.TapTables.members := rfl

/-- `TestResult.is_bad` of the source is the model's `isBad` -/
theorem isBad_table :
    ∀ r ∈ TestResult.all, r.isBad = MesonModel.Generated.TapTables.isBad.contains r.name := by decide +kernel

theorem isOk_table :
    ∀ r ∈ TestResult.all, r.isOk = MesonModel.Generated.TapTables.isOk.contains r.name := by decide +kernel

/-- directive table: SKIP on a passing line is SKIP, on a failing line FAIL; TODO gives unexpected-pass /
expected-fail; no directive gives OK / FAIL (directive spellings are compared upper-cased; SKIP may carry
a suffix as in `SKIPPED`) -/
theorem directive_table (ok : Bool) (d : List Char) :
    directiveResult ok none = (if ok then .OK else .FAIL) ∧
    (startsWith (upper d) kSKIP = true → directiveResult ok (some d) = (if ok then .SKIP else .FAIL)) ∧
    (upper d = kTODO → directiveResult ok (some d) = (if ok then .UNEXPECTEDPASS else .EXPECTEDFAIL)) := by
  refine ⟨?_, ?_, ?_⟩
  · cases ok <;> rfl
  · intro h
    simp [directiveResult, h]
  · intro h
    have h3 : startsWith kTODO kSKIP = false := by decide
    simp [directiveResult, h, h3]

/-- `parse_test` always yields exactly one subtest event; an unknown directive adds an error in front and
leaves the plain status -/
theorem parse_test_event (ok : Bool) (n : Nat) (name : List Char) (dir expl : Option (List Char)) :
    (parseTest ok n name dir expl).filter isTestEvent =
      [.test n (strip name) (directiveResult ok dir) (normExpl expl)] ∧
    (∀ e ∈ parseTest ok n name dir expl, isTestEvent e = true ∨ ∃ d, e = .error (.invalidDirective d)) := by
  refine ⟨parseTest_filter .., ?_⟩
  obtain ⟨errs, herrs, hp⟩ := parseTest_errs ok n name dir expl
  intro e he
  rw [hp] at he
  rcases List.mem_append.mp he with he | he
  · exact Or.inr (herrs e he)
  · left
    rw [List.mem_singleton.mp he]
    rfl

/-- **number, name and directive rules.** A test line that is not swallowed by a YAML block yields exactly
one subtest: the explicit number, else the previous one plus one; the description stripped; the status of the
directive table; and the parser remembers the number -/
theorem test_line_event (s : PState) (line : List Char) (ok : Bool) (num : Option (List Char))
    (name : List Char) (dir expl : Option (List Char))
    (hv : swallowed s line = false) (hc : classify (rstrip line) = .test ok num name dir expl) :
    (step s line).2.filter isTestEvent =
      [.test (testNumber s num) (strip name) (directiveResult ok dir) (normExpl expl)] ∧
    (step s line).1.lastTest = testNumber s num ∧ (step s line).1.state = .afterTest := by
  rw [step_test_line hv hc]
  refine ⟨?_, rfl, rfl⟩
  have opt : ∀ (p : Prop) [Decidable p] (er : Err), (if p then [Event.error er] else []).filter isTestEvent = [] := by
    intro p _ er
    split <;> rfl
  simp only [onTest, List.filter_append, opt, parseTest_filter, List.nil_append]
  rfl

/-- the number is the previous one plus one when none is written (or when the written one is longer than
`int()` accepts), else the written number -/
theorem test_number_rule (s : PState) (d : List Char) :
    testNumber s none = s.lastTest + 1 ∧
    (tooLong d = false → testNumber s (some d) = natOfDigits d) ∧
    (tooLong d = true → testNumber s (some d) = s.lastTest + 1) := by
  refine ⟨rfl, ?_, ?_⟩ <;> intro h <;> simp [testNumber, h]

/-- **one subtest per test line**, per line … -/
theorem one_test_per_line (s : PState) (line : List Char) :
    countTests (step s line).2 = if visibleTest s line then 1 else 0 := step_countTests s line

/-- number of `ok`/`not ok` lines of a stream that are not inside a YAML block -/
def visibleTests (s : PState) : List (List Char) → Nat
  | [] => 0
  | l :: ls => (if visibleTest s l then 1 else 0) + visibleTests (step s l).1 ls

theorem run_countTests (s : PState) (lines : List (List Char)) :
    countTests (run s lines).2 = visibleTests s lines := by
  induction lines generalizing s with
  | nil => rfl
  | cons l ls ih => simp [run, visibleTests, step_countTests, ih]

/-- … and for every stream (the end-of-stream step adds none) -/
theorem one_test_per_test_line (lines : List (List Char)) :
    countTests (parse lines) = visibleTests PState.init lines := by
  rw [(parse_measures lines).1, run_countTests]

/-- a diagnostic (`#…`) or blank line outside a YAML block produces no event and changes no counter -/
theorem diagnostics_ignored (s : PState) (line : List Char)
    (hv : swallowed s line = false) (hy : s.state ≠ .yaml) (hc : classify (rstrip line) = .skip) :
    (step s line).2 = [] ∧ sameCounters s (step s line).1 := by
  rw [step_visible hv]
  simp [mainLine, hc, hy, sameCounters, enter]

theorem classify_skip_iff (l : List Char) : classify l = .skip ↔ (l = [] ∨ l.head? = some '#') := by
  constructor
  · intro h
    match l, h with
    | [], _ => exact Or.inl rfl
    | c :: cs, h =>
      right
      by_cases hc : c = '#'
      · simp [hc]
      · exfalso
        unfold classify at h
        split at h
        · simp at *
        · simp_all
        · repeat' split at h
          all_goals simp [testTail] at h
  · rintro (h | h)
    · subst h
      rfl
    · match l, h with
      | c :: cs, h =>
        simp at h
        subst h
        rfl

theorem dropPrefix?_isSome (p s : List Char) : (dropPrefix? p s).isSome = startsWith s p := by
  induction p generalizing s with
  | nil => simp [dropPrefix?, startsWith]
  | cons a p ih =>
    cases s with
    | nil => simp [dropPrefix?, startsWith]
    | cons c cs =>
      by_cases h : a = c
      · subst h
        simp [dropPrefix?, startsWith, List.isPrefixOf] at ih ⊢
        exact ih cs
      · simp [dropPrefix?, startsWith, List.isPrefixOf, h]

theorem classify_test_iff (l : List Char) :
    isTestClass (classify l) = true ↔ (startsWith l kOk = true ∨ startsWith l kNotOk = true) := by
  rw [← dropPrefix?_isSome, ← dropPrefix?_isSome]
  unfold classify
  split
  · simp [isTestClass, dropPrefix?, kOk, kNotOk]
  · simp [isTestClass, dropPrefix?, kOk, kNotOk]
  · cases h1 : dropPrefix? kNotOk l with
    | some r => simp [testTail, isTestClass]
    | none =>
      cases h2 : dropPrefix? kOk l with
      | some r => simp [testTail, isTestClass]
      | none =>
        simp only [Option.isSome_none, Bool.false_eq_true, or_self, iff_false]
        repeat' split
        all_goals simp [isTestClass]

/-- a line taken by a YAML block (its start marker, its content, its end marker) produces no event and changes
no counter -/
theorem yaml_ignored (s : PState) (line : List Char) (h : swallowed s line = true) :
    (step s line).2 = [] ∧ sameCounters s (step s line).1 :=
  ⟨(step_swallowed h).1, (step_swallowed h).2.1⟩

/-- the end-of-stream errors the TAP rules require for an event list -/
def dupMissSpec (n hi : Nat) : List Event :=
  if hi = n then [] else if hi < n then [.error (.duplicate n hi)] else [.error (.missing n hi)]

def expectedEnd (evs : List Event) : List Event :=
  if hasBail evs then []
  else match planOf evs with
    | some p =>
      if countTests evs = p.numTests then dupMissSpec (countTests evs) (maxNumber evs)
      else if countTests evs < p.numTests then [.error (.tooFew p.numTests (countTests evs))]
      else [.error (.tooMany p.numTests (countTests evs))]
    | none => dupMissSpec (countTests evs) (maxNumber evs)

/-- **plan/count mismatch, duplicate or missing numbers, suppression by bail-out** — for every stream, the
count/numbering errors in the output are exactly those that the plan event, the number of subtest events
and the highest subtest number of the *same output* call for -/
theorem end_of_stream_errors (lines : List (List Char)) :
    (parse lines).filter isFinalErr = expectedEnd (parse lines) := by
  obtain ⟨e1, e2, e3, e4, _⟩ := parse_measures lines
  obtain ⟨hnum, hhi, hplan, hbail⟩ := run_init_counters lines
  rw [expectedEnd, e1, e2, e3, e4, ← hnum, ← hhi, ← hplan, ← hbail, parse, List.filter_append, run_no_final,
    finish_filter]
  cases (run PState.init lines).1.bailedOut
  · unfold finalChecks dupMissing dupMissSpec
    cases (run PState.init lines).1.plan <;> rfl
  · rfl

theorem mem_of_final {evs : List Event} {e : Event} (h : isFinalErr e = true) :
    e ∈ evs ↔ e ∈ evs.filter isFinalErr := by simp [h]

theorem mem_dupMissSpec (e : Event) (n hi : Nat) :
    e ∈ dupMissSpec n hi ↔ (hi < n ∧ e = .error (.duplicate n hi)) ∨ (hi > n ∧ e = .error (.missing n hi)) := by
  unfold dupMissSpec
  by_cases h1 : hi = n
  · simp [h1]
  · by_cases h2 : hi < n
    · simp [h1, h2]
      omega
    · simp [h1, h2]
      omega

theorem final_mem_iff (lines : List (List Char)) (e : Event) (h : isFinalErr e = true) :
    e ∈ parse lines ↔ e ∈ expectedEnd (parse lines) := by
  rw [← end_of_stream_errors]
  simp [h]

theorem plan_count_mismatch_iff (lines : List (List Char)) (p : Plan)
    (hb : hasBail (parse lines) = false) (hp : planOf (parse lines) = some p) :
    (.error (.tooFew p.numTests (countTests (parse lines))) ∈ parse lines ↔ countTests (parse lines) < p.numTests) ∧
    (.error (.tooMany p.numTests (countTests (parse lines))) ∈ parse lines ↔ countTests (parse lines) > p.numTests) := by
  rw [final_mem_iff _ _ rfl, final_mem_iff _ _ rfl]
  generalize parse lines = evs at *
  unfold expectedEnd
  simp only [hb, hp, Bool.false_eq_true, if_false]
  by_cases h1 : countTests evs = p.numTests
  · simp [h1, mem_dupMissSpec]
  · by_cases h2 : countTests evs < p.numTests
    · simp [h1, h2]
      omega
    · simp [h1, h2]
      omega

theorem dup_or_missing_iff (lines : List (List Char))
    (hb : hasBail (parse lines) = false)
    (hp : ∀ p, planOf (parse lines) = some p → countTests (parse lines) = p.numTests) :
    (.error (.duplicate (countTests (parse lines)) (maxNumber (parse lines))) ∈ parse lines ↔
       maxNumber (parse lines) < countTests (parse lines)) ∧
    (.error (.missing (countTests (parse lines)) (maxNumber (parse lines))) ∈ parse lines ↔
       maxNumber (parse lines) > countTests (parse lines)) := by
  rw [final_mem_iff _ _ rfl, final_mem_iff _ _ rfl]
  generalize parse lines = evs at *
  unfold expectedEnd
  simp only [hb, Bool.false_eq_true, if_false]
  cases hpl : planOf evs with
  | none => simp [mem_dupMissSpec]
  | some p =>
    have := hp p hpl
    simp [this, mem_dupMissSpec]

/-- **`Bail out!`** produces a bail-out event with the message, sets the flag (which no branch of `parse_line`
clears: `Delta.bailed`), … -/
theorem bailout_event (s : PState) (line msg : List Char)
    (hv : swallowed s line = false) (hy : s.state ≠ .yaml) (hc : classify (rstrip line) = .bailout msg) :
    (step s line).2 = [.bailout msg] ∧ (step s line).1.bailedOut = true := by
  rw [step_visible hv]
  simp [mainLine, hc, hy]

/-- … and suppresses every count / numbering error at the end of the stream -/
theorem bailout_suppresses (lines : List (List Char)) (hb : hasBail (parse lines) = true) :
    ∀ e ∈ parse lines, isFinalErr e = false := by
  intro e he
  cases hf : isFinalErr e with
  | false => rfl
  | true =>
    have := (final_mem_iff lines e hf).mp he
    simp [expectedEnd, hb] at this

/-- **beyond the plan**: the error is reported exactly when a plan is known and the number of the subtest exceeds
its count -/
theorem beyond_plan (s : PState) (line : List Char) (ok : Bool) (num : Option (List Char))
    (name : List Char) (dir expl : Option (List Char))
    (hv : swallowed s line = false) (hc : classify (rstrip line) = .test ok num name dir expl) :
    .error .exceedsPlan ∈ (step s line).2 ↔ ∃ p, s.plan = some p ∧ testNumber s num > p.numTests := by
  rw [step_test_line hv hc, List.mem_append, mem_optional, error_mem_onTest (by simp),
    ← exceedsPlan_iff]
  simp
  rfl

/-- **test after a late plan**: reported exactly when a late plan is known and it has not been reported yet;
afterwards the flag is set -/
theorem test_after_late_plan (s : PState) (line : List Char) (ok : Bool) (num : Option (List Char))
    (name : List Char) (dir expl : Option (List Char))
    (hv : swallowed s line = false) (hc : classify (rstrip line) = .test ok num name dir expl) :
    (.error .lateTest ∈ (step s line).2 ↔ (∃ p, s.plan = some p ∧ p.late = true) ∧ s.foundLateTest = false) ∧
    ((∃ p, s.plan = some p ∧ p.late = true) → (step s line).1.foundLateTest = true) := by
  have hl : lateNow (enter s) = lateNow s := rfl
  rw [step_test_line hv hc, List.mem_append, mem_optional, error_mem_onTest (by simp), hl,
    ← lateNow_iff]
  refine ⟨by simp, fun hp => ?_⟩
  show (s.foundLateTest || lateNow s) = true
  cases hf : s.foundLateTest
  · exact (lateNow_iff s).mpr ⟨hp, hf⟩
  · rfl

/-- … hence at most once in any stream -/
theorem late_test_error_at_most_once (lines : List (List Char)) :
    (parse lines).countP isLateErr ≤ 1 := by
  have D := (run_delta PState.init lines).late
  have hf : (finish (run PState.init lines).1).countP isLateErr = 0 :=
    List.countP_eq_zero.mpr fun e he => by
      rcases finish_cases _ e he with rfl | h
      · simp [isLateErr]
      · simp [(error_of_final h).2]
  have h0 : lateSlot PState.init = 1 := rfl
  rw [h0] at D
  simp only [parse, List.countP_append, hf]
  omega

/-- **second plan**: a plan line when a plan is already known yields only the error and leaves that plan in place -/
theorem second_plan (s : PState) (line ds : List Char) (dir expl : Option (List Char)) (p : Plan)
    (hv : swallowed s line = false) (hy : s.state ≠ .yaml)
    (hc : classify (rstrip line) = .plan ds dir expl) (hp : s.plan = some p) :
    (step s line).2 = [.error .secondPlan] ∧ (step s line).1.plan = some p := by
  rw [step_visible hv]
  simp [mainLine, hc, hy, onPlan, enter, hp]

/-- the first plan line yields the plan event: count, `late` iff subtests came first, `skipped` iff the count
is 0 or the directive is SKIP -/
theorem first_plan (s : PState) (line ds : List Char) (dir expl : Option (List Char))
    (hv : swallowed s line = false) (hc : classify (rstrip line) = .plan ds dir expl) (hp : s.plan = none)
    (hz : tooLong ds = false) :
    let p : Plan := { numTests := natOfDigits ds, late := decide (s.numTests > 0),
                      skipped := (natOfDigits ds == 0) || planIsSkip dir, explanation := expl }
    .plan p ∈ (step s line).2 ∧ (step s line).1.plan = some p := by
  rw [step_visible hv]
  simp [mainLine, hc, onPlan, enter, hp, hz]

/-- … hence at most one plan event in any stream -/
theorem at_most_one_plan (lines : List (List Char)) : countPlans (parse lines) ≤ 1 := by
  have D := (run_delta PState.init lines).plans
  have h0 : planSlot PState.init = 1 := rfl
  rw [h0] at D
  rw [(parse_measures lines).2.2.2.2]
  omega

/-- **unterminated YAML block** at end of stream: the error is yielded exactly when a block is open -/
theorem yaml_unterminated_iff (s : PState) (k : Option Nat) :
    .error (.yamlNotTerminated k) ∈ finish s ↔ (s.state = .yaml ∧ s.yamlLineno = k) := by
  have hfc : .error (.yamlNotTerminated k) ∉ (if s.bailedOut then [] else finalChecks s) := by
    split
    · simp
    · intro h
      have := finalChecks_final s _ h
      cases this
  rw [finish, List.mem_append, mem_optional, or_iff_left hfc, Event.error.injEq, Err.yamlNotTerminated.injEq,
    eq_comm (a := k)]

/-- … and inside a stream: a line that neither ends the block nor carries its indentation yields the error
first and is then processed as an ordinary line -/
theorem yaml_unterminated_inside (s : PState) (line : List Char) (hs : s.state = .yaml)
    (he : yamlEnd line = false) (hi : startsWith line s.yamlIndent = false) :
    (step s line).2 = .error (.yamlNotTerminated s.yamlLineno) :: (mainLine (enter s) line).2 ∧
    (step s line).1 = (mainLine (enter s) line).1 := by
  rw [step_visible (by simp [swallowed, hs, he, hi])]
  simp [hs]

/-- **misplaced version line**: on any line but the first it yields only the error and leaves the version as it is -/
theorem version_misplaced (s : PState) (line ds : List Char)
    (hv : swallowed s line = false) (hy : s.state ≠ .yaml)
    (hc : classify (rstrip line) = .version ds) (hl : s.lineno ≠ 0) :
    (step s line).2 = [.error .versionNotFirst] ∧ (step s line).1.version = s.version := by
  rw [step_visible hv]
  simp [mainLine, hc, hy, onVersion, enter, hl]

/-- … hence in any stream a version event can only come from the first line -/
theorem version_only_first_line (l : List Char) (ls : List (List Char)) (v : Nat) :
    .version v ∈ parse (l :: ls) → .version v ∈ (step PState.init l).2 := by
  intro h
  simp only [parse, run] at h
  rcases List.mem_append.mp h with h | h
  · rcases List.mem_append.mp h with h | h
    · exact h
    · have := run_noVersion (step PState.init l).1 ls (by rw [step_lineno]; omega) _ h
      simp [isVersionEvent] at this
  · have := finish_errors _ _ h
    simp [isErrorEvent] at this

/-- a test line whose number has more than 4300 digits reports the error (and only such a line does); by
`test_line_event` / `test_number_rule` it still yields exactly one subtest, numbered previous + 1 -/
theorem overlong_test_number (s : PState) (line : List Char) (ok : Bool) (num : Option (List Char))
    (name : List Char) (dir expl : Option (List Char))
    (hv : swallowed s line = false) (hc : classify (rstrip line) = .test ok num name dir expl) :
    .error .testNumberTooLarge ∈ (step s line).2 ↔ numTooLong num = true := by
  rw [step_test_line hv hc, List.mem_append, mem_optional, error_mem_onTest (by simp)]
  simp

/-- a plan line whose count has more than 4300 digits is reported and otherwise ignored -/
theorem overlong_plan (s : PState) (line ds : List Char) (dir expl : Option (List Char))
    (hv : swallowed s line = false) (hy : s.state ≠ .yaml)
    (hc : classify (rstrip line) = .plan ds dir expl) (hp : s.plan = none) (hz : tooLong ds = true) :
    (step s line).2 = [.error .planCountTooLarge] ∧ (step s line).1.plan = none := by
  rw [step_visible hv]
  simp [mainLine, hc, hy, onPlan, enter, hp, hz]

/-- a version line (on line 1) whose number has more than 4300 digits is reported and otherwise ignored -/
theorem overlong_version (s : PState) (line ds : List Char)
    (hv : swallowed s line = false) (hy : s.state ≠ .yaml)
    (hc : classify (rstrip line) = .version ds) (hl : s.lineno = 0) (hz : tooLong ds = true) :
    (step s line).2 = [.error .versionTooLarge] ∧ (step s line).1.version = s.version := by
  rw [step_visible hv]
  simp [mainLine, hc, hy, onVersion, enter, hl, hz]

theorem onTestE_ok (s : PState) (ok : Bool) (num : Option (List Char)) (name : List Char)
    (dir expl : Option (List Char)) : onTestE s ok num name dir expl = .ok (onTest s ok num name dir expl) := by
  unfold onTestE onTest testNumber numTooLong pyInt
  cases num with
  | none => rfl
  | some d =>
    cases h : tooLong d
    · simp only [h]
      rfl
    · simp only [h]
      rfl

theorem onPlanE_ok (s : PState) (ds : List Char) (dir expl : Option (List Char)) :
    onPlanE s ds dir expl = .ok (onPlan s ds dir expl) := by
  unfold onPlanE onPlan pyInt
  cases s.plan with
  | some p => rfl
  | none => cases h : tooLong ds <;> rfl

theorem onVersionE_ok (s : PState) (ds : List Char) : onVersionE s ds = .ok (onVersion s ds) := by
  unfold onVersionE onVersion pyInt
  by_cases hl : s.lineno ≠ 1
  · simp [hl]
    rfl
  · cases h : tooLong ds <;> simp [hl, h] <;> rfl

theorem mainLineE_ok (s : PState) (line : List Char) : mainLineE s line = .ok (mainLine s line) := by
  simp only [mainLineE, mainLine]
  cases classify (rstrip line) with
  | skip => rfl
  | test ok num name dir expl => exact onTestE_ok ..
  | plan ds dir expl => exact onPlanE_ok ..
  | bailout msg => rfl
  | version ds => exact onVersionE_ok ..
  | unknown => rfl

theorem stepE_ok (s : PState) (line : List Char) : stepE s line = .ok (step s line) := by
  simp only [stepE, step, mainLineE_ok]
  cases s.state with
  | main => rfl
  | afterTest =>
    by_cases hv : s.version ≥ 13
    · cases hy : yamlStart line
      · simp [hv, hy]
      · simp [hv, hy]
        rfl
    · simp [hv]
  | yaml =>
    cases he : yamlEnd line
    · cases hi : startsWith line s.yamlIndent
      · simp [he, hi]
        rfl
      · simp [he, hi]
        rfl
    · simp [he]
      rfl

theorem runE_ok (s : PState) (lines : List (List Char)) : runE s lines = .ok (run s lines) := by
  induction lines generalizing s with
  | nil => rfl
  | cons l ls ih =>
    simp only [runE, run, stepE_ok, ih]
    rfl

/-- **no input makes the parser raise**: in the exception-faithful model — `int()` is partial (ValueError
beyond 4300 digits) and the `try/except` blocks are where the source has them — no exception escapes
`parse` for any line stream, and the result is the event list of the plain model -/
theorem parse_never_raises (lines : List (List Char)) : parseE lines = .ok (parse lines) := by
  simp only [parseE, parse, runE_ok]
  rfl

/-! ### The line layer below the parser (specification of `read_decode`) -/

theorem splitLines_flatten (s : List Char) : (splitLines s).flatten = s := by
  fun_induction splitLines s with
  | case1 => rfl
  | case2 cs ih => simp [ih]
  | case3 c cs h hs ih =>
    rw [hs] at ih
    simp [← ih]
  | case4 c cs h l ls hs ih =>
    rw [hs] at ih
    simp [← ih]

theorem splitLines_shape (s : List Char) : ∀ l ∈ splitLines s, l ≠ [] ∧ '\n' ∉ l.dropLast := by
  fun_induction splitLines s with
  | case1 => nofun
  | case2 cs ih =>
    rw [List.forall_mem_cons]
    exact ⟨by simp, ih⟩
  | case3 => simp
  | case4 c cs h l0 ls hs ih =>
    -- `c` goes in front of the first line, which is not empty
    rw [hs, List.forall_mem_cons] at ih
    rw [List.forall_mem_cons]
    exact ⟨by simp [List.dropLast_cons_of_ne_nil ih.1.1, ih.1.2, Ne.symm h], ih.2⟩

example : outputLines "ok 1\r\nnot ok 2\nBail out!".toList =
    ["ok 1\n".toList, "not ok 2\n".toList, "Bail out!".toList] := by
  char_lists
  decide +kernel

/-- **bad iff** — for a test that is neither `should_fail` nor run interactively, and for every event list:
the TAP test is reported bad exactly when some subtest is bad, an error or bail-out event occurred, or the
program exited non-zero -/
theorem verdict_bad_iff (evs : List Event) (rc : Int) :
    (verdict false false rc evs).isBad = true ↔
      (hasBadSubtest evs = true ∨ hasErrorOrBail evs = true ∨ rc ≠ 0) := by
  rw [verdict_eq_specVerdict]
  unfold specVerdict
  cases ht : lastTrigger evs with
  | none =>
    obtain ⟨h1, h2⟩ := (MesonModel.Tap.no_trigger_iff evs).mp ht
    by_cases hrc : rc = 0 <;> cases allSkip evs <;> simp [h1, h2, hrc, TestResult.isBad]
  | some t =>
    cases t with
    | fail => simp [lastTrigger_fail_bad evs ht, TestResult.isBad]
    | error => simp [lastTrigger_error_has evs ht, TestResult.isBad]

/-- the subtest statuses the parser can produce; among them "bad" means failed or unexpectedly passed -/
theorem directiveResult_range (ok : Bool) (dir : Option (List Char)) :
    directiveResult ok dir ∈ [TestResult.OK, .FAIL, .SKIP, .EXPECTEDFAIL, .UNEXPECTEDPASS] ∧
    ((directiveResult ok dir).isBad = true ↔
       (directiveResult ok dir = .FAIL ∨ directiveResult ok dir = .UNEXPECTEDPASS)) := by
  unfold directiveResult plainResult
  cases dir with
  | none => cases ok <;> simp [TestResult.isBad]
  | some d =>
    have h3 : startsWith kTODO kSKIP = false := by decide
    by_cases h2 : upper d = kTODO
    · cases ok <;> simp [h2, h3, TestResult.isBad]
    · by_cases h1 : startsWith (upper d) kSKIP = true <;> cases ok <;> simp [h1, h2, TestResult.isBad]

/-- `should_fail` TAP tests invert the verdict of the plain outcomes (so the bad-iff is stated without it) -/
theorem verdict_expected_fail (evs : List Event) (rc : Int) :
    (verdict false false rc evs = .OK → verdict true false rc evs = .UNEXPECTEDPASS) ∧
    (verdict false false rc evs = .FAIL → verdict true false rc evs = .EXPECTEDFAIL) := by
  unfold verdict
  rw [completeRes_expectedFail]
  constructor <;> intro h <;> simp [h]

/-- interactive TAP runs are reported IGNORED, `should_fail` or not: IGNORED is neither OK nor FAIL, so the
inversion leaves it -/
theorem verdict_interactive (ef : Bool) (evs : List Event) (rc : Int) :
    verdict ef true rc evs = .IGNORED := by
  unfold verdict completeRes
  cases ef <;> simp

/-! ### Non-vacuity: concrete streams walk through the hypotheses above -/

section Examples

def ex1 : List (List Char) :=
  ["TAP version 13".toList, "1..3".toList, "ok 1 first".toList, "  ---".toList, "  ok 9 hidden".toList,
   "  ...".toList, "not ok 2 second # TODO later".toList, "# diag".toList, "ok # SKIP: x".toList]

example : parse ex1 =
    [.version 13, .plan ⟨3, false, false, none⟩, .test 1 "first".toList .OK none,
     .test 2 "second".toList .EXPECTEDFAIL (some "later".toList),
     .test 3 [] .SKIP (some ": x".toList)] := by
  unfold ex1
  char_lists
  decide +kernel

example : visibleTests PState.init ex1 = 3 := by
  unfold ex1
  char_lists
  decide +kernel

example : parse ["ok 2".toList, "ok".toList, "1..2".toList, "ok 1".toList, "ok 1".toList] =
    [.test 2 [] .OK none, .test 3 [] .OK none, .plan ⟨2, true, false, none⟩, .error .lateTest,
     .test 1 [] .OK none, .test 1 [] .OK none, .error (.tooMany 2 4)] := by
  char_lists
  decide +kernel

example : parse ["1..1".toList, "1..1".toList, "ok 5".toList, "Bail out! stop".toList] =
    [.plan ⟨1, false, false, none⟩, .error .secondPlan, .error .exceedsPlan, .test 5 [] .OK none,
     .bailout "stop".toList] := by
  char_lists
  decide +kernel

example : parse ["TAP version 13".toList, "ok".toList, " ---".toList, " a: b".toList] =
    [.version 13, .test 1 [] .OK none, .error (.yamlNotTerminated (some 3))] := by
  char_lists
  decide +kernel

example : parse ["ok".toList, "TAP version 13".toList, "ok 3".toList] =
    [.test 1 [] .OK none, .error .versionNotFirst, .test 3 [] .OK none, .error (.missing 2 3)] := by
  char_lists
  decide +kernel

example : tooLong (List.replicate 4301 '1') = true ∧ tooLong (List.replicate 4300 '0') = false := by
  unfold tooLong intMaxStrDigits
  rw [List.length_replicate, List.length_replicate]
  constructor <;> decide +kernel
example : swallowed { PState.init with state := .afterTest, version := 13 } "  ---".toList = true := by
  char_lists
  decide +kernel
example : classify "ok 1 # SKIP:".toList = .test true (some ['1']) [] (some "SKIP".toList) (some [':']) := by
  char_lists
  decide +kernel
example : classify "ok 1 # TODOS".toList = .test true (some ['1']) [] none none := by
  char_lists
  decide +kernel
example : (verdict false false 0 (parse ["ok".toList, "not ok # TODO".toList])) = .OK := by
  char_lists
  decide +kernel
example : (verdict false false 0 (parse ["ok # TODO".toList])).isBad = true := by
  char_lists
  decide +kernel
example : (verdict false false 1 (parse ["ok".toList])).isBad = true := by
  char_lists
  decide +kernel

end Examples

/-! ### The events of a stream depend on that stream only (fresh parsers, sessions, second use)

`TAPParser` has no `__init__`; a fresh instance reads the class-body attributes.  They are re-extracted from
the live class on every run (`Generated.TapTables.parserClassAttrs`, `parserMutableClassAttrs`): the model's
initial state must be exactly those defaults, and none of them may be a mutable container (a set / list /
dict in the class body is shared by every instance and survives from one stream to the next). -/

def pyBool (b : Bool) : String := if b then "True" else "False"
def pyOptNat : Option Nat → String
  | none => "None"
  | some n => toString n
def pyMode : Mode → String
  | .main => "1" | .afterTest => "2" | .yaml => "3"

/-- the attributes of a parser object in state `s`, as Python would print them (sorted by name) -/
def attrsOf (s : PState) : List (String × String) :=
  [("_AFTER_TEST", pyMode .afterTest), ("_MAIN", pyMode .main), ("_YAML", pyMode .yaml),
   ("bailed_out", pyBool s.bailedOut), ("found_late_test", pyBool s.foundLateTest),
   ("highest_test", toString s.highestTest), ("last_test", toString s.lastTest), ("lineno", toString s.lineno),
   ("num_tests", toString s.numTests), ("plan", match s.plan with | none => "None" | some _ => "Plan"),
   ("state", pyMode s.state), ("version", toString s.version),
   ("yaml_indent", if s.yamlIndent.isEmpty then "''" else "str"), ("yaml_lineno", pyOptNat s.yamlLineno)]

/-- the model's fresh parser is the class body of the live `TAPParser`, attribute by attribute -/
theorem fresh_parser_table : attrsOf PState.init = MesonModel.Generated.TapTables.parserClassAttrs := rfl

/-- no class-body attribute of `TAPParser` / `TestRunTAP` (and bases) that the parser or the consumer mutates in
place: nothing a stream leaves behind can be seen by the next parser -/
theorem no_shared_mutable_parser_state : MesonModel.Generated.TapTables.parserMutableClassAttrs = [] := rfl

theorem parse_eq_parseFrom_init (lines : List (List Char)) : parse lines = parseFrom PState.init lines := rfl

/-- using a parser never changes what the next fresh parser starts from -/
theorem session_keeps_class_state (p : Proc) (ss : List (List (List Char))) :
    (session p ss).1.cls = p.cls := by
  rw [session_eq]

/-- **sessions**: parsing streams `s1 … sn` one after the other with fresh parsers in one process gives, for
every `sk`, the events of parsing `sk` alone -/
theorem session_events (ss : List (List (List Char))) : (session Proc.boot ss).2 = ss.map parse := by
  rw [session_eq]
  rfl

/-- … whatever was parsed before and whatever is parsed afterwards -/
theorem stream_alone_in_session (pre post : List (List (List Char))) (s : List (List Char)) :
    (session Proc.boot (pre ++ s :: post)).2[pre.length]? = some (parse s) := by
  rw [session_events]
  simp

/-- … and whatever the process did before the session started -/
theorem session_after_session (ss1 ss2 : List (List (List Char))) :
    (session (session Proc.boot ss1).1 ss2).2 = ss2.map parse := by
  rw [session_eq, session_eq]
  rfl

/-- … in any order: the (stream, events) pairs of two orders of the same streams are the same pairs -/
theorem session_order_irrelevant (ss ss' : List (List (List Char))) (h : ss.Perm ss') :
    (ss.zip (session Proc.boot ss).2).Perm (ss'.zip (session Proc.boot ss').2) := by
  have hz : ∀ l : List (List (List Char)), l.zip (l.map parse) = l.map (fun s => (s, parse s)) := by
    intro l
    induction l with
    | nil => rfl
    | cons a l ih => simp [ih]
  rw [session_events, session_events, hz, hz]
  exact h.map _

/-- the same stream twice gives the same events twice (one-shot errors are one-shot per stream, not per process) -/
theorem second_use_same_events (s : List (List Char)) (between : List (List (List Char))) :
    (session Proc.boot (s :: between ++ [s])).2.head? = some (parse s) ∧
    (session Proc.boot (s :: between ++ [s])).2.getLast? = some (parse s) := by
  rw [session_events]
  refine ⟨by simp, ?_⟩
  have : (s :: between ++ [s]).map parse = (parse s :: between.map parse) ++ [parse s] := by simp
  rw [this, List.getLast?_append]
  simp

/-- every stream of a session gets a parser object of its own: as many instances as streams -/
theorem session_instances (ss : List (List (List Char))) : (session Proc.boot ss).1.used.length = ss.length := by
  rw [session_eq]
  simp [Proc.boot]

example : (session Proc.boot [["ok 1".toList, "1..2".toList, "ok 2".toList],
                              ["ok 1".toList, "1..2".toList, "ok 2".toList]]).2 =
    [[.test 1 [] .OK none, .plan ⟨2, true, false, none⟩, .error .lateTest, .test 2 [] .OK none],
     [.test 1 [] .OK none, .plan ⟨2, true, false, none⟩, .error .lateTest, .test 2 [] .OK none]] := by
  char_lists
  decide +kernel

/-- the state-machine model of the consumer computes the verdict of the fold model (`verdict_bad_iff` and the
classification below therefore speak about both) -/
theorem runTAP_res (ef inter : Bool) (rc : Int) (evs : List Event) :
    (runTAP ef inter rc .RUNNING evs).res = verdict ef inter rc evs := runTAP_res_eq ..

/-- `self.results` is the list of subtest events, in order; `additional_error` gets one message per error event;
one warning per unknown line -/
theorem runTAP_records (ef inter : Bool) (rc : Int) (r0 : TestResult) (evs : List Event) :
    (runTAP ef inter rc r0 evs).results = evs.filter isTestEvent ∧
    (runTAP ef inter rc r0 evs).errs = evs.filterMap errOf ∧
    (runTAP ef inter rc r0 evs).warns = evs.filterMap unknownOf := by
  obtain ⟨_, _, h3, h4, h5⟩ := foldl_consumeEv { res := r0 } evs
  exact ⟨h3, h4, h5⟩

/-- **classification rule**, for every event list and every exit status: a failed / unexpectedly passed subtest
after which no error or bail-out follows ⇒ FAIL; an error or bail-out event after which no bad subtest follows ⇒
ERROR; neither: non-zero exit ⇒ ERROR, else every subtest skipped (or none at all) ⇒ SKIP, else OK -/
theorem verdict_classification (evs : List Event) (rc : Int) :
    verdict false false rc evs = specVerdict evs rc := verdict_eq_specVerdict evs rc

theorem verdict_range (evs : List Event) (rc : Int) :
    verdict false false rc evs ∈ [TestResult.OK, .SKIP, .FAIL, .ERROR] := by
  rw [verdict_classification]
  unfold specVerdict
  cases lastTrigger evs with
  | none => by_cases hrc : rc = 0 <;> cases allSkip evs <;> simp [hrc]
  | some t => cases t <;> simp

theorem no_trigger_iff (evs : List Event) :
    lastTrigger evs = none ↔ (hasBadSubtest evs = false ∧ hasErrorOrBail evs = false) :=
  MesonModel.Tap.no_trigger_iff evs

/-- **all subtests ok ⇒ OK** (and only then): OK iff no bad subtest, no error / bail-out, exit status 0 and at
least one subtest that is not skipped -/
theorem verdict_ok_iff (evs : List Event) (rc : Int) :
    verdict false false rc evs = .OK ↔
      (hasBadSubtest evs = false ∧ hasErrorOrBail evs = false ∧ rc = 0 ∧ allSkip evs = false) := by
  rw [verdict_classification, ← and_assoc, ← no_trigger_iff]
  unfold specVerdict
  cases lastTrigger evs with
  | none => by_cases hrc : rc = 0 <;> cases allSkip evs <;> simp [hrc]
  | some t => cases t <;> simp

/-- **all-skip ⇒ SKIP** (and only then): SKIP iff nothing bad happened, exit status 0, and every subtest is
skipped — which includes a stream without subtests (`1..0 # SKIP`, or no output at all) -/
theorem verdict_skip_iff (evs : List Event) (rc : Int) :
    verdict false false rc evs = .SKIP ↔
      (hasBadSubtest evs = false ∧ hasErrorOrBail evs = false ∧ rc = 0 ∧ allSkip evs = true) := by
  rw [verdict_classification, ← and_assoc, ← no_trigger_iff]
  unfold specVerdict
  cases lastTrigger evs with
  | none => by_cases hrc : rc = 0 <;> cases allSkip evs <;> simp [hrc]
  | some t => cases t <;> simp

/-- **any failure ⇒ FAIL** when the stream has no error / bail-out event (whatever the exit status) -/
theorem failures_only_is_fail (evs : List Event) (rc : Int)
    (hb : hasBadSubtest evs = true) (he : hasErrorOrBail evs = false) : verdict false false rc evs = .FAIL := by
  rw [verdict_classification]
  unfold specVerdict
  cases ht : lastTrigger evs with
  | none =>
    rw [no_trigger_iff] at ht
    simp [hb] at ht
  | some t =>
    cases t with
    | fail => rfl
    | error =>
      have := lastTrigger_error_has evs ht
      simp [he] at this

/-- **error event, bail-out or bad exit ⇒ ERROR** when no subtest is bad -/
theorem errors_only_is_error (evs : List Event) (rc : Int)
    (hb : hasBadSubtest evs = false) (he : hasErrorOrBail evs = true ∨ rc ≠ 0) :
    verdict false false rc evs = .ERROR := by
  rw [verdict_classification]
  unfold specVerdict
  cases ht : lastTrigger evs with
  | none =>
    rw [no_trigger_iff] at ht
    rcases he with he | he
    · simp [ht.2] at he
    · simp [he]
  | some t =>
    cases t with
    | error => rfl
    | fail =>
      have := lastTrigger_fail_bad evs ht
      simp [hb] at this

theorem verdict_fail_error_causes (evs : List Event) (rc : Int) :
    (verdict false false rc evs = .FAIL → hasBadSubtest evs = true) ∧
    (verdict false false rc evs = .ERROR → (hasErrorOrBail evs = true ∨ rc ≠ 0)) := by
  rw [verdict_classification]
  unfold specVerdict
  cases ht : lastTrigger evs with
  | none => by_cases hrc : rc = 0 <;> cases allSkip evs <;> simp [hrc]
  | some t =>
    cases t with
    | fail => simp [lastTrigger_fail_bad evs ht]
    | error => simp [lastTrigger_error_has evs ht]

/-- `fail` iff the list splits around a bad subtest after which nothing sets the result any more -/
theorem lastTrigger_fail_iff (evs : List Event) :
    lastTrigger evs = some .fail ↔
      ∃ pre post n nm r ex, evs = pre ++ .test n nm r ex :: post ∧ r.isBad = true ∧ post.any isTrigger = false := by
  rw [lastTrigger_some_iff]
  constructor
  · rintro ⟨pre, e, post, h1, h2, h3⟩
    cases e with
    | test n nm r ex => exact ⟨pre, post, n, nm, r, ex, h1, triggerOf_fail h2, (lastTrigger_none_iff post).mp h3⟩
    | _ => simp [triggerOf] at h2
  · rintro ⟨pre, post, n, nm, r, ex, h1, h2, h3⟩
    exact ⟨pre, _, post, h1, by simp [triggerOf, h2], (lastTrigger_none_iff post).mpr h3⟩

/-- **a plan/count mismatch or duplicate/missing numbers make the TAP test ERROR**: the end-of-stream errors
come last, so for every stream whose output contains one the result is ERROR whatever the exit status -/
theorem end_of_stream_error_is_error (lines : List (List Char)) (rc : Int)
    (h : expectedEnd (parse lines) ≠ []) : verdict false false rc (parse lines) = .ERROR := by
  apply end_events_make_error
  intro hc
  apply h
  rw [← end_of_stream_errors, parse, List.filter_append, run_no_final, hc]
  rfl

/-- an unterminated YAML block at the end of the stream makes the TAP test ERROR as well -/
theorem open_yaml_is_error (lines : List (List Char)) (rc : Int)
    (h : (run PState.init lines).1.state = .yaml) : verdict false false rc (parse lines) = .ERROR :=
  end_events_make_error lines rc (by simp [finish, h])

/-- a test that was killed while its output was parsed (TIMEOUT / INTERRUPT set by `TestSubprocess.wait`) keeps
that result: neither the events nor the exit status can overwrite it -/
theorem killed_test_keeps_result (evs : List Event) (rc : Int) (r0 : TestResult)
    (h : r0 = .TIMEOUT ∨ r0 = .INTERRUPT) : (runTAP false false rc r0 evs).res = r0 := by
  have hr : r0 ≠ .RUNNING := by rcases h with h | h <;> subst h <;> simp
  have h1 : parseRes r0 evs = r0 := by
    simp only [parseRes]
    split
    · rw [if_neg hr]
    · rfl
  rw [runTAP_res_eq, h1]
  rcases h with h | h <;> subst h <;> simp [completeRes, TestResult.isBad]

example : verdict false false 0 [.error .secondPlan, .test 1 [] .FAIL none] = .FAIL := by decide +kernel
example : verdict false false 0 [.test 1 [] .FAIL none, .error .secondPlan] = .ERROR := by decide +kernel
example : verdict false false 0 [] = .SKIP := by decide +kernel
example : verdict false false 77 [.test 1 [] .SKIP none] = .ERROR := by decide +kernel
example : verdict false false 0 [.test 1 [] .SKIP none, .test 2 [] .EXPECTEDFAIL none] = .OK := by decide +kernel
example : (runTAP false false 0 .RUNNING (parse ["ok".toList, "garbage".toList])).warns = [("garbage".toList, 2)] := by
  char_lists
  decide +kernel
example : expectedEnd (parse ["1..2".toList, "ok".toList]) ≠ [] := by
  char_lists
  decide +kernel

end MesonModel.Props.C18
