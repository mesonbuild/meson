/-
C04 — the generated Ninja manifest is well-formed and closed.

What is proved here, for *all* inputs:
  (a) a path written by `ninja_quote` on a build line is read back by the manifest reader as that path, and the build
      lines `NinjaBuildElement.write` lays out parse back to the same statements;
  (b) the executable checker `wellFormed` that the harness runs (through the driver) on every real `build.ninja` is sound
      and complete for the declarative `WellFormed` (rules defined, no path produced twice, no dependency cycle,
      every input exists or is produced, required targets reachable, pools declared, default targets produced; with
      `wellFormedInst` also: installed files brought up to date) — so a verdict `wf=1` of the driver *is* the property
      of that manifest (translation validation: the project quantifier is sampled by the harness, the checker is verified);
  (c) the emission discipline of `NinjaBuild`/`NinjaBuildElement` (model `Emit.lean`, tied to the real classes by the
      harness): whenever `write` succeeds, explicit outputs are pairwise distinct and every build line names `phony`
      or a rule block that is emitted — for every sequence of `add_rule`/`add_build`;
  (d) the aggregate targets of `generate_ending`/`generate_install` reach what they must (model `Ending.lean`).
Where the code does not give the full statement (backslash rewriting on build lines, implicit outputs never checked)
the full statement is kept as a `def … : Prop`, refuted on a witness, and the provable part carries the hypothesis.
-/
import MesonModel.Ninja.GraphLemmas
import MesonModel.Ninja.EmitLemmas
import MesonModel.Ninja.Manifest
import MesonModel.Ninja.ManifestLemmas
import MesonModel.Ninja.EndingLemmas

namespace MesonModel.Props.C04
open MesonModel.Ninja

/-! ## (a) what the backend writes for a path is what Ninja reads -/

/-- `ninja_quote(name, True)` accepts exactly the names without newline and without `|` -/
theorem quote_accepts_iff (name : Str) :
    (∃ q, Emit.ninjaQuoteBuild name = some q) ↔ ('\n' ∉ name ∧ '|' ∉ name) :=
  ⟨fun ⟨q, h⟩ => ((Emit.ninjaQuoteBuild_eq_some_iff name q).1 h).1,
   fun h => ⟨_, (Emit.ninjaQuoteBuild_eq_some_iff name _).2 ⟨h, rfl⟩⟩⟩

/-- For every name that `ninja_quote(name, True)` accepts (it raises for newline and, since repair 8693ac3, for `|`) and
that holds no carriage return: the quoted text, followed by anything that ends a path on a build line (blank, `:`, `|`,
end of line), is read by the manifest lexer as exactly `name` (literal pieces only, no variable reference),
whatever the variable environment. -/
theorem quote_read_roundtrip (name q : Str) (hq : Emit.ninjaQuoteBuild name = some q) (hcr : '\r' ∉ name)
    (c0 : Char) (h0 : isTerm c0) (tail : Str) (env : List (Str × Str)) :
    ∃ e, readEval true (name.length + 1) false (q ++ c0 :: tail) [] = .ok (e, c0 :: tail) ∧ evalStr env e = name := by
  obtain ⟨⟨hn, hp⟩, rfl⟩ := (Emit.ninjaQuoteBuild_eq_some_iff name q).1 hq
  refine ⟨name.map Piece.lit, ?_, evalStr_lits env name⟩
  simpa using readEval_quote name ((forall_plainChar_iff name).2 ⟨hn, hcr, hp⟩) c0 h0 tail [] _ (Nat.le_refl _)

/-- the statement for *every* accepted name (no carriage-return exclusion) -/
def quote_read_roundtrip_full : Prop :=
  ∀ (name q : Str), Emit.ninjaQuoteBuild name = some q → ∀ (tail : Str),
    ∃ e, readEval true (name.length + 1) false (q ++ ':' :: tail) [] = .ok (e, ':' :: tail) ∧ evalStr [] e = name

/-- … still fails on a lone carriage return, which `ninja_quote` lets through and Ninja's lexer refuses
(residual corner: not reachable from the project generator, `\r` in a target name) -/
theorem quote_read_roundtrip_cr_counterexample : ¬ quote_read_roundtrip_full := by
  intro h
  obtain ⟨e, h1, _⟩ := h "a\rb".toList _ rfl []
  -- the reader answers `carriageReturn`
  cases h1

/-- non-vacuity: a name with blank, colon, dollar and non-ASCII letters is accepted -/
example : Emit.ninjaQuoteBuild "a b:c$é".toList = some "a$ b$:c$$é".toList := by decide +kernel
example : Emit.ninjaQuoteBuild "a|b".toList = none := by decide +kernel
example : isTerm ':' := .inr (.inl rfl)

/-- the names the round trip covers: non-empty, accepted by `ninja_quote(…, True)`, no carriage return -/
theorem goodName_iff (p : Str) :
    GoodName p ↔ p ≠ [] ∧ (∃ q, Emit.ninjaQuoteBuild p = some q) ∧ '\r' ∉ p := by
  rw [quote_accepts_iff, GoodName, forall_plainChar_iff]
  exact ⟨fun ⟨h0, h1, h2, h3⟩ => ⟨h0, ⟨h1, h3⟩, h2⟩, fun ⟨h0, ⟨h1, h3⟩, h2⟩ => ⟨h0, h1, h2, h3⟩⟩

/-- **parse ∘ print** for the build statements: the text that `NinjaBuildElement.write` lays out for a list of build
lines (`Emit.printBuilds`: `build outs[ | implicit outs]: rule ins[ | deps][ || order-only deps]`, a blank line after
each) is read back by the manifest parser as exactly those statements — every name as a string of literal pieces, in
the same group, in the same order — for all lines whose names are good (`goodName_iff`), with at least one explicit
output and a rule name of identifier characters. No size side condition: the fuel `parse` derives from the text
length always suffices. -/
theorem parse_print_manifest (bs : List Emit.OutBuild) (hg : ∀ b ∈ bs, GoodLine0 b) :
    parse (Emit.printBuilds bs) = .ok (bs.map (fun b => Stmt.build (synOf b))) :=
  parse_printBuilds bs hg

/-- non-vacuity: a line with every group present and names holding blank, `$`, `:` -/
def exLine : Emit.OutBuild :=
  { outs := ["a b".toList, "c$".toList], implOuts := ["i:1".toList], rule := "c_COMPILER".toList,
    ins := ["x.c".toList], deps := ["d".toList], orderdeps := ["g.h".toList, "é".toList] }

example : Emit.printBuilds [exLine]
    = "build a$ b c$$ | i$:1: c_COMPILER x.c | d || g.h é\n\n".toList := by
  conv in String.toList _ => rw [String.toList_ofList]
  decide +kernel

example : GoodLine0 exLine := by
  refine ⟨?_, by decide, ?_, ⟨by decide, by decide⟩, ?_, ?_, ?_⟩ <;>
    (unfold GoodName PlainChar exLine
     decide +kernel)

/-! ## (b) the checker -/

section checker
variable {α : Type} [DecidableEq α]

theorem wellFormed_sound_complete (g : Graph α) (fs : List α) (reqs : List (α × α)) :
    wellFormed g fs reqs = true ↔ WellFormed g fs reqs :=
  wellFormed_iff g fs reqs

/-- for the graph extracted from a parsed manifest (nodes = canonicalised paths) -/
theorem checker_decides_manifest (m : Manifest) (fs : List String) (reqs : List (String × String)) :
    wellFormed m.graph fs reqs = true ↔ WellFormed m.graph fs reqs :=
  wellFormed_iff m.graph fs reqs

/-- The checker with the install clause accepts exactly the graphs that are well-formed and in which every file the
install step copies unconditionally is brought up to date by the `install` target (or, when no statement produces it,
exists). -/
theorem wellFormedInst_sound_complete (g : Graph α) (fs : List α) (reqs : List (α × α)) (iroot : α) (inst : List α) :
    wellFormedInst g fs reqs iroot inst = true ↔ WellFormedInst g fs reqs iroot inst :=
  wellFormedInst_iff g fs reqs iroot inst

/-- clause 1: every statement's rule is `phony` or defined -/
theorem rules_clause (g : Graph α) :
    rulesDefined g = true ↔ ∀ e ∈ g.edges, e.rule = phony ∨ e.rule ∈ g.rules :=
  rulesDefined_iff g

/-- clause 2: no path is produced twice — neither inside one statement nor by two statements
(implicit outputs are part of `outs`) -/
theorem unique_clause (es : List (Edge α)) :
    outputsDisjoint es = true ↔
      (∀ e ∈ es, e.outs.Nodup) ∧ es.Pairwise (fun e e' => ∀ p, p ∈ e.outs → p ∈ e'.outs → False) :=
  outputsDisjoint_iff es

/-- clause 3: Kahn's rounds succeed iff there is no non-empty dependency path `v →⁺ v` -/
theorem acyclic_clause (es : List (Edge α)) :
    acyclicB es = true ↔ ∀ v, ¬ Plus (Dep es) v v :=
  acyclicB_iff es

/-- clause 4: every explicit / implicit / order-only / validation input exists or is an output -/
theorem closed_clause (fs : List α) (es : List (Edge α)) :
    closedB fs es = true ↔ ∀ e ∈ es, ∀ i, i ∈ e.ins ++ e.vals → i ∈ fs ∨ ∃ e' ∈ es, i ∈ e'.outs :=
  closedB_iff fs es

/-- clause 5: the computed set is exactly what building `root` touches -/
theorem reach_clause (es : List (Edge α)) (root t : α) :
    t ∈ reachSet es root ↔ Star (Need es) root t :=
  mem_reachSet_iff es root t

/-- clause 6: every pool a statement is bound to (by its own `pool =` or its rule's) is declared or is `console`;
no pool is declared twice -/
theorem pools_clause (g : Graph α) :
    poolsB g = true ↔ (∀ e ∈ g.edges, e.pool = [] ∨ e.pool = console ∨ e.pool ∈ g.pools) ∧
      (g.pools.Nodup ∧ console ∉ g.pools) :=
  poolsB_iff g

/-- clause 7: every `default` target is produced by a statement -/
theorem defaults_clause (g : Graph α) :
    defaultsB g = true ↔ ∀ d ∈ g.defaults, ∃ e ∈ g.edges, d ∈ e.outs :=
  defaultsB_iff g

/-- clause 8: a file the install step copies unconditionally is needed by the install target when a statement
produces it, and exists otherwise -/
theorem install_clause (fs : List α) (es : List (Edge α)) (iroot : α) (inst : List α) :
    installB fs es iroot inst = true ↔
      (∀ f ∈ inst, (∃ e ∈ es, f ∈ e.outs) → Star (Need es) iroot f) ∧
      (∀ f ∈ inst, (¬ ∃ e ∈ es, f ∈ e.outs) → f ∈ fs) :=
  installB_iff fs es iroot inst

/-- consequence in the property's words: in an accepted graph two different statements never share an output -/
theorem accepted_no_double_producer (g : Graph α) (fs : List α) (reqs : List (α × α))
    (h : wellFormed g fs reqs = true) (i j : Nat) (hij : i < j) (hj : j < g.edges.length) (p : α) :
    ¬ (p ∈ (g.edges[i]'(by omega)).outs ∧ p ∈ (g.edges[j]'hj).outs) := by
  have wf := (wellFormed_iff g fs reqs).1 h
  intro ⟨hi, hj'⟩
  exact (List.pairwise_iff_getElem.1 wf.uniqueAcross) i j (by omega) hj hij p hi hj'

theorem cycle_rejected (g : Graph α) (fs : List α) (reqs : List (α × α)) (v : α) (c : Plus (Dep g.edges) v v) :
    wellFormed g fs reqs = false := by
  cases h : wellFormed g fs reqs with
  | false => rfl
  | true => exact absurd c (((wellFormed_iff g fs reqs).1 h).acyclic v)

end checker

/-! non-vacuity: an accepted graph with a shared header, an implicit output and a test prerequisite;
the same graph with a back edge, a double producer, a missing input, an undefined rule is rejected -/

def exGraph : Graph Nat :=
  { rules := ["CC".toList, "LINK".toList, "GEN".toList],
    edges := [ { rule := "GEN".toList, outs := [10, 11], ins := [1] },          -- g.h g.c from gen.py
               { rule := "CC".toList, outs := [20], ins := [11, 10] },          -- g.c.o (order-only on g.h)
               { rule := "CC".toList, outs := [21], ins := [2, 10] },           -- main.c.o
               { rule := "LINK".toList, outs := [30, 31], ins := [20, 21] },    -- exe (+ implicit output)
               { rule := phony, outs := [100], ins := [30] },                   -- all
               { rule := phony, outs := [101], ins := [30, 10] } ] }            -- meson-test-prereq

example : wellFormed exGraph [1, 2] [(100, 30), (100, 31), (101, 10), (100, 1)] = true := by decide +kernel
example : WellFormed exGraph [1, 2] [(100, 30), (101, 10)] := (wellFormed_sound_complete _ _ _).1 (by decide +kernel)
-- back edge g.h <- exe
example : wellFormed { exGraph with edges := exGraph.edges ++ [{ rule := phony, outs := [1], ins := [30] }] }
    [1, 2] [] = false := by decide +kernel
-- double producer
example : wellFormed { exGraph with edges := exGraph.edges ++ [{ rule := phony, outs := [31], ins := [] }] }
    [1, 2] [] = false := by decide +kernel
-- missing source
example : wellFormed exGraph [1] [] = false := by decide +kernel
-- undefined rule
example : wellFormed { exGraph with rules := ["CC".toList] } [1, 2] [] = false := by decide +kernel
-- test dependency not hanging below the prerequisite target
example : wellFormed exGraph [1, 2] [(101, 21)] = true := by decide +kernel
example : wellFormed exGraph [1, 2] [(101, 2), (100, 101)] = false := by decide +kernel

-- a statement bound to a pool that is not declared / declared / the built-in one; a default target nobody produces
example : wellFormed { exGraph with edges := exGraph.edges ++ [{ rule := phony, outs := [7], ins := [], pool := "link_pool".toList }] }
    [1, 2] [] = false := by decide +kernel
example : wellFormed { exGraph with pools := ["link_pool".toList], defaults := [100],
                                    edges := exGraph.edges ++ [{ rule := phony, outs := [7], ins := [], pool := "link_pool".toList },
                                                               { rule := phony, outs := [8], ins := [], pool := console }] }
    [1, 2] [] = true := by decide +kernel
example : wellFormed { exGraph with pools := ["p".toList, "p".toList] } [1, 2] [] = false := by decide +kernel
example : wellFormed { exGraph with defaults := [999] } [1, 2] [] = false := by decide +kernel

-- the loader gives a statement the pool of its rule when it has none of its own (`Edge::GetBinding`)
set_option maxRecDepth 8000 in
example :
    (match parse "pool link_pool\n depth = 1\nrule L\n command = ld\n pool = link_pool\nbuild a: L b\nbuild c: L d\n pool = console\ndefault a\n".toList with
     | .ok ss => (match load ss with
        | .ok m => (m.graph.pools, m.graph.edges.map (·.pool), m.graph.defaults)
        | .error _ => ([], [], []))
     | .error _ => ([], [], []))
    = (["link_pool".toList], ["link_pool".toList, "console".toList], ["a"]) := by
  -- the characters of the literal are those it was written with; left to itself the kernel decodes its byte array,
  -- which costs several times the run of the parser
  conv in String.toList _ => rw [String.toList_ofList]
  decide +kernel

/-- the manifest reader on a small text: escapes, implicit output, order-only input, canonicalisation -/
example :
    (match parse "rule R\n command = x\nbuild a$ b | i: R ./s/../t.c | u || v\n d = 1\nbuild all: phony a$ b\ndefault all\n".toList with
     | .ok ss => (match load ss with
        | .ok m => m.graph.edges.map (fun e => (e.outs, e.ins))
        | .error _ => [])
     | .error _ => [])
    = [(["a b", "i"], ["t.c", "u", "v"]), (["all"], ["a b"])] := by
  conv in String.toList _ => rw [String.toList_ofList]
  decide +kernel

/-! ## (c) the emission discipline -/

open MesonModel.Ninja.Emit

/-- If `NinjaBuild.write` succeeds, the explicit output names handed to `add_build` over the whole run were
pairwise distinct (duplicates inside one element included) — for every operation sequence. -/
theorem emission_unique_outputs (ops : List Op) (out : Out) (h : emit ops = .ok out) :
    (ops.flatMap opOuts).Nodup :=
  emit_ok_names_nodup h

/-- full statement about the *written text*: explicit outputs of the emitted build lines are pairwise distinct -/
def emission_unique_outputs_text : Prop :=
  ∀ (ops : List Op) (out : Out), emit ops = .ok out → (out.builds.flatMap (·.outs)).Nodup

/-- it holds when no output name contains a backslash … -/
theorem emission_unique_outputs_text_partial (ops : List Op) (out : Out) (h : emit ops = .ok out)
    (hbs : ∀ o ∈ ops.flatMap opOuts, NoBs o) :
    (out.builds.flatMap (·.outs)).Nodup := by
  rw [emit_ok_builds h, map_slash_of_noBs hbs]
  exact emit_ok_names_nodup h

/-- … and fails otherwise: `write` turns every backslash of a build line into `/` *after* `check_outputs` compared
the raw names (on POSIX hosts meson's own target names cannot contain either separator) -/
theorem emission_unique_outputs_text_counterexample : ¬ emission_unique_outputs_text := by
  intro h
  have := h [.addBuild ["a\\b".toList] [] phony [] [] [] false, .addBuild ["a/b".toList] [] phony [] [] [] false]
    _ rfl
  revert this
  decide +kernel

/-- full statement: every emitted build line names `phony` or an emitted rule block -/
def emission_rules_defined_text : Prop :=
  ∀ (ops : List Op) (out : Out), emit ops = .ok out → ∀ b ∈ out.builds, b.rule = phony ∨ b.rule ∈ out.rules

/-- If `write` succeeds then every build line names `phony` or a rule block that `write` emits (`X` or `X_RSP`
according to the element's own response-file decision) — for every operation sequence whose rule names are free
of backslashes. -/
theorem emission_rules_defined (ops : List Op) (out : Out) (h : emit ops = .ok out)
    (hbs : ∀ rn ∈ ops.flatMap opRuleNames, NoBs rn) :
    ∀ b ∈ out.builds, b.rule = phony ∨ b.rule ∈ out.rules := by
  intro b hb
  obtain ⟨rn, hrn, x, hx, hrule, hout⟩ := emit_ok_rules h b hb
  have hn : NoBs x := by
    rcases hx with rfl | rfl
    · exact hbs _ hrn
    · intro c hc
      rcases List.mem_append.1 hc with hc | hc
      · exact hbs rn hrn c hc
      · exact (by decide : ∀ c ∈ rspSuffix, c ≠ '\\') c hc
  rw [hrule, slash_of_noBs hn]
  exact hout

theorem emission_rules_defined_text_counterexample : ¬ emission_rules_defined_text := by
  intro h
  have := h [.addRule "R\\1".toList false, .addBuild ["o".toList] [] "R\\1".toList [] [] [] false] _ rfl
  revert this
  decide +kernel

/-- implicit outputs are never looked at by `check_outputs`: the emitted text can produce one path twice
(this is why the per-project checker includes implicit outputs in clause 2) -/
theorem emission_implicit_outputs_unchecked :
    ∃ (ops : List Op) (out : Out), emit ops = .ok out ∧
      ¬ (out.builds.flatMap (fun b => b.outs ++ b.implOuts)).Nodup :=
  ⟨[.addBuild ["a".toList] ["x".toList] phony [] [] [] false, .addBuild ["b".toList] ["x".toList] phony [] [] [] false],
   _, rfl, by decide +kernel⟩

/-- `add_build` attaches the rule at the moment the element is added: a rule registered afterwards does not help,
`write` fails (AttributeError in the code) -/
example : emit [.addBuild ["o".toList] [] "R".toList [] [] [] false, .addRule "R".toList false] = .error .unmappedRule := by
  rfl

/-- the collision is only *recorded* by `add_build`; it is `write` that refuses -/
example : emit [.addBuild ["o".toList] [] phony [] [] [] false, .addBuild ["p".toList, "o".toList] [] phony [] [] [] false]
    = .error .multipleProducers := by rfl

/-- non-vacuity of the hypotheses of the two emission theorems: a run with a plain and a response-file use of one rule -/
example :
    (match emit [.addRule "CC".toList true,
                 .addBuild ["a.o".toList] [] "CC".toList ["a.c".toList] [] ["g.h".toList] false,
                 .addBuild ["b.o".toList] [] "CC".toList ["b.c".toList] ["z".toList, "y".toList, "z".toList] [] true,
                 .addBuild ["all".toList] [] phony ["a.o".toList, "b.o".toList] [] [] false] with
     | .ok out => (out.rules, out.builds.map (fun b => (b.outs, b.rule, b.deps)))
     | .error _ => ([], []))
    = (["CC".toList, "CC_RSP".toList],
       [(["a.o".toList], "CC".toList, []), (["b.o".toList], "CC_RSP".toList, ["y".toList, "z".toList]),
        (["all".toList], phony, [])]) := by
  decide +kernel

/-! ## (d) the aggregate targets `all`, `meson-test-prereq`, `meson-benchmark-prereq`, `install` — for every target table

`Ending.lean` models how `build_by_default` is computed by the target constructors, `get_build_by_default_targets`,
`get_testlike_targets`, the phony statements of `generate_ending` and the `install` statement of `generate_install`.
`es` below is any statement list that contains what those emitters write; `Produces es t` says that the statement
written for the target itself has all of the target's outputs among its outputs (that emitter is not modelled: the
hypothesis is checked per project by the verified checker, clause 5). -/

section ending
open MesonModel.Ninja.Ending

/-- the attribute the backend reads is the documented rule: build targets default to built-by-default and an installed
build target is built by default whatever `build_by_default:` says; for `custom_target()` an explicit keyword decides,
otherwise `install:`, otherwise the deprecated `build_always:`, otherwise false -/
theorem built_by_default_is_documented_rule (t : Target) : t.buildByDefault = true ↔ DocBuiltByDefault t :=
  buildByDefault_iff_doc t

/-- `get_testlike_targets` yields exactly the targets a test runs or depends on (program, arguments — also through a
`find_program` override or as an output index — and `depends:`) -/
theorem testlike_sound_complete (tests : List Test) (t : Target) : t ∈ testlike tests ↔ ∃ x ∈ tests, Uses x t :=
  mem_testlike_iff tests t

/-- every output of every target that is built by default (documented rule) is reachable from `all` -/
theorem all_reaches_default_targets (tbl : List Target) (tests benches : List Test) (es : List (Edge Str))
    (h : ∀ e ∈ endingEdges tbl tests benches, e ∈ es) (t : Target) (ht : t ∈ tbl) (hd : DocBuiltByDefault t)
    (hp : Produces es t) (p : Str) (hpp : p ∈ t.paths) : Star (Need es) allName p :=
  aggregate_reaches (ts := buildByDefaultTargets tbl) (h _ (allEdge_mem tbl tests benches))
    (List.mem_filter.2 ⟨ht, (buildByDefault_iff_doc t).2 hd⟩) hp hpp

/-- every output of every target a test runs or depends on is reachable from `meson-test-prereq` -/
theorem test_prereq_reaches_used_targets (tbl : List Target) (tests benches : List Test) (es : List (Edge Str))
    (h : ∀ e ∈ endingEdges tbl tests benches, e ∈ es) (x : Test) (hx : x ∈ tests) (t : Target) (hu : Uses x t)
    (hp : Produces es t) (p : Str) (hpp : p ∈ t.paths) : Star (Need es) testPrereqName p :=
  aggregate_reaches (h _ (testEdge_mem tbl tests benches)) ((mem_testlike_iff tests t).2 ⟨x, hx, hu⟩) hp hpp

/-- … and the same for benchmarks and `meson-benchmark-prereq` -/
theorem benchmark_prereq_reaches_used_targets (tbl : List Target) (tests benches : List Test) (es : List (Edge Str))
    (h : ∀ e ∈ endingEdges tbl tests benches, e ∈ es) (x : Test) (hx : x ∈ benches) (t : Target) (hu : Uses x t)
    (hp : Produces es t) (p : Str) (hpp : p ∈ t.paths) : Star (Need es) benchPrereqName p :=
  aggregate_reaches (h _ (benchEdge_mem tbl tests benches)) ((mem_testlike_iff benches t).2 ⟨x, hx, hu⟩) hp hpp

/-- every file the install step copies unconditionally for a target is reachable from `install`
(`install` → `meson-internal__install` → `all` → first output → sibling outputs) -/
theorem install_reaches_mandatory_files (tbl : List Target) (tests benches : List Test) (es : List (Edge Str))
    (h : ∀ e ∈ endingEdges tbl tests benches, e ∈ es) (hi : ∀ e ∈ installEdges, e ∈ es)
    (t : Target) (ht : t ∈ tbl) (hp : Produces es t) (p : Str) (hpp : p ∈ mandatoryInstall t) :
    Star (Need es) installName p :=
  Star.trans (install_reaches_all hi)
    (aggregate_reaches (ts := buildByDefaultTargets tbl) (h _ (allEdge_mem tbl tests benches))
      (List.mem_filter.2 ⟨ht, (mandatoryInstall_spec t p hpp).1⟩) hp (mandatoryInstall_spec t p hpp).2)

/-- the requirements the harness hands to the checker, as a function of the table -/
def endingReqs (tbl : List Target) (tests benches : List Test) : List (Str × Str) :=
  (buildByDefaultTargets tbl).flatMap (fun t => t.paths.map (fun p => (allName, p))) ++
  (testlike tests).flatMap (fun t => t.paths.map (fun p => (testPrereqName, p))) ++
  (testlike benches).flatMap (fun t => t.paths.map (fun p => (benchPrereqName, p)))

/-- In the checker's terms: for every target table, clause 5 accepts the requirements of the table on any statement
list holding the aggregate statements and one producing statement per target. -/
theorem ending_satisfies_reach_clause (tbl : List Target) (tests benches : List Test) (es : List (Edge Str))
    (h : ∀ e ∈ endingEdges tbl tests benches, e ∈ es)
    (hp : ∀ t, t ∈ tbl ∨ t ∈ testlike tests ∨ t ∈ testlike benches → Produces es t) :
    reqsOk es (endingReqs tbl tests benches) = true := by
  rw [reqsOk_iff]
  intro rt hrt
  rcases List.mem_append.1 hrt with hrt | hrt
  · rcases List.mem_append.1 hrt with hrt | hrt
    · exact aggregate_reqs (h _ (allEdge_mem tbl tests benches)) (fun t ht => hp t (.inl (List.mem_filter.1 ht).1)) rt hrt
    · exact aggregate_reqs (h _ (testEdge_mem tbl tests benches)) (fun t ht => hp t (.inr (.inl ht))) rt hrt
  · exact aggregate_reqs (h _ (benchEdge_mem tbl tests benches)) (fun t ht => hp t (.inr (.inr ht))) rt hrt

/-- … and clause 8 accepts what `generate_target_install` lists as non-optional. -/
theorem ending_satisfies_install_clause (tbl : List Target) (tests benches : List Test) (es : List (Edge Str))
    (fs : List Str) (h : ∀ e ∈ endingEdges tbl tests benches, e ∈ es) (hi : ∀ e ∈ installEdges, e ∈ es)
    (hp : ∀ t ∈ tbl, Produces es t) :
    installB fs es installName (tbl.flatMap mandatoryInstall) = true := by
  rw [installB_iff]
  refine ⟨fun f hf _ => ?_, fun f hf hnp => ?_⟩
  · obtain ⟨t, ht, hft⟩ := List.mem_flatMap.1 hf
    exact install_reaches_mandatory_files tbl tests benches es h hi t ht (hp t ht) f hft
  · obtain ⟨t, ht, hft⟩ := List.mem_flatMap.1 hf
    obtain ⟨e, he, hall⟩ := hp t ht
    exact absurd ⟨e, he, hall f (mandatoryInstall_spec t f hft).2⟩ hnp

/-- non-vacuity: the combination `install: true` + `build_by_default: false` on a build target is built by default and
listed in `all`; on a custom target it is not, and its install entry is optional -/
def exTool : Target := { kind := .build, dir := [], out0 := "tool".toList, bbdKw := some false, install := true }
def exGen : Target := { kind := .custom, dir := "sub".toList, out0 := "g.h".toList, outRest := ["g.c".toList],
                        bbdKw := some false, install := true, instMask := [true, false] }
def exDoc : Target := { exGen with bbdKw := none }

example : exTool.buildByDefault = true ∧ exGen.buildByDefault = false ∧ exDoc.buildByDefault = true := by decide +kernel
example : (endingEdges [exTool, exGen, exDoc] [{ exe := .localTarget exGen, args := [.index exDoc, .other] }] []).map (·.ins)
    = [["tool".toList, "sub/g.h".toList], ["sub/g.h".toList, "sub/g.h".toList], []] := by decide +kernel
example : mandatoryInstall exTool = ["tool".toList] ∧ mandatoryInstall exGen = [] ∧ optionalInstall exGen = ["sub/g.h".toList]
    ∧ mandatoryInstall exDoc = ["sub/g.h".toList] := by decide +kernel
example : Produces [{ rule := customCommand, outs := exGen.paths, ins := [] }] exGen := ⟨_, List.mem_singleton.2 rfl, fun _ h => h⟩

end ending

end MesonModel.Props.C04
