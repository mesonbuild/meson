/-
C19 — Version comparison is a consistent order and constraint logic is sound.
All statements quantify over every token tuple (hence, through `tokenize`, over every string).
-/
import MesonModel.Version.RangeLemmas
import MesonModel.Version.TokLemmas
import MesonModel.Version.GateLemmas
import MesonModel.Version.EntryLemmas

namespace MesonModel.Props.C19
open MesonModel.Version MesonModel.Py

theorem trichotomy (a b : Ver) :
    (vlt a b = true ∧ veq a b = false ∧ vgt a b = false) ∨
    (vlt a b = false ∧ veq a b = true ∧ vgt a b = false) ∨
    (vlt a b = false ∧ veq a b = false ∧ vgt a b = true) :=
  vcmpLaws.trichotomy a b

theorem lt_trans (a b c : Ver) : vlt a b = true → vlt b c = true → vlt a c = true :=
  vcmpLaws.lt_trans a b c

theorem le_trans (a b c : Ver) : vle a b = true → vle b c = true → vle a c = true :=
  vcmpLaws.le_trans a b c

theorem le_iff_lt_or_eq (a b : Ver) : vle a b = true ↔ (vlt a b = true ∨ veq a b = true) :=
  vcmpLaws.le_iff_lt_or_eq a b

theorem ge_iff_gt_or_eq (a b : Ver) : vge a b = true ↔ (vgt a b = true ∨ veq a b = true) :=
  vcmpLaws.ge_iff_gt_or_eq a b

theorem ne_iff_not_eq (a b : Ver) : vne a b = !veq a b := rfl

theorem lt_iff_gt_swap (a b : Ver) : vlt a b = vgt b a :=
  vcmpLaws.lt_iff_gt_swap a b

theorem le_iff_ge_swap (a b : Ver) : vle a b = vge b a :=
  vcmpLaws.le_iff_ge_swap a b

/-- `==` is equality of the token tuples, so (`hash_congr`) equal versions hash equally -/
theorem eq_iff_tokens_eq (a b : Ver) : veq a b = true ↔ a = b := veq_iff a b

theorem hash_congr (a b : Ver) : veq a b = true → hashKey a = hashKey b := by
  simp [veq_iff, hashKey]

/-- the three-way result of `__cmp` is `eq` exactly for `==` versions, so `<=`/`>=` (computed by
`__cmp`) and `==` (tuple equality) never contradict each other -/
theorem cmp_eq_iff_eq (a b : Ver) : vcmp a b = .eq ↔ veq a b = true := by
  rw [veq_iff]
  exact vcmpLaws.eq_iff a b

theorem vcmp_append_left (p a b : Ver) : vcmp (p ++ a) (p ++ b) = vcmp a b :=
  tokCmpLaws.lexCmp_append p a b

theorem num_compares_numerically (p s t : Ver) (m n : Nat) (h : m ≠ n) :
    vcmp (p ++ .num m :: s) (p ++ .num n :: t) = compare m n := by
  rw [vcmp_append_left]
  simp only [vcmp, lexCmp, tokCmp]
  cases hc : compare m n <;> simp_all

theorem num_above_alpha (p s t : Ver) (n : Nat) (w : List Char) :
    vlt (p ++ .alpha w :: s) (p ++ .num n :: t) = true ∧
    vgt (p ++ .num n :: t) (p ++ .alpha w :: s) = true := by
  have h1 : vcmp (p ++ .alpha w :: s) (p ++ .num n :: t) = .lt := by
    rw [vcmp_append_left]
    simp [vcmp, lexCmp, tokCmp]
  have h2 : vcmp (p ++ .num n :: t) (p ++ .alpha w :: s) = .gt := by
    rw [vcmp_append_left]
    simp [vcmp, lexCmp, tokCmp]
  simp [vlt, vgt, h1, h2]

theorem proper_prefix_lt (p t : Ver) (h : t ≠ []) : vlt p (p ++ t) = true := by
  have : vcmp (p ++ []) (p ++ t) = .lt := by
    rw [vcmp_append_left]
    cases t <;> simp_all [vcmp, lexCmp]
  simpa [vlt] using this

/-- every operator is the order relation it names -/
theorem op_apply_spec (a b : Ver) :
    (CmpOp.ge.apply a b = true ↔ ¬ Lt a b) ∧ (CmpOp.le.apply a b = true ↔ ¬ Lt b a) ∧
    (CmpOp.gt.apply a b = true ↔ Lt b a) ∧ (CmpOp.lt.apply a b = true ↔ Lt a b) ∧
    (CmpOp.eq.apply a b = true ↔ a = b) ∧ (CmpOp.ne.apply a b = true ↔ a ≠ b) :=
  ⟨vge_iff a b, vle_iff a b, vgt_iff a b, vlt_iff a b, veq_iff a b, vne_iff a b⟩

theorem versionCompare_agrees (v s : List Char) :
    versionCompare v s = (extractCmpOp s).1.apply (tokenize v) (tokenize (extractCmpOp s).2) := rfl

/-- the seven operator spellings and the bare form select the operator they spell -/
theorem extract_two (w : List Char) :
    extractCmpOp ('>' :: '=' :: w) = (.ge, strip w) ∧ extractCmpOp ('<' :: '=' :: w) = (.le, strip w) ∧
    extractCmpOp ('!' :: '=' :: w) = (.ne, strip w) ∧ extractCmpOp ('=' :: '=' :: w) = (.eq, strip w) := by
  simp [extractCmpOp, startsWith]

theorem extract_one (w : List Char) (h : w.head? ≠ some '=') :
    extractCmpOp ('=' :: w) = (.eq, strip w) ∧ extractCmpOp ('>' :: w) = (.gt, strip w) ∧
    extractCmpOp ('<' :: w) = (.lt, strip w) := by
  cases w with
  | nil => simp [extractCmpOp, startsWith]
  | cons c cs =>
    have h' : ¬ '=' = c := fun e => h (by rw [e]; rfl)
    simp [extractCmpOp, startsWith, h']

theorem extract_bare (s : List Char)
    (h : ∀ c, s.head? = some c → c ≠ '>' ∧ c ≠ '<' ∧ c ≠ '=' ∧ c ≠ '!') :
    extractCmpOp s = (.eq, strip s) := by
  cases s with
  | nil => simp [extractCmpOp, startsWith]
  | cons c cs =>
    have := h c rfl
    simp [extractCmpOp, startsWith]
    grind

/-- `version_compare(v, op + w)` is the order relation `op` names, applied to the token tuples of
`v` and `w` themselves: the operator is cut off, and the `strip()` in between is invisible. -/
theorem versionCompare_ge (v w : List Char) :
    versionCompare v ('>' :: '=' :: w) = vge (tokenize v) (tokenize w) :=
  versionCompare_of_extract (extract_two w).1 v
theorem versionCompare_le (v w : List Char) :
    versionCompare v ('<' :: '=' :: w) = vle (tokenize v) (tokenize w) :=
  versionCompare_of_extract (extract_two w).2.1 v
theorem versionCompare_ne (v w : List Char) :
    versionCompare v ('!' :: '=' :: w) = vne (tokenize v) (tokenize w) :=
  versionCompare_of_extract (extract_two w).2.2.1 v
theorem versionCompare_eqeq (v w : List Char) :
    versionCompare v ('=' :: '=' :: w) = veq (tokenize v) (tokenize w) :=
  versionCompare_of_extract (extract_two w).2.2.2 v
theorem versionCompare_eq (v w : List Char) (h : w.head? ≠ some '=') :
    versionCompare v ('=' :: w) = veq (tokenize v) (tokenize w) :=
  versionCompare_of_extract (extract_one w h).1 v
theorem versionCompare_gt (v w : List Char) (h : w.head? ≠ some '=') :
    versionCompare v ('>' :: w) = vgt (tokenize v) (tokenize w) :=
  versionCompare_of_extract (extract_one w h).2.1 v
theorem versionCompare_lt (v w : List Char) (h : w.head? ≠ some '=') :
    versionCompare v ('<' :: w) = vlt (tokenize v) (tokenize w) :=
  versionCompare_of_extract (extract_one w h).2.2 v
theorem versionCompare_bare (v s : List Char)
    (h : ∀ c, s.head? = some c → c ≠ '>' ∧ c ≠ '<' ∧ c ≠ '=' ∧ c ≠ '!') :
    versionCompare v s = veq (tokenize v) (tokenize s) :=
  versionCompare_of_extract (extract_bare s h) v

theorem compareMany_iff_all (v : List Char) (cs : List (List Char)) :
    (versionCompareMany v cs).1 = true ↔ ∀ c ∈ cs, versionCompare v c = true := by
  simp [versionCompareMany, List.filter_eq_nil_iff]

theorem compareMany_lists (v : List Char) (cs : List (List Char)) :
    (versionCompareMany v cs).2.1 = cs.filter (fun c => !versionCompare v c) ∧
    (versionCompareMany v cs).2.2 = cs.filter (fun c => versionCompare v c) := ⟨rfl, rfl⟩

theorem mem_intersect_iff (a b : Range) (x : Ver) :
    (a.intersect b).contains x = true ↔ (a.contains x = true ∧ b.contains x = true) := by
  simp only [Range.contains_iff]
  exact Range.mem_intersect a b x

/-! the ranges `version_check_to_range` builds for one check: a half line, a point, everything -/

theorem mem_new_lower (v x : Ver) (eq : Bool) :
    (Range.new (some v) eq none false).Mem x ↔ lowerOk v eq x := by
  simp [Range.new, Range.postInit, Range.mem_of_bounds]

theorem mem_new_upper (v x : Ver) (eq : Bool) :
    (Range.new none false (some v) eq).Mem x ↔ upperOk v eq x := by
  simp [Range.new, Range.postInit, Range.mem_of_bounds]

theorem mem_new_point (v x : Ver) : (Range.new (some v) true (some v) true).Mem x ↔ x = v := by
  have hv : veq v v = true := (veq_iff v v).mpr rfl
  simp [Range.new, Range.postInit, Range.Mem, vlt_iff, Lt.irrefl, hv]
  constructor
  · intro h
    rcases Lt.total x v with h1 | h1 | h1
    · exact absurd h1 h.1
    · exact h1
    · exact absurd h1 h.2
  · rintro rfl
    exact ⟨Lt.irrefl x, Lt.irrefl x⟩

theorem mem_new_all (x : Ver) : (Range.new none false none false).Mem x := by
  simp [Range.new, Range.postInit, Range.Mem]

theorem checkRange_mem (st : Range) (op : CmpOp) (v x : Ver) (h : op ≠ .ne) :
    (checkRange st op v).contains x = true ↔ op.apply x v = true := by
  rw [Range.contains_iff]
  cases op
  case ne => exact absurd rfl h
  all_goals
    simp [checkRange, mem_new_lower, mem_new_upper, mem_new_point, lowerOk, upperOk, CmpOp.apply, vge_iff,
      vle_iff, vgt_iff, vlt_iff, veq_iff]

/-- a version in `start` that differs from `v` is in the range the `!= v` check contributes: where `v`
is an end of `start`, the version is strictly beyond it -/
theorem checkRange_ne_mem (st : Range) (v x : Ver) (hx : st.contains x = true) (hne : x ≠ v) :
    (checkRange st .ne v).contains x = true := by
  rw [Range.contains_iff] at *
  obtain ⟨-, hlo, hup⟩ := (Range.mem_of_bounds st x).mp hx
  have hmin : (if st.min = some v then Range.new (some v) false none false
      else Range.new none false none false).Mem x := by
    split
    · exact (mem_new_lower v x false).mpr ((hlo v ‹_›).lt_of_ne hne)
    · exact mem_new_all x
  simp only [checkRange]
  split
  · exact (Range.mem_intersect _ _ x).mpr ⟨hmin, (mem_new_upper v x false).mpr ((hup v ‹_›).lt_of_ne hne)⟩
  · exact hmin

/-- the range built from a list of checks contains every version of `start` satisfying all checks -/
theorem checkToRange_complete (checks : List (List Char)) (start : Range) (x : List Char)
    (hx : start.contains (tokenize x) = true)
    (hall : ∀ c ∈ checks, versionCompare x c = true) :
    (versionCheckToRange checks start).contains (tokenize x) = true := by
  induction checks generalizing start with
  | nil => simpa [versionCheckToRange] using hx
  | cons c cs ih =>
    simp only [versionCheckToRange, List.foldl_cons]
    apply ih
    · rw [mem_intersect_iff]
      refine ⟨hx, ?_⟩
      have hc : versionCompare x c = true := hall c (by simp)
      rw [versionCompare_agrees] at hc
      by_cases hop : (extractCmpOp c).1 = .ne
      · rw [hop] at hc ⊢
        exact checkRange_ne_mem start _ _ hx ((vne_iff _ _).mp hc)
      · exact (checkRange_mem start _ _ _ hop).mpr hc
    · intro c' hc'
      exact hall c' (by simp [hc'])

/-- the range built from a list of checks contains no version violating a non-`!=` check, and
nothing outside `start` -/
theorem checkToRange_sound (checks : List (List Char)) (start : Range) (x : Ver)
    (hx : (versionCheckToRange checks start).contains x = true) :
    start.contains x = true ∧
    ∀ c ∈ checks, (extractCmpOp c).1 ≠ .ne →
      (extractCmpOp c).1.apply x (tokenize (extractCmpOp c).2) = true := by
  induction checks generalizing start with
  | nil => simpa [versionCheckToRange] using hx
  | cons c cs ih =>
    simp only [versionCheckToRange, List.foldl_cons] at hx
    have := ih _ hx
    rw [mem_intersect_iff] at this
    refine ⟨this.1.1, ?_⟩
    intro c' hc' hop
    simp only [List.mem_cons] at hc'
    rcases hc' with rfl | hc'
    · exact (checkRange_mem start _ _ _ hop).mp this.1.2
    · exact this.2 c' hc' hop

/-- `always()` answers `True` only if every version in the range satisfies the inner condition -/
theorem always_true_sound (r inner : Range) (h : r.always inner = some true) (x : Ver)
    (hx : r.contains x = true) : inner.contains x = true := by
  unfold Range.always at h
  by_cases h1 : (r.intersect inner).isEmpty = true
  · simp [h1] at h
  · by_cases h2 : r.intersect inner = r
    · have := (mem_intersect_iff r inner x)
      rw [h2] at this
      exact (this.mp hx).2
    · rw [if_neg h1, if_neg h2] at h
      simp at h

/-- `always()` answers `False` only if no version in the range satisfies the inner condition -/
theorem always_false_sound (r inner : Range) (h : r.always inner = some false) (x : Ver)
    (hx : r.contains x = true) : inner.contains x = false := by
  unfold Range.always at h
  by_cases h1 : (r.intersect inner).isEmpty = true
  · have hc : (r.intersect inner).contains x = false := by simp [Range.contains, h1]
    cases hi : inner.contains x
    · rfl
    · have := (mem_intersect_iff r inner x).mpr ⟨hx, hi⟩
      simp [hc] at this
  · rw [if_neg h1] at h
    split at h <;> simp at h

/-- `version_compare_condition_with_min` answers `True` only if every version satisfying the
condition is at least `minimum` -/
theorem condWithMin_sound (cond : Range) (minimum : List Char)
    (h : condWithMinRange cond minimum = true) (x : Ver) (hx : cond.contains x = true) :
    vge x (tokenize minimum) = true := by
  rw [Range.contains_iff, Range.mem_of_bounds] at hx
  unfold condWithMinRange at h
  rw [vge_iff]
  cases hm : cond.min with
  | none =>
    simp only [hm] at h
    exact absurd (hx.1.symm.trans h) (by decide)
  | some m =>
    simp only [hm, vle_iff] at h
    exact fun hlt => (hx.2.1 m hm).not_lt (hlt.of_lt_of_not_lt h)

/-! ### The range algebra as `evaluate_if` applies it to feature checks

`GBlock` abstracts a block of build-definition code to its `if`/`elif`/`else` structure, with each condition
reduced to the range its `meson.version().version_compare()` call records (if it makes one) and its truth
value; `runBlock` is `evaluate_codeblock`/`evaluate_if` with `tmp_meson_version` threaded as interpreter
state; a probe logs the project's version range in force where it runs — what a `FeatureNew` check there
reads. -/

/-- the range in force at every executed statement is the range in force outside the block narrowed by exactly
the version checks of the clauses enclosing the statement — whatever `tmp_meson_version` held before, and
however blocks are left (`break`, `continue`, `subdir_done()`); the block is also left the way the control flow
alone prescribes -/
theorem gate_log_eq_spec (b : GBlock) (cur : Range) (tmp : GTmp) :
    (runBlock b cur tmp).log = (pathsBlock b).1.map (fun p => (p.1, narrow cur p.2)) ∧
    (runBlock b cur tmp).sig = (pathsBlock b).2 :=
  runBlock_spec b cur tmp

/-- soundness of the application: a version lies in the range a statement runs under iff it lies in the
outer range and satisfies the check of every enclosing clause that makes one (nothing leaks in from a
sibling clause, an earlier statement, a condition that was evaluated but not taken, or a block that was left
early) -/
theorem gate_sound (b : GBlock) (cur : Range) (tmp : GTmp) (n : Nat) (r : Range)
    (h : (n, r) ∈ (runBlock b cur tmp).log) :
    ∃ path, (n, path) ∈ (pathsBlock b).1 ∧
      ∀ x : Ver, r.contains x = true ↔ (cur.contains x = true ∧ ∀ q ∈ path, q.contains x = true) := by
  rw [(gate_log_eq_spec b cur tmp).1] at h
  obtain ⟨p, hp, he⟩ := List.mem_map.1 h
  refine ⟨p.2, ?_, ?_⟩
  · have : p.1 = n := by simpa using congrArg Prod.fst he
    rw [← this]
    exact hp
  · intro x
    have : r = narrow cur p.2 := by simpa using (congrArg Prod.snd he).symm
    rw [this]
    exact mem_narrow cur p.2 x

theorem gate_tmp_irrelevant (b : GBlock) (cur : Range) (t1 t2 : GTmp) :
    (runBlock b cur t1).log = (runBlock b cur t2).log := by
  rw [(gate_log_eq_spec b cur t1).1, (gate_log_eq_spec b cur t2).1]

/-- after an `if` statement that is left normally the range in force is the one before it (the next statement
of the same block runs under `cur` again) -/
theorem gate_restored (cs : GClauses) (n : Nat) (cur : Range) (tmp : GTmp)
    (h : (pathsClauses cs).2 = .none) :
    (n, cur) ∈ (runBlock (.cons (.ifs cs) (.cons (.probe n) .nil)) cur tmp).log := by
  rw [(gate_log_eq_spec _ cur tmp).1]
  simp [pathsBlock, pathsStmt, h, narrow]

/-- … and after a `foreach` whose body left a gated block with `break` or `continue` as well: the statement
following the loop runs under `cur` -/
theorem gate_restored_after_loop (body : GBlock) (n : Nat) (cur : Range) (tmp : GTmp)
    (h : (pathsBlock body).2 ≠ .done) :
    (n, cur) ∈ (runBlock (.cons (.loop1 body) (.cons (.probe n) .nil)) cur tmp).log := by
  rw [(gate_log_eq_spec _ cur tmp).1]
  have : (pathsBlock body).2.afterIteration.2 = .none := by
    cases hb : (pathsBlock body).2 <;> simp_all [GSig.afterIteration]
  simp [pathsBlock, pathsStmt, this, narrow]

/-- resetting `tmp_meson_version` once per `if` statement instead of once per clause is NOT equivalent:
`if meson.version().version_compare('>=9') … elif true  probe` -/
theorem gate_hoisted_reset_counterexample :
    let ge9 : Range := Range.new (some (tokenize "9".toList)) true none false
    let prog : GBlock := .cons (.ifs (.cons ⟨some ge9, false⟩ .nil
                                      (.cons ⟨none, true⟩ (.cons (.probe 0) .nil) (.els .nil)))) .nil
    (runBlockH prog {} none).1 ≠ (runBlock prog {} none).log := by
  decide +kernel

/-- restoring the range only when the block ends normally or with an error (`except Exception` instead of
`finally`) is NOT equivalent: `foreach … if meson.version().version_compare('>=9') continue endif endforeach probe` -/
theorem gate_restore_on_signal_counterexample :
    let ge9 : Range := Range.new (some (tokenize "9".toList)) true none false
    let prog : GBlock :=
      .cons (.loop1 (.cons (.ifs (.cons ⟨some ge9, true⟩ (.cons (.exit .cont) .nil) (.els .nil))) .nil))
        (.cons (.probe 0) .nil)
    (runBlockL prog {} none).1.log ≠ (runBlock prog {} none).log := by
  decide +kernel

/-! ### The entry points through which a build file reaches version comparison

`str.version_compare`, `meson.version().version_compare`, `dependency(version:)`, `subproject(version:)`,
`find_program(version:)`, an external dependency's own check and `project(meson_version:)` each wrap
`version_compare_many`/`version_compare` in logic of their own (`Version/Entry.lean`). -/

theorem strCompare_iff_all (v : List Char) (cs : List (List Char)) :
    strCompare v cs = true ↔ ∀ c ∈ cs, versionCompare v c = true := compareMany_iff_all v cs

/-- `meson.version().version_compare(cs…)` holds iff each constraint holds — wherever a `!=` constraint
stands in the list and whatever `tmp_meson_version` held -/
theorem mvCompare_iff_all (v : List Char) (cs : List (List Char)) (tmp : GTmp) :
    (mvCompare v cs tmp).1 = true ↔ ∀ c ∈ cs, versionCompare v c = true := compareMany_iff_all v cs

theorem mvCompare_eq_strCompare (v : List Char) (cs : List (List Char)) (tmp : GTmp) :
    (mvCompare v cs tmp).1 = strCompare v cs := rfl

/-- what the call records for `evaluate_if`: nothing new when some constraint is a `!=` one (the loop with `break`
is an `any`), else the range of the whole list -/
theorem mvCompare_recorded (v : List Char) (cs : List (List Char)) (tmp : GTmp) :
    (mvCompare v cs tmp).2 = if cs.any isUnsupported then tmp else some (versionCheckToRange cs) := by
  simp [mvCompare, scanUnsupported_eq_any]

theorem mvCompare_recorded_contains (v : List Char) (cs : List (List Char)) (tmp : GTmp) (x : List Char)
    (ht : ∀ r, tmp = some r → r.contains (tokenize x) = true)
    (hx : ∀ c ∈ cs, versionCompare x c = true) :
    ∀ r, (mvCompare v cs tmp).2 = some r → r.contains (tokenize x) = true := by
  intro r hr
  simp only [mvCompare] at hr
  split at hr
  · exact ht r hr
  · cases hr
    exact checkToRange_complete cs {} x (by simp [Range.contains]) hx

/-- the recorded range is sound for the version that is running: when the call answered true, the running
version lies in the range it recorded -/
theorem mvCompare_recorded_sound (v : List Char) (cs : List (List Char)) (tmp : GTmp)
    (ht : SoundTmp (tokenize v) tmp) (h : (mvCompare v cs tmp).1 = true) :
    SoundTmp (tokenize v) (mvCompare v cs tmp).2 :=
  mvCompare_recorded_contains v cs tmp v ht ((mvCompare_iff_all v cs tmp).mp h)

/-- fusing the scan for `!=` with the evaluation (one loop, `break` at the first `!=`) is NOT equivalent:
`meson.version().version_compare('!=0', '>=9')` for the running version `1` -/
theorem mvCompare_fused_scan_counterexample :
    mvCompareFused "1".toList ["!=0".toList, ">=9".toList] = true ∧
    (mvCompare "1".toList ["!=0".toList, ">=9".toList] none).1 = false := by decide +kernel

/-- `dependency(…, version: wanted)` on a cached / overridden / fallback dependency: accepted iff the found
version is not the placeholder `undefined` and each constraint holds -/
theorem depCheck_iff (found : List Char) (wanted : List (List Char)) (hw : wanted ≠ []) :
    depCheck found wanted = true ↔
      (found ≠ undefinedWord ∧ ∀ c ∈ wanted, versionCompare found c = true) := by
  have hw' : wanted.isEmpty = false := by cases wanted <;> simp_all
  simp only [depCheck, hw', Bool.false_eq_true, if_false]
  rw [← compareMany_iff_all]
  by_cases h1 : found = undefinedWord <;> cases h2 : (versionCompareMany found wanted).1 <;> simp [h1]

theorem subprojectCheck_iff (pv : List Char) (wanted : List (List Char)) (hw : wanted ≠ []) :
    subprojectCheck pv wanted = true ↔
      (pv ≠ undefinedWord ∧ ∀ c ∈ wanted, versionCompare pv c = true) := depCheck_iff pv wanted hw

/-- without a `version:` both accept -/
theorem depCheck_nil (found : List Char) : depCheck found [] = true ∧ subprojectCheck found [] = true := ⟨rfl, rfl⟩

/-- `find_program(…, version: wanted)`: accepted iff each constraint holds for the program's version -/
theorem programCheck_iff_all (version : List Char) (wanted : List (List Char)) :
    programCheck version wanted = true ↔ ∀ c ∈ wanted, versionCompare version c = true := by
  cases wanted with
  | nil => simp [programCheck]
  | cons c cs =>
    simp only [programCheck, List.isEmpty_cons, Bool.false_eq_true, if_false]
    exact compareMany_iff_all _ _

/-- an external dependency's own check: an unknown version satisfies no requirement, a known one iff each
constraint holds -/
theorem extDepCheck_iff (version : List Char) (reqs : List (List Char)) (hr : reqs ≠ []) :
    extDepCheck version reqs = true ↔ (version ≠ [] ∧ ∀ c ∈ reqs, versionCompare version c = true) := by
  have hr' : reqs.isEmpty = false := by cases reqs <;> simp_all
  simp only [extDepCheck, hr', Bool.false_eq_true, if_false]
  rw [← compareMany_iff_all]
  cases version <;> simp

/-- `project(meson_version: pv)`: accepted iff the single constraint holds for the running (stable) version; the
range recorded for feature checks is the range of that constraint and contains the running version -/
theorem handleMesonVersion_spec (stable pv : List Char) :
    ((handleMesonVersion stable pv).isSome = versionCompare stable pv) ∧
    ∀ r, handleMesonVersion stable pv = some r →
      r = versionCheckToRange [pv] ∧ r.contains (tokenize stable) = true := by
  unfold handleMesonVersion
  cases h : versionCompare stable pv
  · simp
  · simp only [if_true, Option.isSome_some, true_and]
    intro r hr
    have : r = versionCheckToRange [pv] := by simpa using hr.symm
    refine ⟨this, ?_⟩
    rw [this]
    exact checkToRange_complete [pv] {} stable (by simp [Range.contains]) (by simpa using h)

/-! ### Conditions built from version checks with `not`, `and`, `or`, `== / != <bool>` -/

/-- the value of a condition is its reference truth value: every check is the conjunction of its constraints and
short-circuit evaluation is invisible -/
theorem evalExpr_truth (v : List Char) (e : GExpr) (tmp : GTmp) : (evalExpr v e tmp).1 = e.truth v := by
  induction e generalizing tmp with
  | check cs => simp [evalExpr, mvCompare, GExpr.truth, compareMany_fst]
  | plain b => rfl
  | not e ih => simp [evalExpr, GExpr.truth, ih]
  | and a b iha ihb =>
    simp only [evalExpr, GExpr.truth]
    rw [iha tmp]
    cases a.truth v <;> simp [ihb]
  | or a b iha ihb =>
    simp only [evalExpr, GExpr.truth]
    rw [iha tmp]
    cases a.truth v <;> simp [ihb]
  | cmpb e lit ne ih => simp [evalExpr, GExpr.truth, ih]

/-- soundness of what a condition leaves in `tmp_meson_version`: if the condition evaluated TRUE, the range
recorded (if any) contains the running version — a check under `not`, in the false left operand of `or`, or
inside a comparison records nothing -/
theorem evalExpr_sound (v : List Char) (e : GExpr) (tmp : GTmp)
    (ht : SoundTmp (tokenize v) tmp) (h : (evalExpr v e tmp).1 = true) :
    SoundTmp (tokenize v) (evalExpr v e tmp).2 := by
  -- along the evaluation (cases in the order of `evalExpr`'s equations, `and` and `or` split by the left operand's value)
  fun_induction evalExpr v e tmp with
  | case1 cs tmp => exact mvCompare_recorded_sound v cs tmp ht h
  | case4 a b tmp l hl iha ihb => exact ihb (iha ht hl) h
  | case5 => cases h
  | case6 a b tmp l hl iha => exact iha ht hl
  | case7 a b tmp l hl iha ihb => exact ihb ht h
  | case2 | case3 | case8 => exact ht

/-- the recorded range never over-narrows: whatever the running version is and however the condition evaluates,
every version `x` that satisfies each constraint of each positively counted check lies in the range the
condition leaves in `tmp_meson_version` (if it leaves one that was not there before) -/
theorem evalExpr_recorded_complete (v : List Char) (e : GExpr) (tmp : GTmp) (x : List Char)
    (ht : ∀ r, tmp = some r → r.contains (tokenize x) = true)
    (hx : ∀ cs ∈ e.posChecks, ∀ c ∈ cs, versionCompare x c = true) :
    ∀ r, (evalExpr v e tmp).2 = some r → r.contains (tokenize x) = true := by
  fun_induction evalExpr v e tmp with
  | case1 cs tmp => exact mvCompare_recorded_contains v cs tmp x ht (hx cs (by simp [GExpr.posChecks]))
  | case4 a b tmp l hl iha ihb =>
    rw [GExpr.posChecks, List.forall_mem_append] at hx
    exact ihb (iha ht hx.1) hx.2
  | case5 a b tmp l hl iha =>
    rw [GExpr.posChecks, List.forall_mem_append] at hx
    exact iha ht hx.1
  | case6 a b tmp l hl iha =>
    rw [GExpr.posChecks, List.forall_mem_append] at hx
    exact iha ht hx.1
  | case7 a b tmp l hl iha ihb =>
    rw [GExpr.posChecks, List.forall_mem_append] at hx
    exact ihb ht hx.2
  | case2 | case3 | case8 => exact ht

/-- the clause condition `evaluate_if` sees is sound for the running version -/
theorem toCond_sound (v : List Char) (e : GExpr) : CondSound (tokenize v) (e.toCond v) := by
  intro hv r hr
  exact evalExpr_sound v e none (by intro r h; cases h) hv r hr

/-- the range in force is implied by the conditions having evaluated the way they did: when every clause
condition is sound for the running version `x` and `x` lies in the range in force outside, then `x` lies in the
range in force at EVERY executed statement — in the block of a true clause (narrowed), in a later clause and
in the else block (not narrowed), however blocks are left -/
theorem gate_running_version_in_force (x : Ver) (b : GBlock) (cur : Range) (tmp : GTmp)
    (hb : b.AllConds (CondSound x)) (hx : cur.contains x = true) (n : Nat) (r : Range)
    (h : (n, r) ∈ (runBlock b cur tmp).log) : r.contains x = true := by
  obtain ⟨path, hp, hiff⟩ := gate_sound b cur tmp n r h
  exact (hiff x).mpr ⟨hx, pathsBlock_ok x b hb (n, path) hp⟩

/-- … in particular for every block whose conditions are built from `meson.version().version_compare()` calls,
opaque booleans, `not`, `and`, `or` and comparisons with a boolean, evaluated by the running version `v` -/
theorem gate_exprs_running_version_in_force (v : List Char) (b : GBlock) (cur : Range) (tmp : GTmp)
    (hb : b.AllConds (fun c => ∃ e : GExpr, c = e.toCond v)) (hx : cur.contains (tokenize v) = true)
    (n : Nat) (r : Range) (h : (n, r) ∈ (runBlock b cur tmp).log) : r.contains (tokenize v) = true :=
  gate_running_version_in_force (tokenize v) b cur tmp
    (GBlock.AllConds.mono (fun c ⟨e, he⟩ => he ▸ toCond_sound v e) b hb) hx n r h

/-- keeping what a check under `not` recorded is unsound: `if not meson.version().version_compare('>=9')` runs
its block for the running version `1` under the range `>=9` -/
theorem not_without_restore_counterexample :
    ¬ CondSound (tokenize "1".toList) ((GExpr.not (.check [">=9".toList])).toCondNoRestore "1".toList) := by
  intro h
  have := h (by decide) _ rfl
  revert this
  decide

/-- … and so is keeping what the false left operand of `or` recorded: `if version_compare('>=9') or true` -/
theorem or_without_restore_counterexample :
    ¬ CondSound (tokenize "1".toList)
      ((GExpr.or (.check [">=9".toList]) (.plain true)).toCondNoRestore "1".toList) := by
  intro h
  have := h (by decide) _ rfl
  revert this
  decide

/-- … and what an operand of a comparison recorded: `if version_compare('>=9') == false` -/
theorem cmp_without_restore_counterexample :
    ¬ CondSound (tokenize "1".toList)
      ((GExpr.cmpb (.check [">=9".toList]) false false).toCondNoRestore "1".toList) := by
  intro h
  have := h (by decide) _ rfl
  revert this
  decide

/-! ### Non-vacuity: concrete instances meeting the hypotheses -/

example : vlt (tokenize "1.2".toList) (tokenize "1.10".toList) = true := by decide +kernel
example : vlt (tokenize "1.2rc1".toList) (tokenize "1.2.0".toList) = true := by decide +kernel
example : versionCompare "1.2.3".toList ">= 1.2".toList = true := by decide +kernel
example : (versionCheckToRange [">=1.0".toList, "<2.0".toList, "!=1.0".toList]).contains
    (tokenize "1.5".toList) = true := by decide +kernel
example : (Range.new (some (tokenize "1".toList)) true (some (tokenize "3".toList)) false).always
    (Range.new (some (tokenize "0".toList)) true none false) = some true := by decide +kernel
example : (Range.new (some (tokenize "1".toList)) true (some (tokenize "3".toList)) false).always
    (Range.new (some (tokenize "4".toList)) true none false) = some false := by decide +kernel
example :
    let ge1 : Range := Range.new (some (tokenize "1".toList)) true none false
    let lt3 : Range := Range.new none false (some (tokenize "3".toList)) false
    let prog : GBlock := .cons (.ifs (.cons ⟨some ge1, true⟩
        (.cons (.ifs (.cons ⟨some lt3, true⟩ (.cons (.probe 7) .nil) (.els .nil))) (.cons (.probe 8) .nil))
        (.els .nil))) (.cons (.probe 9) .nil)
    (pathsBlock prog) = ([(7, [ge1, lt3]), (8, [ge1]), (9, [])], .none) := by decide +kernel
example : (mvCompare "1.5".toList [">=1.0".toList, "<2".toList] none) =
    (true, some (versionCheckToRange [">=1.0".toList, "<2".toList])) := by decide +kernel
example : depCheck "1.2".toList [">=1.0".toList] = true ∧ depCheck "undefined".toList [">=0".toList] = false := by decide +kernel
example :
    let e : GExpr := .and (.check [">=1.0".toList]) (.not (.check [">=9".toList]))
    (e.toCond "1.5".toList).own = some (versionCheckToRange [">=1.0".toList]) ∧
    (e.toCond "1.5".toList).val = true := by decide +kernel
example :
    let v := "1.5".toList
    let prog : GBlock := .cons (.ifs (.cons ((GExpr.not (.check [">=9".toList])).toCond v)
        (.cons (.probe 1) .nil) (.els .nil))) .nil
    prog.AllConds (fun c => ∃ e : GExpr, c = e.toCond v) := by
  simp only [GBlock.AllConds, GStmt.AllConds, GClauses.AllConds]
  exact ⟨⟨⟨_, rfl⟩, ⟨trivial, trivial⟩, trivial⟩, trivial⟩

end MesonModel.Props.C19
