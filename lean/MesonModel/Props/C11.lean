/-
C11 — Installation is confined to DESTDIR, exact and reversible: property statements over the model
`MesonModel.Install`.
-/
import MesonModel.Install.PathLemmas
import MesonModel.Install.DryRunLemmas
import MesonModel.Install.ConfineInstall
import MesonModel.Install.UninstallLemmas
import MesonModel.Install.InstallLog
import MesonModel.Install.FilesLemmas
import MesonModel.Install.GlueLemmas
import MesonModel.Install.TouchLemmas
import MesonModel.Install.AllRules
import MesonModel.Install.IdemRules
import MesonModel.Install.SymlinkRules

namespace MesonModel.Props.C11
open MesonModel.Install MesonModel.Py

instance (p : Plan) : Decidable (FilesOnly p) :=
  decidable_of_iff (p.subdirs.isEmpty = true ∧ p.emptydirs.isEmpty = true ∧ p.symlinks.isEmpty = true) (by
    unfold FilesOnly
    simp [List.isEmpty_iff])

instance (p : Plan) : Decidable (PlanOK p) :=
  decidable_of_iff (isAbs p.buildDir = true ∧ (∀ e ∈ p.subdirs, WalkOK e.walk) ∧
      (∀ t ∈ p.targets, WalkOK t.walk ∧ basename t.fname ≠ dotdot ∧
        basename (join p.buildDir (rstripSlash t.fname)) ≠ dotdot) ∧
      (∀ e ∈ p.headers, basename e.path ≠ dotdot) ∧ (∀ e ∈ p.man, basename e.path ≠ dotdot) ∧
      (∀ e ∈ p.data, basename e.path ≠ dotdot))
    ⟨fun ⟨a, b, c, d, e, f⟩ => ⟨a, b, c, d, e, f⟩, fun h => ⟨h.buildAbs, h.subdirs, h.targets, h.headers, h.man, h.data⟩⟩

instance (p : Plan) : Decidable (LinkFree p) :=
  decidable_of_iff ((∀ e ∈ p.subdirs, WalkNoLinks e.walk) ∧ (∀ t ∈ p.targets, noLinkSrc t.src = true ∧ WalkNoLinks t.walk) ∧
      (∀ e ∈ p.headers, noLinkSrc e.src = true) ∧ (∀ e ∈ p.man, noLinkSrc e.src = true) ∧
      (∀ e ∈ p.data, noLinkSrc e.src = true) ∧ p.symlinks.isEmpty = true)
    ⟨fun ⟨a, b, c, d, e, f⟩ => ⟨a, b, c, d, e, by simpa [List.isEmpty_iff] using f⟩,
     fun h => ⟨h.subdirs, h.targets, h.headers, h.man, h.data, by simp [h.symlinks]⟩⟩

/-- `get_destdir_path` on paths without `..` components: an absolute install path is re-rooted under DESTDIR, a
relative one goes under DESTDIR followed by the prefix. -/
theorem destination_rule (destdir pfx ip : Str) (hd : destdir ≠ []) (hpfx : isAbs pfx = true)
    (h1 : NoDotDot destdir) (h2 : NoDotDot pfx) (h3 : NoDotDot ip) :
    keyOfAbs (getDestdirPath destdir (destdirJoin destdir pfx) ip) =
      keyOfAbs destdir ++ (if isAbs ip then keyOfAbs ip else keyOfAbs pfx ++ keyOfAbs ip) :=
  dest_key destdir pfx ip hd hpfx h1 h2 h3

/-- confinement of destinations after the repair of F-INSTALL-DOTDOT: for every install path — `..` components
included — whenever `get_destdir_path` returns instead of raising, the destination lies beneath DESTDIR -/
theorem confined_destination (p : Plan) (o : Opts) (path out : Str)
    (hd : isAbs (mkCfg p o).destdir = true) (h : destPath (mkCfg p o) path = some out) :
    isAbs out = true ∧ keyOfAbs (mkCfg p o).destdir <+: keyOfAbs out :=
  dest_mkCfg p o hd path out h

/-- **Confinement of the whole installation.**  For every plan whose recorded directory walks hold directory-entry
names (no slash, not empty, `.` or `..`) and whose source paths do not end in `..` (`PlanOK`): a key that is not
under DESTDIR is bound after `meson install` exactly as before, except that DESTDIR's missing parents are created.
Install paths may contain `..`: `get_destdir_path` refuses the ones that leave DESTDIR.
Holds for runs that raise half-way, `--dry-run`, `--only-changed`, any tags/skip selection. -/
theorem confined (p : Plan) (o : Opts) (fs : FS) (hp : PlanOK p) (hne : (mkCfg p o).destdir ≠ [])
    (k : Key) (hk : ¬ keyOfAbs (mkCfg p o).destdir <+: k) :
    (install p o fs).fs.get k = fs.get k ∨
    (k <+: keyOfAbs (mkCfg p o).destdir ∧ fs.look k = none ∧
      ∃ m, (install p o fs).fs.get k = some (.dir m)) :=
  Inv_install p o fs hp hne k hk

/-- the hypotheses of `confined` are satisfiable -/
example : PlanOK
    { buildDir := "/b".toList, pfx := "/usr".toList, umask := some 0o022, targets := [], man := [], emptydirs := [],
      symlinks := [],
      headers := [{ path := "/s/a b.h".toList, src := .file 0o600 7 3, installPath := "include/../inc".toList,
                    mode := none, subproject := [], tag := none, follow := none }],
      data := [{ path := "/s/t".toList, src := .linkDangling "nowhere".toList, installPath := "/opt/t o/t".toList,
                 mode := none, subproject := [], tag := none, follow := none }],
      subdirs := [{ path := "/s/tree".toList, installPath := "/usr/share/tree".toList, mode := none, exclude := none,
                    subproject := [], tag := none, follow := none,
                    walk := [{ rel := [], rootMode := 0o755, dirs := [("sub dir".toList, .real 0o700)],
                               files := [("ü.txt".toList, .file 0o644 1 2)] },
                             { rel := ["sub dir".toList], rootMode := 0o700, dirs := [],
                               files := [(" x ".toList, .file 0o600 3 4)] }] }] } := by
  decide +kernel

/-- the *character-wise* variant of the staging check (`os.path.commonprefix([root, normpath(output)]) == root`) -/
def destOkChars (destdir output : Str) : Bool :=
  destdir = [] || (normpath destdir).isPrefixOf (normpath output)

/-- what `confined_destination` proves for the component-wise check, stated for the character-wise one -/
def confined_charprefix_statement : Prop :=
  ∀ destdir out : Str, isAbs destdir = true → isAbs out = true → destOkChars destdir out = true →
    keyOfAbs destdir <+: keyOfAbs out

/-- the character-wise check is **not** sound: with `DESTDIR=/t/stage` the install dir
`share/../../../stage-extra/etc` (prefix `/usr`) normalises to `/t/stage-extra/etc`, which starts with the
*characters* `/t/stage` but lies in a sibling of DESTDIR; the component-wise check of the code refuses it -/
theorem confined_charprefix_counterexample : ¬ confined_charprefix_statement := by
  intro h
  exact absurd (h "/t/stage".toList "/t/stage/usr/share/../../../stage-extra/etc".toList) (by decide +kernel)

example : destOk "/t/stage".toList "/t/stage/usr/share/../../../stage-extra/etc".toList = false ∧
    destOk "/t/stage".toList "/t/stage/../stage.d/x".toList = false ∧
    destOk "/t/stage".toList "/t/stage/usr/share/../../../stage/etc".toList = true := by decide +kernel

/-- an escape is refused: `share/../../../outside/d.txt`, prefix `/usr`, `DESTDIR=/tmp/x/dest`;
an install path with `..` that stays inside DESTDIR is accepted -/
example :
    let o : Opts := { destdir := some "/tmp/x/dest".toList, dryRun := false, onlyChanged := false, tags := none,
                      skipSubprojects := [], ambientUmask := 0o022 }
    let p : Plan := { buildDir := "/b".toList, pfx := "/usr".toList, umask := none, subdirs := [], targets := [],
                      headers := [], man := [], emptydirs := [], data := [], symlinks := [] }
    destPath (mkCfg p o) "share/../../../outside/d.txt".toList = none ∧
    destPath (mkCfg p o) "/etc/../../outside/d.txt".toList = none ∧
    destPath (mkCfg p o) "share/../lib/d.txt".toList = some "/tmp/x/dest/usr/share/../lib/d.txt".toList := by
  decide +kernel

/-- the hypotheses of `destination_rule` are satisfiable, on a path with spaces, doubled and trailing slashes -/
example : NoDotDot "/tmp/x y/dest/".toList ∧ NoDotDot "/usr//local".toList ∧ NoDotDot "share/my app/./d.txt".toList ∧
    keyOfAbs (getDestdirPath "/tmp/x y/dest/".toList (destdirJoin "/tmp/x y/dest/".toList "/usr//local".toList)
      "share/my app/./d.txt".toList) =
      ["tmp", "x y", "dest", "usr", "local", "share", "my app", "d.txt"].map String.toList := by
  decide +kernel

theorem should_install_iff (cfg : Cfg) (sub : Str) (tag : Option Str) :
    shouldInstall cfg sub tag = true ↔
      ¬ (sub ≠ [] ∧ (sub ∈ cfg.skip ∨ ['*'] ∈ cfg.skip)) ∧
      (∀ ts, cfg.tags = some ts → ts ≠ [] → ∃ t, tag = some t ∧ t ∈ ts) := by
  unfold shouldInstall
  by_cases h1 : sub ≠ [] ∧ (sub ∈ cfg.skip ∨ ['*'] ∈ cfg.skip)
  · simp [h1]
  · have : (sub ≠ [] && (cfg.skip.contains sub || cfg.skip.contains ['*'])) = false := by simpa using h1
    rw [this]
    simp only [Bool.false_eq_true, if_false, h1, not_false_eq_true, true_and]
    cases cfg.tags with
    | none => simp
    | some ts => cases tag <;> simp [Decidable.or_iff_not_imp_left]

/-- an entry that is not selected has no file-system effect, no log line, no bookkeeping -/
theorem tags_and_skip (cfg : Cfg) (s : St) :
    (∀ e : DataEntry, shouldInstall cfg e.subproject e.tag = false →
      installDataOne cfg s e = s ∧ installHeader cfg s e = s ∧ installMan cfg s e = s) ∧
    (∀ e : SubdirEntry, shouldInstall cfg e.subproject e.tag = false → installSubdir cfg s e = s) ∧
    (∀ e : TargetEntry, shouldInstall cfg e.subproject e.tag = false → installTarget cfg s e = s) ∧
    (∀ e : EmptyDirEntry, shouldInstall cfg e.subproject e.tag = false → installEmptydir cfg s e = s) ∧
    (∀ e : SymlinkEntry, shouldInstall cfg e.subproject e.tag = false → installSymlink cfg s e = s) := by
  refine ⟨fun e h => ⟨?_, ?_, ?_⟩, fun e h => ?_, fun e h => ?_, fun e h => ?_, fun e h => ?_⟩
  · simp [installDataOne, h]
  · simp [installHeader, h]
  · simp [installMan, h]
  · simp [installSubdir, h]
  · simp [installTarget, h]
  · simp [installEmptydir, h]
  · simp [installSymlink, h]

/-- `--skip-subprojects '*'` skips every entry of every subproject, whatever the tags -/
theorem skip_all_subprojects (cfg : Cfg) (sub : Str) (tag : Option Str) (h : ['*'] ∈ cfg.skip) (hs : sub ≠ []) :
    shouldInstall cfg sub tag = false := by
  simp [shouldInstall, hs, h]

/-- a subproject is on the skip list iff one of the comma-separated fields of the option value, white space trimmed,
*equals* its name -/
theorem skip_is_exact_membership (raw sub : Str) :
    sub ∈ parseList raw ↔ ∃ f ∈ splitOn ',' raw, strip f = sub := by
  unfold parseList
  exact List.mem_map

/-- **selection from the raw option strings** of `--skip-subprojects` and `--tags`: only entries of a subproject are
skipped, by membership in the parsed list (or the item `*`); a non-empty `--tags` requires the entry's tag to be in
the parsed list -/
theorem selection_rule (p : Plan) (o : Opts) (sub : Str) (tag : Option Str) :
    shouldInstall (mkCfg p o) sub tag = true ↔
      ¬ (sub ≠ [] ∧ (sub ∈ parseList o.skipSubprojects ∨ ['*'] ∈ parseList o.skipSubprojects)) ∧
      (∀ t0, o.tags = some t0 → t0 ≠ [] → parseList t0 ≠ [] → ∃ t, tag = some t ∧ t ∈ parseList t0) := by
  rw [should_install_iff]
  refine and_congr Iff.rfl ?_
  -- `mkCfg` parses the option; an empty string counts as none given
  cases ht : o.tags with
  | none => simp [mkCfg, ht]
  | some t0 =>
    by_cases h0 : t0 = []
    · simp [mkCfg, ht, h0]
    · simp [mkCfg, ht, h0]

def hasInfix (a : Str) : Str → Bool
  | [] => a.isEmpty
  | b@(_ :: t) => a.isPrefixOf b || hasInfix a t

/-- the statement "testing the subproject's name as a SUBSTRING of the raw option value selects the same entries" -/
def skip_substring_statement : Prop :=
  ∀ raw sub : Str, sub ≠ [] → (hasInfix sub (strip raw) = true ↔ (sub ∈ parseList raw ∨ ['*'] ∈ parseList raw))

/-- it does not: skipping `core-utils` must not skip the subproject `core` (nor `utils`, nor `re-u`), and skipping
`a,b` must not skip a subproject called `a,b` -/
theorem skip_substring_counterexample : ¬ skip_substring_statement := by
  intro h
  exact absurd (h "core-utils".toList "core".toList) (by decide +kernel)

def selPlan : Plan :=
  { buildDir := "/b".toList, pfx := "/usr".toList, umask := none, subdirs := [], targets := [], headers := [], man := [],
    emptydirs := [], data := [], symlinks := [] }

example :
    let o (s : String) : Opts := { destdir := some "/d".toList, dryRun := false, onlyChanged := false, tags := none,
                                   skipSubprojects := s.toList, ambientUmask := 0o022 }
    shouldInstall (mkCfg selPlan (o "core-utils")) "core".toList none = true ∧
    shouldInstall (mkCfg selPlan (o "core-utils")) "core-utils".toList none = false ∧
    shouldInstall (mkCfg selPlan (o " core , utils")) "core-utils".toList none = true ∧
    shouldInstall (mkCfg selPlan (o " core , utils")) "utils".toList none = false ∧
    shouldInstall (mkCfg selPlan (o "x,*")) "core".toList none = false ∧
    shouldInstall (mkCfg selPlan (o "x*")) "core".toList none = true ∧
    shouldInstall (mkCfg selPlan (o "*")) [] none = true := by
  decide +kernel

/-- default permissions: no bit of the umask survives, only bits of `0o777` can be set, and
execute bits are only granted when the source had one (otherwise only bits of `0o666`) -/
theorem mode_rule_default (cur umask : Nat) :
    sanitizedMode cur umask &&& umask = 0 ∧
    sanitizedMode cur umask &&& 0o777 = sanitizedMode cur umask ∧
    (cur &&& 0o111 = 0 → sanitizedMode cur umask &&& 0o666 = sanitizedMode cur umask) := by
  unfold sanitizedMode
  refine ⟨andNot_and_self _ _, ?_, ?_⟩
  · split
    · exact andNot_and _ _ _
    · exact andNot_and _ _ _
  · intro h
    simp only [h, ne_eq, not_true_eq_false, if_false]
    exact andNot_and _ _ _

/-- a declared `install_mode` with permissions is applied verbatim to the installed file -/
theorem mode_rule_declared (cfg : Cfg) (k : Key) (p : Nat) (c : Bool) (s : St) (m d t : Nat)
    (hdry : cfg.dryRun = false) (hk : k ≠ []) (hn : s.fs.get k = some (.file m d t)) :
    (setMode cfg k (some { perms := some p, chown := c }) s).fs.get k = some (.file p d t) := by
  exact (setMode_spec cfg hdry k hk _ s (.file m d t) (fun _ h => Node.noConfusion h) hn).1

/-- with neither `install_mode` nor owner/group the file gets the default permissions of `mode_rule_default` -/
theorem mode_rule_umask (cfg : Cfg) (k : Key) (u : Nat) (s : St) (m d t : Nat)
    (hdry : cfg.dryRun = false) (hu : cfg.umask = some u) (hk : k ≠ []) (hn : s.fs.get k = some (.file m d t)) :
    (setMode cfg k none s).fs.get k = some (.file (sanitizedMode m u) d t) := by
  rw [(setMode_spec cfg hdry k hk none s (.file m d t) (fun _ h => Node.noConfusion h) hn).1]
  show some (Node.file (modeRule cfg none m) d t) = _
  simp [modeRule, hu]

/-- `install_umask = preserve` leaves the copied source permissions alone -/
theorem mode_rule_preserve (cfg : Cfg) (k : Key) (s : St)
    (hu : cfg.umask = none) : setMode cfg k none s = s := by
  unfold setMode
  by_cases hdry : cfg.dryRun = true <;> simp [hdry, sanitize, hu]

example : permsBits "rwxr-xr-x".toList = some 0o755 ∧ permsBits "rwsr-Sr-t".toList = some 0o7745 ∧
    permsBits "rwxrwxrw".toList = none ∧ permsBits "rwxrwxrwz".toList = none := by decide +kernel

/-- `--dry-run` leaves the file system exactly as it was, also when an installer step raises -/
theorem dry_run_identity (p : Plan) (o : Opts) (fs : FS) (h : o.dryRun = true) :
    (install p o fs).fs = fs := by
  unfold install
  simp only []
  exact installBody_dry (mkCfg p o) h p _

/-- the log is the installers' lines followed by the directories `DirMaker` created, last created first
(children before their parents), which is what lets `uninstall` remove them with `rmdir` -/
theorem log_dirs_last (p : Plan) (o : Opts) (fs : FS) :
    (install p o fs).log =
      (installBody (mkCfg p o) p { fs := fs, log := logHeader }).log ++
      (installBody (mkCfg p o) p { fs := fs, log := logHeader }).dirs.reverse := rfl

/-- whenever `do_copyfile` reports a copy, the destination it was asked for is the line it appended -/
theorem log_complete_copy (cfg : Cfg) (fp : Str) (src : Src) (to : Str) (mk : Option Str) (fo : Option Bool) (s : St)
    (h : (doCopyfile cfg fp src to mk fo s).2 = true) :
    (doCopyfile cfg fp src to mk fo s).1.log.getLast? = some to := by
  unfold doCopyfile at *
  dsimp only at *
  -- three exits return `False`; the fourth appends `to` to the log and returns `True`
  (repeat' split at h) <;> simp_all [St.logLine]

/-- reversibility for one logged file, whatever its name (white space at either end included): uninstall deletes it -/
theorem uninstall_removes_logged_file (cwd path : Str) (fs : FS) (m d t : Nat) (habs : isAbs path = true)
    (hk : keyOfAbs path ≠ []) (hn : fs.get (keyOfAbs path) = some (.file m d t)) :
    (uninstall cwd [path] fs).get (keyOfAbs path) = none := by
  rw [uninstall_eq]
  simp only [logKeys, List.filterMap_cons, lineKey_abs cwd path habs hk, List.filterMap_nil, List.foldl_cons,
    List.foldl_nil, removeKey, hn]
  exact get_del_same fs _

/-- non-vacuity, on a name that ends in a space -/
example : (uninstall "/b".toList ["/d/x ".toList]
    [(["d", "x "].map String.toList, .file 0o644 1 1), (["d"].map String.toList, .dir 0o755)]).get
      (["d", "x "].map String.toList) = none := by decide +kernel

/-- **Uninstall restores a fresh destination, for whole logs.**  `fs` is the tree before and `fs'` the tree after an
installation whose log is `log`.  If no logged path existed before (`hfresh`), nothing that existed before sits
directly inside a logged path (`hinside`), the two trees agree on every key the log does not name (`hcomplete`), and
no logged path that is a directory in `fs'` is followed by one of its own children (`horder`: the order
`DirMaker.__exit__` produces by logging files first and directories in reverse creation order), then replaying the
log with `do_uninstall` gives back `fs`.  Comment lines and repeated lines are allowed. -/
theorem uninstall_restores (cwd : Str) (log : List Str) (fs fs' : FS)
    (hfresh : ∀ k ∈ logKeys cwd log, fs.get k = none)
    (hcomplete : ∀ k, k ∉ logKeys cwd log → fs'.get k = fs.get k)
    (hinside : ∀ c, c ≠ [] → fs.get c ≠ none → c.dropLast ∉ logKeys cwd log)
    (horder : ChildrenFirst fs' (logKeys cwd log)) :
    ∀ k, (uninstall cwd log fs').get k = fs.get k := by
  rw [uninstall_eq]
  exact removeKeys_restores fs _ fs' hfresh hcomplete hinside horder

/-- the hypotheses of `uninstall_restores` are satisfiable (names with spaces, a comment line, a directory
logged after its content) -/
example :
    ∀ k, (uninstall "/b".toList ["# c".toList, "/d/a b/f ".toList, "/d/a b".toList]
      ((FS.set [(["d"].map String.toList, .dir 0o755)] (["d", "a b"].map String.toList) (.dir 0o755)).set
        (["d", "a b", "f "].map String.toList) (.file 0o644 1 1))).get k =
      FS.get [(["d"].map String.toList, .dir 0o755)] k := by
  have hk : logKeys "/b".toList ["# c".toList, "/d/a b/f ".toList, "/d/a b".toList] =
      [["d", "a b", "f "].map String.toList, ["d", "a b"].map String.toList] := by decide +kernel
  apply uninstall_restores
  · rw [hk]
    decide +kernel
  · intro k hkn
    rw [hk] at hkn
    simp only [List.mem_cons, List.not_mem_nil, or_false, not_or] at hkn
    rw [get_set_other _ _ _ _ hkn.1, get_set_other _ _ _ _ hkn.2]
  · intro c hc hg
    rw [hk]
    have := get_singleton hg
    subst this
    decide +kernel
  · rw [hk]
    unfold ChildrenFirst
    decide +kernel

/-- **The installer's own log is complete and lists children first.**  For every plan that neither reads nor
creates symbolic links (`LinkFree`), every real successful installation into a fresh DESTDIR (nothing exists at or
below it) on a link-free, well-formed tree, `install-log.txt` satisfies the hypotheses `uninstall_restores` needs:
it names every path that did not exist before and exists afterwards, names only paths that did not exist before, and
no logged directory is followed by one of its own children. -/
theorem log_complete (p : Plan) (o : Opts) (fs : FS) (hp : PlanOK p) (hl : LinkFree p)
    (hdry : o.dryRun = false) (hne : (mkCfg p o).destdir ≠ []) (hD : keyOfAbs (mkCfg p o).destdir ≠ [])
    (hfresh : ∀ k, keyOfAbs (mkCfg p o).destdir <+: k → fs.get k = none)
    (hNL : NL fs) (hWF : WF fs) (hok : (install p o fs).err = none) :
    (∀ k, k ≠ [] → fs.get k = none → (install p o fs).fs.get k ≠ none →
      k ∈ logKeys p.buildDir (install p o fs).log) ∧
    (∀ k ∈ logKeys p.buildDir (install p o fs).log, fs.get k = none) ∧
    ChildrenFirst (install p o fs).fs (logKeys p.buildDir (install p o fs).log) :=
  install_log_complete p o fs hp hl hdry hne hD hfresh hNL hWF hok

/-- **Uninstall after install restores the tree**: for every link-free plan, a successful real installation into a
fresh DESTDIR followed by `ninja uninstall` (replaying the installation's own log) gives back the initial tree. -/
theorem uninstall_after_install_restores (p : Plan) (o : Opts) (fs : FS) (hp : PlanOK p) (hl : LinkFree p)
    (hdry : o.dryRun = false) (hne : (mkCfg p o).destdir ≠ []) (hD : keyOfAbs (mkCfg p o).destdir ≠ [])
    (hfresh : ∀ k, keyOfAbs (mkCfg p o).destdir <+: k → fs.get k = none)
    (hNL : NL fs) (hWF : WF fs) (hok : (install p o fs).err = none) :
    ∀ k, (uninstall p.buildDir (install p o fs).log (install p o fs).fs).get k = fs.get k :=
  uninstall_install p o fs hp hl hdry hne hD hfresh hNL hWF hok

/-- a link-free plan, names with spaces -/
def lfPlan : Plan :=
  { buildDir := "/b".toList, pfx := "/usr".toList, umask := some 0o022, targets := [], man := [], symlinks := [],
    emptydirs := [{ path := "var/e".toList, mode := none, subproject := [], tag := none }],
    headers := [{ path := "/s/a b.h".toList, src := .file 0o600 7 3, installPath := "include".toList, mode := none,
                  subproject := [], tag := none, follow := none }],
    data := [{ path := "/s/t".toList, src := .file 0o755 9 4, installPath := "/opt/t o/t".toList,
               mode := some { perms := some 0o750, chown := false }, subproject := [], tag := none, follow := none }],
    subdirs := [{ path := "/s/tree".toList, installPath := "/usr/share/tree".toList, mode := none, exclude := none,
                  subproject := [], tag := none, follow := none,
                  walk := [{ rel := [], rootMode := 0o755, dirs := [("sub dir".toList, .real 0o700)],
                             files := [("x.txt".toList, .file 0o644 1 2)] },
                           { rel := ["sub dir".toList], rootMode := 0o700, dirs := [],
                             files := [(" y ".toList, .file 0o600 3 4)] }] }] }

def lfOpts : Opts :=
  { destdir := some "/d".toList, dryRun := false, onlyChanged := false, tags := none, skipSubprojects := [], ambientUmask := 0o022 }

def lfFs : FS := [(["s"].map String.toList, .dir 0o755)]

/-- the hypotheses of `log_complete` / `uninstall_after_install_restores` are satisfiable -/
example : PlanOK lfPlan ∧ LinkFree lfPlan ∧ (mkCfg lfPlan lfOpts).destdir ≠ [] ∧
    keyOfAbs (mkCfg lfPlan lfOpts).destdir ≠ [] ∧
    (∀ k, keyOfAbs (mkCfg lfPlan lfOpts).destdir <+: k → lfFs.get k = none) ∧ NL lfFs ∧ WF lfFs ∧
    (install lfPlan lfOpts lfFs).err = none := by
  have hget : ∀ k, lfFs.get k ≠ none → k = ["s"].map String.toList := fun k h => get_singleton h
  refine ⟨by decide +kernel, by decide +kernel, by decide +kernel, by decide +kernel, ?_, ?_, ?_, by decide +kernel⟩
  · intro k hk
    by_cases h : lfFs.get k = none
    · exact h
    · have := hget k h
      subst this
      revert hk
      decide +kernel
  · intro k t e
    have := hget k (by rw [e]; simp)
    subst this
    have hv : lfFs.get (["s"].map String.toList) = some (.dir 0o755) := by decide +kernel
    rw [hv] at e
    cases e
  · intro c _ h
    have := hget c h
    subst this
    left
    decide +kernel

def isFileSrc : Src → Bool
  | .file .. => true
  | _ => false

/-- every target's output is an existing regular file (directory outputs and optional missing outputs excluded) -/
def TargetsAreFiles (p : Plan) : Prop := ∀ t ∈ p.targets, isFileSrc t.src = true

instance (p : Plan) : Decidable (TargetsAreFiles p) := by unfold TargetsAreFiles; infer_instance

theorem okEntries_of (p : Plan) (hp : PlanOK p) (hl : LinkFree p) (ht : TargetsAreFiles p) :
    (∀ t ∈ p.targets, okTarget t) ∧ (∀ e ∈ p.headers, okData e) ∧ (∀ e ∈ p.man, okData e) ∧ (∀ e ∈ p.data, okData e) := by
  refine ⟨fun t htm => ⟨(hp.targets t htm).2.1, ?_⟩, fun e he => ⟨hp.headers e he, hl.headers e he⟩,
    fun e he => ⟨hp.man e he, hl.man e he⟩, fun e he => ⟨hp.data e he, hl.data e he⟩⟩
  have := ht t htm
  cases hs : t.src with
  | file m d tt => exact ⟨m, d, tt, rfl⟩
  | _ =>
    rw [hs] at this
    cases this

theorem run_setup (p : Plan) (o : Opts) (fs : FS) (hb : isAbs p.buildDir = true) (hne : (mkCfg p o).destdir ≠ [])
    (hok : (install p o fs).err = none) :
    Dest (mkCfg p o) (keyOfAbs (mkCfg p o).destdir) ∧
    (installBody (mkCfg p o) p { fs := fs, log := logHeader }).failed = false := by
  refine ⟨dest_mkCfg p o (isAbs_resolveDestdir p.buildDir o.destdir hb hne), ?_⟩
  unfold install at hok
  dsimp only at hok
  simp [St.failed, hok]

theorem rulesOk_of (p : Plan) (hp : PlanOK p) (hl : LinkFree p) (ht : TargetsAreFiles p) : ∀ r ∈ rulesOf p, ruleOk r :=
  have ⟨oT, oH, oM, oD⟩ := okEntries_of p hp hl ht
  ruleOk_of_lists p oT oH oM oD

/-- **created = planned for plans with `install_emptydir`** (file targets, headers, man pages, empty directories,
data), pairwise different destinations, with or without `--only-changed`, on ANY link-free tree (fresh or not):
after a successful real run every selected rule's destination holds `ruleNode` of what was there before — for an
empty-directory rule a directory whose permissions are the documented rule (`install_mode`, else `install_umask` on
the default, else unchanged) applied to the permissions an existing directory had, or to `0o777 & ~umask` for one
the installer creates; for file rules as in `only_changed_exact`.  Every other key is as before or a new directory
with mode `0o777 & ~umask`.  `_partial`: plans with `install_subdir` or `install_symlink` are left out. -/
theorem exact_all_kinds_partial (p : Plan) (o : Opts) (fs : FS) (hp : PlanOK p) (hl : LinkFree p)
    (hsub : p.subdirs = []) (hsym : p.symlinks = []) (htf : TargetsAreFiles p) (hdry : o.dryRun = false)
    (hne : (mkCfg p o).destdir ≠ []) (hD : keyOfAbs (mkCfg p o).destdir ≠ []) (hNL : NL fs)
    (hnd : (ruleKeys (mkCfg p o) p).Nodup) (hok : (install p o fs).err = none) :
    NL (install p o fs).fs ∧
    (∀ r ∈ rulesOf p, ruleSel (mkCfg p o) r = true →
      (install p o fs).fs.get (ruleKey (mkCfg p o) r) = some (ruleNode (mkCfg p o) r (fs.get (ruleKey (mkCfg p o) r)))) ∧
    (∀ k, k ∉ ruleKeys (mkCfg p o) p → (install p o fs).fs.get k = fs.get k ∨
      (fs.get k = none ∧ (install p o fs).fs.get k = some (.dir (andNot 0o777 (mkCfg p o).procUmask)))) := by
  obtain ⟨hdest, hf⟩ := run_setup p o fs hp.buildAbs hne hok
  exact rulesBody_exact (mkCfg p o) hdry hD hdest p hsub hsym (rulesOk_of p hp hl htf) hnd
    { fs := fs, log := logHeader } hNL hf

/-- plans with empty directories need the tree well-formed (`os.makedirs` over an existing path) -/
theorem rerun_fixed (p : Plan) (o : Opts) (fs : FS) (hp : PlanOK p) (hl : LinkFree p)
    (hsub : p.subdirs = []) (hsym : p.symlinks = []) (htf : TargetsAreFiles p) (hdry : o.dryRun = false)
    (hne : (mkCfg p o).destdir ≠ []) (hD : keyOfAbs (mkCfg p o).destdir ≠ []) (hNL : NL fs)
    (hWF : WF fs ∨ p.emptydirs = [])
    (hthere : ∀ r ∈ rulesOf p, ruleSel (mkCfg p o) r = true →
      ∃ x, fs.get (ruleKey (mkCfg p o) r) = some (ruleNode (mkCfg p o) r x))
    (hok : (install p o fs).err = none) : ∀ k, (install p o fs).fs.get k = fs.get k := by
  obtain ⟨hdest, hf⟩ := run_setup p o fs hp.buildAbs hne hok
  show ∀ k, (installBody (mkCfg p o) p { fs := fs, log := logHeader }).fs.get k = fs.get k
  rw [installBody_eq_rules _ p _ hsub hsym] at hf ⊢
  exact rules_fold_fixed (mkCfg p o) hdry hD hdest (rulesOf p) (rulesOk_of p hp hl htf)
    { fs := fs, log := logHeader } hNL (hWF.imp id (fun h e he => by simp [rulesOf, h] at he)) hthere hf

/-- **created = planned, with or without `--only-changed`, on any link-free tree** (not only a fresh one).  For the
plans of `exact`: after a successful real run each selected rule's destination holds `ocNode` of what was there
before — the old content and time stamp (permission rule re-applied) exactly when `--only-changed` is on and the
destination was a regular file at least as new as the source, the source's content and time stamp otherwise; for
targets `ocTargetNode` (a kept target is not even re-`chmod`ed).  Every other key is as before or a new directory. -/
theorem only_changed_exact (p : Plan) (o : Opts) (fs : FS) (hp : PlanOK p) (hl : LinkFree p) (hfo : FilesOnly p)
    (htf : TargetsAreFiles p) (hdry : o.dryRun = false)
    (hne : (mkCfg p o).destdir ≠ []) (hD : keyOfAbs (mkCfg p o).destdir ≠ []) (hNL : NL fs)
    (hnd : (plannedKeys (mkCfg p o) p).Nodup) (hok : (install p o fs).err = none) :
    NL (install p o fs).fs ∧
    (∀ t ∈ p.targets, selTarget (mkCfg p o) t = true →
      (install p o fs).fs.get (targetKey (mkCfg p o) t) =
        some (ocTargetNode (mkCfg p o) t.mode t.src (fs.get (targetKey (mkCfg p o) t)))) ∧
    (∀ e ∈ p.headers, selData (mkCfg p o) e = true →
      (install p o fs).fs.get (headerKey (mkCfg p o) e) =
        some (ocNode (mkCfg p o) e.mode e.src (fs.get (headerKey (mkCfg p o) e)))) ∧
    (∀ e ∈ p.man, selData (mkCfg p o) e = true →
      (install p o fs).fs.get (dataKey (mkCfg p o) e) =
        some (ocNode (mkCfg p o) e.mode e.src (fs.get (dataKey (mkCfg p o) e)))) ∧
    (∀ e ∈ p.data, selData (mkCfg p o) e = true →
      (install p o fs).fs.get (dataKey (mkCfg p o) e) =
        some (ocNode (mkCfg p o) e.mode e.src (fs.get (dataKey (mkCfg p o) e)))) ∧
    (∀ k, k ∉ plannedKeys (mkCfg p o) p → (install p o fs).fs.get k = fs.get k ∨
      (fs.get k = none ∧ (install p o fs).fs.get k = some (.dir (andNot 0o777 (mkCfg p o).procUmask)))) := by
  obtain ⟨hdest, hf⟩ := run_setup p o fs hp.buildAbs hne hok
  obtain ⟨oT, oH, oM, oD⟩ := okEntries_of p hp hl htf
  exact filesBody_exact_oc (mkCfg p o) hdry hD hdest p hfo oT oH oM oD hnd
    { fs := fs, log := logHeader } hNL hf

/-- **created = planned.**  For every link-free plan of file targets, headers, man pages and data whose selected
rules have pairwise different destinations, every successful real installation (not `--only-changed`) into any
link-free tree: each selected rule's destination — output dir + basename for targets, install dir + source
basename for headers, the install path for man pages and data; relative ones under the prefix, absolute ones
re-rooted under DESTDIR — holds a file with the source's content and time stamp and the permissions of `modeRule`
(declared `install_mode`, else `install_umask` applied to the default permissions, else the source's); every
other key is bound as before, or was absent and is now a directory with mode `0o777 & ~umask`.  Unselected rules
(`--tags`, `--skip-subprojects`) leave no trace. -/
theorem exact (p : Plan) (o : Opts) (fs : FS) (hp : PlanOK p) (hl : LinkFree p) (hfo : FilesOnly p)
    (htf : TargetsAreFiles p) (hdry : o.dryRun = false) (honly : o.onlyChanged = false)
    (hne : (mkCfg p o).destdir ≠ []) (hD : keyOfAbs (mkCfg p o).destdir ≠ []) (hNL : NL fs)
    (hnd : (plannedKeys (mkCfg p o) p).Nodup) (hok : (install p o fs).err = none) :
    NL (install p o fs).fs ∧
    (∀ t ∈ p.targets, selTarget (mkCfg p o) t = true →
      (install p o fs).fs.get (targetKey (mkCfg p o) t) = some (targetNode (mkCfg p o) t)) ∧
    (∀ e ∈ p.headers, selData (mkCfg p o) e = true →
      (install p o fs).fs.get (headerKey (mkCfg p o) e) = some (fileNode (mkCfg p o) e)) ∧
    (∀ e ∈ p.man, selData (mkCfg p o) e = true →
      (install p o fs).fs.get (dataKey (mkCfg p o) e) = some (fileNode (mkCfg p o) e)) ∧
    (∀ e ∈ p.data, selData (mkCfg p o) e = true →
      (install p o fs).fs.get (dataKey (mkCfg p o) e) = some (fileNode (mkCfg p o) e)) ∧
    (∀ k, k ∉ plannedKeys (mkCfg p o) p → (install p o fs).fs.get k = fs.get k ∨
      (fs.get k = none ∧ (install p o fs).fs.get k = some (.dir (andNot 0o777 (mkCfg p o).procUmask)))) := by
  obtain ⟨n, gT, gH, gM, gD, fr⟩ := only_changed_exact p o fs hp hl hfo htf hdry hne hD hNL hnd hok
  -- without `--only-changed` what a rule leaves does not depend on what was there
  have honly' : (mkCfg p o).onlyChanged = false := honly
  exact ⟨n, fun t ht hs => (gT t ht hs).trans (congrArg some (ocTargetNode_plain _ honly' t _)),
    fun e he hs => (gH e he hs).trans (congrArg some (ocNode_plain _ honly' e _)),
    fun e he hs => (gM e he hs).trans (congrArg some (ocNode_plain _ honly' e _)),
    fun e he hs => (gD e he hs).trans (congrArg some (ocNode_plain _ honly' e _)), fr⟩

/-- **Overlapping destinations: the later rule wins.**  Without the pairwise-different hypothesis: a selected
rule's destination holds *its* node at the end whenever no later selected rule has the same destination; "later"
is later in the same list, or in a list that is installed afterwards (order: targets, headers, man pages, data).
Stated for data rules and headers; `filesBody_last_wins` has all four. -/
theorem exact_overlap (p : Plan) (o : Opts) (fs : FS) (hp : PlanOK p) (hl : LinkFree p) (hfo : FilesOnly p)
    (htf : TargetsAreFiles p) (hdry : o.dryRun = false) (honly : o.onlyChanged = false)
    (hne : (mkCfg p o).destdir ≠ []) (hD : keyOfAbs (mkCfg p o).destdir ≠ []) (hNL : NL fs)
    (hok : (install p o fs).err = none) :
    (∀ pre e post, p.data = pre ++ e :: post → selData (mkCfg p o) e = true →
      (∀ e' ∈ post, selData (mkCfg p o) e' = true → dataKey (mkCfg p o) e' ≠ dataKey (mkCfg p o) e) →
      (install p o fs).fs.get (dataKey (mkCfg p o) e) = some (fileNode (mkCfg p o) e)) ∧
    (∀ pre e post, p.headers = pre ++ e :: post → selData (mkCfg p o) e = true →
      (∀ e' ∈ post, selData (mkCfg p o) e' = true → headerKey (mkCfg p o) e' ≠ headerKey (mkCfg p o) e) →
      (∀ e' ∈ p.man, selData (mkCfg p o) e' = true → dataKey (mkCfg p o) e' ≠ headerKey (mkCfg p o) e) →
      (∀ e' ∈ p.data, selData (mkCfg p o) e' = true → dataKey (mkCfg p o) e' ≠ headerKey (mkCfg p o) e) →
      (install p o fs).fs.get (headerKey (mkCfg p o) e) = some (fileNode (mkCfg p o) e)) := by
  obtain ⟨hdest, hf⟩ := run_setup p o fs hp.buildAbs hne hok
  obtain ⟨oT, oH, oM, oD⟩ := okEntries_of p hp hl htf
  obtain ⟨_, _, gH, _, gD, _⟩ := filesBody_last_wins (mkCfg p o) hdry honly hD hdest
    p hfo oT oH oM oD { fs := fs, log := logHeader } hNL hf
  exact ⟨gD, gH⟩

/-- **installing twice gives the same tree as installing once**, for the plans of `exact` -/
theorem install_idempotent (p : Plan) (o : Opts) (fs : FS) (hp : PlanOK p) (hl : LinkFree p) (hfo : FilesOnly p)
    (htf : TargetsAreFiles p) (hdry : o.dryRun = false) (honly : o.onlyChanged = false)
    (hne : (mkCfg p o).destdir ≠ []) (hD : keyOfAbs (mkCfg p o).destdir ≠ []) (hNL : NL fs)
    (hnd : (plannedKeys (mkCfg p o) p).Nodup) (hok1 : (install p o fs).err = none)
    (hok2 : (install p o (install p o fs).fs).err = none) :
    ∀ k, (install p o (install p o fs).fs).fs.get k = (install p o fs).fs.get k := by
  obtain ⟨n1, g1, _⟩ := exact_all_kinds_partial p o fs hp hl hfo.1 hfo.2.2 htf hdry hne hD hNL
    (by rw [ruleKeys_eq_plannedKeys _ p hfo.2.1]; exact hnd) hok1
  exact rerun_fixed p o _ hp hl hfo.1 hfo.2.2 htf hdry hne hD n1 (Or.inr hfo.2.1) (fun r hr hs => ⟨_, g1 r hr hs⟩) hok2

/-- **`--only-changed` after an install changes nothing**, for the plans of `exact`: every rule finds its
destination with the source's time stamp, preserves it, and re-applies the same permissions (the permission rule
is idempotent, `modeRule_idem`) -/
theorem install_only_changed_idempotent (p : Plan) (o : Opts) (fs : FS) (hp : PlanOK p) (hl : LinkFree p)
    (hfo : FilesOnly p) (htf : TargetsAreFiles p) (hdry : o.dryRun = false) (honly : o.onlyChanged = false)
    (hne : (mkCfg p o).destdir ≠ []) (hD : keyOfAbs (mkCfg p o).destdir ≠ []) (hNL : NL fs)
    (hnd : (plannedKeys (mkCfg p o) p).Nodup) (hok1 : (install p o fs).err = none)
    (hok2 : (install p { o with onlyChanged := true } (install p o fs).fs).err = none) :
    ∀ k, (install p { o with onlyChanged := true } (install p o fs).fs).fs.get k = (install p o fs).fs.get k := by
  obtain ⟨n1, g1, _⟩ := exact_all_kinds_partial p o fs hp hl hfo.1 hfo.2.2 htf hdry hne hD hNL
    (by rw [ruleKeys_eq_plannedKeys _ p hfo.2.1]; exact hnd) hok1
  -- what the first run left is what a rule of the second run makes of an absent destination
  refine rerun_fixed p { o with onlyChanged := true } _ hp hl hfo.1 hfo.2.2 htf hdry hne hD n1 (Or.inr hfo.2.1)
    (fun r hr hs => ⟨none, (g1 r hr hs).trans (congrArg some ?_)⟩) hok2
  have honly' : (mkCfg p o).onlyChanged = false := honly
  cases r with
  | T t => exact (ocTargetNode_plain _ honly' t _).trans (targetNode_eq_ocNode (mkCfg p { o with onlyChanged := true }) t)
  | H e => exact (ocNode_plain _ honly' e _).trans (fileNode_eq_ocNode (mkCfg p { o with onlyChanged := true }) e)
  | M e => exact (ocNode_plain _ honly' e _).trans (fileNode_eq_ocNode (mkCfg p { o with onlyChanged := true }) e)
  | D e => exact (ocNode_plain _ honly' e _).trans (fileNode_eq_ocNode (mkCfg p { o with onlyChanged := true }) e)
  | E e => simp [rulesOf, hfo.2.1] at hr

def filesPlan : Plan :=
  { lfPlan with
    subdirs := []
    emptydirs := []
    targets := [{ fname := "/b/prog".toList, src := .file 0o755 11 5, outdir := "bin".toList,
                    mode := some { perms := none, chown := false }, subproject := [], tag := some "runtime".toList,
                    optional := false, walk := [] }] }

/-- the hypotheses of `exact` / `install_idempotent` are satisfiable, and the rules are visible in the result:
a target under `bin`, a header with default permissions under umask 022, a data file with a declared mode
re-rooted from an absolute install dir -/
example :
    PlanOK filesPlan ∧ LinkFree filesPlan ∧ FilesOnly filesPlan ∧ TargetsAreFiles filesPlan ∧
    (plannedKeys (mkCfg filesPlan lfOpts) filesPlan).Nodup ∧
    (install filesPlan lfOpts lfFs).err = none ∧
    (install filesPlan lfOpts (install filesPlan lfOpts lfFs).fs).err = none ∧
    (install filesPlan lfOpts lfFs).fs.get (["d", "usr", "bin", "prog"].map String.toList) = some (.file 0o755 11 5) ∧
    (install filesPlan lfOpts lfFs).fs.get (["d", "usr", "include", "a b.h"].map String.toList) = some (.file 0o644 7 3) ∧
    (install filesPlan lfOpts lfFs).fs.get (["d", "opt", "t o", "t"].map String.toList) = some (.file 0o750 9 4) := by
  decide +kernel

/-- the `--only-changed` reinstall of `filesPlan` succeeds (hypothesis `hok2` of `install_only_changed_idempotent`) -/
example : (install filesPlan { lfOpts with onlyChanged := true } (install filesPlan lfOpts lfFs).fs).err = none := by
  decide +kernel

/-- the plan class of `exact`, `install_idempotent` and `install_only_changed_idempotent` -/
def FileRulePlan (p : Plan) : Prop := PlanOK p ∧ LinkFree p ∧ FilesOnly p ∧ TargetsAreFiles p

instance (p : Plan) : Decidable (FileRulePlan p) := by unfold FileRulePlan; infer_instance

example : FileRulePlan filesPlan := by decide +kernel

/-- two data rules with one destination -/
def overlapPlan (t1 t2 : Nat) : Plan :=
  { lfPlan with
    subdirs := []
    emptydirs := []
    headers := []
    data := [{ path := "/s/A".toList, src := .file 0o644 1 t1, installPath := "share/x".toList, mode := none,
                 subproject := [], tag := none, follow := none },
               { path := "/s/B".toList, src := .file 0o644 2 t2, installPath := "share/x".toList, mode := none,
                 subproject := [], tag := none, follow := none }] }

/-- the later rule wins: the destination holds `B` -/
example : (install (overlapPlan 9 5) lfOpts lfFs).err = none ∧
    (install (overlapPlan 9 5) lfOpts lfFs).fs.get (["d", "usr", "share", "x"].map String.toList) =
      some (.file 0o644 2 5) := by
  decide +kernel

/-- the statement "a second `meson install --only-changed` leaves the tree as the first install left it" for plans
with overlapping destinations -/
def only_changed_idempotent_full_statement : Prop :=
  ∀ (p : Plan) (o : Opts) (fs : FS), LinkFree p → FilesOnly p → o.dryRun = false →
    (install p o fs).err = none →
    (install p { o with onlyChanged := true } (install p o fs).fs).err = none →
    ∀ k, (install p { o with onlyChanged := true } (install p o fs).fs).fs.get k = (install p o fs).fs.get k

/-- **false of the code** when two rules share a destination and the first source is newer than the second: the
first install ends with `B` (later rule wins); the `--only-changed` reinstall copies `A` (newer than the installed
`B`) and then preserves it against `B` (older than the installed `A`), so the tree changes.  Recorded, not
repaired: two rules installing different files to one path is a defect of the build definition. -/
theorem only_changed_overlap_counterexample : ¬ only_changed_idempotent_full_statement := by
  intro h
  have := h (overlapPlan 9 5) lfOpts lfFs (by decide +kernel) ⟨rfl, rfl, rfl⟩ rfl (by decide +kernel)
    (by decide +kernel) (["d", "usr", "share", "x"].map String.toList)
  revert this
  decide +kernel

/-- **the decision of `meson install --only-changed`** (`should_preserve_existing_file`) as a function of the
metadata it reads (regular files or links to them; time stamps in nanoseconds, as `stat` reports them): an existing
destination is preserved iff *it is at least as new as the source*, nothing coarser -/
theorem preserve_iff_destination_at_least_as_new (cfg : Cfg) (src : Src) (s : St) (kt : Key) :
    shouldPreserve cfg src s kt = true ↔
      cfg.onlyChanged = true ∧ ∃ mt, srcMtime src = some mt ∧
        ∃ m d tt, s.fs.follow kt = some (.file m d tt) ∧ mt ≤ tt :=
  shouldPreserve_iff cfg src s kt

/-- a source that is newer than the destination by any amount — one nanosecond included — is installed again -/
theorem newer_source_is_never_preserved (cfg : Cfg) (src : Src) (s : St) (kt : Key) (mt m d tt : Nat)
    (hs : srcMtime src = some mt) (hd : s.fs.follow kt = some (.file m d tt)) (hlt : tt < mt) :
    shouldPreserve cfg src s kt = false := by
  cases h : shouldPreserve cfg src s kt with
  | false => rfl
  | true =>
    obtain ⟨_, mt', h1, m', d', tt', h2, h3⟩ := (shouldPreserve_iff cfg src s kt).mp h
    rw [hs] at h1
    rw [hd] at h2
    cases h1
    cases h2
    omega

/-- the two time stamps may lie in the same clock second (0.2 s and 0.7 s past it), or one nanosecond apart -/
example :
    let cfg : Cfg := { cwd := "/b".toList, buildDir := "/b".toList, destdir := [], fullprefix := "/usr".toList,
                       umask := none, procUmask := 0o022, dryRun := false, onlyChanged := true, tags := none, skip := [] }
    let k : Key := ["d", "f"].map String.toList
    let st (t : Nat) : St := { fs := [(k, .file 0o644 1 t)] }
    shouldPreserve cfg (.file 0o644 2 1700000000700000000) (st 1700000000200000000) k = false ∧
    shouldPreserve cfg (.file 0o644 2 1700000000200000001) (st 1700000000200000000) k = false ∧
    shouldPreserve cfg (.file 0o644 2 1700000000200000000) (st 1700000000200000000) k = true ∧
    shouldPreserve cfg (.file 0o644 2 1700000000200000000) (st 1700000000200000001) k = true ∧
    shouldPreserve cfg (.linkFile "x".toList 0o644 2 1700000000200000001) (st 1700000000200000000) k = false ∧
    shouldPreserve cfg (.linkDangling "x".toList) (st 1700000000200000000) k = false ∧
    shouldPreserve { cfg with onlyChanged := false } (.file 0o644 2 5) (st 1700000000200000000) k = false := by
  decide +kernel

/-- what `only_changed_exact` says about a destination that is older than its source, by however little:
it holds the source's content -/
theorem only_changed_overwrites_older (cfg : Cfg) (mode : Option FileMode) (m d t m' d' t' : Nat) (h : t' < t) :
    ocNode cfg mode (.file m d t) (some (.file m' d' t')) = .file (modeRule cfg mode m) d t ∧
    ocTargetNode cfg mode (.file m d t) (some (.file m' d' t')) = .file (modeRule cfg mode m) d t :=
  ocNode_not_keeps cfg mode m d t _ (not_keeps_of_lt cfg m' d' h)

/-- **install; rewrite sources; install `--only-changed`.**  For the plans of `exact`: after a successful
installation the sources are rewritten by `g` — each one either left alone or replaced by a regular file with any
content and permissions and a *strictly later time stamp, however close* (`Rewritten`) — and
`meson install --only-changed` runs successfully.  Then every selected rule's destination holds the node of the
**current** source (new content, new time stamp, documented permissions): nothing stale survives.  Every other key
is as the first installation left it (or a new directory). -/
theorem install_modify_only_changed (p : Plan) (o : Opts) (fs : FS) (g : Str → Src → Src)
    (hg : ∀ path src, Rewritten src (g path src))
    (hp : PlanOK p) (hl : LinkFree p) (hfo : FilesOnly p) (htf : TargetsAreFiles p)
    (hdry : o.dryRun = false) (honly : o.onlyChanged = false)
    (hne : (mkCfg p o).destdir ≠ []) (hD : keyOfAbs (mkCfg p o).destdir ≠ []) (hNL : NL fs)
    (hnd : (plannedKeys (mkCfg p o) p).Nodup) (hok1 : (install p o fs).err = none)
    (hok2 : (install (touchPlan g p) { o with onlyChanged := true } (install p o fs).fs).err = none) :
    (∀ t ∈ p.targets, selTarget (mkCfg p o) t = true →
      (install (touchPlan g p) { o with onlyChanged := true } (install p o fs).fs).fs.get (targetKey (mkCfg p o) t) =
        some (targetNode (mkCfg p o) (touchTarget g t))) ∧
    (∀ e ∈ p.headers, selData (mkCfg p o) e = true →
      (install (touchPlan g p) { o with onlyChanged := true } (install p o fs).fs).fs.get (headerKey (mkCfg p o) e) =
        some (fileNode (mkCfg p o) (touchData g e))) ∧
    (∀ e ∈ p.man, selData (mkCfg p o) e = true →
      (install (touchPlan g p) { o with onlyChanged := true } (install p o fs).fs).fs.get (dataKey (mkCfg p o) e) =
        some (fileNode (mkCfg p o) (touchData g e))) ∧
    (∀ e ∈ p.data, selData (mkCfg p o) e = true →
      (install (touchPlan g p) { o with onlyChanged := true } (install p o fs).fs).fs.get (dataKey (mkCfg p o) e) =
        some (fileNode (mkCfg p o) (touchData g e))) ∧
    (∀ k, k ∉ plannedKeys (mkCfg p o) p →
      (install (touchPlan g p) { o with onlyChanged := true } (install p o fs).fs).fs.get k = (install p o fs).fs.get k ∨
      ((install p o fs).fs.get k = none ∧
        (install (touchPlan g p) { o with onlyChanged := true } (install p o fs).fs).fs.get k =
          some (.dir (andNot 0o777 (mkCfg p o).procUmask)))) := by
  obtain ⟨n1, gT, gH, gM, gD, _⟩ := exact p o fs hp hl hfo htf hdry honly hne hD hNL hnd hok1
  obtain ⟨hdest, hf⟩ := run_setup (touchPlan g p) { o with onlyChanged := true } _ hp.buildAbs hne hok2
  obtain ⟨oT, oH, oM, oD⟩ := okEntries_of p hp hl htf
  exact filesBody_touch_only_changed (mkCfg p { o with onlyChanged := true }) hdry
    hD hdest p g hg hfo oT oH oM oD hnd { fs := (install p o fs).fs, log := logHeader } n1 gT gH gM gD hf

/-- the sources of `filesPlan` rewritten: the header half a second later *within the same clock second*, the data
file one nanosecond later, the target left alone -/
def rewriteDemo (path : Str) : Src → Src
  | .file m d t =>
    if path = "/s/a b.h".toList ∧ t < 1700000000700000000 then .file 0o600 70 1700000000700000000
    else if path = "/s/t".toList ∧ t < 1700000000200000001 then .file 0o755 90 1700000000200000001
    else .file m d t
  | s => s

def subsecPlan : Plan :=
  { filesPlan with
    headers := [{ path := "/s/a b.h".toList, src := .file 0o600 7 1700000000200000000, installPath := "include".toList,
                  mode := none, subproject := [], tag := none, follow := none }]
    data := [{ path := "/s/t".toList, src := .file 0o755 9 1700000000200000000, installPath := "/opt/t o/t".toList,
               mode := some { perms := some 0o750, chown := false }, subproject := [], tag := none, follow := none }] }

/-- the hypotheses of `install_modify_only_changed` are satisfiable, and its conclusion is visible: the header
rewritten 0.5 s later in the same second and the data file rewritten 1 ns later are both installed again, the
untouched target is kept -/
example :
    (∀ path src, Rewritten src (rewriteDemo path src)) ∧
    FileRulePlan subsecPlan ∧ (plannedKeys (mkCfg subsecPlan lfOpts) subsecPlan).Nodup ∧
    (install subsecPlan lfOpts lfFs).err = none ∧
    (install (touchPlan rewriteDemo subsecPlan) { lfOpts with onlyChanged := true } (install subsecPlan lfOpts lfFs).fs).err = none ∧
    (install (touchPlan rewriteDemo subsecPlan) { lfOpts with onlyChanged := true } (install subsecPlan lfOpts lfFs).fs).fs.get
      (["d", "usr", "include", "a b.h"].map String.toList) = some (.file 0o644 70 1700000000700000000) ∧
    (install (touchPlan rewriteDemo subsecPlan) { lfOpts with onlyChanged := true } (install subsecPlan lfOpts lfFs).fs).fs.get
      (["d", "opt", "t o", "t"].map String.toList) = some (.file 0o750 90 1700000000200000001) ∧
    (install (touchPlan rewriteDemo subsecPlan) { lfOpts with onlyChanged := true } (install subsecPlan lfOpts lfFs).fs).fs.get
      (["d", "usr", "bin", "prog"].map String.toList) = some (.file 0o755 11 5) := by
  refine ⟨?_, by decide +kernel⟩
  intro path src
  cases src with
  | file m d t =>
    show Rewritten (.file m d t)
      (if path = "/s/a b.h".toList ∧ t < 1700000000700000000 then .file 0o600 70 1700000000700000000
       else if path = "/s/t".toList ∧ t < 1700000000200000001 then .file 0o755 90 1700000000200000001
       else .file m d t)
    by_cases h1 : path = "/s/a b.h".toList ∧ t < 1700000000700000000
    · rw [if_pos h1]
      exact Or.inr ⟨_, _, _, _, _, _, rfl, rfl, h1.2⟩
    · rw [if_neg h1]
      by_cases h2 : path = "/s/t".toList ∧ t < 1700000000200000001
      · rw [if_pos h2]
        exact Or.inr ⟨_, _, _, _, _, _, rfl, rfl, h2.2⟩
      · rw [if_neg h2]
        exact Or.inl rfl
  | _ => exact Or.inl rfl

/-- the empty-directory clause of `exact_all_kinds_partial`, spelled out -/
theorem emptydir_rule (p : Plan) (o : Opts) (fs : FS) (hp : PlanOK p) (hl : LinkFree p)
    (hsub : p.subdirs = []) (hsym : p.symlinks = []) (htf : TargetsAreFiles p) (hdry : o.dryRun = false)
    (hne : (mkCfg p o).destdir ≠ []) (hD : keyOfAbs (mkCfg p o).destdir ≠ []) (hNL : NL fs)
    (hnd : (ruleKeys (mkCfg p o) p).Nodup) (hok : (install p o fs).err = none)
    (e : EmptyDirEntry) (he : e ∈ p.emptydirs) (hs : selEmpty (mkCfg p o) e = true) :
    (install p o fs).fs.get (emptyKey (mkCfg p o) e) = some (.dir (modeRule (mkCfg p o) e.mode
      (match fs.get (emptyKey (mkCfg p o) e) with
       | some (.dir m) => m
       | _ => andNot 0o777 (mkCfg p o).procUmask))) := by
  obtain ⟨_, g, _⟩ := exact_all_kinds_partial p o fs hp hl hsub hsym htf hdry hne hD hNL hnd hok
  refine (g (.E e) (by simp [rulesOf, he]) hs).trans ?_
  show some (emptyNode (mkCfg p o) e (fs.get (emptyKey (mkCfg p o) e))) = _
  unfold emptyNode
  cases fs.get (emptyKey (mkCfg p o) e) with
  | none => rfl
  | some n => cases n <;> rfl

/-- **installing twice leaves every planned destination as installing once left it**, for the plans of
`exact_all_kinds_partial` (empty directories included): the `_partial` form of `install_idempotent_full_statement`
(destinations only; that no *other* key changes is proved for file-rule plans in `install_idempotent`, and for these
plans on a fresh DESTDIR in `install_idempotent_rules`) -/
theorem install_idempotent_destinations_partial (p : Plan) (o : Opts) (fs : FS) (hp : PlanOK p) (hl : LinkFree p)
    (hsub : p.subdirs = []) (hsym : p.symlinks = []) (htf : TargetsAreFiles p) (hdry : o.dryRun = false)
    (honly : o.onlyChanged = false)
    (hne : (mkCfg p o).destdir ≠ []) (hD : keyOfAbs (mkCfg p o).destdir ≠ []) (hNL : NL fs)
    (hnd : (ruleKeys (mkCfg p o) p).Nodup) (hok1 : (install p o fs).err = none)
    (hok2 : (install p o (install p o fs).fs).err = none) :
    ∀ r ∈ rulesOf p, ruleSel (mkCfg p o) r = true →
      (install p o (install p o fs).fs).fs.get (ruleKey (mkCfg p o) r) = (install p o fs).fs.get (ruleKey (mkCfg p o) r) := by
  obtain ⟨n1, g1, _⟩ := exact_all_kinds_partial p o fs hp hl hsub hsym htf hdry hne hD hNL hnd hok1
  obtain ⟨_, g2, _⟩ := exact_all_kinds_partial p o _ hp hl hsub hsym htf hdry hne hD n1 hnd hok2
  intro r hr hs
  rw [g2 r hr hs, g1 r hr hs, ruleNode_idem]

/-- **installing twice gives the same tree as installing once — every key**, for the plans of
`exact_all_kinds_partial` installed into a fresh DESTDIR on a well-formed link-free tree.  (`os.makedirs` over an
existing path is a no-op because the first run leaves a well-formed tree, `install_LG`; an empty-directory rule
re-applies an idempotent permission rule.) -/
theorem install_idempotent_rules (p : Plan) (o : Opts) (fs : FS) (hp : PlanOK p) (hl : LinkFree p)
    (hsub : p.subdirs = []) (hsym : p.symlinks = []) (htf : TargetsAreFiles p) (hdry : o.dryRun = false)
    (honly : o.onlyChanged = false)
    (hne : (mkCfg p o).destdir ≠ []) (hD : keyOfAbs (mkCfg p o).destdir ≠ [])
    (hfresh : ∀ k, keyOfAbs (mkCfg p o).destdir <+: k → fs.get k = none) (hNL : NL fs) (hWF : WF fs)
    (hnd : (ruleKeys (mkCfg p o) p).Nodup) (hok1 : (install p o fs).err = none)
    (hok2 : (install p o (install p o fs).fs).err = none) :
    ∀ k, (install p o (install p o fs).fs).fs.get k = (install p o fs).fs.get k := by
  obtain ⟨n1, g1, _⟩ := exact_all_kinds_partial p o fs hp hl hsub hsym htf hdry hne hD hNL hnd hok1
  obtain ⟨s1, _, hfs, _, hLG⟩ := install_LG p o fs hp hl hdry hne hD hfresh hNL hWF hok1
  exact rerun_fixed p o _ hp hl hsub hsym htf hdry hne hD n1 (Or.inl (by rw [hfs]; exact hLG.wf))
    (fun r hr hs => ⟨_, g1 r hr hs⟩) hok2

/-- **created = planned for plans with `install_symlink`** (file targets, headers, man pages, empty directories, data,
symlinks; no `install_subdir`): pairwise different destinations, every link lies directly in its install directory and
no symlink rule's install directory passes through a link destination (`SymOK`; the link-free hypothesis of the other
theorems is weakened to *no link on the path prefixes `os.makedirs` traverses*).  After a successful real run on a
link-free tree: every selected symlink rule's destination is a link with exactly the declared target text (an older
link there is replaced), the other rules' destinations are as in `exact_all_kinds_partial`, links exist only at the
symlink rules' destinations, every other key is as before or a new directory.  `_partial`: first installation only;
a re-installation over the links, and plans with subdirectories, are carried by the per-run correspondence. -/
theorem exact_with_symlinks_partial (p : Plan) (o : Opts) (fs : FS) (hp : PlanOK p)
    (hl : LinkFree { p with symlinks := [] }) (hsub : p.subdirs = []) (htf : TargetsAreFiles p)
    (hdry : o.dryRun = false) (hne : (mkCfg p o).destdir ≠ []) (hD : keyOfAbs (mkCfg p o).destdir ≠ []) (hNL : NL fs)
    (hsym : ∀ e ∈ p.symlinks, SymOK (mkCfg p o) (symKeys (mkCfg p o) p) e)
    (hnd : (ruleKeys (mkCfg p o) p ++ symKeys (mkCfg p o) p).Nodup) (hok : (install p o fs).err = none) :
    LinksIn (symKeys (mkCfg p o) p) (install p o fs).fs ∧
    (∀ r ∈ rulesOf p, ruleSel (mkCfg p o) r = true →
      (install p o fs).fs.get (ruleKey (mkCfg p o) r) = some (ruleNode (mkCfg p o) r (fs.get (ruleKey (mkCfg p o) r)))) ∧
    (∀ e ∈ p.symlinks, selSym (mkCfg p o) e = true →
      (install p o fs).fs.get (symKey (mkCfg p o) e) = some (.link e.target)) ∧
    (∀ k, k ∉ ruleKeys (mkCfg p o) p ++ symKeys (mkCfg p o) p → (install p o fs).fs.get k = fs.get k ∨
      (fs.get k = none ∧ (install p o fs).fs.get k = some (.dir (andNot 0o777 (mkCfg p o).procUmask)))) := by
  obtain ⟨hdest, hf⟩ := run_setup p o fs hp.buildAbs hne hok
  have hp' : PlanOK { p with symlinks := [] } := ⟨hp.buildAbs, hp.subdirs, hp.targets, hp.headers, hp.man, hp.data⟩
  have hokR : ∀ r ∈ rulesOf p, ruleOk r := rulesOk_of { p with symlinks := [] } hp' hl htf
  exact body_exact_sym (mkCfg p o) hdry hD hdest p hsub hokR hsym hnd
    { fs := fs, log := logHeader } hNL hf

/-- the full statement of exactness-by-idempotence for ALL plan kinds (install_subdir with excludes and
strip_directory, install_symlink, symlink sources): a second successful `meson install` leaves every key as the first
left it.  Proved parts: `install_idempotent` (file rules), `install_idempotent_rules` (file rules and empty directories,
every key, via `WF` after the first run).  Open (neither proved nor refuted in Lean) for plans with install_subdir and
for a re-installation over installed symlinks (every rule then runs on a tree that contains links); carried by the
per-run correspondence (model = real installer on generated plans with subdirectories, excludes, symlinks) and the
tree-diff oracle. -/
def install_idempotent_full_statement : Prop :=
  ∀ (p : Plan) (o : Opts) (fs : FS), PlanOK p → o.dryRun = false → o.onlyChanged = false →
    (mkCfg p o).destdir ≠ [] → WF fs → (install p o fs).err = none → (install p o (install p o fs).fs).err = none →
    ∀ k, (install p o (install p o fs).fs).fs.get k = (install p o fs).fs.get k

/-- the full statement of reversibility for ALL plan kinds (`uninstall_after_install_restores` without `LinkFree`).
Proved for link-free plans (subdirectories with excludes and strip_directory, empty directories included):
`uninstall_after_install_restores`.  Open for plans with install_symlink / symlink sources (the log invariant `LG`
speaks of files and directories only); a concrete instance with a symlink is checked at the end of this file. -/
def uninstall_after_install_full_statement : Prop :=
  ∀ (p : Plan) (o : Opts) (fs : FS), PlanOK p → o.dryRun = false → (mkCfg p o).destdir ≠ [] →
    keyOfAbs (mkCfg p o).destdir ≠ [] → (∀ k, keyOfAbs (mkCfg p o).destdir <+: k → fs.get k = none) →
    NL fs → WF fs → (install p o fs).err = none →
    ∀ k, (uninstall p.buildDir (install p o fs).log (install p o fs).fs).get k = fs.get k

def emptyPlan : Plan :=
  { filesPlan with
    emptydirs := [{ path := "var/e".toList, mode := some { perms := some 0o700, chown := false }, subproject := [], tag := none },
                  { path := "include/sub".toList, mode := none, subproject := [], tag := none }] }

/-- the hypotheses of `exact_all_kinds_partial` are satisfiable and its conclusion visible; a pre-existing
directory with permissions 0o711 ends with 0o755 (`install_umask` 022 applied to 0o777, because it has an execute bit) -/
example :
    PlanOK emptyPlan ∧ LinkFree emptyPlan ∧ TargetsAreFiles emptyPlan ∧
    (ruleKeys (mkCfg emptyPlan lfOpts) emptyPlan).Nodup ∧
    (install emptyPlan lfOpts lfFs).err = none ∧
    (install emptyPlan lfOpts (install emptyPlan lfOpts lfFs).fs).err = none ∧
    (install emptyPlan lfOpts lfFs).fs.get (["d", "usr", "var", "e"].map String.toList) = some (.dir 0o700) ∧
    (install emptyPlan lfOpts lfFs).fs.get (["d", "usr", "include", "sub"].map String.toList) = some (.dir 0o755) ∧
    (install emptyPlan lfOpts ((lfFs.set (["d"].map String.toList) (.dir 0o755)).set (["d", "usr"].map String.toList) (.dir 0o755)
      |>.set (["d", "usr", "include"].map String.toList) (.dir 0o755)
      |>.set (["d", "usr", "include", "sub"].map String.toList) (.dir 0o711))).fs.get
        (["d", "usr", "include", "sub"].map String.toList) = some (.dir 0o755) := by
  decide +kernel

/-- **install_man** (reference manual: "installs to `<mandir>/man<N>`", N the file's extension), no `install_dir`, no
locale: the destination stored in the install data is `<mandir>/man<N>/<file name>` -/
theorem glue_man_rule (manroot fname : Str) (hslash : '/' ∉ lastField '.' fname) (hnum : '{' ∉ lastField '.' fname)
    (hbn : '{' ∉ basename fname) :
    manInstallPath manroot none none fname =
      manroot ++ ('/' :: manStr ++ lastField '.' fname ++ '/' :: basename fname) :=
  man_rule manroot fname hslash hnum hbn

/-- the section is the text after the last dot -/
theorem glue_man_section (b num : Str) (h : '.' ∉ num) : lastField '.' (b ++ '.' :: num) = num :=
  lastField_ext b num h

/-- **install_headers**: `<includedir>[/<subdir>][/<directory of the source> with preserve_path]` (as components) -/
theorem glue_header_rule (incroot : Str) (sd : Option Str) (pres : Bool) (fname : Str)
    (hsd : isAbs (sd.getD []) = false) (hdn : isAbs (dirname fname) = false) :
    pureTail (hdrInstallPath incroot none sd pres fname) =
      pureTail incroot ++ (pureTail (sd.getD []) ++ if pres then pureTail (dirname fname) else []) :=
  header_rule incroot sd pres fname hsd hdn

/-- **install_data**: `<install_dir>[/<directory of the source> with preserve_path]/<rename, else the basename>` -/
theorem glue_data_rule (installDir : Str) (rename : Option Str) (pres : Bool) (fname : Str)
    (hdn : isAbs (dirname fname) = false) (hren : isAbs (rename.getD (basename fname)) = false) :
    pureTail (dataInstallPath installDir rename pres fname) =
      pureTail installDir ++ (if pres then pureTail (dirname fname) else []) ++
        pureTail (rename.getD (basename fname)) :=
  data_rule installDir rename pres fname hdn hren

/-- **install_subdir**: `<prefix>/<install_dir>`, plus the directory's own name unless `strip_directory` -/
theorem glue_subdir_rule (pfx installDir srcDir : Str) (strip : Bool) (hd : isAbs installDir = false) :
    pureTail (subdirInstallPath pfx installDir srcDir strip) =
      pureTail pfx ++ pureTail installDir ++ (if strip then [] else pureTail (basename srcDir)) :=
  subdir_rule pfx installDir srcDir strip hd

/-- **install_symlink**: `<install_dir>/<name>` -/
theorem glue_symlink_rule (installDir name : Str) (hn : isAbs name = false) :
    pureTail (symlinkName installDir name) = pureTail installDir ++ pureTail name :=
  symlink_rule installDir name hn

/-- the glue on concrete inputs: section from the extension, locale directory and locale stripped from the name,
custom install dir, header sub-directories, rename -/
example :
    manInstallPath "share/man".toList none none "docs/foo bar.1".toList = "share/man/man1/foo bar.1".toList ∧
    manInstallPath "share/man".toList none (some "fr".toList) "foo.fr.8".toList = "share/man/fr/man8/foo.8".toList ∧
    manInstallPath "share/man".toList (some "opt/m".toList) none "a.3".toList = "opt/m/a.3".toList ∧
    hdrInstallPath "include".toList none (some "proj".toList) true "api/v1/x.h".toList = "include/proj/api/v1".toList ∧
    dataInstallPath "share/p".toList (some "r/n.txt".toList) false "d/a.txt".toList = "share/p/r/n.txt".toList ∧
    subdirInstallPath "/usr".toList "include".toList "/src/tree".toList true = "/usr/include".toList ∧
    subdirInstallPath "/usr".toList "include".toList "/src/tree".toList false = "/usr/include/tree".toList := by
  decide +kernel

def demoPlan : Plan :=
  { buildDir := "/b".toList, pfx := "/usr".toList, umask := some 0o022,
    subdirs := [], targets := [], man := [], emptydirs := [{ path := "var/e".toList, mode := none, subproject := [], tag := none }],
    headers := [{ path := "/s/a.h".toList, src := .file 0o600 7 3, installPath := "include".toList, mode := none,
                  subproject := [], tag := none, follow := none }],
    data := [{ path := "/s/t".toList, src := .file 0o755 9 4, installPath := "/opt/t o/t".toList,
               mode := some { perms := some 0o750, chown := false }, subproject := [], tag := none, follow := none }],
    symlinks := [{ target := "t".toList, name := "/opt/t o/l".toList, installPath := "/opt/t o".toList,
                   subproject := [], tag := none }] }

def demoOpts : Opts :=
  { destdir := some "/d".toList, dryRun := false, onlyChanged := false, tags := none, skipSubprojects := [], ambientUmask := 0o022 }

def demoFs : FS := [(["d"].map String.toList, .dir 0o755)]

def sameTree (a b : FS) (keys : List Key) : Bool := keys.all (fun k => a.get k == b.get k)

def demoKeys : List Key :=
  (install demoPlan demoOpts demoFs).written ++ [["d"].map String.toList]

/-- install, then uninstall, on a fresh DESTDIR gives the initial tree back; installing twice gives the tree
of installing once; nothing outside `/d` is touched -/
example :
    (install demoPlan demoOpts demoFs).err = none ∧
    sameTree (uninstall demoPlan.buildDir (install demoPlan demoOpts demoFs).log (install demoPlan demoOpts demoFs).fs)
      demoFs demoKeys = true ∧
    sameTree (install demoPlan demoOpts (install demoPlan demoOpts demoFs).fs).fs
      (install demoPlan demoOpts demoFs).fs demoKeys = true ∧
    (install demoPlan demoOpts demoFs).written.all (fun k => (["d"].map String.toList).isPrefixOf k) = true := by
  decide +kernel

/-- the hypotheses of `exact_with_symlinks_partial` are satisfiable (`demoPlan`: header, data, empty directory and a
symlink next to the data file), and the link is there with its target text -/
example :
    PlanOK demoPlan ∧ LinkFree { demoPlan with symlinks := [] } ∧ TargetsAreFiles demoPlan ∧
    (∀ e ∈ demoPlan.symlinks, SymOK (mkCfg demoPlan demoOpts) (symKeys (mkCfg demoPlan demoOpts) demoPlan) e) ∧
    (ruleKeys (mkCfg demoPlan demoOpts) demoPlan ++ symKeys (mkCfg demoPlan demoOpts) demoPlan).Nodup ∧
    (install demoPlan demoOpts demoFs).err = none ∧
    (install demoPlan demoOpts demoFs).fs.get (["d", "opt", "t o", "l"].map String.toList) = some (.link "t".toList) := by
  decide +kernel

end MesonModel.Props.C11
