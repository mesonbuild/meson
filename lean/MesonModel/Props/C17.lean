import MesonModel.Rewrite.SpliceLemmas
import MesonModel.Rewrite.StrLitLemmas
import MesonModel.Rewrite.Parse
import MesonModel.Rewrite.Compare
import MesonModel.Rewrite.ListEdit
import MesonModel.Rewrite.PathMatch
import MesonModel.Rewrite.Script
import MesonModel.Rewrite.ParenTableLemmas
import MesonModel.Rewrite.CommandLemmas
import MesonModel.Rewrite.SrcCommandLemmas
/-
C17 — rewriter edits are local and keep everything else meaning the same.

* splice: `apply_changes` applies its work list last-edit-first with the offsets of the ORIGINAL file; for edits sorted
  descending and disjoint that is the simultaneous replacement (`splice_local`). The offsets agree with the lexer's line
  numbering exactly when LF is the file's only line separator (`lineOffsets_agree_partial`).
* escape: `'` ++ escape v ++ `'` is read back as `v` for every `v` provided the regenerated `escape_trans` table is
  well-formed (`escape_roundtrip_of_table`); it is since /repo fbd2b8c (`escape_table_live`, re-decided on every run).
  Before that repair the table mapped the quote to itself: the conditional `escape_roundtrip_counterexample` /
  `escape_roundtrip_partial` describe that state and become the operative ones if the entry regresses.
* printer: no print/parse proof over all trees, but the full operator table (every operand position × every operand
  shape): operands written in parentheses are always read back (`written_parens_read_back`, /repo b64ff56); operands
  without a `ParenthesizedNode` exactly when `needsParens → emitsParens` (`paren_table_exact`).
-/
namespace MesonModel.Props.C17
open MesonModel.Rewrite MesonModel.Generated

/-- last-edit-first application of a descending, disjoint, in-range work list = simultaneous replacement:
every untouched segment of the original text is in the result verbatim and in order -/
theorem splice_local (raw : List Char) (edits : List SpanEdit) (hd : DescDisjoint edits)
    (hr : ∀ x ∈ edits, x.2.1 ≤ raw.length) : applySpans raw edits = simul raw edits :=
  applySpans_eq_simul edits raw hd hr

theorem splice_local_prefix (raw : List Char) (edits : List SpanEdit) (hd : DescDisjoint edits)
    (hr : ∀ x ∈ edits, x.2.1 ≤ raw.length) (p : Nat) (hp : p ≤ raw.length) (hb : ∀ x ∈ edits, p ≤ x.1) :
    (applySpans raw edits).take p = raw.take p := by
  rw [splice_local raw edits hd hr]
  exact simul_prefix edits raw p hp hb

theorem splice_local_suffix (raw : List Char) (s e : Nat) (r : List Char) (rest : List SpanEdit)
    (hd : DescDisjoint ((s, e, r) :: rest)) (hr : ∀ x ∈ (s, e, r) :: rest, x.2.1 ≤ raw.length) :
    ∃ pre, applySpans raw ((s, e, r) :: rest) = pre ++ raw.drop e := by
  rw [splice_local raw _ hd hr]
  exact simul_suffix raw s e r rest

theorem splice_local_gap (raw : List Char) (s1 e1 s2 e2 : Nat) (r1 r2 : List Char) (rest : List SpanEdit)
    (hd : DescDisjoint ((s1, e1, r1) :: (s2, e2, r2) :: rest))
    (hr : ∀ x ∈ (s1, e1, r1) :: (s2, e2, r2) :: rest, x.2.1 ≤ raw.length) :
    ∃ pre, applySpans raw ((s1, e1, r1) :: (s2, e2, r2) :: rest)
      = pre ++ r2 ++ (raw.take s1).drop e2 ++ r1 ++ raw.drop e1 := by
  rw [splice_local raw _ hd hr]
  exact ⟨simul ((raw.take s1).take s2) rest, by simp [simul, List.append_assoc]⟩

example : DescDisjoint [(8, 10, ['x']), (2, 5, [])] := by simp [DescDisjoint]
example : applySpans "0123456789ab".toList [(8, 10, ['x']), (2, 5, [])] = "01567xab".toList := by decide +kernel

/-- two disjoint edits: later-one-first with the original offsets = earlier-one-first with the later one
shifted by the length change (both are the simultaneous replacement) -/
theorem edits_commute_when_sorted_desc (A B C D E r1 r2 : List Char) :
    splice (splice (A ++ B ++ C ++ D ++ E) (A.length + B.length + C.length)
        (A.length + B.length + C.length + D.length) r1) A.length (A.length + B.length) r2
    = splice (splice (A ++ B ++ C ++ D ++ E) A.length (A.length + B.length) r2)
        (A.length + r2.length + C.length) (A.length + r2.length + C.length + D.length) r1 := by
  obtain ⟨h1, h2⟩ := two_edits_commute A B C D E r1 r2
  rw [h1, h2]

theorem sortDesc_length (ws : List Work) : (sortDesc ws).length = ws.length :=
  (sortDescBy_perm keyLt ws).length_eq

/-- the sort key the real `apply_changes` uses (probed per run, `Generated.PrecTable`) is (line, column) -/
theorem sortKey_live : keyLt = keyLtWith true true := by
  funext a b
  simp [keyLt, PrecTable.sortKeyUsesLine, PrecTable.sortKeyUsesColumn]

/-- with that key no edit is followed by one that lies later in the file (on another line OR further right on the same
line) — the order `splice_local` needs -/
theorem sortDesc_is_descending (ws : List Work) :
    (sortDesc ws).Pairwise (fun a b => ¬ posLt a b) := by
  unfold sortDesc
  rw [sortKey_live]
  exact sortDescBy_sorted ws

theorem sortDesc_is_strictly_descending (ws : List Work)
    (distinct : (sortDesc ws).Pairwise (fun a b => ¬ (a.span.line = b.span.line ∧ a.span.col = b.span.col))) :
    (sortDesc ws).Pairwise (fun a b => posLt b a) := by
  have h := sortDesc_is_descending ws
  have hb := List.Pairwise.and h distinct
  exact hb.imp (by
    intro a b hab
    obtain ⟨h1, h2⟩ := hab
    unfold posLt at h1 ⊢
    omega)

def mkWork (line col : Nat) : Work := ⟨.modify, ⟨line, col, line, col + 3⟩, .arrOrFunc, .empty⟩

/-- a LINE-ONLY key is not enough: two edits on one line stay in queue order (stable sort), the left one is applied
first and the right one then uses an offset that is no longer valid -/
theorem sortDesc_line_only_counterexample :
    (sortDescBy (keyLtWith true false) [mkWork 2 26, mkWork 2 47]).map (·.span.col) = [26, 47] ∧
    (sortDescBy (keyLtWith true true) [mkWork 2 26, mkWork 2 47]).map (·.span.col) = [47, 26] := by decide +kernel

def offsets_full_statement : Prop := ∀ s : List Char, lineOffsets s = lexLineOffsets s

/-- `splitlines(True)` offsets = the lexer's line starts when LF is the only separator in the file -/
theorem lineOffsets_agree_partial (s : List Char) (plain : ∀ c ∈ s, isLineSep c = true → c = '\n') :
    lineOffsets s = lexLineOffsets s := lineOffsets_eq_lexLineOffsets s plain

example : ∀ c ∈ "a = 1\nb = 2\n".toList, isLineSep c = true → c = '\n' := by decide +kernel

/-- a form feed inside a comment: `splitlines` starts a line the lexer does not -/
theorem lineOffsets_formfeed_counterexample :
    lineOffsets "#\x0c\nx".toList = [0, 2, 3] ∧ lexLineOffsets "#\x0c\nx".toList = [0, 3] := by decide +kernel

theorem offsets_full_statement_false : ¬ offsets_full_statement := by
  intro h
  have := h "#\x0c\nx".toList
  revert this
  decide +kernel

/-- the text `visit_StringNode` writes for a plain string with value `v` -/
def printedLiteral (tbl : List (Char × List Char)) (v : List Char) : List Char := '\'' :: (escapeWith tbl v ++ ['\''])

theorem astPrint_str (v : List Char) :
    astPrint (.str 0 v false false) = printedLiteral PrecTable.escapeTrans v := by
  simp [astPrint, pr, PS.init, PS.append, printedLiteral, escape, escapeWith]

def escape_full_statement : Prop := ∀ v, lexString (printedLiteral PrecTable.escapeTrans v) = some v

/-- for EVERY value, given a well-formed translate table (`tableOk`, decided on the regenerated table below) -/
theorem escape_roundtrip_of_table (tbl : List (Char × List Char)) (h : tableOk tbl = true) (v : List Char) :
    lexString (printedLiteral tbl v) = some v := by
  simp only [printedLiteral, escapeWith_eq_units_of_ok h v]
  exact lexString_units v

theorem escape_roundtrip (h : tableOk PrecTable.escapeTrans = true) : escape_full_statement :=
  fun v => escape_roundtrip_of_table _ h v

/-- the regenerated `escape_trans` is well-formed (re-decided on every run; false before /repo fbd2b8c) -/
theorem escape_table_live : tableOk PrecTable.escapeTrans = true := by decide +kernel

/-- `escape_roundtrip` is not vacuous -/
example : tableOk PrecTable.escapeTrans = true := escape_table_live

/-- every string value, re-printed by `AstPrinter`, is read back unchanged -/
theorem escape_roundtrip_live : escape_full_statement := escape_roundtrip escape_table_live

example : lexString (printedLiteral PrecTable.escapeTrans ['i', 't', '\'', 's', '\\']) = some ['i', 't', '\'', 's', '\\'] :=
  escape_roundtrip_live _

/-- non-vacuity: the table with the quote entry written as backslash-quote is well-formed -/
example : tableOk [('\'', ['\\', '\'']), ('\\', ['\\', '\\'])] = true := by decide +kernel

/-- on the live table: either it is well-formed, or a lone quote is a counterexample -/
theorem escape_roundtrip_counterexample :
    tableOk PrecTable.escapeTrans = false → lexString (printedLiteral PrecTable.escapeTrans ['\'']) ≠ some ['\''] := by
  decide +kernel

theorem escape_table_pinned : tableOk PrecTable.escapeTrans = false ∨ tableOk PrecTable.escapeTrans = true := by
  cases tableOk PrecTable.escapeTrans <;> simp

/-- values WITHOUT a quote need only the backslash entry of the table -/
theorem escape_roundtrip_partial (v : List Char) (hv : '\'' ∉ v) :
    lexString (printedLiteral PrecTable.escapeTrans v) = some v := by
  have hb : tableBsOk PrecTable.escapeTrans = true := by decide +kernel
  simp only [printedLiteral, escapeWith_eq_units_of_bsOk hb v hv]
  exact lexString_units v

example : '\'' ∉ "C:\\dir\\f".toList := by decide +kernel

/-- `removeHelper` is the loop of `_remove_helper` as coded -/
theorem remove_keeps_unmatched_in_order {α : Type} (hit : α → Bool) (l : List α) :
    removeHelper hit l = l.filter (fun i => !hit i) := removeHelper_eq_filter hit l

/-- for an entry `k' = v`, being hit by the patterns `<key>=.*` of `default-options set/delete` means that its
key IS one of the requested keys (not a key that merely ends with, starts with or contains one) -/
theorem defaultOptions_hit_iff_own_key (keys : List (List Char)) (k' v : List Char)
    (hkeys : ∀ k ∈ keys, '=' ∉ k) (hk' : '=' ∉ k') :
    keys.any (fun k => keyMatches k (k' ++ '=' :: v)) = keys.contains k' := by
  induction keys with
  | nil => rfl
  | cons k t ih =>
    rw [List.any_cons, List.contains_cons, keyMatches_entry k k' v (hkeys k List.mem_cons_self) hk',
      ih (fun x hx => hkeys x (List.mem_cons_of_mem k hx))]

theorem defaultOptions_delete_is_filter (keys l : List (List Char)) :
    defaultOptionsDelete keys l = l.filter (fun e => !(keys.any (fun k => keyMatches k e))) :=
  removeHelper_eq_filter _ l

theorem defaultOptions_keeps_entry_without_equals (keys : List (List Char)) (e : List Char) (he : '=' ∉ e) :
    keys.any (fun k => keyMatches k e) = false := by
  induction keys with
  | nil => rfl
  | cons k t ih => simp [List.any_cons, keyMatches_no_equals k e he, ih]

theorem defaultOptions_set_shape (kvs : List (List Char × List Char)) (l : List (List Char)) :
    defaultOptionsSet kvs l
      = l.filter (fun e => !((kvs.map (·.1)).any (fun k => keyMatches k e))) ++ kvs.map (fun kv => kv.1 ++ '=' :: kv.2) := by
  simp [defaultOptionsSet, defaultOptions_delete_is_filter]

example : defaultOptionsDelete ["debug".toList] ["b_ndebug=if-release".toList, "debug=true".toList, "c_args=-Ddebug=1".toList,
    "sub:debug=true".toList, "debug".toList] = ["b_ndebug=if-release".toList, "c_args=-Ddebug=1".toList, "sub:debug=true".toList, "debug".toList] := by
  -- the kernel decodes long string literals slowly: hand it the character lists
  conv in (occs := *) String.toList "b_ndebug=if-release" => all_goals rw [String.toList_ofList]
  conv in (occs := *) String.toList "c_args=-Ddebug=1" => all_goals rw [String.toList_ofList]
  conv in (occs := *) String.toList "sub:debug=true" => all_goals rw [String.toList_ofList]
  decide +kernel

/-- a script (`meson rewrite command '[c1, c2, …]'`) ends in the same files, and fails at the same command, as one
`meson rewrite` invocation per command — because `run()` re-analyses the files it has just written before the next
command, whatever that command did -/
theorem script_eq_separate_invocations {σ ι κ : Type} (analyze : σ → ι) (step : ι → κ → σ → Option σ)
    (s : σ) (cmds : List κ) : runScript analyze step s cmds = runSeparate analyze step s cmds :=
  runLoop_eq_separate analyze step cmds s

/-- without the re-analysis after an appending command the equality fails: `[target_add 1, use 1]` aborts with the
target unknown (the file already holds it), and `[target_add 1, target_add 1]` is no longer refused -/
theorem script_without_reanalysis_counterexample :
    runSeparate id toyStep [] [.add 1, .use 1] = ([1], true) ∧
    runLoopStale id toyStep toySkip [] [] [.add 1, .use 1] = ([1], false) ∧
    runSeparate id toyStep [] [.add 1, .add 1] = ([1], false) ∧
    runLoopStale id toyStep toySkip [] [] [.add 1, .add 1] = ([1, 1], true) := by decide +kernel

example : runScript id toyStep [] [.add 1, .use 1, .add 1] = ([1], false) := by decide +kernel

/-- `relto`: the directory the list's strings are relative to; `root`: the source root the request is read from -/
theorem find_node_string_matches_iff (relto s root req : List Char) :
    stringMatches relto s root req = true ↔ normpath (joinPath relto s) = normpath (joinPath root req) := by
  simp [stringMatches]

/-- `find_node` can only return positions whose string satisfies that equation, and every such position is offered -/
theorem candMatches_iff (root req : List Char) (c : Cand) (j : Nat) :
    j ∈ candMatches root req c ↔ ∃ s, c.strings[j]? = some s ∧ normpath (joinPath c.relto s) = normpath (joinPath root req) := by
  simp only [candMatches, List.mem_filterMap, Prod.exists, List.mem_zipIdx_iff_getElem?, ← find_node_string_matches_iff]
  constructor
  · rintro ⟨s, k, hk, h⟩
    by_cases hm : stringMatches c.relto s root req = true
    · rw [if_pos hm] at h
      cases h
      exact ⟨s, hk, hm⟩
    · rw [if_neg hm] at h
      cases h
  · rintro ⟨s, hs, hm⟩
    exact ⟨s, j, hs, by rw [if_pos hm]⟩

/-- the same basename in another directory is not taken; `../` and `./` are seen through -/
example : stringMatches "/r/lib".toList "util.c".toList "/r".toList "lib/util.c".toList = true ∧
    stringMatches "/r".toList "util.c".toList "/r".toList "lib/util.c".toList = false ∧
    stringMatches "/r/app".toList "../lib/./util.c".toList "/r".toList "lib/util.c".toList = true := by
  conv in String.toList "../lib/./util.c" => rw [String.toList_ofList]
  conv in (occs := *) String.toList "lib/util.c" => all_goals rw [String.toList_ofList]
  decide +kernel

def roundtripB (e : Expr) : Bool :=
  match parseText (astPrint e) with
  | some p => p.erase == e.erase
  | none => false

def roundtrip (e : Expr) : Prop := roundtripB e = true

instance (e : Expr) : Decidable (roundtrip e) := inferInstanceAs (Decidable (roundtripB e = true))

def astPrint_full_statement : Prop := ∀ e : Expr, e.opsKnown = true → roundtrip e

def idx (c : Char) : Expr := .id 0 [c]

/-- Since /repo b64ff56 a `ParenthesizedNode` prints its parentheses; the counterexamples from before that commit
(`not (a and b)`, `(a or b) and c`, `(a + b).m()`, `-(-x)`) round-trip. -/
theorem astPrint_written_parens_samples :
    roundtrip (.not 0 (.paren 0 (.and 0 (idx 'a') (idx 'b')))) ∧
    roundtrip (.and 0 (.paren 0 (.or 0 (idx 'a') (idx 'b'))) (idx 'c')) ∧
    roundtrip (.method 0 (.paren 0 (.arith 0 ['+'] ['+'] (idx 'a') (idx 'b'))) ['m'] 0 .nil) ∧
    roundtrip (.uminus 0 (.paren 0 (.uminus 0 (idx 'x')))) := by decide +kernel

/-- the whole operator table with the operand WRITTEN in parentheses: every position (either side of every binary
operator, operand of `not` / unary minus / method call / index, condition of a ternary) × every operand shape -/
theorem written_parens_read_back :
    ∀ s ∈ Slot.all, ∀ i ∈ Inner.all, readsBack (s.place (.paren 0 i.tree)) = true := by decide +kernel

/-- operands NOT written in parentheses, where the printer emits none either: read back exactly when the grammar needs none -/
theorem bare_operand_table :
    ∀ s ∈ Slot.all, ∀ i ∈ Inner.all, emitsParens s i = false → readsBack (s.place i.tree) = !needsParens s i := by
  decide +kernel

/-- the whole table for operands NOT written in parentheses (nodes the rewriter builds itself): read back exactly when
the parentheses the grammar needs (`needsParens`, from the precedence table and the associativity of `Parser.e1 … e9`)
are among those `maybe_parentheses` emits (`emitsParens`, the model of the live rule) -/
theorem paren_table_exact :
    ∀ s ∈ Slot.all, ∀ i ∈ Inner.all,
      readsBack (s.place i.tree) = (!needsParens s i || emitsParens s i) := by
  intro s hs i hi
  cases he : emitsParens s i with
  | true => rw [readsBack_of_emitsParens s i he, written_parens_read_back s hs i hi, Bool.or_true]
  | false => rw [bare_operand_table s hs i hi he, Bool.or_false]

theorem no_superfluous_parens : ∀ s ∈ Slot.all, ∀ i ∈ Inner.all, emitsParens s i = true → needsParens s i = true := by
  decide +kernel

/-- operands of an ArithmeticNode — the only place the rewriter itself builds operator nodes — where the rule leaves the
needed parentheses out: `a + (b + c)`, `a + (b - c)`, `a * (b * c)` (same value re-associated) and `a * (b / c)`,
`a * (b % c)` (DIFFERENT value: recorded findings `printer:parens:*:/:right`, `printer:parens:*:%:right`) -/
theorem arithmetic_missing_parens :
    missingParens.filter (fun p => match p.1 with | .left o | .right o => o.isArith | _ => false)
      = [(.right .add, .bin .add), (.right .add, .bin .sub), (.right .mul, .bin .mul), (.right .mul, .bin .div),
         (.right .mul, .bin .mod)] := by decide +kernel

/-- a string holding a quote is not read back while the table maps the quote to itself (state before fbd2b8c) -/
theorem astPrint_quote_counterexample :
    tableOk PrecTable.escapeTrans = false → ¬ roundtrip (.str 0 ['i', 't', '\'', 's'] false false) := by decide +kernel

theorem astPrint_quote_roundtrip_live : roundtrip (.str 0 ['i', 't', '\'', 's'] false false) := by decide +kernel

/-- the print/parse statement over ALL trees is false: a tree that needs parentheses but carries no `ParenthesizedNode`
(the parser never builds one; only code constructing nodes can) under a non-arithmetic operator is printed without them -/
theorem astPrint_full_statement_false : ¬ astPrint_full_statement := by
  intro hall
  have h : roundtrip (.not 0 (.and 0 (idx 'a') (idx 'b'))) := hall _ (by decide +kernel)
  revert h
  decide +kernel

theorem astPrint_roundtrip_samples :
    roundtrip (.arith 0 ['*'] ['*'] (.paren 0 (.arith 0 ['+'] ['+'] (idx 'a') (idx 'b'))) (.num 0 2)) ∧
    roundtrip (.arith 0 ['-'] ['-'] (idx 'a') (.paren 0 (.arith 0 ['-'] ['-'] (idx 'b') (idx 'c')))) ∧
    roundtrip (.arith 0 ['+'] ['+'] (.paren 0 (.ternary 0 (idx 'x') (idx 'a') (idx 'b'))) (.num 0 1)) ∧
    roundtrip (.call 0 ['f'] 0 (.pos (.str 0 ['a', '\\', 'b'] false false) (.kw (idx 'k') (.bool 0 true) .nil))) ∧
    roundtrip (.arr 0 0 (.pos (.num 0 1) (.pos (.arith 0 ['%'] ['%'] (idx 'n') (.num 0 3)) .nil))) := by decide +kernel

/-! One whole command on the AST + printer model: `kwargs set / delete` on a function call (Rewrite/Command.lean).
`applyKw raw sp node cmd` = `process_kwargs` on the parsed call node followed by `apply_changes`; the real command is
compared with it on every run (driver command `kwcmd`: file text, extents and tree of the addressed call as parsed from the
text BEFORE the command, the command itself → the file the real command wrote).
The letters in the comments from here on name the clauses of the property: (a) the re-printed text is read back as the
edited tree, (b) the addressed keyword or target has exactly the requested value, (c) nothing else changes — in the file and
inside the re-printed statement —, (d) adding what was not there and removing it again restores, (e) removing what was there
and adding it again keeps. -/

/-- (c) on the file text: nothing changes, or exactly the text between the node's extents is replaced by the re-printed node -/
theorem kwargs_command_local (raw : List Char) (sp : Span) (node : Expr) (cmd : KwCmd) (s e : Nat)
    (hs : startOf (lineOffsets raw) sp = .ok s) (he : endOf (lineOffsets raw) sp = .ok e) :
    (editCall cmd node = none ∧ applyKw raw sp node cmd = .ok raw) ∨
    ∃ n', editCall cmd node = some n' ∧ applyKw raw sp node cmd = .ok (raw.take s ++ newData n' ++ raw.drop e) :=
  modify_local raw sp s e hs he (editCall cmd node)

/-- (c) inside the re-printed statement: same function, same levels, the positional arguments untouched and in order, the
keyword arguments exactly the edited dictionary (in dictionary order), and every keyword the command does not name keeps
the value it had -/
theorem kwargs_command_keeps_other_arguments (cmd : KwCmd) (l : Nat) (fn : List Char) (al : Nat) (items : Items) (n' : Expr)
    (h : editCall cmd (.call l fn al items) = some n') :
    n' = .call l fn al (rebuild items (editedDict cmd items)) ∧
    (rebuild items (editedDict cmd items)).posPart = items.posPart ∧
    (rebuild items (editedDict cmd items)).kwPart = (editedDict cmd items).map (fun p => (Expr.id p.2.lvl p.1, p.2)) ∧
    ∀ k', (∀ kv ∈ cmd.kvs, kv.1 ≠ k') → dictGet (editedDict cmd items) k' = items.kwValue k' := by
  refine ⟨?_, rebuild_posPart _ _, rebuild_kwPart _ _, ?_⟩
  · simp only [editCall] at h
    split at h
    · exact absurd h (by simp)
    · simpa [editedDict] using h.symm
  · intro k' hk
    unfold editedDict Items.kwValue
    exact editDict_other cmd.delete k' _ _ _ (fun kv hkv => hk kv ((mem_sortKvs kv cmd.kvs).mp hkv))

/-- (b) `kwargs set <key> <value>`: the node is queued for re-printing and the addressed keyword has EXACTLY the node built
from the requested value — no escaping or decoding happens on the way -/
theorem kwargs_set_has_requested_value (l : Nat) (fn : List Char) (al : Nat) (items : Items) (k : List Char) (v : NewVal) :
    (editCall ⟨false, [(k, v)]⟩ (.call l fn al items)).isSome = true ∧
    dictGet (editedDict ⟨false, [(k, v)]⟩ items) k = some v.node := by
  constructor
  · simp [editCall, sortKvs, insertKv, editDict]
  · simp [editedDict, sortKvs, insertKv, editDict, dictGet_dictSet]

theorem kwargs_delete_removes_key (items : Items) (k : List Char) (v : NewVal) :
    dictGet (editedDict ⟨true, [(k, v)]⟩ items) k = none := by
  unfold editedDict
  simp only [sortKvs, insertKv, editDict]
  cases h : dictHas (kwDictOf items) k with
  | true => simp [dictGet_dictDel]
  | false => simpa [dictHas_eq] using h

/-- (d) setting a keyword the call does not have and deleting it again restores the keyword dictionary, entry for entry and
in order (the `1`: the delete changes an entry, so it queues the node) -/
theorem kwargs_set_then_delete_restores (d : KwDict) (k : List Char) (v v' : NewVal) (hnew : dictHas d k = false) :
    editDict true [(k, v')] (editDict false [(k, v)] d 0).1 0 = (d, 1) := by
  simp [editDict, dictHas_eq, dictGet_dictSet, dictDel_dictSet_new d k v.node hnew]

example : dictHas (kwDictOf (.pos (.str 0 ['t'] false false) (.kw (.id 0 ['i']) (.bool 0 true) .nil))) ['k'] = false := by decide +kernel

/-- (a), the part that depends on the VALUE: the text written for an introduced string value is one string token whose
value is the requested one, for every value (quotes, backslashes, anything) -/
theorem introduced_string_read_back (v : List Char) : lexString (astPrint (NewVal.str v).node) = some v := by
  show lexString (astPrint (.str 0 v false false)) = some v
  rw [astPrint_str]
  exact escape_roundtrip_live v

/-- the statement a `kwargs set` re-prints is read back (own reader) as the edited tree -/
def kwSetReadsBack (items : Items) (k : List Char) (v : NewVal) : Bool :=
  match editCall ⟨false, [(k, v)]⟩ (.call 0 ['f'] 0 items) with
  | some n' =>
    match parseText (newData n') with
    | some p => p.erase == n'.erase
    | none => false
  | none => false

def literalOnly : Items → Bool
  | .nil => true
  | .pos (.str _ v false false) r => !v.contains '\n' && literalOnly r
  | .kw (.id _ n) (.str _ v false false) r => !n.isEmpty && n.all isIdChar && !v.contains '\n' && literalOnly r
  | .kw (.id _ n) (.bool _ _) r => !n.isEmpty && n.all isIdChar && literalOnly r
  | _ => false

/-- (a) at full strength for the literal fragment — NOT proved for all items (it needs an induction through `lexText` and
`pE1 … pArgs` with their fuel); checked on the samples below and per run (`kwcmd`, `parse-printed` streams) -/
def kwargs_set_parses_full_statement : Prop :=
  ∀ (items : Items) (k v : List Char), literalOnly items = true → k.all isIdChar = true → (k.head?.map isIdStart) = some true →
    keywords.contains k = false → v.contains '\n' = false → kwSetReadsBack items k (.str v) = true

def sampleItems : Items :=
  .pos (.str 0 ['t', '0'] false false) (.pos (.str 0 ['a', '\'', '\\'] false false)
    (.kw (.id 0 ['i', 'n', 's', 't', 'a', 'l', 'l']) (.bool 0 false) (.kw (.id 0 ['d']) (.str 0 ['x'] false false) .nil)))

def hostileSamples : List (List Char) :=
  ["it's".toList, "'".toList, "''".toList, "\\".toList, "C:/dir\\".toList, "a\\nb".toList, "\\'".toList, "a\\\\b".toList,
   "é中".toList, "@0@".toList, " lead".toList, "trail ".toList, "a\tb".toList, "say \"hi\"".toList, "a#b".toList, "".toList]

/-- (a) + (b) on the text, for hostile values × (existing key replaced / new key appended / key on a call without keywords) -/
theorem kwargs_set_parses_partial :
    ∀ v ∈ hostileSamples,
      kwSetReadsBack sampleItems ['d'] (.str v) = true ∧ kwSetReadsBack sampleItems ['n', 'e', 'w'] (.str v) = true ∧
      kwSetReadsBack (.pos (.str 0 v false false) .nil) ['k'] (.strList [v, v]) = true := by decide +kernel

/-! `target <t> add / rm` of source files and extra files (Rewrite/SrcCommand.lean).
`applySrc` = `add_src_or_extra` / `rm_src_or_extra` on the list node the rewriter works on + the "Sort files" step of
`process_target` (with `pathname_sort_key`) + `apply_changes`; every real command of the single-directory families is
compared with it byte for byte (driver command `srccmd`). The theorems speak about the literal-list case: a list node
(`ArrayNode` / `files(...)`) whose positional arguments are all string literals. -/

theorem src_command_local (raw : List Char) (sp : Span) (node : Expr) (root : List Char) (kind : ListKind)
    (oldT : List (List Char)) (cmd : SrcCmd) (s e : Nat)
    (hs : startOf (lineOffsets raw) sp = .ok s) (he : endOf (lineOffsets raw) sp = .ok e) :
    (editSrc root kind oldT cmd node = none ∧ applySrc raw sp node root kind oldT cmd = .ok raw) ∨
    ∃ n', editSrc root kind oldT cmd node = some n' ∧
      applySrc raw sp node root kind oldT cmd = .ok (raw.take s ++ newData n' ++ raw.drop e) :=
  modify_local raw sp s e hs he (editSrc root kind oldT cmd node)

/-- `add`: the list is queued; afterwards it holds exactly the old literals and one new literal `normpath f` for every requested
file that was not yet a file of the target (source set = old ∪ new), sorted; keyword arguments untouched -/
theorem src_add_result (root : List Char) (oldT files : List (List Char)) (items : Items)
    (h : ∀ e ∈ items.posPart, e.isStr = true) :
    ∃ items', editArgs root .plain oldT ⟨false, files⟩ items = some items' ∧
      items'.posPart = sortBy srcLt (items.posPart ++ toAppend root oldT files) ∧ items'.kwPart = items.kwPart ∧
      ∀ e, e ∈ items'.posPart ↔
        (e ∈ items.posPart ∨ ∃ f ∈ files, alreadyThere root oldT f = false ∧ e = .str 0 (normpath f) false false) := by
  have hall : ∀ e ∈ items.posPart ++ toAppend root oldT files, e.isStr = true := by
    intro e he
    rcases List.mem_append.mp he with h1 | h1
    · exact h e h1
    · exact toAppend_isStr root oldT files e h1
  refine ⟨_, editArgs_add_plain root oldT files items, posPart_relist_sorted _ _ hall, kwPart_relist _ _, ?_⟩
  intro e
  rw [posPart_relist_sorted _ _ hall, mem_sortBy, List.mem_append, mem_toAppend]

theorem src_add_literals_read_back (root : List Char) (oldT files : List (List Char)) :
    ∀ e ∈ toAppend root oldT files, lexString (astPrint e) = some e.strVal := by
  intro e he
  obtain ⟨f, _, _, h⟩ := (mem_toAppend root oldT files e).mp he
  rw [h]
  exact introduced_string_read_back (normpath f)

/-- `rm`: keyword arguments untouched, and old \ removed ⊆ new source set ⊆ old -/
theorem src_rm_result (root : List Char) (oldT files : List (List Char)) (items items' : Items)
    (h : ∀ e ∈ items.posPart, e.isStr = true)
    (he : editArgs root .plain oldT ⟨true, files⟩ items = some items') :
    items'.kwPart = items.kwPart ∧ (∀ e, e ∈ items'.posPart → e ∈ items.posPart) ∧
    (∀ e ∈ items.posPart, (∀ f ∈ files, srcMatches root f e = false) → e ∈ items'.posPart) := by
  have hi : items' = (itemsOfList (sortArgs false (rmAll root files items.posPart 0).1)).append items.kwOnly := by
    rw [editArgs_rm_plain] at he
    split at he
    · exact absurd he (by simp)
    · exact (Option.some.inj he).symm
  -- the sort step only reorders what the removal left
  have hp : items'.posPart.Perm (rmAll root files items.posPart 0).1 := by
    rw [hi, posPart_relist]
    exact sortArgs_perm _
  exact ⟨by rw [hi, kwPart_relist], fun e hm => rmAll_subset root files _ 0 e (hp.mem_iff.mp hm),
    fun e hm hno => hp.mem_iff.mpr (rmAll_keeps root files _ 0 e hm hno)⟩

/-- (d) adding a file the list does not hold and removing it again: both commands queue the node, and the list afterwards holds
exactly the literals it held before (the original source set), keyword arguments untouched -/
theorem src_add_then_rm_restores (root : List Char) (oldT oldT' : List (List Char)) (f : List Char) (items : Items)
    (h : ∀ e ∈ items.posPart, e.isStr = true)
    (hnew : alreadyThere root oldT f = false) (hno : ∀ e ∈ items.posPart, srcMatches root f e = false)
    (hself : stringMatches root (normpath f) root f = true) :
    ∃ items1 items2, editArgs root .plain oldT ⟨false, [f]⟩ items = some items1 ∧
      editArgs root .plain oldT' ⟨true, [f]⟩ items1 = some items2 ∧
      items2.kwPart = items.kwPart ∧ ∀ e, e ∈ items2.posPart ↔ e ∈ items.posPart := by
  obtain ⟨items1, h1, hk1, hp1⟩ := editArgs_add_one root oldT f items hnew
  have hpe : srcMatches root f (.str 0 (normpath f) false false) = true := by
    simp [srcMatches, Expr.isStr, Expr.strVal, hself]
  obtain ⟨hany, hperm⟩ := add_then_rm_core (srcMatches root f) hp1 hno hpe
  obtain ⟨items2, h2, hk2, hp2⟩ := editArgs_rm_one root oldT' f items1 hany
  exact ⟨items1, items2, h1, h2, hk2.trans hk1, fun e => (hp2.trans hperm).mem_iff⟩

/-- (e) removing a file the list holds once and adding it again (the target's files being the list's literals): the removal
takes it out, the addition is not skipped, and the list afterwards names exactly the files it named before -/
theorem src_rm_then_add_keeps (root : List Char) (oldT : List (List Char)) (f : List Char) (items : Items) (e0 : Expr)
    (h : ∀ e ∈ items.posPart, e.isStr = true) (hnd : items.posPart.Nodup) (hin : e0 ∈ items.posPart)
    (hm : srcMatches root f e0 = true) (huniq : ∀ y ∈ items.posPart, srcMatches root f y = true → y = e0)
    (hval : e0.strVal = normpath f) :
    ∃ items1 items2, editArgs root .plain oldT ⟨true, [f]⟩ items = some items1 ∧
      e0 ∉ items1.posPart ∧
      editArgs root .plain (items1.posPart.map Expr.strVal) ⟨false, [f]⟩ items1 = some items2 ∧
      items2.kwPart = items.kwPart ∧
      ∀ v, v ∈ items2.posPart.map Expr.strVal ↔ v ∈ items.posPart.map Expr.strVal := by
  obtain ⟨hnone, hperm⟩ := rm_then_add_core (srcMatches root f) items.posPart e0 hnd hin hm huniq
  obtain ⟨items1, h1, hk1, hp1⟩ := editArgs_rm_one root oldT f items (List.any_eq_true.mpr ⟨e0, hin, hm⟩)
  -- the addition is not skipped: no literal left matches `f`
  have hskip : alreadyThere root (items1.posPart.map Expr.strVal) f = false := by
    rw [alreadyThere_eq_any root f _ fun e he => h e (List.mem_of_mem_eraseP (hp1.mem_iff.mp he))]
    exact List.any_eq_false.mpr fun y hy => by simp [hnone y (hp1.mem_iff.mp hy)]
  obtain ⟨items2, h2, hk2, hp2⟩ := editArgs_add_one root _ f items1 hskip
  refine ⟨items1, items2, h1, fun he => ?_, h2, hk2.trans hk1, fun v => List.Perm.mem_iff ?_⟩
  · have := hnone e0 (hp1.mem_iff.mp he)
    rw [hm] at this
    cases this
  · -- both lists are the literals left by the removal plus one literal with the value `normpath f`
    have a := (hp2.trans (hp1.append_right _)).map Expr.strVal
    have b := hperm.map Expr.strVal
    rw [List.map_append, List.map_singleton] at a b
    rw [hval] at b
    exact a.trans b

/-- the hypotheses of (d) and (e) are satisfiable (`['a.c', 'b.c']`, file `n.c` resp. `a.c`) -/
example : alreadyThere ['/', 'r'] [['a', '.', 'c'], ['b', '.', 'c']] ['n', '.', 'c'] = false ∧
    stringMatches ['/', 'r'] (normpath ['n', '.', 'c']) ['/', 'r'] ['n', '.', 'c'] = true ∧
    srcMatches ['/', 'r'] ['n', '.', 'c'] (.str 1 ['a', '.', 'c'] false false) = false ∧
    srcMatches ['/', 'r'] ['a', '.', 'c'] (.str 1 ['a', '.', 'c'] false false) = true ∧
    (Expr.str 1 ['a', '.', 'c'] false false).strVal = normpath ['a', '.', 'c'] := by decide +kernel

/-- the sort step on a concrete list: directories before files, numbers by value, case folded (`pathname_sort_key`) -/
example : (sortBy srcLt [.str 0 "b.c".toList false false, .str 0 "a10.c".toList false false, .str 0 "sub/z.c".toList false false,
    .str 0 "A2.c".toList false false]).map Expr.strVal = ["sub/z.c".toList, "A2.c".toList, "a10.c".toList, "b.c".toList] := by decide +kernel

end MesonModel.Props.C17
