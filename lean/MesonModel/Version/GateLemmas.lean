import MesonModel.Version.Gate
import MesonModel.Version.RangeLemmas

namespace MesonModel.Version

/-- the log the reference evaluation predicts: each executed probe under the outer range narrowed along its path -/
def render (cur : Range) (ps : GPaths) : GLog := ps.map (fun p => (p.1, narrow cur p.2))

theorem render_append (cur : Range) (a b : GPaths) : render cur (a ++ b) = render cur a ++ render cur b := by
  simp [render]

theorem render_addPath_some (cur r : Range) (ps : GPaths) :
    render cur (addPath (some r) ps) = render (cur.intersect r) ps := by
  simp [render, addPath, narrow, List.map_map, Function.comp_def]

theorem render_addPath_none (cur : Range) (ps : GPaths) : render cur (addPath none ps) = render cur ps := rfl

/-- the model agrees with the reference evaluation: same probes in the same order, each under the outer
range narrowed along its path, and the same way of leaving -/
def Agrees (r : GRes) (cur : Range) (p : GPaths × GSig) : Prop := r.log = render cur p.1 ∧ r.sig = p.2

mutual
  theorem runStmt_spec (s : GStmt) (cur : Range) (tmp : GTmp) :
      Agrees (runStmt s cur tmp) cur (pathsStmt s) := by
    cases s with
    | probe n => simp [Agrees, runStmt, pathsStmt, render, narrow]
    | ifs cs =>
      simp only [runStmt, pathsStmt]
      exact runClauses_spec cs cur tmp
    | exit k => simp [Agrees, runStmt, pathsStmt, render]
    | loop1 body =>
      have h := runBlock_spec body cur tmp
      simp only [runStmt, pathsStmt, Agrees] at h ⊢
      exact ⟨h.1, by rw [h.2]⟩
    | loop2 body =>
      have h1 := runBlock_spec body cur tmp
      simp only [runStmt, pathsStmt, Agrees] at h1 ⊢
      rw [h1.2]
      by_cases hs : (pathsBlock body).2.afterIteration.1 = true
      · simp only [hs, if_true]
        exact ⟨h1.1, trivial⟩
      · simp only [hs]
        have h2 := runBlock_spec body cur (runBlock body cur tmp).tmp
        simp only [Agrees] at h2
        simp only [Bool.false_eq_true, if_false, render_append]
        exact ⟨by rw [h1.1, h2.1], by rw [h2.2]⟩
  theorem runBlock_spec (b : GBlock) (cur : Range) (tmp : GTmp) :
      Agrees (runBlock b cur tmp) cur (pathsBlock b) := by
    cases b with
    | nil => simp [Agrees, runBlock, pathsBlock, render]
    | cons s b =>
      have h1 := runStmt_spec s cur tmp
      simp only [Agrees] at h1
      simp only [runBlock, pathsBlock, Agrees]
      rw [h1.2]
      by_cases hs : (pathsStmt s).2 = GSig.none
      · simp only [hs, if_true]
        have h2 := runBlock_spec b cur (runStmt s cur tmp).tmp
        simp only [Agrees] at h2
        simp only [render_append]
        exact ⟨by rw [h1.1, h2.1], h2.2⟩
      · simp only [hs, if_false]
        exact ⟨h1.1, h1.2⟩
  theorem runClauses_spec (cs : GClauses) (cur : Range) (tmp : GTmp) :
      Agrees (runClauses cs cur tmp) cur (pathsClauses cs) := by
    cases cs with
    | els b =>
      simp only [runClauses, pathsClauses]
      exact runBlock_spec b cur tmp
    | cons c b cs =>
      simp only [runClauses, pathsClauses]
      cases hv : c.val with
      | true =>
        simp only [if_true]
        cases ho : c.own with
        | none =>
          have h := runBlock_spec b cur none
          simp only [Agrees, render_addPath_none] at h ⊢
          exact h
        | some r =>
          have h := runBlock_spec b (cur.intersect r) (some r)
          simp only [Agrees, render_addPath_some] at h ⊢
          exact h
      | false =>
        simp only [Bool.false_eq_true, if_false]
        exact runClauses_spec cs cur _
end

theorem runBlock_log (b : GBlock) (cur : Range) (tmp : GTmp) :
    (runBlock b cur tmp).log = render cur (pathsBlock b).1 := (runBlock_spec b cur tmp).1

theorem mem_narrow (cur : Range) (path : List Range) (x : Ver) :
    (narrow cur path).contains x = true ↔ (cur.contains x = true ∧ ∀ r ∈ path, r.contains x = true) := by
  induction path generalizing cur with
  | nil => simp [narrow]
  | cons r rest ih =>
    have h := ih (cur.intersect r)
    simp only [narrow, List.foldl_cons] at h ⊢
    rw [h]
    simp only [Range.contains_iff, Range.mem_intersect, List.forall_mem_cons, and_assoc]

end MesonModel.Version
