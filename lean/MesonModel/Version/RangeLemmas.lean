/-
`Range` membership as a proposition over the strict order, and what `__post_init__`, the two one-sided
narrowings and `intersect` do to it.
-/
import MesonModel.Version.Lemmas
namespace MesonModel.Version

def Range.Mem (r : Range) (x : Ver) : Prop :=
  r.isEmpty = false ∧
  (∀ m, r.min = some m → if r.minEq then ¬ Lt x m else Lt m x) ∧
  (∀ m, r.max = some m → if r.maxEq then ¬ Lt m x else Lt x m)

/-- lower-bound constraint a pair `(v, eq)` expresses -/
def lowerOk (v : Ver) (eq : Bool) (x : Ver) : Prop := if eq then ¬ Lt x v else Lt v x
def upperOk (v : Ver) (eq : Bool) (x : Ver) : Prop := if eq then ¬ Lt v x else Lt x v

theorem Range.mem_of_bounds (r : Range) (x : Ver) :
    r.Mem x ↔ r.isEmpty = false ∧ (∀ m, r.min = some m → lowerOk m r.minEq x) ∧
      (∀ m, r.max = some m → upperOk m r.maxEq x) := Iff.rfl

theorem Lt.of_lt_of_not_lt {a b c : Ver} (h1 : Lt a b) (h2 : ¬ Lt c b) : Lt a c := by
  rcases Lt.total a c with h | rfl | h
  · exact h
  · exact absurd h1 h2
  · exact absurd (Lt.trans h h1) h2

theorem Lt.of_not_lt_of_lt {a b c : Ver} (h1 : ¬ Lt b a) (h2 : Lt b c) : Lt a c := by
  rcases Lt.total a c with h | rfl | h
  · exact h
  · exact absurd h2 h1
  · exact absurd (Lt.trans h2 h) h1

/-! Either kind of bound at `v` sits between the strict and the non-strict inequality. -/

theorem lowerOk_of_lt {v x : Ver} (eq : Bool) (h : Lt v x) : lowerOk v eq x := by
  cases eq
  · exact h
  · exact Lt.asymm h

theorem lowerOk.not_lt {v x : Ver} {eq : Bool} (h : lowerOk v eq x) : ¬ Lt x v := by
  cases eq
  · exact Lt.asymm h
  · exact h

theorem upperOk_of_lt {v x : Ver} (eq : Bool) (h : Lt x v) : upperOk v eq x := by
  cases eq
  · exact h
  · exact Lt.asymm h

theorem upperOk.not_lt {v x : Ver} {eq : Bool} (h : upperOk v eq x) : ¬ Lt v x := by
  cases eq
  · exact Lt.asymm h
  · exact h

theorem lowerOk.lt_of_ne {v x : Ver} {eq : Bool} (h : lowerOk v eq x) (hne : x ≠ v) : Lt v x := by
  rcases Lt.total v x with h1 | rfl | h1
  · exact h1
  · exact absurd rfl hne
  · exact absurd h1 h.not_lt

theorem upperOk.lt_of_ne {v x : Ver} {eq : Bool} (h : upperOk v eq x) (hne : x ≠ v) : Lt x v := by
  rcases Lt.total v x with h1 | rfl | h1
  · exact absurd h1 h.not_lt
  · exact absurd rfl hne
  · exact h1

theorem lowerOk.weaken {a v x : Ver} {ev : Bool} (h : lowerOk v ev x) (hav : Lt a v) (ea : Bool) :
    lowerOk a ea x :=
  lowerOk_of_lt ea (hav.of_lt_of_not_lt h.not_lt)

theorem upperOk.weaken {a v x : Ver} {ev : Bool} (h : upperOk v ev x) (hva : Lt v a) (ea : Bool) :
    upperOk a ea x :=
  upperOk_of_lt ea (Lt.of_not_lt_of_lt h.not_lt hva)

theorem lowerOk_and (v x : Ver) (e1 e2 : Bool) :
    lowerOk v (e1 && e2) x ↔ lowerOk v e1 x ∧ lowerOk v e2 x := by
  cases e1 <;> cases e2 <;> simp only [lowerOk, Bool.and_self, Bool.and_false, Bool.and_true,
    Bool.false_eq_true, if_false, if_true, and_self, iff_self_and, iff_and_self]
  all_goals exact Lt.asymm

theorem upperOk_and (v x : Ver) (e1 e2 : Bool) :
    upperOk v (e1 && e2) x ↔ upperOk v e1 x ∧ upperOk v e2 x := by
  cases e1 <;> cases e2 <;> simp only [upperOk, Bool.and_self, Bool.and_false, Bool.and_true,
    Bool.false_eq_true, if_false, if_true, and_self, iff_self_and, iff_and_self]
  all_goals exact Lt.asymm

/-- a lower and an upper bound that one version meets are the two ends of a non-empty range: exactly
the test of `__post_init__` -/
theorem bounds_consistent {a b x : Ver} {ea eb : Bool} (hl : lowerOk a ea x) (hu : upperOk b eb x) :
    Lt a b ∨ (a = b ∧ ea = true ∧ eb = true) := by
  rcases Lt.total a b with h | rfl | h
  · exact Or.inl h
  · cases ea
    · exact absurd hl hu.not_lt
    · cases eb
      · exact absurd hu hl
      · exact Or.inr ⟨rfl, rfl, rfl⟩
  · exact absurd (Lt.of_not_lt_of_lt hu.not_lt h) hl.not_lt

theorem Range.contains_iff (r : Range) (x : Ver) : r.contains x = true ↔ r.Mem x := by
  have hlo : ∀ (o : Option Ver) (e : Bool),
      (match o with
        | some m => if e then vlt x m else vle x m
        | none => false) = false ↔ ∀ m, o = some m → lowerOk m e x := by
    intro o e
    cases o <;> cases e <;> simp [lowerOk, ← Bool.not_eq_true, vlt_iff, vle_iff]
  have hup : ∀ (o : Option Ver) (e : Bool),
      (match o with
        | some m => if e then vgt x m else vge x m
        | none => false) = false ↔ ∀ m, o = some m → upperOk m e x := by
    intro o e
    cases o <;> cases e <;> simp [upperOk, ← Bool.not_eq_true, vgt_iff, vge_iff]
  rw [Range.mem_of_bounds, ← hlo, ← hup]
  unfold Range.contains
  cases r.isEmpty
  · simp
    rfl
  · simp

theorem Range.mem_postInit (r : Range) (x : Ver) (h : r.isEmpty = false) :
    r.postInit.Mem x ↔ r.Mem x := by
  unfold Range.postInit
  split
  · rename_i mn mx hmn hmx
    have hr : { r with isEmpty := false } = r := by rw [← h]
    simp only [hr, vlt_iff, veq_iff, Bool.and_eq_true]
    split
    · rfl
    · split
      · rfl
      · rename_i h1 h2
        refine iff_of_false (fun hm => by simp [Range.Mem] at hm) (fun hm => ?_)
        rcases bounds_consistent (hm.2.1 mn hmn) (hm.2.2 mx hmx) with h' | h'
        · exact h1 h'
        · exact h2 ⟨⟨h'.1, h'.2.1⟩, h'.2.2⟩
  · rfl

theorem Range.intersectMin_isEmpty (r : Range) (v : Ver) (eq : Bool) :
    (r.intersectMin v eq).isEmpty = r.isEmpty := by
  unfold Range.intersectMin
  split <;>
  (try split) <;>
  (try split) <;>
  rfl

theorem Range.intersectMax_isEmpty (r : Range) (v : Ver) (eq : Bool) :
    (r.intersectMax v eq).isEmpty = r.isEmpty := by
  unfold Range.intersectMax
  split <;>
  (try split) <;>
  (try split) <;>
  rfl

/-- narrowing from below: against an existing bound `a`, the three cases of the code are the three of
`Lt.total a v`, and in each the bound kept implies the bound dropped -/
theorem Range.mem_intersectMin (r : Range) (v : Ver) (eq : Bool) (x : Ver) :
    (r.intersectMin v eq).Mem x ↔ r.Mem x ∧ lowerOk v eq x := by
  rcases r with ⟨mn, mne, mx, mxe, ie⟩
  cases mn with
  | none =>
    simp [Range.intersectMin, Range.mem_of_bounds, and_assoc]
    exact fun _ => and_comm
  | some a =>
    have h1 : Lt a v → lowerOk v eq x → lowerOk a mne x := fun h hx => hx.weaken h mne
    have h2 : Lt v a → lowerOk a mne x → lowerOk v eq x := fun h hx => hx.weaken h eq
    have h3 := lowerOk_and a x eq mne
    have h4 := Lt.total a v
    simp only [Range.intersectMin, vgt_iff, veq_iff]
    split <;>
    (try split) <;>
    simp [Range.mem_of_bounds] <;>
    grind

theorem Range.mem_intersectMax (r : Range) (v : Ver) (eq : Bool) (x : Ver) :
    (r.intersectMax v eq).Mem x ↔ r.Mem x ∧ upperOk v eq x := by
  rcases r with ⟨mn, mne, mx, mxe, ie⟩
  cases mx with
  | none => simp [Range.intersectMax, Range.mem_of_bounds, and_assoc]
  | some a =>
    have h1 : Lt v a → upperOk v eq x → upperOk a mxe x := fun h hx => hx.weaken h mxe
    have h2 : Lt a v → upperOk a mxe x → upperOk v eq x := fun h hx => hx.weaken h eq
    have h3 := upperOk_and a x eq mxe
    have h4 := Lt.total a v
    simp only [Range.intersectMax, vlt_iff, veq_iff]
    split <;>
    (try split) <;>
    simp [Range.mem_of_bounds] <;>
    grind

/-- for every pair of `Range` field values, including ones `__post_init__` would never leave behind -/
theorem Range.mem_intersect (a b : Range) (x : Ver) :
    (a.intersect b).Mem x ↔ a.Mem x ∧ b.Mem x := by
  unfold Range.intersect
  by_cases hb : b.isEmpty = true
  · simp [hb, Range.Mem]
  · by_cases ha : a.isEmpty = true
    · simp [hb, ha, Range.Mem]
    · simp only [hb, ha, Bool.false_eq_true, if_false]
      have hb' : b.isEmpty = false := by simpa using hb
      have ha' : a.isEmpty = false := by simpa using ha
      rw [Range.mem_postInit, Range.mem_of_bounds b]
      · cases b.min <;> cases b.max <;>
          simp [Range.mem_intersectMin, Range.mem_intersectMax, hb', and_assoc]
      · cases b.min <;> cases b.max <;>
          simp [Range.intersectMin_isEmpty, Range.intersectMax_isEmpty, ha']

end MesonModel.Version
