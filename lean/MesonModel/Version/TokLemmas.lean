/-
Tokenizer lemmas: separators (in particular the whitespace `str.strip()` removes) never change
the token tuple, so `version_compare`'s `strip()` is invisible to the order.
-/
import MesonModel.Version.Model

namespace MesonModel.Version
open MesonModel.Py

def isSep (c : Char) : Bool := !isDigit c && !isAlpha c

theorem isSpace_isSep (c : Char) (h : isSpace c = true) : isSep c = true := by
  unfold isSpace at h
  unfold isSep isDigit isAlpha
  simp at h ⊢
  omega

theorem tokenizeGo_sep_cons (r : Run) (c : Char) (cs : List Char) (h : isSep c = true) :
    tokenizeGo r (c :: cs) = flush r ++ tokenizeGo .none cs := by
  unfold isSep at h
  simp at h
  simp [tokenizeGo, h.1, h.2]

theorem flush_none : flush .none = [] := rfl

theorem tokenizeGo_append_sep (r : Run) (s : List Char) (c : Char) (h : isSep c = true) :
    tokenizeGo r (s ++ [c]) = tokenizeGo r s := by
  induction s generalizing r with
  | nil =>
    rw [List.nil_append, tokenizeGo_sep_cons r c [] h]
    simp [tokenizeGo, flush]
  | cons x xs ih =>
    simp only [List.cons_append, tokenizeGo]
    split
    · split <;> simp [ih]
    · split
      · split <;> simp [ih]
      · simp [ih]

theorem tokenizeGo_append_seps (r : Run) (s t : List Char) (h : ∀ c ∈ t, isSep c = true) :
    tokenizeGo r (s ++ t) = tokenizeGo r s := by
  induction t generalizing s with
  | nil => simp
  | cons c t ih =>
    have : s ++ c :: t = (s ++ [c]) ++ t := by simp
    rw [this, ih _ (fun d hd => h d (by simp [hd]))]
    exact tokenizeGo_append_sep r s c (h c (by simp))

theorem tokenize_dropWhile_seps (s : List Char) :
    tokenize (s.dropWhile isSpace) = tokenize s := by
  induction s with
  | nil => rfl
  | cons c cs ih =>
    simp only [List.dropWhile]
    cases hc : isSpace c with
    | false => rfl
    | true =>
      simp only []
      rw [ih]
      unfold tokenize
      rw [tokenizeGo_sep_cons .none c cs (isSpace_isSep c hc)]
      simp [flush]

theorem tokenize_lstrip (s : List Char) : tokenize (lstrip s) = tokenize s :=
  tokenize_dropWhile_seps s

theorem tokenize_rstrip (s : List Char) : tokenize (rstrip s) = tokenize s := by
  unfold rstrip
  have hs : s = (s.reverse.dropWhile isSpace).reverse ++ (s.reverse.takeWhile isSpace).reverse := by
    rw [← List.reverse_append, List.takeWhile_append_dropWhile, List.reverse_reverse]
  conv =>
    rhs
    rw [hs]
  unfold tokenize
  rw [tokenizeGo_append_seps]
  intro c hc
  rw [List.mem_reverse] at hc
  have hall := @List.all_takeWhile _ isSpace s.reverse
  rw [List.all_eq_true] at hall
  exact isSpace_isSep c (hall c hc)

theorem tokenize_strip (s : List Char) : tokenize (strip s) = tokenize s := by
  unfold strip
  rw [tokenize_rstrip, tokenize_lstrip]

theorem versionCompare_of_extract {s w : List Char} {op : CmpOp} (h : extractCmpOp s = (op, strip w))
    (v : List Char) : versionCompare v s = op.apply (tokenize v) (tokenize w) := by
  simp [versionCompare, h, tokenize_strip]

end MesonModel.Version
