import MesonModel.Version.Entry

namespace MesonModel.Version

theorem scanUnsupported_eq_any (cs : List (List Char)) : scanUnsupported cs = cs.any isUnsupported := by
  induction cs with
  | nil => rfl
  | cons c cs ih =>
    simp only [scanUnsupported, List.any_cons]
    cases isUnsupported c <;> simp [ih]

theorem compareMany_fst (v : List Char) (cs : List (List Char)) :
    (versionCompareMany v cs).1 = cs.all (fun c => versionCompare v c) := by
  simp only [versionCompareMany]
  rw [Bool.eq_iff_iff]
  simp [List.filter_eq_nil_iff]

mutual
  theorem GStmt.AllConds.mono {P Q : GCond → Prop} (h : ∀ c, P c → Q c) (s : GStmt) (hs : s.AllConds P) :
      s.AllConds Q := by
    cases s with
    | probe n => trivial
    | ifs cs =>
      simp only [GStmt.AllConds] at hs ⊢
      exact GClauses.AllConds.mono h cs hs
    | exit k => trivial
    | loop1 body =>
      simp only [GStmt.AllConds] at hs ⊢
      exact GBlock.AllConds.mono h body hs
    | loop2 body =>
      simp only [GStmt.AllConds] at hs ⊢
      exact GBlock.AllConds.mono h body hs
  theorem GBlock.AllConds.mono {P Q : GCond → Prop} (h : ∀ c, P c → Q c) (b : GBlock) (hb : b.AllConds P) :
      b.AllConds Q := by
    cases b with
    | nil => trivial
    | cons s b =>
      simp only [GBlock.AllConds] at hb ⊢
      exact ⟨GStmt.AllConds.mono h s hb.1, GBlock.AllConds.mono h b hb.2⟩
  theorem GClauses.AllConds.mono {P Q : GCond → Prop} (h : ∀ c, P c → Q c) (cs : GClauses)
      (hc : cs.AllConds P) : cs.AllConds Q := by
    cases cs with
    | els b =>
      simp only [GClauses.AllConds] at hc ⊢
      exact GBlock.AllConds.mono h b hc
    | cons c b cs =>
      simp only [GClauses.AllConds] at hc ⊢
      exact ⟨h c hc.1, GBlock.AllConds.mono h b hc.2.1, GClauses.AllConds.mono h cs hc.2.2⟩
end

/-- every range on the path of every executed probe contains `x` -/
def PathsOk (x : Ver) (ps : GPaths) : Prop := ∀ p ∈ ps, ∀ q ∈ p.2, q.contains x = true

theorem PathsOk.append {x : Ver} {a b : GPaths} (ha : PathsOk x a) (hb : PathsOk x b) : PathsOk x (a ++ b) := by
  intro p hp
  rcases List.mem_append.1 hp with h | h
  · exact ha p h
  · exact hb p h

theorem PathsOk.addPath {x : Ver} {ps : GPaths} (o : Option Range) (ho : ∀ r, o = some r → r.contains x = true)
    (h : PathsOk x ps) : PathsOk x (addPath o ps) := by
  cases o with
  | none => exact h
  | some r =>
    intro p hp q hq
    simp only [MesonModel.Version.addPath, List.mem_map] at hp
    obtain ⟨p0, hp0, rfl⟩ := hp
    simp only [List.mem_cons] at hq
    rcases hq with rfl | hq
    · exact ho _ rfl
    · exact h p0 hp0 q hq

mutual
  theorem pathsStmt_ok (x : Ver) (s : GStmt) (h : s.AllConds (CondSound x)) : PathsOk x (pathsStmt s).1 := by
    cases s with
    | probe n =>
      intro p hp q hq
      simp [pathsStmt] at hp
      subst hp
      simp at hq
    | ifs cs =>
      simp only [pathsStmt]
      exact pathsClauses_ok x cs (by simpa [GStmt.AllConds] using h)
    | exit k =>
      intro p hp
      simp [pathsStmt] at hp
    | loop1 body =>
      simp only [pathsStmt]
      exact pathsBlock_ok x body (by simpa [GStmt.AllConds] using h)
    | loop2 body =>
      have hb := pathsBlock_ok x body (by simpa [GStmt.AllConds] using h)
      simp only [pathsStmt]
      split
      · exact hb
      · exact hb.append hb
  theorem pathsBlock_ok (x : Ver) (b : GBlock) (h : b.AllConds (CondSound x)) : PathsOk x (pathsBlock b).1 := by
    cases b with
    | nil =>
      intro p hp
      simp [pathsBlock] at hp
    | cons s b =>
      simp only [GBlock.AllConds] at h
      have h1 := pathsStmt_ok x s h.1
      have h2 := pathsBlock_ok x b h.2
      simp only [pathsBlock]
      split
      · exact h1.append h2
      · exact h1
  theorem pathsClauses_ok (x : Ver) (cs : GClauses) (h : cs.AllConds (CondSound x)) :
      PathsOk x (pathsClauses cs).1 := by
    cases cs with
    | els b =>
      simp only [pathsClauses]
      exact pathsBlock_ok x b (by simpa [GClauses.AllConds] using h)
    | cons c b cs =>
      simp only [GClauses.AllConds] at h
      simp only [pathsClauses]
      cases hv : c.val with
      | true =>
        simp only [if_true]
        exact PathsOk.addPath c.own (h.1 hv) (pathsBlock_ok x b h.2.1)
      | false =>
        simp only [Bool.false_eq_true, if_false]
        exact pathsClauses_ok x cs h.2.2
end

end MesonModel.Version
