/-
The order laws of a lawful three-way comparison and of its lexicographic lift, stated once for both
version models; the version comparison is a strict total order on token tuples.
-/
import MesonModel.Version.Model

namespace MesonModel.Version

/-- what makes a three-way comparison a strict total order -/
structure CmpLaws {α} (cmp : α → α → Ordering) : Prop where
  eq_iff : ∀ a b, cmp a b = .eq ↔ a = b
  swap : ∀ a b, cmp b a = (cmp a b).swap
  trans : ∀ a b c, cmp a b = .lt → cmp b c = .lt → cmp a c = .lt

namespace CmpLaws
variable {α} {cmp : α → α → Ordering} (h : CmpLaws cmp)
include h

theorem refl (a : α) : cmp a a = .eq := (h.eq_iff a a).mpr rfl

theorem gt_iff (a b : α) : cmp a b = .gt ↔ cmp b a = .lt := by
  rw [h.swap a b]
  cases cmp a b <;> simp [Ordering.swap]

theorem total (a b : α) : cmp a b = .lt ∨ a = b ∨ cmp b a = .lt := by
  have h1 := h.eq_iff a b
  have h2 := h.gt_iff a b
  cases hc : cmp a b <;> simp_all

/-! The six operators both version models derive from their three-way comparison, spelt as the models
spell them: `<` is `cmp a b == .lt`, `<=` is `cmp a b != .gt`, `==` is `decide (a = b)`. -/

theorem trichotomy [DecidableEq α] (a b : α) :
    ((cmp a b == .lt) = true ∧ decide (a = b) = false ∧ (cmp a b == .gt) = false) ∨
    ((cmp a b == .lt) = false ∧ decide (a = b) = true ∧ (cmp a b == .gt) = false) ∨
    ((cmp a b == .lt) = false ∧ decide (a = b) = false ∧ (cmp a b == .gt) = true) := by
  have := h.eq_iff a b
  cases hc : cmp a b <;> simp_all

theorem lt_trans (a b c : α) :
    (cmp a b == .lt) = true → (cmp b c == .lt) = true → (cmp a c == .lt) = true := by
  simpa using h.trans a b c

theorem le_trans (a b c : α) :
    (cmp a b != .gt) = true → (cmp b c != .gt) = true → (cmp a c != .gt) = true := by
  simp only [bne_iff_ne, ne_eq, h.gt_iff]
  intro h1 h2 h3
  rcases h.total a b with hab | rfl | hab
  · exact h2 (h.trans c a b h3 hab)
  · exact h2 h3
  · exact h1 hab

theorem lt_iff_gt_swap (a b : α) : (cmp a b == .lt) = (cmp b a == .gt) := by
  rw [h.swap a b]
  cases cmp a b <;> rfl

theorem le_iff_ge_swap (a b : α) : (cmp a b != .gt) = (cmp b a != .lt) := by
  rw [h.swap a b]
  cases cmp a b <;> rfl

theorem lt_asymm (a b : α) : (cmp a b == .lt) = true → (cmp b a == .lt) = false := by
  rw [h.swap a b]
  cases cmp a b <;> simp [Ordering.swap]

theorem ge_trans (a b c : α) :
    (cmp a b != .lt) = true → (cmp b c != .lt) = true → (cmp a c != .lt) = true := by
  rw [← h.le_iff_ge_swap, ← h.le_iff_ge_swap, ← h.le_iff_ge_swap]
  exact fun h1 h2 => h.le_trans c b a h2 h1

theorem le_iff_lt_or_eq [DecidableEq α] (a b : α) :
    (cmp a b != .gt) = true ↔ ((cmp a b == .lt) = true ∨ decide (a = b) = true) := by
  have := h.eq_iff a b
  cases hc : cmp a b <;> simp_all

theorem ge_iff_gt_or_eq [DecidableEq α] (a b : α) :
    (cmp a b != .lt) = true ↔ ((cmp a b == .gt) = true ∨ decide (a = b) = true) := by
  have := h.eq_iff a b
  cases hc : cmp a b <;> simp_all

theorem lexCmp_append (p a b : List α) : lexCmp cmp (p ++ a) (p ++ b) = lexCmp cmp a b := by
  induction p with
  | nil => rfl
  | cons x xs ih => simpa only [List.cons_append, lexCmp, h.refl x] using ih

end CmpLaws

theorem natCmpLaws : CmpLaws (fun a b : Nat => compare a b) where
  eq_iff a b := by simp
  swap a b := by rw [Nat.compare_swap]
  trans a b c h1 h2 := by
    rw [Nat.compare_eq_lt] at *
    omega

theorem charCmpLaws : CmpLaws charCmp where
  eq_iff a b := by
    unfold charCmp
    rw [Nat.compare_eq_eq]
    constructor
    · intro h
      exact Char.toNat_inj.mp h
    · intro h
      rw [h]
  swap a b := by
    unfold charCmp
    rw [Nat.compare_swap]
  trans a b c h1 h2 := by
    unfold charCmp at *
    rw [Nat.compare_eq_lt] at *
    omega

theorem lexCmp_cons_cons {α} (cmp : α → α → Ordering) (x y : α) (xs ys : List α) :
    lexCmp cmp (x :: xs) (y :: ys) = (cmp x y).then (lexCmp cmp xs ys) := by
  rw [lexCmp]
  cases cmp x y <;> rfl

theorem lexCmpLaws {α} {cmp : α → α → Ordering} (h : CmpLaws cmp) : CmpLaws (lexCmp cmp) where
  eq_iff a b := by
    induction a generalizing b with
    | nil => cases b <;> simp [lexCmp]
    | cons x xs ih =>
      cases b with
      | nil => simp [lexCmp]
      | cons y ys => simp [lexCmp_cons_cons, Ordering.then_eq_eq, h.eq_iff, ih]
  swap a b := by
    induction a generalizing b with
    | nil => cases b <;> rfl
    | cons x xs ih =>
      cases b with
      | nil => rfl
      | cons y ys => rw [lexCmp_cons_cons, lexCmp_cons_cons, Ordering.swap_then, ← h.swap, ← ih]
  trans a b c := by
    induction a generalizing b c with
    | nil => cases b <;> cases c <;> simp [lexCmp]
    | cons x xs ih =>
      cases b with
      | nil => simp [lexCmp]
      | cons y ys =>
        cases c with
        | nil => simp [lexCmp]
        | cons z zs =>
          simp only [lexCmp_cons_cons, Ordering.then_eq_lt, h.eq_iff]
          rintro (h1 | ⟨rfl, h1⟩) (h2 | ⟨rfl, h2⟩)
          · exact Or.inl (h.trans _ _ _ h1 h2)
          · exact Or.inl h1
          · exact Or.inl h2
          · exact Or.inr ⟨rfl, ih _ _ h1 h2⟩

theorem tokCmpLaws : CmpLaws tokCmp where
  eq_iff a b := by
    cases a <;> cases b <;> simp [tokCmp]
    · exact (lexCmpLaws charCmpLaws).eq_iff _ _
  swap a b := by
    cases a <;> cases b <;> simp only [tokCmp, Ordering.swap]
    · exact natCmpLaws.swap _ _
    · exact (lexCmpLaws charCmpLaws).swap _ _
  trans a b c := by
    cases a <;> cases b <;> cases c <;> simp [tokCmp]
    · exact natCmpLaws.trans _ _ _
    · exact (lexCmpLaws charCmpLaws).trans _ _ _

theorem vcmpLaws : CmpLaws vcmp := lexCmpLaws tokCmpLaws

/-- the strict order as a `Prop` -/
def Lt (a b : Ver) : Prop := vcmp a b = .lt

theorem Lt.irrefl (a : Ver) : ¬ Lt a a := by simp [Lt, vcmpLaws.refl]
theorem Lt.trans {a b c : Ver} : Lt a b → Lt b c → Lt a c := vcmpLaws.trans a b c
theorem Lt.asymm {a b : Ver} : Lt a b → ¬ Lt b a := fun h1 h2 => Lt.irrefl a (Lt.trans h1 h2)
theorem Lt.total (a b : Ver) : Lt a b ∨ a = b ∨ Lt b a := vcmpLaws.total a b

instance (a b : Ver) : Decidable (Lt a b) := inferInstanceAs (Decidable (vcmp a b = .lt))

theorem vlt_iff (a b : Ver) : vlt a b = true ↔ Lt a b := by simp [vlt, Lt]
theorem vgt_iff (a b : Ver) : vgt a b = true ↔ Lt b a := by simp [vgt, Lt, vcmpLaws.gt_iff]
theorem vle_iff (a b : Ver) : vle a b = true ↔ ¬ Lt b a := by simp [vle, Lt, vcmpLaws.gt_iff]
theorem vge_iff (a b : Ver) : vge a b = true ↔ ¬ Lt a b := by simp [vge, Lt]
theorem veq_iff (a b : Ver) : veq a b = true ↔ a = b := by simp [veq]
theorem vne_iff (a b : Ver) : vne a b = true ↔ a ≠ b := by simp [vne, veq]

theorem vlt_eq (a b : Ver) : vlt a b = decide (Lt a b) := by simp [← vlt_iff]
theorem vgt_eq (a b : Ver) : vgt a b = decide (Lt b a) := by simp [← vgt_iff]
theorem vle_eq (a b : Ver) : vle a b = !decide (Lt b a) := by
  simp only [← vgt_iff, Bool.decide_eq_true]
  rfl
theorem vge_eq (a b : Ver) : vge a b = !decide (Lt a b) := by
  simp only [← vlt_iff, Bool.decide_eq_true]
  rfl
theorem veq_eq (a b : Ver) : veq a b = decide (a = b) := rfl

end MesonModel.Version
