import MesonModel.Life.Invariant
import MesonModel.Options.PrecLemmas
/-
`value_persists` (property C08) for `meson configure -D / -U`, whether the command saves, changes nothing or fails —
the part that `value_persists_partial` (histories of failing commands and edits) does not cover.

`SameNamed n s s'` collects everything any read of an option NAMED `n` depends on — in every project: own object,
augment and (through `ParentCurrent`) the yielding parent, which has the same name.  The frame `Fr` of
`set_from_configure_command` at every key named `n` gives it for an argument list that does not address `n`: first for
the store call, then for the command on a directory without unread option-file edits, then for histories.
-/
namespace MesonModel.Options
open M

/-- the argument list does not address the name `n`: no `-D`/`-U` of that name, and when `buildtype` is set `n` is
not one of its dependents -/
def NotAddressed (n : Str) (args : List (Key × Option Val)) : Prop :=
  ∀ a ∈ args, a.1.name ≠ n ∧ (a.1.name = sBuildtype → n ≠ sDebug ∧ n ≠ sOptimization)

theorem Fr.setFromConfigure (k : Key) (id : Nat) (hnp : (Tables.nopfxTable.map (·.1)).contains k.name = false)
    (args : List (Key × Option Val)) (d : Bool) (h : NotAddressed k.name args) : Fr k id (setFromConfigure args d) :=
  .of_keeps fun s0 => .setFromConfigure (framed_initInv k id s0) args d fun a ha => .other (h a ha).1 hnp (h a ha).2

theorem NotAddressed.buildtypeFirst {n : Str} {args : List (Key × Option Val)} (h : NotAddressed n args) :
    NotAddressed n (buildtypeFirst args) := by
  intro a ha
  simp only [MesonModel.Options.buildtypeFirst, List.mem_append, List.mem_filter] at ha
  rcases ha with ha | ha <;> exact h a ha.1

/-- everything a read of an option named `n` depends on is the same in `s` and `s'` -/
def SameNamed (n : Str) (s s' : Store) : Prop :=
  s'.isCross = s.isCross ∧
  (∀ key : Key, key.name = n → alookup key s'.options = alookup key s.options ∧
    s'.isProjectOption key = s.isProjectOption key ∧ alookup key s'.augments = alookup key s.augments) ∧
  (∀ (key : Key) (i : Nat), key.name = n → alookup key s.options = some i → s'.heap[i]? = s.heap[i]?)

theorem SameNamed.refl (n : Str) (s : Store) : SameNamed n s s :=
  ⟨rfl, fun _ _ => ⟨rfl, rfl, rfl⟩, fun _ _ _ _ => rfl⟩

/-- the effective value of an option named `n` is a function of what `SameNamed n` fixes (the parent of an option
named `n` is, by `ParentCurrent`, registered under a key named `n`) -/
theorem getValueFor_sameNamed {s s' : Store} (k : Key) (hpc : ParentCurrent s) (h : SameNamed k.name s s') :
    getValueFor s' k = getValueFor s k := by
  obtain ⟨hx, hkeys, hheap⟩ := h
  have he : ∀ x : Key, ensureKey s' x = ensureKey s x := fun x => by
    unfold ensureKey
    rw [hx]
  have hn : (ensureKey s k).name = k.name := ensureKey_name s k
  obtain ⟨o1, p1, a1⟩ := hkeys (ensureKey s k) hn
  obtain ⟨o2, -, -⟩ := hkeys (ensureKey s k).global (by simpa [Key.global] using hn)
  have hres : resolveId s' (ensureKey s k) = resolveId s (ensureKey s k) := by
    unfold resolveId
    simp only [he, ensureKey_idem, o1, p1, o2]
  unfold getValueFor getIdAndValue
  simp only [he, hres, a1]
  cases hr : resolveId s (ensureKey s k) with
  | error e => rfl
  | ok id =>
    -- `id` is owned by a key named `k.name`, and so is, by `ParentCurrent`, the parent of its object
    obtain ⟨key', hn', hl'⟩ := resolveId_name hr
    simp only [hheap key' id (by rw [hn', hn]) hl']
    cases ho : s.heap[id]? with
    | none => rfl
    | some o =>
      dsimp only
      cases hp : o.parent with
      | none => rfl
      | some pid => simp only [hheap key'.asRoot pid (by simp [Key.asRoot, hn', hn]) (hpc key' id o pid hl' ho hp)]

theorem sameNamed_of_fr {α : Type} (n : Str) (m : M α) (s : Store) (hw : Wf s)
    (hfr : ∀ (k : Key) (id : Nat), k.name = n → Fr k id m) : SameNamed n s (m s).2 := by
  -- an id outside the heap is trivially nobody's object
  have hout : OwnObject n s.heap.length s := by
    intro key i hl _ e
    have := hw.1 key i hl
    omega
  have h0 := (hfr { name := n, sub := none, machine := .host } s.heap.length rfl).run s hout
  refine ⟨h0.1, ?_, ?_⟩
  · intro key hk
    have h1 := (hfr key s.heap.length hk).run s (by rw [hk]; exact hout)
    exact ⟨by rw [h1.2.1], isProjectOption_congr h1.2.2.1 key, h1.2.2.2.2.2⟩
  · intro key i hk hl
    have h1 := (hfr key i hk).run s (hw.ownObject hl)
    exact h1.2.2.2.2.1

/-- **`value_persists` for `set_from_configure_command`**: an option whose name is
not addressed — directly, or as a dependent of `buildtype` — and is none of the directory options that follow `prefix`
(`hnp`) keeps its effective value: in the top-level project and in every subproject, whether it has its own value, is overridden
for the subproject, or inherits from a yielding parent (which has the same name, so is not addressed either) -/
theorem setFromConfigure_value_persists (s : Store) (hw : Wf s) (hpc : ParentCurrent s) (n : Str)
    (args : List (Key × Option Val)) (dirty : Bool) (hna : NotAddressed n args)
    (hnp : (Tables.nopfxTable.map (·.1)).contains n = false) :
    SameNamed n s (setFromConfigure args dirty s).2 ∧
    ∀ k : Key, k.name = n → getValueFor (setFromConfigure args dirty s).2 k = getValueFor s k := by
  have hs : SameNamed n s (setFromConfigure args dirty s).2 :=
    sameNamed_of_fr n _ s hw (fun k id hk => Fr.setFromConfigure k id (by rw [hk]; exact hnp) args dirty (by rw [hk]; exact hna))
  exact ⟨hs, fun k hk => getValueFor_sameNamed k hpc (by rw [hk]; exact hs)⟩

end MesonModel.Options

namespace MesonModel.Life
open MesonModel.Options MesonModel.Options.M

theorem mergeCmd_sub (f : Dict) (hn : (f.map Prod.fst).Nodup) :
    ∀ (l : Dict), (∀ p ∈ l, p ∈ f) → mergeCmd f l = f := by
  intro l
  unfold mergeCmd
  induction l with
  | nil =>
    intro _
    rfl
  | cons p r ih =>
    intro h
    simp only [List.foldl_cons]
    rw [ainsert_of_mem p.1 p.2 f (h p (List.mem_cons_self ..)) hn]
    exact ih (fun q hq => h q (List.mem_cons_of_mem _ hq))

/-- re-reading cmd_line.txt over its own content changes nothing -/
theorem mergeCmd_self (f : Dict) (hn : (f.map Prod.fst).Nodup) : mergeCmd f f = f :=
  mergeCmd_sub f hn f (fun _ h => h)

/-- the build directory holds no unread option-file change: every recorded option file exists under the recorded
name with the recorded content (then `meson configure` re-reads nothing) -/
def NoUnread (d : Dir) (co : Core) : Prop :=
  ∀ e ∈ co.optFiles, e.2.1.isSome = true ∧ d.fileOf e.1 = e.2.1 ∧ d.defsOf e.1 = e.2.2

instance (d : Dir) (co : Core) : Decidable (NoUnread d co) := by
  unfold NoUnread; exact inferInstance

theorem reloadChanged_noUnread (d : Dir) (s : Store) : ∀ (l : List (Str × Option Bool × Defs)),
    (∀ e ∈ l, e.2.1.isSome = true ∧ d.fileOf e.1 = e.2.1 ∧ d.defsOf e.1 = e.2.2) → reloadChanged d l s = (.ok l, s)
  | [], _ => rfl
  | (p, recF, rec) :: r, h => by
    obtain ⟨h1, h2, h3⟩ := h (p, recF, rec) (by simp)
    have ih := reloadChanged_noUnread d s r (fun e he => h e (by simp [he]))
    simp only at h1 h2 h3
    simp [reloadChanged, h1, h2, h3, M.bind, ih, M.pure]

/-- **`value_persists` for the command `meson configure -D… -U…`** on a well-formed directory without unread
option-file edits: whatever the command does (fail, change nothing, save), an option whose name it does not address
keeps its effective value in every project -/
theorem configure_value_persists (d : Dir) (co : Core) (args : List (Key × Option Val)) (n : Str)
    (hd : DirInv d) (hc : d.core = some co) (hu : NoUnread d co) (hna : NotAddressed n args)
    (hnp : (Tables.nopfxTable.map (·.1)).contains n = false) :
    ∃ co', (configure d args).1.core = some co' ∧ NoUnread (configure d args).1 co' ∧
      ∀ k : Key, k.name = n → getValueFor co'.store k = getValueFor co.store k := by
  have hinv := hd co hc
  unfold configure
  simp only [hc]
  split
  · exact ⟨co, hc, hu, fun _ _ => rfl⟩
  · rw [reloadChanged_noUnread d co.store co.optFiles hu]
    simp only
    have hv := setFromConfigure_value_persists co.store hinv.1 hinv.2 n (buildtypeFirst args) false hna.buildtypeFirst hnp
    simp only [setFromConfigureCommand]
    cases hs : setFromConfigure (buildtypeFirst args) false co.store with
    | mk res s2 =>
      rw [hs] at hv
      cases res with
      | error e => exact ⟨co, hc, hu, fun _ _ => rfl⟩
      | ok dirty =>
        simp only [commitConf]
        split
        · exact ⟨{ co with store := s2, optFiles := co.optFiles }, rfl, hu, hv.2⟩
        · exact ⟨co, hc, hu, fun _ _ => rfl⟩

/-- histories of `meson configure` commands (successful or failing) that do not address `n` -/
def ConfigureHist (n : Str) : List Cmd → Prop
  | [] => True
  | .configure args :: r => NotAddressed n args ∧ ConfigureHist n r
  | _ :: _ => False

/-- lifted to histories: after ANY sequence of `meson configure` commands none of which addresses `n`,
every option named `n` has the effective value it had before -/
theorem value_persists_configure_hist (n : Str) (hnp : (Tables.nopfxTable.map (·.1)).contains n = false) :
    ∀ (h : List Cmd) (d : Dir) (co : Core), DirInv d → d.core = some co → NoUnread d co → ConfigureHist n h →
    ∃ co', (runHist d h).core = some co' ∧ NoUnread (runHist d h) co' ∧
      ∀ k : Key, k.name = n → getValueFor co'.store k = getValueFor co.store k
  | [], d, co, _, hc, hu, _ => ⟨co, hc, hu, fun _ _ => rfl⟩
  | c :: r, d, co, hd, hc, hu, hh => by
    cases c with
    | configure args =>
      obtain ⟨hna, hr⟩ := hh
      obtain ⟨co1, hc1, hu1, hv1⟩ := configure_value_persists d co args n hd hc hu hna hnp
      have hd1 : DirInv (step d (.configure args)).1 := step_inv d _ hd
      obtain ⟨co2, hc2, hu2, hv2⟩ := value_persists_configure_hist n hnp r (step d (.configure args)).1 co1 hd1 hc1 hu1 hr
      exact ⟨co2, hc2, hu2, fun k hk => (hv2 k hk).trans (hv1 k hk)⟩
    | _ => exact absurd hh (by simp [ConfigureHist])

end MesonModel.Life
