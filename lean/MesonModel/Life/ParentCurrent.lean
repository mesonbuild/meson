import MesonModel.Options.WfLemmas
import MesonModel.Options.ParentLemmas
/-
`ParentCurrent`: every option's parent pointer is the object registered under its top-level key.

This is the invariant behind `yield_follows_current_parent_partial` and `drop_override_returns_inherited`: an inheriting
option reads `heap[parent]`, the user sets `options[key.asRoot]`; they are the same object exactly when the invariant
holds.  `update_project_options` is the operation that replaces objects under existing keys; the repaired code
re-points *all* children of a replaced object (yielding or overridden).  A variant that re-points only the children
that are yielding at that moment (`repointYieldingOnly`) breaks the invariant for an overridden child — nothing is
visible until the override is dropped later.
-/
namespace MesonModel.Options
open M MesonModel.Life

def ParentCurrent (s : Store) : Prop :=
  ∀ (k : Key) (id : Nat) (o : Obj) (pid : Nat), alookup k s.options = some id → s.heap[id]? = some o →
    o.parent = some pid → alookup k.asRoot s.options = some pid

/-- `m` preserves `ParentCurrent`, whether it returns or raises -/
structure PresPC {α : Type} (m : M α) : Prop where
  run : ∀ s, ParentCurrent s → ParentCurrent (m s).2

namespace PresPC
variable {α β : Type}
theorem pure (a : α) : PresPC (Pure.pure a : M α) := ⟨fun _ h => h⟩
theorem assert (b : Bool) : PresPC (M.assert b) := by
  cases b <;> exact ⟨fun _ h => h⟩
theorem of_keeps {m : M α} (h : Keeps ParentCurrent m) : PresPC m := ⟨h.run⟩
end PresPC

theorem parentCurrent_updObj {s : Store} (id : Nat) (f : Obj → Obj) (hp : ∀ o, (f o).parent = o.parent)
    (h : ParentCurrent s) : ParentCurrent (s.updObj id f) := by
  unfold Store.updObj
  cases hid : s.heap[id]? with
  | none => exact h
  | some o0 =>
    show ParentCurrent { s with heap := s.heap.set id (f o0) }
    intro k i o pid hk hi hpar
    simp only [List.getElem?_set] at hi
    split at hi
    · rename_i heq
      split at hi
      · cases hi
        rw [hp] at hpar
        exact h k i o0 pid hk (by rw [← heq]; exact hid) hpar
      · cases hi
    · exact h k i o pid hk hi hpar

/-- every way of *setting* a value (`set_option`, `set_user_option`, `set_from_configure_command` incl. `-U`, and on
a first invocation the command line / default_options / machine-file values) keeps the parent pointers current: no
key is inserted, no parent pointer written -/
theorem parentCurrent_initInv : InitInv (fun _ => True) (fun _ => True) ParentCurrent where
  own _ _ _ _ _ _ := trivial
  setValue id v _ := Keeps.bind (Keeps.getObj id) fun _ => Keeps.bind (Keeps.ofExcept _) fun _ =>
    Keeps.modify fun _ hs => parentCurrent_updObj id _ (fun _ => rfl) hs
  setYielding id _ _ := Keeps.modify fun _ hs => parentCurrent_updObj id _ (fun _ => rfl) hs
  augments _ _ _ _ _ hs := hs
  pending _ _ hs := hs
  pendingSub _ _ hs := hs
  subprojects _ _ hs := hs

theorem PresPC.resetPrefixedOptions (a b : Str) : PresPC (resetPrefixedOptions a b) :=
  .of_keeps (Keeps.resetPrefixedOptions parentCurrent_initInv.toSetInv a b fun _ _ => trivial)
theorem PresPC.setOption (k : Key) (v : Val) (f : Bool) : PresPC (setOption k v f) :=
  .of_keeps (Keeps.setOption parentCurrent_initInv.toSetInv k v f (.all _))
theorem PresPC.setUserOption (k : Key) (v : Val) (f : Bool) : PresPC (setUserOption k v f) :=
  .of_keeps (Keeps.setUserOption parentCurrent_initInv.toSetInv k v f (.all _))
theorem PresPC.setFromConfigure (l : List (Key × Option Val)) (d : Bool) : PresPC (setFromConfigure l d) :=
  .of_keeps (Keeps.setFromConfigure parentCurrent_initInv l d fun _ _ => .all _)
theorem PresPC.hardResetFromPrefix (p : Str) : PresPC (hardResetFromPrefix p) :=
  .of_keeps (Keeps.hardResetFromPrefix parentCurrent_initInv p)
theorem PresPC.firstHandlePrefix (a b c : Dict) : PresPC (firstHandlePrefix a b c) :=
  .of_keeps (Keeps.firstHandlePrefix parentCurrent_initInv a b c)
theorem PresPC.initTop (a b c : Dict) : PresPC (initTop a b c) :=
  .of_keeps (Keeps.initTop parentCurrent_initInv a b c)
theorem PresPC.initSub (sub : Str) (a b c d : Dict) : PresPC (initSub sub a b c d) :=
  .of_keeps (Keeps.initSub parentCurrent_initInv sub a b c d)

theorem parentCurrent_replaced (s : Store) (key : Key) (nobj : Obj) (oid : Nat) (y : Bool)
    (hw : Wf s) (hpc : ParentCurrent s) (hk : alookup key s.options = some oid) (hn : nobj.parent = none) :
    ParentCurrent (replacedStore s key { nobj with parent := linkParent s key nobj, yielding := y } oid) := by
  intro k id o pid hko hio hpar
  simp only [replacedStore] at hko hio ⊢
  rw [alookup_ainsert] at hko
  simp only [List.getElem?_map, Option.map_eq_some_iff] at hio
  obtain ⟨c, hc, rfl⟩ := hio
  by_cases hkk : key = k
  · subst hkk
    simp only [if_true, Option.some.injEq] at hko
    subst hko
    simp at hc
    subst hc
    -- the replacement itself: its parent is the registered top-level object, which is not the replaced object
    rcases repointFn_parent hpar with ⟨hl, -⟩ | ⟨hl, -, -⟩
    · rw [alookup_ainsert, if_neg (linkParent_some hn hl).1.2.symm]
      exact (linkParent_some hn hl).1.1
    · exact absurd (hw.2 _ _ _ (linkParent_some hn hl).1.1 hk) (linkParent_some hn hl).1.2
  · rw [if_neg hkk] at hko
    rw [List.getElem?_append_left (hw.1 k id hko)] at hc
    rcases repointFn_parent hpar with ⟨hcp, hne⟩ | ⟨hcp, rfl, -⟩
    · -- the parent it had, which is not the replaced object, so not registered under `key`
      have h1 := hpc k id c pid hko hc hcp
      rw [alookup_ainsert, if_neg fun (e : key = k.asRoot) => hne (Option.some.inj (h1.symm.trans (e ▸ hk)))]
      exact h1
    · -- a child of the replaced object: its top-level key is `key`
      rw [hw.2 _ _ _ (hpc k id c oid hko hc hcp) hk, alookup_ainsert, if_pos rfl]

theorem parentCurrent_insertNew (s : Store) (k : Key) (n' : Obj) (po : List Key) (hw : Wf s) (hpc : ParentCurrent s)
    (hnew : alookup k s.options = none)
    (hp : ∀ pid, n'.parent = some pid → alookup k.asRoot s.options = some pid ∧ k.asRoot ≠ k) :
    ParentCurrent { s with heap := s.heap ++ [n'], options := ainsert k s.heap.length s.options, projectOptions := po } := by
  intro k' id o pid hko hio hpar
  simp only at hko hio ⊢
  rw [alookup_ainsert] at hko
  by_cases hkk : k = k'
  · subst hkk
    simp only [if_true, Option.some.injEq] at hko
    subst hko
    simp at hio
    subst hio
    obtain ⟨h1, h2⟩ := hp pid hpar
    rw [alookup_ainsert, if_neg (Ne.symm h2)]
    exact h1
  · rw [if_neg hkk] at hko
    have hlt : id < s.heap.length := hw.1 k' id hko
    rw [List.getElem?_append_left hlt] at hio
    have h1 := hpc k' id o pid hko hio hpar
    rw [alookup_ainsert]
    split
    · rename_i e
      rw [← e, hnew] at h1
      cases h1
    · exact h1

/-- the removal pass unlinks the children of every removed option, so whatever is removed no parent pointer is
left that leads to an unregistered object -/
theorem parentCurrent_pruned (s : Store) (gone : Key → Bool) (hpc : ParentCurrent s) :
    ParentCurrent (prunedStore s gone) := by
  intro k id o pid hk hi hpar
  simp only [prunedStore] at hk hi ⊢
  rw [isLookup_alookup.filter_key (fun k => !(gone k))] at hk ⊢
  by_cases hq : (!(gone k)) = true
  · simp only [hq, if_true] at hk
    simp only [List.getElem?_map, Option.map_eq_some_iff] at hi
    obtain ⟨c, hc, rfl⟩ := hi
    -- the object before the unlinking had the same parent, and that parent is not a removed object
    obtain ⟨hcp, hnc⟩ := unlinkFn_parent hpar
    have h1 := hpc k id c pid hk hc hcp
    by_cases hg : gone k.asRoot = true
    · -- the top-level key is removed: then its object is among the removed ones
      rw [List.contains_eq_mem, decide_eq_false_iff_not, List.mem_map] at hnc
      exact absurd ⟨(k.asRoot, pid), List.mem_filter.mpr ⟨mem_of_alookup k.asRoot pid s.options h1, hg⟩, rfl⟩ hnc
    · simp [hg, h1]
  · simp [hq] at hk

end MesonModel.Options

namespace MesonModel.Life
open MesonModel.Options MesonModel.Options.M

def StoreInv (s : Store) : Prop := Wf s ∧ ParentCurrent s

/-- with `Wf`, the parent pointers stay current through the calls that register, replace and remove objects -/
theorem storeInv_opInv : OpInv StoreInv (fun o => o.parent = none) where
  toInitInv := wf_opInv.toInitInv.and parentCurrent_initInv
  moduleOptions _ _ hs := hs
  insert s k o ho hk hs :=
    ⟨wf_insert hs.1 k o _, parentCurrent_insertNew s k o _ hs.1 hs.2 hk fun pid hp => by rw [ho] at hp; cases hp⟩
  insertLinked s k o y po ho hk hs :=
    ⟨wf_insert hs.1 k _ po, parentCurrent_insertNew s k _ po hs.1 hs.2 hk fun _ hp => (linkParent_some ho hp).1⟩
  replace s k o y oid ho hk hs :=
    ⟨wf_opInv.replace s k o y oid trivial hk hs.1, parentCurrent_replaced s k o oid y hs.1 hs.2 hk ho⟩
  prune s gone hs := ⟨wf_opInv.prune s gone hs.1, parentCurrent_pruned s gone hs.2⟩
  ofMkObj _ _ h := mkObj_parent h
  revalued _ _ _ ho _ := ho

theorem storeInv_new (c : Bool) : StoreInv (Store.new c) :=
  ⟨wf_new c, fun _ _ _ _ h => nomatch h⟩

end MesonModel.Life

namespace MesonModel.Options
open M MesonModel.Life

/-- the loop of `update_project_options` (before the removal pass) -/
theorem updateLoop_keeps (sub : Str) (objs : List (Key × Obj)) (s : Store) (hw : Wf s) (hpc : ParentCurrent s)
    (hn : ∀ kv ∈ objs, kv.2.parent = none) :
    Wf (forEach (updateOne sub) objs s).2 ∧ ParentCurrent (forEach (updateOne sub) objs s).2 :=
  (Keeps.forEachMem objs fun kv hkv => Keeps.updateOne (storeInv_opInv.toUpdInv sub) kv (hn kv hkv)).run s ⟨hw, hpc⟩

/-- `update_project_options` keeps every parent pointer current — for all children (yielding or overridden) of a
replaced object, and, because the removal pass unlinks the children of a removed option, whatever is removed -/
theorem update_project_options_keeps_parentCurrent (sub : Str) (objs : List (Key × Obj)) (s : Store)
    (hw : Wf s) (hpc : ParentCurrent s) (hn : ∀ kv ∈ objs, kv.2.parent = none) :
    ParentCurrent (updateProjectOptions sub objs s).2 :=
  ((Keeps.updateProjectOptions (storeInv_opInv.toUpdInv sub) objs hn).run s ⟨hw, hpc⟩).2

/-! ### the computable form, and the variant that re-points only the children that are yielding -/

def isStale (s : Store) (k : Key) : Bool :=
  match alookup k s.options with
  | some id =>
    match s.heap[id]? with
    | some o =>
      match o.parent with
      | some pid => !(alookup k.asRoot s.options == some pid)
      | none => false
    | none => false
  | none => false

/-- registered options whose parent pointer is not the registered top-level object -/
def staleKeys (s : Store) : List Key := (s.options.map (·.1)).filter (isStale s)

theorem staleKeys_nil_of_parentCurrent {s : Store} (h : ParentCurrent s) : staleKeys s = [] := by
  simp only [staleKeys, List.filter_eq_nil_iff, List.mem_map]
  intro k _
  fun_cases isStale s k
  case case1 id hk o ho pid hp => simp [h k id o pid hk ho hp]
  all_goals simp

/-- the seeded variant of the re-pointing loop: `if child.yielding and child.parent is oldval` -/
def repointYieldingOnly (oid nid : Nat) : M Unit :=
  modify (fun s =>
    match s.heap[nid]? with
    | none => s
    | some n =>
      { s with heap := s.heap.map (fun c =>
          if c.yielding && c.parent == some oid then
            (if n.kind.sameClass c.kind then { c with parent := some nid }
             else { c with parent := none, yielding := false })
          else c) })

def replaceObjY (key : Key) (nobj old : Obj) (oid : Nat) (retyped : Bool) : M Unit := do
  let s2 ← get
  let nid ← alloc { nobj with parent := linkParent s2 key nobj,
                              yielding := (linkParent s2 key nobj).isSome && (retyped || old.parent.isNone || old.yielding) }
  modify (fun s => { s with options := ainsert key nid s.options })
  repointYieldingOnly oid nid
  if retyped then M.pure () else catchMeson (objSetValue nid old.value) (M.pure ())

/- the five-step history of the variant on the store API: an inheriting pair, the child overridden, the parent's
choices changed (object replaced), the parent changed, the override dropped -/
def kTop : Key := { name := "mode".toList, sub := some [], machine := .host }
def kSub : Key := { name := "mode".toList, sub := some "sub".toList, machine := .host }
def modeSpec (c : List String) (d : String) (y : Bool) : ObjSpec :=
  { kind := .combo (c.map String.toList), default := .str d.toList, yielding := y }

def sOverridden : Store :=
  run (Store.new false) [.addProject kTop (modeSpec ["a", "b", "c"] "a" false), .addProject kSub (modeSpec ["a", "b", "c"] "b" true),
    .setOption kSub (.str "c".toList) false]

def newParent : Obj := { kind := .combo (["a", "b", "c", "d"].map String.toList), value := .str "a".toList,
                         default := .str "a".toList, yielding := false, readonly := false, parent := none }
def oldParent : Obj := { kind := .combo (["a", "b", "c"].map String.toList), value := .str "a".toList,
                         default := .str "a".toList, yielding := false, readonly := false, parent := none }

/-- after the replacement by the variant / by the repaired code: parent set to `d`, override dropped -/
def afterVariant : Store :=
  (configureOne (kSub, none) (setOption kTop (.str "d".toList) false (replaceObjY kTop newParent oldParent 0 false sOverridden).2).2).2
def afterRepaired : Store :=
  (configureOne (kSub, none) (setOption kTop (.str "d".toList) false (replaceObj kTop newParent oldParent 0 false sOverridden).2).2).2

/-- the history under the variant and under the repaired code, recorded by one evaluation (nearly all of its work is
decoding the string literals of `Tables.builtinNames` for `is_builtin_option`, once per evaluation however many calls
ask).  Under the variant the overridden child keeps pointing at the discarded object; that is invisible while it is
overridden; after the parent is set to `d` and the override is dropped it reads the parent's pre-edit value forever.
Under the repaired code nothing is stale and the child follows the parent. -/
theorem replaced_parent_histories :
    (staleKeys (replaceObjY kTop newParent oldParent 0 false sOverridden).2 = [kSub] ∧
     (getValueFor (replaceObjY kTop newParent oldParent 0 false sOverridden).2 kSub).toOption = some (.str "c".toList) ∧
     (getValueFor afterVariant kTop).toOption = some (.str "d".toList) ∧
     (getValueFor afterVariant kSub).toOption = some (.str "a".toList)) ∧
    (staleKeys (replaceObj kTop newParent oldParent 0 false sOverridden).2 = [] ∧
     (getValueFor afterRepaired kTop).toOption = some (.str "d".toList) ∧
     (getValueFor afterRepaired kSub).toOption = some (.str "d".toList)) := by
  decide +kernel

theorem repointYieldingOnly_breaks_parentCurrent :
    ParentCurrent sOverridden ∧ ¬ ParentCurrent (replaceObjY kTop newParent oldParent 0 false sOverridden).2 := by
  constructor
  · exact (Keeps.run_ops storeInv_opInv _ _ (storeInv_new false)).2
  · intro h
    have := staleKeys_nil_of_parentCurrent h
    rw [replaced_parent_histories.1.1] at this
    cases this

end MesonModel.Options
