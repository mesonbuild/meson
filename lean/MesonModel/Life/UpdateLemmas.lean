import MesonModel.Options.DictLemmas
import MesonModel.Options.KeepsLemmas
/-
What one entry of a re-read option file does to the store (`OptionStore.update_project_options`,
options.py:1429-1474), for an arbitrary store: new option, changed choices (keep / reset), unchanged domain
(no-op, whatever the new default is), changed type (replaced, new default), and the removal pass.
-/
namespace MesonModel.Life
open MesonModel.Options MesonModel.Options.M

theorem updateOne_new (sub : Str) (key : Key) (nobj : Obj) (s : Store)
    (hm : key.machine = .host) (hs : key.sub = some sub)
    (hk : alookup key s.options = none) (hp : alookup key s.pending = none)
    (hy : nobj.yielding = false) (hpar : nobj.parent = none) :
    updateOne sub (key, nobj) s =
      (.ok (), { s with heap := s.heap ++ [nobj], options := ainsert key s.heap.length s.options,
                        projectOptions := setAdd key s.projectOptions }) := by
  cases nobj
  simp_all [updateOne, addProjectOption, bind, M.bind, M.assert, M.pure, M.get, M.modify, ahas, ensureKey_host s key hm, alloc]

theorem updateOne_replace (sub : Str) (key : Key) (nobj old : Obj) (s : Store) (oid : Nat)
    (hm : key.machine = .host) (hs : key.sub = some sub)
    (hk : alookup key s.options = some oid) (ho : s.heap[oid]? = some old)
    (hd : (!(old.kind.sameClass nobj.kind) || old.kind.choicesDiffer nobj.kind) = true) :
    updateOne sub (key, nobj) s = replaceObj key nobj old oid (!(old.kind.sameClass nobj.kind)) s := by
  simp [updateOne, bind, M.bind, M.assert, M.pure, M.get, ahas, hk, hm, hs, ensureKey_host s key hm, getObj, ho, hd]

theorem linkParent_plain (s : Store) (k : Key) (o : Obj) (hy : o.yielding = false) (hp : o.parent = none) :
    linkParent s k o = none := by
  simp [linkParent, hy, hp]

/-- re-pointing looks at the link of an object and at the class of the replacement, not at values -/
theorem repointFn_revalue (n : Obj) (oid nid : Nat) (c : Obj) (w : Val) :
    { repointFn n oid nid c with value := w } = repointFn { n with value := w } oid nid { c with value := w } := by
  unfold repointFn
  split
  · split <;> rfl
  · rfl

/-- giving the replacement a value after it was put in place is putting a replacement with that value in place -/
theorem replacedStore_revalue (s : Store) (key : Key) (n : Obj) (oid : Nat) (w : Val) :
    (replacedStore s key n oid).updObj s.heap.length (fun o => { o with value := w }) =
      replacedStore s key { n with value := w } oid := by
  rw [Store.updObj, replacedStore_new]
  simp [replacedStore, repointFn_revalue]
  exact fun _ _ => rfl

/-- a replacement succeeds, and what it puts in place is `nobj`, linked, with the value `w`: the new default after a type
change, else the old value when the new choices accept it, else the new default -/
theorem replaceObj_store (key : Key) (nobj old : Obj) (oid : Nat) (retyped : Bool) (s : Store) (w : Val)
    (hw : (retyped = true ∧ w = nobj.value) ∨
          (retyped = false ∧ validate nobj.kind old.value = .ok w) ∨
          (retyped = false ∧ validate nobj.kind old.value = .error .meson ∧ w = nobj.value)) :
    replaceObj key nobj old oid retyped s =
      (.ok (), replacedStore s key { nobj with value := w, parent := linkParent s key nobj,
                                               yielding := (linkParent s key nobj).isSome && (retyped || old.parent.isNone || old.yielding) } oid) := by
  rw [replaceObj_eq]
  rcases hw with ⟨rfl, rfl⟩ | ⟨rfl, hv⟩ | ⟨rfl, hv, rfl⟩
  · rfl
  all_goals simp only [Bool.false_eq_true, if_false, catchMeson, objSetValue, bind, M.bind, getObj, replacedStore_new,
    (repointFn_kind_value _ _ _ _).1, hv, M.ofExcept, M.pure, M.modify, M.fail, replacedStore_revalue]

/-- replacement of a non-inheriting option: the option then reads the replacement's value -/
theorem replaceObj_plain (key : Key) (nobj old : Obj) (oid : Nat) (retyped : Bool) (s : Store)
    (hm : key.machine = .host) (ha : alookup key s.augments = none)
    (hy : nobj.yielding = false) (hp : nobj.parent = none) (w : Val)
    (hw : (retyped = true ∧ w = nobj.value) ∨
          (retyped = false ∧ validate nobj.kind old.value = .ok w) ∨
          (retyped = false ∧ validate nobj.kind old.value = .error .meson ∧ w = nobj.value)) :
    (replaceObj key nobj old oid retyped s).1 = .ok () ∧
    getValueFor (replaceObj key nobj old oid retyped s).2 key = .ok w := by
  rw [replaceObj_store key nobj old oid retyped s w hw, linkParent_plain s key nobj hy hp]
  refine ⟨rfl, ?_⟩
  rw [getValueFor_own hm (resolveId_registered hm ?_) (replacedStore_new ..) ha ?_]
  · simp [repointFn]
  · simp [replacedStore, alookup_ainsert]
  · simp [repointFn]

theorem updateOne_same (sub : Str) (key : Key) (nobj old : Obj) (s : Store) (oid : Nat)
    (hm : key.machine = .host) (hs : key.sub = some sub)
    (hk : alookup key s.options = some oid) (ho : s.heap[oid]? = some old)
    (hc : old.kind.sameClass nobj.kind = true) (hd : old.kind.choicesDiffer nobj.kind = false) :
    updateOne sub (key, nobj) s = (.ok (), s) := by
  simp [updateOne, bind, M.bind, M.assert, M.pure, M.get, ahas, hk, hm, hs, ensureKey_host s key hm, getObj, ho, hc, hd]

theorem getValueFor_fresh (s : Store) (key : Key) (o : Obj) (po : List Key)
    (hm : key.machine = .host) (ha : alookup key s.augments = none)
    (hy : o.yielding = false) :
    getValueFor { s with heap := s.heap ++ [o], options := ainsert key s.heap.length s.options, projectOptions := po } key
      = .ok o.value :=
  getValueFor_own (id := s.heap.length) (o := o) hm (resolveId_registered hm (by simp [alookup_ainsert])) (by simp) ha hy

theorem update_removes (sub : Str) (objs : List (Key × Obj)) (s s' : Store)
    (h : updateProjectOptions sub objs s = (.ok (), s')) (k : Key) (hs : k.sub = some sub)
    (hn : objs.any (fun p => p.1 == k) = false) : s'.isProjectOption k = false := by
  simp only [updateProjectOptions, bind, M.bind] at h
  cases hf : forEach (updateOne sub) objs s with
  | mk r s1 =>
    rw [hf] at h
    cases r with
    | error e => simp at h
    | ok u =>
      simp only [M.get, M.modify, unlinkChildren, Prod.mk.injEq] at h
      obtain ⟨_, h⟩ := h
      subst h
      simp only [Store.isProjectOption]
      by_cases hc : s1.projectOptions.contains k = true
      · simp [Store.isProjectOption, hn, hc, hs]
      · simp only [Bool.not_eq_true] at hc
        simp only [List.contains_eq_mem, List.mem_filter, decide_eq_false_iff_not] at hc ⊢
        simp [hc]

theorem linkParent_yield (s : Store) (k : Key) (o p : Obj) (pid : Nat) (hy : o.yielding = true) (hs : k.subTruthy = true)
    (hk : alookup k.asRoot s.options = some pid) (hp : s.heap[pid]? = some p) (hc : p.kind.sameClass o.kind = true) :
    linkParent s k o = some pid := by
  simp [linkParent, hy, hs, hk, hp, hc]

/-- replacement of an inheriting option (changed choices): it is linked to the registered top-level object again and
reads that object's value -/
theorem replaceObj_inheriting (key : Key) (nobj old p : Obj) (oid pid : Nat) (s : Store)
    (hm : key.machine = .host) (ha : alookup key s.augments = none)
    (hy : nobj.yielding = true) (hs : key.subTruthy = true)
    (hk : alookup key.asRoot s.options = some pid) (hp : s.heap[pid]? = some p) (hpp : p.parent = none)
    (hc : p.kind.sameClass nobj.kind = true) (hpo : pid ≠ oid)
    (hold : old.yielding = true) (hv : ∃ e, validate nobj.kind old.value = .ok e ∨ validate nobj.kind old.value = .error .meson) :
    (replaceObj key nobj old oid false s).1 = .ok () ∧
    getValueFor (replaceObj key nobj old oid false s).2 key = .ok p.value := by
  obtain ⟨w, hw⟩ : ∃ w, validate nobj.kind old.value = .ok w ∨ validate nobj.kind old.value = .error .meson ∧ w = nobj.value :=
    hv.elim fun e hv => hv.elim (fun h => ⟨e, .inl h⟩) fun h => ⟨_, .inr ⟨h, rfl⟩⟩
  rw [replaceObj_store key nobj old oid false s w (.inr (hw.imp (⟨rfl, ·⟩) (⟨rfl, ·⟩))),
    linkParent_yield s key nobj p pid hy hs hk hp hc]
  refine ⟨rfl, ?_⟩
  -- the replacement is no child of the replaced object (`hpo`), nor is its parent (`hpp`): re-pointing leaves both alone
  rw [getValueFor_inheriting _ key _ pid _ _ hm ?_ (replacedStore_new ..) ha ?_ ?_ (replacedStore_old _ _ _ _ hp)]
  · simp [repointFn, hpp]
  · simp [replacedStore, alookup_ainsert]
  · simp [repointFn, hpo, hold]
  · simp [repointFn, hpo]

/-- replacement of a *parent* object: a child that yielded to the old object reads the replacement -/
theorem replaceObj_repoints_child (key ck : Key) (nobj old c : Obj) (oid cid : Nat) (s : Store)
    (hm : ck.machine = .host) (ha : alookup ck s.augments = none) (hkk : key ≠ ck)
    (hy : nobj.yielding = false) (hp : nobj.parent = none)
    (hck : alookup ck s.options = some cid) (hc : s.heap[cid]? = some c)
    (hcy : c.yielding = true) (hcp : c.parent = some oid) (hcc : nobj.kind.sameClass c.kind = true) (w : Val)
    (hw : validate nobj.kind old.value = .ok w ∨ (validate nobj.kind old.value = .error .meson ∧ w = nobj.value)) :
    getValueFor (replaceObj key nobj old oid false s).2 ck = .ok w := by
  rw [replaceObj_store key nobj old oid false s w (.inr (hw.imp (⟨rfl, ·⟩) (⟨rfl, ·⟩))), linkParent_plain s key nobj hy hp,
    getValueFor_inheriting _ ck cid s.heap.length _ _ hm ?_ (replacedStore_old _ _ _ _ hc) ha ?_ ?_ (replacedStore_new ..)]
  · simp [repointFn]
  · simp [replacedStore, alookup_ainsert, hkk, hck]
  · simp [repointFn, hcp, hcc, hcy]
  · simp [repointFn, hcp, hcc]

/-- `-Usub:opt` on a project option that has a parent: it yields again and reads the parent's value, whatever that is -/
theorem configureOne_unset_yielding (s : Store) (k : Key) (id pid : Nat) (o p : Obj)
    (hm : k.machine = .host)
    (ha : alookup k s.augments = none) (hk : alookup k s.options = some id) (ho : s.heap[id]? = some o)
    (hp : o.parent = some pid) (hpo : s.heap[pid]? = some p) (hne : pid ≠ id) :
    (configureOne (k, none) s).1 = .ok (!o.yielding) ∧ getValueFor (configureOne (k, none) s).2 k = .ok p.value := by
  have he : ∀ (s' : Store), ensureKey s' k = k := fun s' => ensureKey_host s' k hm
  obtain ⟨hlt, ho'⟩ := List.getElem?_eq_some_iff.mp ho
  have hne' : id ≠ pid := Ne.symm hne
  simp [configureOne, bind, M.bind, M.get, M.modify, M.pure, ahas, ha, hk, he, getObj, ho, hp, objSetYielding, Store.updObj,
    getValueFor, getIdAndValue, resolveId, Except.map, List.getElem?_set, hne, hne', hpo, hlt, ho']

end MesonModel.Life
