import MesonModel.Life.ParentCurrent
/-
Frame of `OptionStore.update_project_options` over OBJECT IDENTITIES (property C08).

The store model has a heap: an option object is an index, `parent : Option Nat` is a pointer.  Python's
`child.parent is oldval` is equality of indices.  Two distinct objects may have equal *definitions* (a top-level
option and the non-yielding option of the same name, type, description and choices in some subproject): whatever
`update_project_options(…, P)` does to parent links it may only do to the children of the very objects that were
registered under keys of project `P` (replaced or removed) — never to the children of an *equal* object of another
project.  The variant that finds the children by `==` on the definition is refuted on a three-project witness.
-/
namespace MesonModel.Options
open M

/-- every object of `s` is unchanged in `s'`, except children of the objects `ids` -/
def ObjsKept (ids : Nat → Prop) (s s' : Store) : Prop :=
  ∀ (i : Nat) (c : Obj), s.heap[i]? = some c → s'.heap[i]? = some c ∨ ∃ pid, c.parent = some pid ∧ ids pid

/-- the ids that belong to project `sub` during an update: registered under one of its keys, or not yet allocated -/
def SubIds (sub : Str) (s : Store) (pid : Nat) : Prop :=
  (∃ k, k.sub = some sub ∧ (k, pid) ∈ s.options) ∨ s.heap.length ≤ pid

theorem ObjsKept.refl (ids : Nat → Prop) (s : Store) : ObjsKept ids s s := fun _ _ h => Or.inl h

/-- a key registered for a fresh object adds no old id to the ids of `sub` -/
theorem subIds_insert {sub : Str} {s s' : Store} {k : Key} (ho : s'.options = ainsert k s.heap.length s.options)
    (hl : s.heap.length ≤ s'.heap.length) (pid : Nat) (hp : SubIds sub s' pid) : SubIds sub s pid := by
  rcases hp with ⟨k', hks, hm⟩ | hm
  · rw [ho] at hm
    rcases isUpdate_ainsert.mem _ _ _ _ hm with e | hm'
    · exact Or.inr (Nat.le_of_eq (congrArg Prod.snd e).symm)
    · exact Or.inl ⟨k', hks, hm'⟩
  · exact Or.inr (Nat.le_trans hl hm)

/-- seen from `s0` during an update of project `sub`: the heap has only grown, the ids of `sub` are those of `s0` or
new ones, and every object of `s0` is as it was unless its parent is one of them -/
def KeptFrom (sub : Str) (s0 s : Store) : Prop :=
  s0.heap.length ≤ s.heap.length ∧ (∀ pid, SubIds sub s pid → SubIds sub s0 pid) ∧ ObjsKept (SubIds sub s0) s0 s

/-- the update of `sub` as the walk of `KeepsOps` sees it: objects enter at fresh ids; re-pointing and unlinking touch only
children of the replaced or removed objects, which keys of `sub` hold -/
theorem keptFrom_updInv (sub : Str) (s0 : Store) :
    Life.UpdInv sub (s0.heap.length ≤ ·) (KeptFrom sub s0) (fun _ => True) where
  fresh _ hs := hs.1
  setFresh id v hi := by
    refine ⟨fun s hs => ?_⟩
    rcases objSetValue_cases id v s with e | ⟨w, e⟩ <;> rw [e]
    · exact hs
    · refine ⟨by simpa using hs.1, fun pid hp => hs.2.1 pid (by simpa [SubIds] using hp), fun i c hc => ?_⟩
      have hlt := (List.getElem?_eq_some_iff.mp hc).1
      rw [updObj_heap_other s id i _ (by omega)]
      exact hs.2.2 i c hc
  insertLinked s k o y po _ _ hs :=
    ⟨by simp only [List.length_append]; exact Nat.le_trans hs.1 (Nat.le_add_right ..),
      fun pid hp => hs.2.1 pid (subIds_insert rfl (by simp) pid hp),
      fun i c hc => (hs.2.2 i c hc).imp_left (getElem?_append_old _ _ i c)⟩
  replace s k o y oid hsub _ hk hs := by
    refine ⟨by simp only [replacedStore, List.length_map, List.length_append]; exact Nat.le_trans hs.1 (Nat.le_add_right ..),
      fun pid hp => hs.2.1 pid (subIds_insert rfl (by simp [replacedStore]) pid hp), fun i c hc => ?_⟩
    rcases hs.2.2 i c hc with h | h
    · by_cases hp : c.parent = some oid
      · exact Or.inr ⟨oid, hp, hs.2.1 oid (Or.inl ⟨k, hsub, mem_of_alookup k oid _ hk⟩)⟩
      · exact Or.inl ((replacedStore_old s k _ oid h).trans (by rw [repointFn, if_neg hp]))
    · exact Or.inr h
  prune s gone hg hs := by
    refine ⟨by simpa [prunedStore] using hs.1, fun pid hp => hs.2.1 pid ?_, fun i c hc => (hs.2.2 i c hc).elim (fun h => ?_) .inr⟩
    · rcases hp with ⟨k, hks, hm⟩ | hm
      · exact Or.inl ⟨k, hks, (List.mem_filter.mp hm).1⟩
      · exact Or.inr (by simpa [prunedStore] using hm)
    · -- unlinked only if its parent is the object of a removed key, which is a key of `sub`
      simp only [prunedStore, unlinkFn, List.getElem?_map, h, Option.map_some]
      cases hp : c.parent with
      | none => exact Or.inl rfl
      | some pid =>
        by_cases hin : ((s.options.filter (fun p => gone p.1)).map (·.2)).contains pid = true
        · simp only [List.contains_eq_mem, List.mem_map, List.mem_filter, decide_eq_true_eq] at hin
          obtain ⟨⟨k, _⟩, ⟨hm, hgk⟩, rfl⟩ := hin
          exact Or.inr ⟨_, rfl, hs.2.1 _ (Or.inl ⟨k, hg k hgk, hm⟩)⟩
        · left
          simp only [Bool.eq_false_iff.mpr hin, Bool.false_eq_true, if_false]

/-- **frame of `update_project_options` over object ids**: re-reading the option file of project
`sub` leaves every object of the heap exactly as it was — value, yielding flag, parent link — unless its parent
pointer is (the id of) an object registered under a key of project `sub` at entry, or allocated during the call,
i.e. a replaced or removed object of this very project.  Equality of definitions plays no role. -/
theorem update_project_options_frame (sub : Str) (objs : List (Key × Obj)) (s : Store) :
    ObjsKept (SubIds sub s) s (updateProjectOptions sub objs s).2 :=
  ((Life.Keeps.updateProjectOptions (keptFrom_updInv sub s) objs fun _ _ => trivial).run s
    ⟨Nat.le_refl _, fun _ h => h, ObjsKept.refl _ s⟩).2.2

/-- the children of an object that no key of project `sub` holds are untouched by an update of `sub` — however
equal the definition of that object is to the one of an option of `sub` -/
theorem update_project_options_frame_other_project (sub : Str) (objs : List (Key × Obj)) (s : Store)
    (i pid : Nat) (c : Obj) (hc : s.heap[i]? = some c) (hp : c.parent = some pid) (hlt : pid < s.heap.length)
    (hother : ∀ k, (k, pid) ∈ s.options → k.sub ≠ some sub) :
    (updateProjectOptions sub objs s).2.heap[i]? = some c := by
  rcases update_project_options_frame sub objs s i c hc with h | ⟨pid', hp', hi⟩
  · exact h
  · rw [hp] at hp'
    cases hp'
    rcases hi with ⟨k, hk, hm⟩ | hl
    · exact absurd hk (hother k hm)
    · omega

theorem update_project_options_frame_no_parent (sub : Str) (objs : List (Key × Obj)) (s : Store)
    (i : Nat) (c : Obj) (hc : s.heap[i]? = some c) (hp : c.parent = none) :
    (updateProjectOptions sub objs s).2.heap[i]? = some c := by
  rcases update_project_options_frame sub objs s i c hc with h | ⟨pid', hp', _⟩
  · exact h
  · rw [hp] at hp'
    cases hp'

/-- with `Wf`, unique keys and `ParentCurrent`: re-reading the option file of a SUBPROJECT never touches an option that
inherits from a top-level option — whatever subproject it belongs to, whatever is declared, replaced or removed -/
theorem update_project_options_frame_child_of_top_level (sub : Str) (objs : List (Key × Obj)) (s : Store)
    (hw : Wf s) (hpc : ParentCurrent s) (hnd : (s.options.map (·.1)).Nodup) (hsub : sub ≠ [])
    (ck : Key) (cid pid : Nat) (c : Obj) (hk : alookup ck s.options = some cid) (hc : s.heap[cid]? = some c)
    (hp : c.parent = some pid) :
    (updateProjectOptions sub objs s).2.heap[cid]? = some c := by
  have hroot := hpc ck cid c pid hk hc hp
  refine update_project_options_frame_other_project sub objs s cid pid c hc hp (hw.1 _ _ hroot) ?_
  intro k hm hks
  have hl := isLookup_alookup.of_mem_nodup hnd hm
  have e := hw.2 _ _ _ hl hroot
  rw [e] at hks
  simp only [Key.asRoot, Option.some.injEq] at hks
  exact hsub hks.symm

/-! ## the variant that compares definitions (`opt.parent == parent`) -/

/-- dataclass `__eq__` of two option objects: the definition (class and choices / range, yielding, readonly, and the
parents — here: both without parent, or the same parent object), NOT the value -/
def sameDef (a b : Obj) : Bool :=
  a.kind == b.kind && a.yielding == b.yielding && a.readonly == b.readonly && a.parent == b.parent

/-- `[opt for opt in self.options.values() if opt.parent == parent]` as a predicate on a child -/
def isChildEq (s : Store) (oid : Nat) (c : Obj) : Bool :=
  match c.parent, s.heap[oid]? with
  | some pid, some old => (match s.heap[pid]? with | some p => sameDef p old | none => false)
  | _, _ => false

def repointChildrenEq (oid nid : Nat) : M Unit :=
  modify (fun s =>
    match s.heap[nid]? with
    | none => s
    | some n =>
      { s with heap := s.heap.map (fun c =>
          if isChildEq s oid c then
            (if n.kind.sameClass c.kind then { c with parent := some nid }
             else { c with parent := none, yielding := false })
          else c) })

def replaceObjEq (key : Key) (nobj old : Obj) (oid : Nat) (retyped : Bool) : M Unit := do
  let s2 ← get
  let nid ← alloc { nobj with parent := linkParent s2 key nobj,
                              yielding := (linkParent s2 key nobj).isSome && (retyped || old.parent.isNone || old.yielding) }
  modify (fun s => { s with options := ainsert key nid s.options })
  repointChildrenEq oid nid
  if retyped then M.pure () else catchMeson (objSetValue nid old.value) (M.pure ())

def unlinkChildrenEq (ids : List Nat) : M Unit :=
  modify (fun s => { s with heap := s.heap.map (fun c =>
    if ids.any (fun oid => isChildEq s oid c) then { c with parent := none, yielding := false } else c) })

def updateOneEq (sub : Str) (kv : Key × Obj) : M Unit := do
  let (key, nobj) := kv
  assert (key.machine == .host)
  let s ← get
  if !(ahas key s.options) then addProjectOption key nobj
  else if key.sub != some sub then fail .bug
  else
    match alookup (ensureKey s key) s.options with
    | none => fail .key
    | some oid => do
      let old ← getObj oid
      let retyped := !(old.kind.sameClass nobj.kind)
      if retyped || old.kind.choicesDiffer nobj.kind then replaceObjEq key nobj old oid retyped
      else M.pure ()

def updateProjectOptionsEq (sub : Str) (objs : List (Key × Obj)) : M Unit := do
  forEach (updateOneEq sub) objs
  let s ← get
  let gone := fun (k : Key) => !(objs.any (fun p => p.1 == k)) && s.isProjectOption k && k.sub == some sub
  modify (fun s' =>
    { s' with options := s'.options.filter (fun p => !(gone p.1)),
              projectOptions := s'.projectOptions.filter (fun k => !(gone k)) })
  unlinkChildrenEq ((s.options.filter (fun p => gone p.1)).map (·.2))

/-- three projects declare `mode` with the same definition: the top-level project, `alt` (its own, non-yielding
twin; the user gave it `c`) and `sub` (`yield: true`, inherits); the user set the top-level one to `b` -/
def kAlt : Key := { name := "mode".toList, sub := some "alt".toList, machine := .host }
def sTwins : Store :=
  run (Store.new false) [.addProject kTop (modeSpec ["a", "b", "c"] "a" false), .addProject kAlt (modeSpec ["a", "b", "c"] "a" false),
    .addProject kSub (modeSpec ["a", "b", "c"] "c" true), .setOption kTop (.str "b".toList) false,
    .setOption kAlt (.str "c".toList) false]

def altGrown : List (Key × Obj) :=
  [(kAlt, { kind := .combo (["a", "b", "c", "d"].map String.toList), value := .str "a".toList,
            default := .str "a".toList, yielding := false, readonly := false, parent := none })]

/-- **the `==` variant refuted**, recorded by one evaluation (nearly all of its work is decoding the string literals of
`Tables.builtinNames` for `is_builtin_option`, once per evaluation however many calls ask): on `sTwins` the child of
`sub` reads the top-level value `b`.  `alt` removes its twin, or gives it a fourth choice.  The code (identity) leaves
`sub:mode` alone in both cases — still `b`, still the child of the registered top-level object.  The variant (equality
of definitions) cuts it off (it falls back to its own default `c`) resp. re-points it to `alt`'s option (it shows
`alt`'s value `c`).  The second group: the witness is an instance of `update_project_options_frame_child_of_top_level`
(unique keys, no stale parent pointer, `sub:mode` is object 2 with parent 0; `Wf` is not evaluated), and its conclusion
is what the variant violates. -/
theorem childrenOfEq_histories :
    ((getValueFor sTwins kSub).toOption = some (.str "b".toList) ∧
     (getValueFor (updateProjectOptions "alt".toList [] sTwins).2 kSub).toOption = some (.str "b".toList) ∧
     staleKeys (updateProjectOptions "alt".toList [] sTwins).2 = [] ∧
     (getValueFor (updateProjectOptionsEq "alt".toList [] sTwins).2 kSub).toOption = some (.str "c".toList) ∧
     (getValueFor (setOption kTop (.str "a".toList) false (updateProjectOptionsEq "alt".toList [] sTwins).2).2 kSub).toOption
       = some (.str "c".toList) ∧
     (getValueFor (updateProjectOptions "alt".toList altGrown sTwins).2 kSub).toOption = some (.str "b".toList) ∧
     (getValueFor (updateProjectOptions "alt".toList altGrown sTwins).2 kAlt).toOption = some (.str "c".toList) ∧
     (getValueFor (updateProjectOptionsEq "alt".toList altGrown sTwins).2 kSub).toOption = some (.str "c".toList) ∧
     staleKeys (updateProjectOptionsEq "alt".toList altGrown sTwins).2 = [kSub]) ∧
    ((sTwins.options.map (·.1)).Nodup ∧ staleKeys sTwins = [] ∧
     alookup kSub sTwins.options = some 2 ∧ (sTwins.heap[2]?.map (·.parent)) = some (some 0) ∧
     (updateProjectOptions "alt".toList [] sTwins).2.heap[2]? = sTwins.heap[2]? ∧
     (updateProjectOptionsEq "alt".toList [] sTwins).2.heap[2]? ≠ sTwins.heap[2]?) := by
  decide +kernel

end MesonModel.Options
