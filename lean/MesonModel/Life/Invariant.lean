import MesonModel.Life.Model
import MesonModel.Life.ParentCurrent
/-
The well-formedness invariant of a build directory and its preservation by `step`.

`DirInv d` asks `StoreInv` (`Wf` and `ParentCurrent`, Life/ParentCurrent.lean) of the persisted store.  The interpreter
is a composition of store operations, so it keeps `StoreInv` by the rules of `Keeps`; a command either leaves the
directory it works on as it is — every failing one does: what it wrote is taken back — or completes with a store the
interpreter produced (`Outcome`, `step_outcome`).
-/
namespace MesonModel.Life
open MesonModel.Options MesonModel.Options.M

theorem loadOptionFile_keeps (proj : Str) (defs : Defs) : Keeps StoreInv (loadOptionFile proj defs) :=
  Keeps.bind_ofExcept fun os hos =>
    Keeps.updateProjectOptions (storeInv_opInv.toUpdInv proj) os (Keeps.ofMkObjs storeInv_opInv hos)

theorem Keeps.getOption {P : Store → Prop} (proj name : Str) : Keeps P (getOption proj name) := by
  constructor
  intro s h
  unfold MesonModel.Life.getOption
  split <;> exact h

theorem Keeps.readAll {P : Store → Prop} (proj : Str) : ∀ l, Keeps P (readAll proj l)
  | [] => Keeps.pure' _
  | n :: r => Keeps.bind' (Keeps.getOption proj n) fun _ => Keeps.bind' (Keeps.readAll proj r) fun _ => Keeps.pure' _

theorem Keeps.condIfDeclared {P : Store → Prop} (defs : Defs) (proj name : Str) :
    Keeps P (condIfDeclared defs proj name) := by
  unfold MesonModel.Life.condIfDeclared
  split
  · refine Keeps.bind' (Keeps.getOption proj name) fun v => ?_
    split
    · exact Keeps.pure' _
    · exact Keeps.fail _
  · exact Keeps.pure' _

theorem interpExtras_keeps (first : Bool) (ini : List Str) (cmd : Dict) :
    ∀ (l : List Extra), Keeps StoreInv (interpExtras first ini cmd l)
  | [] => Keeps.pure' _
  | x :: r => by
    refine Keeps.bind' (loadOptionFile_keeps _ _) fun _ => Keeps.bind' ?_ fun _ =>
      Keeps.bind' (Keeps.readAll _ _) fun _ => Keeps.bind' (interpExtras_keeps first ini cmd r) fun _ => Keeps.pure' _
    split
    · exact Keeps.initSub storeInv_opInv.toInitInv _ _ _ _ _
    · exact Keeps.pure' _

theorem interpProg_keeps (first : Bool) (ini : List Str) (top sub : Defs) (a b c cmd : Dict) (more : List Extra) :
    Keeps StoreInv (interpProg first ini top sub a b c cmd more) := by
  refine Keeps.bind (loadOptionFile_keeps _ _) fun _ => ?_
  refine Keeps.ite_bind (Keeps.initTop storeInv_opInv.toInitInv _ _ _) (Keeps.pure' _) fun _ => ?_
  refine Keeps.bind (Keeps.readAll _ _) fun m1 => Keeps.bind (Keeps.condIfDeclared _ _ _) fun boom => ?_
  refine Keeps.ite_bind (Keeps.fail _) (Keeps.pure' _) fun _ => ?_
  refine Keeps.bind (Keeps.condIfDeclared _ _ _) fun late => Keeps.bind (loadOptionFile_keeps _ _) fun _ => ?_
  refine Keeps.ite_bind (Keeps.initSub storeInv_opInv.toInitInv _ _ _ _ _) (Keeps.pure' _) fun _ => ?_
  exact Keeps.bind (Keeps.readAll _ _) fun m2 => Keeps.bind (interpExtras_keeps _ _ _ _) fun m3 => Keeps.pure' _

theorem setFromConfigureCommand_keeps (args : List (Key × Option Val)) : Keeps StoreInv (setFromConfigureCommand args) :=
  Keeps.setFromConfigure storeInv_opInv.toInitInv _ false fun _ _ => .all _

def DirInv (d : Dir) : Prop := ∀ c, d.core = some c → StoreInv c.store

theorem initBuiltins_inv (c : Bool) : StoreInv (initBuiltins (Store.new c)).2 :=
  (Keeps.initBuiltins storeInv_opInv).run _ (storeInv_new c)

theorem newCore_inv : StoreInv newCore.store := by
  -- comparing `newCore.store` with `(initBuiltins …).2` directly would make Lean run `initBuiltins`
  have mk : ∀ x : Store, StoreInv x → StoreInv ({ store := x } : Core).store := fun _ h => h
  rw [newCore]
  exact mk _ (initBuiltins_inv false)

theorem interpret_inv (first : Bool) (c : Core) (d : Dir) (cmd : Dict) (r : Interp)
    (h : interpret first c d cmd = .ok r) (hc : StoreInv c.store) : StoreInv r.core.store := by
  simp only [interpret] at h
  have hk := (interpProg_keeps first c.initialized d.topEff d.subEff d.pdoTop d.pdoSub d.spcall cmd d.more).run c.store hc
  cases hr : interpProg first c.initialized d.topEff d.subEff d.pdoTop d.pdoSub d.spcall cmd d.more c.store with
  | mk res s' =>
    rw [hr] at h hk
    cases res with
    | error e => simp at h
    | ok x =>
      obtain ⟨msgs, late⟩ := x
      simp only [Except.ok.injEq] at h
      subst h
      exact hk

/-- what a command can make of the directory `d` it works on: leave it as it is, or complete — and then a well-formed
directory stays well-formed.  A command that fails is of the first kind: whatever it wrote is taken back. -/
def Outcome (d : Dir) (r : Dir × Out) : Prop := r.1 = d ∨ (r.2.isOk = true ∧ (DirInv d → DirInv r.1))

theorem Outcome.failed {d : Dir} {r : Dir × Out} {e : Err} {l : Bool} (h : Outcome d r) (hf : r.2 = .failed e l) :
    r.1 = d := by
  rcases h with h | ⟨h, _⟩
  · exact h
  · rw [hf] at h
    cases h

theorem Outcome.inv {d : Dir} {r : Dir × Out} (h : Outcome d r) (hd : DirInv d) : DirInv r.1 := by
  rcases h with h | ⟨_, h⟩
  · rw [h]
    exact hd
  · exact h hd

/-- a completed command that persists the store `s` -/
theorem Outcome.commit {d d' : Dir} {o : Out} {co : Core} (ho : o.isOk = true) (hc : d'.core = some co)
    (hs : DirInv d → StoreInv co.store) : Outcome d (d', o) :=
  .inr ⟨ho, fun hd c hc' => by
    rw [hc] at hc'
    cases hc'
    exact hs hd⟩

theorem commitFirst_outcome (d : Dir) (so user : Dict) (r : Except Err Interp)
    (hr : DirInv d → ∀ x, r = .ok x → StoreInv x.core.store) : Outcome d (commitFirst d so user r) := by
  cases r with
  | error e => exact .inl rfl
  | ok x =>
    simp only [commitFirst]
    split
    · exact .inl rfl
    · split
      · exact .inl rfl
      · exact .commit rfl rfl fun hd => hr hd x rfl

theorem commitReconf_outcome (d : Dir) (nd user : Dict) (r : Except Err Interp)
    (hr : DirInv d → ∀ x, r = .ok x → StoreInv x.core.store) : Outcome d (commitReconf d nd user r) := by
  cases r with
  | error e => exact .inl rfl
  | ok x =>
    simp only [commitReconf]
    split
    · exact .inl rfl
    · split
      · exact .inl rfl
      · exact .commit rfl rfl fun hd => hr hd x rfl

theorem firstInvocation_outcome (d : Dir) (so : Dict) : Outcome d (firstInvocation d so) :=
  commitFirst_outcome d so _ _ fun _ x hx => interpret_inv true newCore d _ x hx newCore_inv

theorem reconfigure_outcome (d : Dir) (c : Core) (nd : Dict) (hc : d.core = some c) : Outcome d (reconfigure d c nd) := by
  unfold reconfigure
  have h0 := (setFromConfigureCommand_keeps (dArgs nd)).run c.store
  cases hs : setFromConfigureCommand (dArgs nd) c.store with
  | mk res s1 =>
    rw [hs] at h0
    cases res with
    | error e => exact .inl rfl
    | ok b =>
      exact commitReconf_outcome d nd _ _ fun hd x hx => interpret_inv false { c with store := s1 } d _ x hx (h0 (hd c hc))

theorem reloadChanged_keeps (d : Dir) : ∀ (l : List (Str × Option Bool × Defs)), Keeps StoreInv (reloadChanged d l)
  | [] => Keeps.pure' _
  | (p, recF, rec) :: r => by
    have ih := reloadChanged_keeps d r
    unfold reloadChanged
    dsimp only
    split
    · split
      · exact Keeps.bind' (loadOptionFile_keeps _ _) (fun _ => Keeps.bind' ih (fun _ => Keeps.pure' _))
      · exact Keeps.bind' ih (fun _ => Keeps.pure' _)
    · exact Keeps.bind' (loadOptionFile_keeps _ _) (fun _ => Keeps.bind' ih (fun _ => Keeps.pure' _))

theorem configure_outcome (d : Dir) (args : List (Key × Option Val)) : Outcome d (configure d args) := by
  unfold configure
  cases hc : d.core with
  | none => exact .inl rfl
  | some c =>
    dsimp only
    split
    · exact .inl rfl
    · have h1 := (reloadChanged_keeps d c.optFiles).run c.store
      cases hr : reloadChanged d c.optFiles c.store with
      | mk res s1 =>
        rw [hr] at h1
        cases res with
        | error e => exact .inl rfl
        | ok files =>
          dsimp only
          have h2 := (setFromConfigureCommand_keeps args).run s1
          cases hs : setFromConfigureCommand args s1 with
          | mk res2 s2 =>
            rw [hs] at h2
            cases res2 with
            | error e => exact .inl rfl
            | ok dirty =>
              simp only [commitConf]
              split
              · exact .commit rfl rfl fun hd => h2 (h1 (hd c hc))
              · exact .inr ⟨rfl, fun hd c' hc' => hd c' hc'⟩

/-- the directory a command works on: `--wipe` empties the build directory first (cmd_line.txt is read before) -/
def Cmd.base (d : Dir) : Cmd → Dir
  | .wipe _ => { d with core := none, corrupt := false, intro := none }
  | _ => d

/-- EVERY command — setup, reconfigure, configure, wipe, regeneration after a corrupt coredata.dat, option-file edits
and damage to coredata.dat — either leaves the directory it works on as it is or completes and keeps it well-formed -/
theorem step_outcome (d : Dir) (c : Cmd) : Outcome (c.base d) (step d c) := by
  -- an edit of the source tree, or damage to coredata.dat: the command completes, no store is written
  have edit : ∀ d' : Dir, (∀ c0, d'.core = some c0 → d.core = some c0) → Outcome d (d', .ok []) :=
    fun d' h => .inr ⟨rfl, fun hd c0 h0 => hd c0 (h c0 h0)⟩
  cases c with
  | setup nd =>
    simp only [step, Cmd.base]
    cases hcore : d.core with
    | some c0 => exact configure_outcome d _
    | none =>
      dsimp only
      split
      · exact .inl rfl
      · exact firstInvocation_outcome d _
  | configure args => exact configure_outcome d args
  | reconfigure nd =>
    simp only [step, Cmd.base]
    cases hcore : d.core with
    | some c0 => exact reconfigure_outcome d c0 nd hcore
    | none => exact firstInvocation_outcome d _
  | wipe nd => exact firstInvocation_outcome _ _
  | editSet b n sp => cases b <;> exact edit _ fun _ h => h
  | editRemove b n => cases b <;> exact edit _ fun _ h => h
  | corrupt =>
    simp only [step, Cmd.base]
    split
    · exact edit _ fun _ h => nomatch h
    · exact .inl rfl
  | fileSet b f => cases b <;> exact edit _ fun _ h => h
  | extra p e => exact edit _ fun _ h => h

theorem step_inv (d : Dir) (c : Cmd) (hd : DirInv d) : DirInv (step d c).1 :=
  (step_outcome d c).inv (by cases c <;> first | exact hd | exact fun _ h => nomatch h)

theorem runHist_inv : ∀ (h : List Cmd) (d : Dir), DirInv d → DirInv (runHist d h)
  | [], _, hd => hd
  | c :: r, d, hd => by
    simp only [runHist]
    exact runHist_inv r _ (step_inv d c hd)

theorem dirInv_empty (d : Dir) (h : d.core = none) : DirInv d := fun c hc => by rw [h] at hc; cases hc

end MesonModel.Life
