/-
Helper lemmas for C03, generator placeholder expansion (`MesonModel/Quote/Gen.lean`): a word in which
no placeholder occurs passes through the stages.
-/
import MesonModel.Quote.Gen
import MesonModel.Quote.PipeLemmas
import MesonModel.Py.CharLists

namespace MesonModel.Quote
open MesonModel.Py

theorem replaceLit_absent (old new s : Str) (h : hasSub old s = false) : replaceLit old new s = s := by
  unfold replaceLit
  induction s with
  | nil => rfl
  | cons c cs ih =>
    rw [hasSub, Bool.or_eq_false_iff] at h
    rw [replaceLitGo, if_neg (by simp [h.1]), ih h.2]

theorem hasSub_no_at (old : Str) (ho : old.head? = some '@') (s : Str) (h : '@' ∉ s) : hasSub old s = false := by
  induction s with
  | nil => cases old with
    | nil => cases ho
    | cons o os => rfl
  | cons c cs ih =>
    rw [List.mem_cons, not_or] at h
    rw [hasSub, ih h.2, isPrefixOf_no_at old ho c cs h.1, Bool.or_false]

theorem findOutputN_no_at (s : Str) (h : '@' ∉ s) : findOutputN s = none := by
  induction s with
  | nil => rfl
  | cons c cs ih =>
    rw [List.mem_cons, not_or] at h
    simp only [findOutputN, isPrefixOf_no_at tOUTPUTpre (by decide +kernel) c cs h.1, Bool.false_eq_true,
      if_false, ih h.2]

/-- the literals `genArgStages` replaces (`@OUTPUT<n>@` is found by `findOutputN`) -/
def placeholders : List Str :=
  [tBASENAME, tPLAINNAME, tDEPFILE, tINPUT, tOUTPUT, tSOURCE_DIR, tBUILD_DIR, tCURRENT_SOURCE_DIR,
   tSOURCE_ROOT, tBUILD_ROOT]

/-- each placeholder starts with `@`, and none occurs in the word `@EXTRA_ARGS@` (a table check; the
kernel decodes string literals slowly, so it is given the character lists) -/
theorem placeholders_table :
    ∀ p ∈ placeholders, p.head? = some '@' ∧ hasSub p tEXTRA_ARGS = false := by
  unfold placeholders tBASENAME tPLAINNAME tDEPFILE tINPUT tOUTPUT tSOURCE_DIR tBUILD_DIR tCURRENT_SOURCE_DIR
    tSOURCE_ROOT tBUILD_ROOT tEXTRA_ARGS
  char_lists
  decide +kernel

theorem genArgStages_plain (c : GenCtx) (s : Str) (h : ∀ p ∈ placeholders, hasSub p s = false)
    (ho : findOutputN s = none) : genArgStages c s = .ok (replaceChar '\\' ['/'] s) := by
  simp only [placeholders, List.forall_mem_cons] at h
  obtain ⟨h1, h2, h3, h4, h5, h6, h7, h8, h9, h10, -⟩ := h
  simp only [genArgStages, argBaseNames, replacePathsArg, replaceLit_absent _ _ _ h1,
    replaceLit_absent _ _ _ h2]
  cases c.depfile <;>
    simp only [replaceLit_absent _ _ _ h3, replaceLit_absent _ _ _ h4, replaceLit_absent _ _ _ h5,
      replaceOutputsArg, ho, bind, Except.bind, pure, Except.pure, replaceLit_absent _ _ _ h6,
      replaceLit_absent _ _ _ h7, replaceLit_absent _ _ _ h8, replaceLit_absent _ _ _ h9,
      replaceLit_absent _ _ _ h10]

theorem genArgStages_no_at (c : GenCtx) (s : Str) (h : '@' ∉ s) :
    genArgStages c s = .ok (replaceChar '\\' ['/'] s) :=
  genArgStages_plain c s (fun p hp => hasSub_no_at p (placeholders_table p hp).1 s h) (findOutputN_no_at s h)

theorem replaceChar_extra : replaceChar '\\' ['/'] tEXTRA_ARGS = tEXTRA_ARGS :=
  replaceChar_id _ _ _ (by decide +kernel)

/-- none of the substituted literals occurs in the word `@EXTRA_ARGS@`: the stages pass it on -/
theorem genArgStages_extra (c : GenCtx) : genArgStages c tEXTRA_ARGS = .ok tEXTRA_ARGS := by
  rw [genArgStages_plain c tEXTRA_ARGS (fun p hp => (placeholders_table p hp).2) (by decide +kernel),
    replaceChar_extra]

theorem replaceExtraArgs_none (a extra : List Str) (h : ∀ x ∈ a, x ≠ tEXTRA_ARGS) :
    replaceExtraArgs a extra = a :=
  flatMap_eq_self fun x hx => if_neg (h x hx)

theorem replaceExtraArgs_splice (pre post extra : List Str) (hpre : ∀ x ∈ pre, x ≠ tEXTRA_ARGS)
    (hpost : ∀ x ∈ post, x ≠ tEXTRA_ARGS) :
    replaceExtraArgs (pre ++ tEXTRA_ARGS :: post) extra = pre ++ extra ++ post := by
  rw [replaceExtraArgs, List.flatMap_append, List.flatMap_cons, if_pos rfl, ← replaceExtraArgs,
    ← replaceExtraArgs, replaceExtraArgs_none pre extra hpre, replaceExtraArgs_none post extra hpost,
    List.append_assoc]

theorem replaceChar_ne_extra (s : Str) (h : '@' ∉ s) : replaceChar '\\' ['/'] s ≠ tEXTRA_ARGS := by
  intro e
  have hm : '@' ∈ replaceChar '\\' ['/'] s := by rw [e]; decide +kernel
  rcases mem_replaceChar hm with hr | hs
  · cases hr <;> contradiction
  · exact h hs

end MesonModel.Quote
