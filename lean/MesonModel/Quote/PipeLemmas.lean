/-
Helper lemmas for C03: the composed pipeline (variable line → Ninja evaluation → sh), `&&`,
`escape_extra_args`, `as_meson_exe_cmdline`, `substitute_values`.
-/
import MesonModel.Quote.RspLemmas
import MesonModel.Quote.NinjaLemmas

namespace MesonModel.Quote
open MesonModel.Py

/-- what `NinjaBuildElement.write` does to one element of a shell-quoted variable -/
def elemQuote (qf : Str → Str) (i : Str) : Str := if i = andand then i else qf i

theorem andand_noNl : NoNl andand := by
  unfold NoNl andand
  decide

theorem mapM_ok {α β ε} (f : α → Except ε β) (g : α → β) (l : List α) (h : ∀ a ∈ l, f a = .ok (g a)) :
    l.mapM f = .ok (l.map g) := by
  induction l with
  | nil => rfl
  | cons a l ih =>
    rw [List.mapM_cons, h a (by simp), ih (fun b hb => h b (by simp [hb]))]
    rfl

theorem varValue_quoted (qf : Str → Str) (hqf : ∀ s, NoNl s → NoNl (qf s)) (name : Str)
    (hn : Generated.rawNames.contains name = false) (elems : List Str) (h : ∀ e ∈ elems, NoNl e) :
    varValue qf name elems = .ok (joinSp ((elems.map (elemQuote qf)).map (ninjaEsc false))) := by
  unfold varValue
  simp only [hn, Bool.not_false, Bool.not_true, Bool.false_or]
  rw [mapM_ok _ (fun i => ninjaEsc false (elemQuote qf i))]
  · simp [List.map_map, Function.comp_def]
  · intro i hi
    unfold elemQuote
    by_cases hi' : i = andand
    · simp only [hi', decide_true, if_true]
      exact ninjaQuote_var_eq _ andand_noNl
    · simp only [hi', decide_false, if_false, Bool.false_eq_true]
      exact ninjaQuote_var_eq _ (hqf i (h i hi))

theorem varValue_raw (qf : Str → Str) (name : Str)
    (hn : Generated.rawNames.contains name = true) (elems : List Str) (h : ∀ e ∈ elems, NoNl e) :
    varValue qf name elems = .ok (joinSp (elems.map (ninjaEsc false))) := by
  unfold varValue
  simp only [hn, Bool.not_true, Bool.not_false, Bool.true_or, if_true]
  rw [mapM_ok _ (fun i => ninjaEsc false i)]
  · rfl
  · intro i hi
    exact ninjaQuote_var_eq _ (h i hi)

theorem mapM_error {α β ε} (f : α → Except ε β) (pre post : List α) (bad : α) (e : ε)
    (hpre : ∀ a ∈ pre, ∃ b, f a = .ok b) (hbad : f bad = .error e) :
    (pre ++ bad :: post).mapM f = .error e := by
  induction pre with
  | nil =>
    rw [List.nil_append, List.mapM_cons, hbad]
    rfl
  | cons p pre ih =>
    obtain ⟨b, hb⟩ := hpre p (by simp)
    rw [List.cons_append, List.mapM_cons, hb, ih (fun a ha => hpre a (by simp [ha]))]
    rfl

theorem varValue_newline (qf : Str → Str) (hqf : ∀ s, NoNl s ↔ NoNl (qf s)) (name : Str) (pre post : List Str)
    (bad : Str) (hpre : ∀ e ∈ pre, NoNl e) (hbad : ¬ NoNl bad) :
    varValue qf name (pre ++ bad :: post) = .error .newline := by
  unfold varValue
  dsimp only
  rw [mapM_error _ pre post bad .newline]
  · rfl
  · intro a ha
    have hp := hpre a ha
    split
    · exact ⟨_, ninjaQuote_var_eq _ hp⟩
    · exact ⟨_, ninjaQuote_var_eq _ ((hqf a).1 hp)⟩
  · split
    · exact ninjaQuote_newline _ _ hbad
    · exact ninjaQuote_newline _ _ (fun h => hbad ((hqf bad).2 h))

theorem elemQuote_noNl (qf : Str → Str) (hqf : ∀ s, NoNl s → NoNl (qf s)) (i : Str) (h : NoNl i) :
    NoNl (elemQuote qf i) := by
  unfold elemQuote
  split
  · exact h
  · exact hqf i h

theorem map_elemQuote_plain (qf : Str → Str) (c : List Str) (h : ∀ a ∈ c, a ≠ andand) :
    c.map (elemQuote qf) = c.map qf := by
  apply List.map_congr_left
  intro a ha
  rw [elemQuote, if_neg (h a ha)]

theorem varValue_plain (qf : Str → Str) (hqf : ∀ s, NoNl s → NoNl (qf s)) (name : Str)
    (hn : Generated.rawNames.contains name = false) (args : List Str) (h : ∀ a ∈ args, NoNl a ∧ a ≠ andand) :
    varValue qf name args = .ok (joinSp ((args.map qf).map (ninjaEsc false))) := by
  rw [varValue_quoted qf hqf name hn args (fun a ha => (h a ha).1),
    map_elemQuote_plain qf args (fun a ha => (h a ha).2)]

theorem ninjaEval_quoted (env : Str → Str) (qf : Str → Str) (hqf : ∀ s, NoNl s → NoNl (qf s))
    (args : List Str) (h : ∀ a ∈ args, NoNl a) :
    ninjaEval env (joinSp ((args.map qf).map (ninjaEsc false))) = .ok (joinSp (args.map qf)) :=
  ninjaEval_join env _ (List.forall_mem_map.2 fun a ha => hqf a (h a ha))

theorem shLex_gap_andand (rest : Str) :
    shLex .gap ('&' :: '&' :: rest) = (ShTok.andand :: ·) <$> shLex .gap rest := by
  simp [shLex, isBlank, pend]

/-- the token the shell makes of one element of a variable line -/
def elemTok (i : Str) : ShTok := if i = andand then .andand else .w i

/-- the shell lexer reads the value of a variable line element by element, `&&` as the operator -/
theorem shLex_elem_reads :
    ReadsItems (shLex .gap) (elemQuote shQuote) (fun i r => (elemTok i :: ·) <$> r) where
  space := shLex_gap_space
  item_space i rest := by
    rw [elemQuote, elemTok]
    split
    · next h =>
      subst h
      exact (shLex_gap_andand _).trans (congrArg _ (shLex_gap_space rest))
    · exact shLex_reads.item_space i rest
  item_end i := by
    rw [elemQuote, elemTok]
    split
    · next h =>
      subst h
      rfl
    · exact shLex_reads.item_end i

theorem shLex_elems (elems : List Str) :
    shLex .gap (joinSp (elems.map (elemQuote shQuote))) = .ok (elems.map elemTok) := by
  rw [shLex_elem_reads.join_end]
  exact foldr_tok elemTok elems

theorem map_elemTok_plain (c : List Str) (h : ∀ a ∈ c, a ≠ andand) : c.map elemTok = c.map ShTok.w := by
  apply List.map_congr_left
  intro a ha
  rw [elemTok, if_neg (h a ha)]

/-- `c1 && c2 && …` as one element list, the way a build definition writes it -/
def andJoin : List (List Str) → List Str
  | [] => []
  | [c] => c
  | c :: d :: rest => c ++ andand :: andJoin (d :: rest)

theorem mem_andJoin {e : Str} {cs : List (List Str)} (h : e ∈ andJoin cs) : e = andand ∨ ∃ c ∈ cs, e ∈ c := by
  fun_induction andJoin cs with
  | case1 => cases h
  | case2 c => exact .inr ⟨c, List.mem_singleton_self c, h⟩
  | case3 c d rest ih =>
    rw [List.mem_append, List.mem_cons] at h
    rcases h with h | h | h
    · exact .inr ⟨c, List.mem_cons_self, h⟩
    · exact .inl h
    · exact (ih h).imp_right fun ⟨x, hx, hm⟩ => ⟨x, List.mem_cons_of_mem _ hx, hm⟩

theorem splitAndAnd_words (cur c : List Str) (r : List ShTok) :
    splitAndAnd cur (c.map ShTok.w ++ r) = splitAndAnd (cur ++ c) r := by
  induction c generalizing cur with
  | nil => simp
  | cons a c ih => simp [splitAndAnd, ih]

theorem splitAndAnd_andJoin (cs : List (List Str)) (hne : cs ≠ [])
    (h : ∀ c ∈ cs, c ≠ [] ∧ ∀ a ∈ c, a ≠ andand) : splitAndAnd [] ((andJoin cs).map elemTok) = .ok cs := by
  fun_induction andJoin cs with
  | case1 => exact absurd rfl hne
  | case2 c =>
    have hc := h c List.mem_cons_self
    have := splitAndAnd_words [] c []
    rw [List.append_nil, List.nil_append] at this
    rw [map_elemTok_plain c hc.2, this, splitAndAnd, if_neg hc.1]
  | case3 c d rest ih =>
    have hc := h c List.mem_cons_self
    have ih' := ih (List.cons_ne_nil _ _) (fun x hx => h x (List.mem_cons_of_mem _ hx))
    rw [List.map_append, List.map_cons, map_elemTok_plain c hc.2, splitAndAnd_words,
      List.nil_append, elemTok, if_pos rfl, splitAndAnd, if_neg hc.1, ih']
    rfl

theorem replaceChar_single (c d : Char) (s : Str) :
    replaceChar c [d] s = s.map (fun x => if x = c then d else x) := by
  induction s with
  | nil => rfl
  | cons x s ih =>
    rw [replaceChar, List.flatMap_cons, ← replaceChar, ih, List.map_cons]
    split <;> rfl

theorem length_dbl (s : Str) : (dbl s).length = s.length + s.count '\\' := by
  induction s with
  | nil => rfl
  | cons c s ih =>
    rw [dbl_cons]
    by_cases h : c = '\\'
    · subst h
      simp [ih]
      omega
    · simp [h, ih, List.count_cons]
      omega

/-- any reason other than "to set env" leaves only the pickled wrapper -/
theorem pickled_of_reason (r : ExeReq) (x : Reason) (hx : x ∈ reasons r) (hne : x ≠ .env) :
    asMesonExeCmdline r = .pickled := by
  have h1 : reasons r ≠ [] := List.ne_nil_of_mem hx
  have h2 : reasons r ≠ [.env] := fun e => hne (List.mem_singleton.1 (e ▸ hx))
  unfold asMesonExeCmdline
  simp [h1, h2]

theorem isPrefixOf_no_at (p : Str) (hp : p.head? = some '@') (c : Char) (cs : Str) (h : ¬ '@' = c) :
    p.isPrefixOf (c :: cs) = false := by
  cases p with
  | nil => cases hp
  | cons o os =>
    cases hp
    rw [List.isPrefixOf, Bool.and_eq_false_imp]
    intro e
    exact absurd (eq_of_beq e) h

theorem matchKey_none (vs : Values) (hk : ∀ p ∈ vs, p.1.head? = some '@') (c : Char) (cs : Str)
    (hc : ¬ '@' = c) : matchKey vs (c :: cs) = none := by
  rw [matchKey, List.find?_eq_none]
  intro p hp
  rw [isPrefixOf_no_at p.1 (hk p hp) c cs hc, Bool.and_false]
  exact Bool.false_ne_true

theorem subAll_no_at (vs : Values) (hk : ∀ p ∈ vs, p.1.head? = some '@') (s : Str) (hs : '@' ∉ s)
    (fuel : Nat) (hf : s.length ≤ fuel) : subAll vs fuel s = .ok s := by
  induction s generalizing fuel with
  | nil => cases fuel <;> rfl
  | cons c cs ih =>
    rw [List.mem_cons, not_or] at hs
    cases fuel with
    | zero => simp at hf
    | succ n =>
      rw [subAll, matchKey_none vs hk c cs hs.1]
      simp only
      rw [ih hs.2 n (Nat.le_of_succ_le_succ hf)]
      rfl

end MesonModel.Quote
