/-
Helper lemmas for C03: the Ninja layer.  `nLex`/`ninjaEval` run over the output of `ninjaQuote`.
-/
import MesonModel.Quote.ShLemmas
import MesonModel.Py.ExceptEq

namespace MesonModel.Quote
open MesonModel.Py

@[simp] theorem map_ok {ε α β} (f : α → β) (a : α) : f <$> (Except.ok a : Except ε α) = .ok (f a) := rfl
@[simp] theorem map_error {ε α β} (f : α → β) (e : ε) : f <$> (Except.error e : Except ε α) = .error e := rfl

theorem map_append_id {ε α} (e : Except ε (List α)) : (fun x => ([] : List α) ++ x) <$> e = e := by
  cases e <;> rfl

def NoNl (s : Str) : Prop := '\n' ∉ s

instance (s : Str) : Decidable (NoNl s) := by unfold NoNl; infer_instance

theorem contains_false_iff (s : Str) (c : Char) : s.contains c = false ↔ c ∉ s := by
  simp [List.contains_iff_mem]

theorem ninjaEsc_cons (b : Bool) (c : Char) (s : Str) :
    ninjaEsc b (c :: s) =
      (if c = '$' || c = ' ' || (b && c = ':') || c = '\n' then ['$', c] else [c]) ++ ninjaEsc b s := by
  simp [ninjaEsc, List.flatMap_cons]

/-- when nothing needs escaping the substitution is the identity, so the `if` in `ninja_quote` is only
a shortcut -/
theorem ninjaEsc_id (b : Bool) (s : Str) (h1 : '$' ∉ s) (h2 : ' ' ∉ s) (h3 : b = true → ':' ∉ s)
    (h4 : '\n' ∉ s) : ninjaEsc b s = s := by
  refine flatMap_eq_self fun c hc => if_neg ?_
  simp only [Bool.or_eq_true, Bool.and_eq_true, decide_eq_true_eq, not_or, not_and]
  exact ⟨⟨⟨fun e => h1 (e ▸ hc), fun e => h2 (e ▸ hc)⟩, fun hb e => h3 hb (e ▸ hc)⟩, fun e => h4 (e ▸ hc)⟩

theorem ninjaQuote_eq (b : Bool) (s : Str) (h : NoNl s) (hp : b = true → '|' ∉ s) :
    ninjaQuote b s = .ok (ninjaEsc b s) := by
  unfold ninjaQuote
  rw [if_neg (by rw [(contains_false_iff _ _).2 h]; decide), if_neg (by
    rw [Bool.and_eq_true]
    exact fun hb => absurd hb.2 (by rw [(contains_false_iff _ _).2 (hp hb.1)]; decide))]
  split
  · rfl
  · next hc =>
    simp only [Bool.or_eq_true, Bool.and_eq_true, not_or, not_and, Bool.not_eq_true, contains_false_iff] at hc
    rw [ninjaEsc_id b s hc.1.2 hc.1.1 hc.2 h]

theorem ninjaQuote_var_eq (s : Str) (h : NoNl s) : ninjaQuote false s = .ok (ninjaEsc false s) :=
  ninjaQuote_eq false s h (fun e => by cases e)

theorem ninjaQuote_newline (b : Bool) (s : Str) (h : ¬ NoNl s) : ninjaQuote b s = .error .newline := by
  unfold ninjaQuote
  have : s.contains '\n' = true := by
    simp only [NoNl, Decidable.not_not] at h
    simpa [List.contains_iff_mem] using h
  rw [if_pos this]

theorem nLex_norm_plain (c : Char) (cs : Str) (h1 : c ≠ '$') (h2 : c ≠ '\n') :
    nLex .norm (c :: cs) = (NTok.lit c :: ·) <$> nLex .norm cs := by
  simp [nLex, h1, h2]

theorem nLex_norm_dollar (cs : Str) : nLex .norm ('$' :: cs) = nLex .dollar cs := by
  simp [nLex]

theorem nLex_dollar_esc (c : Char) (cs : Str) (h : c = '$' ∨ c = ' ' ∨ c = ':') :
    nLex .dollar (c :: cs) = (NTok.lit c :: ·) <$> nLex .norm cs := by
  rcases h with h | h | h <;> subst h <;> simp [nLex]

theorem nLex_esc_char (b : Bool) (c : Char) (hc : c ≠ '\n') (rest : Str) :
    nLex .norm ((if c = '$' || c = ' ' || (b && c = ':') || c = '\n' then ['$', c] else [c]) ++ rest) =
      (NTok.lit c :: ·) <$> nLex .norm rest := by
  split
  · next hsp =>
    have : c = '$' ∨ c = ' ' ∨ c = ':' := by
      simp only [Bool.or_eq_true, Bool.and_eq_true, decide_eq_true_eq] at hsp
      rcases hsp with ((h | h) | h) | h
      · exact .inl h
      · exact .inr (.inl h)
      · exact .inr (.inr h.2)
      · exact absurd h hc
    exact (nLex_norm_dollar _).trans (nLex_dollar_esc _ _ this)
  · next hsp =>
    have h1 : c ≠ '$' := by
      intro e
      subst e
      simp at hsp
    exact nLex_norm_plain _ _ h1 hc

theorem nLex_esc (b : Bool) (s : Str) (hs : NoNl s) (rest : Str) :
    nLex .norm (ninjaEsc b s ++ rest) = ((s.map NTok.lit) ++ ·) <$> nLex .norm rest := by
  induction s with
  | nil => exact (map_append_id _).symm
  | cons c s ih =>
    rw [ninjaEsc_cons, List.append_assoc, nLex_esc_char b c (fun e => hs (e ▸ List.mem_cons_self)),
      ih (fun h => hs (List.mem_cons_of_mem _ h))]
    cases nLex .norm rest <;> simp

theorem nLex_space (rest : Str) : nLex .norm (' ' :: rest) = (NTok.lit ' ' :: ·) <$> nLex .norm rest :=
  nLex_norm_plain _ _ (by decide) (by decide)

theorem nExpand_lits (env : Str → Str) (s : Str) (r : List NTok) :
    nExpand env (s.map NTok.lit ++ r) = s ++ nExpand env r := by
  induction s with
  | nil => rfl
  | cons c s ih => simp [nExpand, ih]

/-- a text that lexes, in front of anything, to the literal characters of `s` evaluates to `s` -/
theorem ninjaEval_of_lits (env : Str → Str) (v s : Str)
    (h : ∀ rest, nLex .norm (v ++ rest) = ((s.map NTok.lit) ++ ·) <$> nLex .norm rest) : ninjaEval env v = .ok s := by
  have hl := h []
  rw [List.append_nil, nLex, map_ok, List.append_nil] at hl
  have he := nExpand_lits env s []
  rw [List.append_nil, nExpand, List.append_nil] at he
  rw [ninjaEval, hl, map_ok, he]

theorem ninjaEval_esc (b : Bool) (env : Str → Str) (s : Str) (h : NoNl s) :
    ninjaEval env (ninjaEsc b s) = .ok s :=
  ninjaEval_of_lits env _ s (nLex_esc b s h)

theorem nLex_join_rest (xs : List Str) (h : ∀ x ∈ xs, NoNl x) (rest : Str) :
    nLex .norm (joinSp (xs.map (ninjaEsc false)) ++ rest) =
      (((joinSp xs).map NTok.lit) ++ ·) <$> nLex .norm rest := by
  fun_induction joinSp xs with
  | case1 => exact (map_append_id _).symm
  | case2 x => simpa [joinSp] using nLex_esc false x (h x (by simp)) rest
  | case3 x y ys ih =>
    have ih' := ih (fun z hz => h z (by simp [hz]))
    simp only [List.map_cons, joinSp, List.append_assoc, List.cons_append] at ih' ⊢
    rw [nLex_esc false x (h x (by simp)), nLex_space, ih']
    cases nLex .norm rest <;> simp

theorem ninjaEval_join (env : Str → Str) (xs : List Str) (h : ∀ x ∈ xs, NoNl x) :
    ninjaEval env (joinSp (xs.map (ninjaEsc false))) = .ok (joinSp xs) :=
  ninjaEval_of_lits env _ _ (nLex_join_rest xs h)

theorem replaceChar_noNl (c : Char) (r s : Str) (hr : NoNl r) (hs : NoNl s) : NoNl (replaceChar c r s) :=
  fun hm => (mem_replaceChar hm).elim hr hs

theorem shQuote_noNl (s : Str) (hs : NoNl s) : NoNl (shQuote s) := by
  rcases shQuote_cases s with ⟨_, _, h⟩ | h
  · rwa [h]
  · have := replaceChar_noNl '\'' sqEsc s (by unfold NoNl; decide) hs
    rw [h]
    unfold NoNl at *
    simp only [List.mem_cons, List.mem_append, List.not_mem_nil, or_false, not_or]
    exact ⟨by decide, this, by decide⟩

theorem gccRspQuote_noNl (s : Str) (hs : NoNl s) : NoNl (gccRspQuote s) :=
  shQuote_noNl _ (replaceChar_noNl _ _ _ (by unfold NoNl; decide) hs)

theorem shQuote_noNl_iff (s : Str) : NoNl s ↔ NoNl (shQuote s) := by
  refine ⟨shQuote_noNl s, fun hq hs => hq ?_⟩
  rcases shQuote_cases s with ⟨_, _, h⟩ | h
  · rwa [h]
  · rw [h]
    exact List.mem_cons_of_mem _ (List.mem_append_left _ (mem_replaceChar_of_ne hs (by decide)))

end MesonModel.Quote
