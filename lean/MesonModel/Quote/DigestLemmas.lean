/-
Helper lemmas for C03: the encoding of the argument list that names the pickled wrapper file is
injective (a decoder reads it back).
-/
import MesonModel.Quote.JoinLemmas

namespace MesonModel.Quote

/-- A reader for `reprList`: it collects the strings and passes over whatever stands between them. The state is the
string being read, if any, and whether a backslash was just seen. -/
def reprDec : Option (Str × Bool) → List Str → Str → List Str
  | _, items, [] => items
  | none, items, c :: r => if c = '\'' then reprDec (some ([], false)) items r else reprDec none items r
  | some (a, true), items, c :: r => reprDec (some (a ++ [c], false)) items r
  | some (a, false), items, c :: r =>
    if c = '\\' then reprDec (some (a, true)) items r
    else if c = '\'' then reprDec none (items ++ [a]) r
    else reprDec (some (a ++ [c], false)) items r

theorem reprDec_body (s : Str) (a : Str) (items : List Str) (rest : Str) :
    reprDec (some (a, false)) items (s.flatMap escReprChar ++ '\'' :: rest) = reprDec none (items ++ [a ++ s]) rest := by
  rw [run_flatMap (fun a => reprDec (some (a, false)) items) _ s _ a, reprDec, if_neg (by decide), if_pos rfl]
  intro c _ a rest
  fun_cases escReprChar c
  · next h1 =>
    subst h1
    rw [List.cons_append, reprDec, if_pos rfl, List.cons_append, reprDec]
    rfl
  · next h2 =>
    subst h2
    rw [List.cons_append, reprDec, if_pos rfl, List.cons_append, reprDec]
    rfl
  · next h1 h2 =>
    rw [List.singleton_append, reprDec, if_neg h1, if_neg h2]

theorem reprDec_str (s : Str) (items : List Str) (rest : Str) :
    reprDec none items (reprStr s ++ rest) = reprDec none (items ++ [s]) rest := by
  rw [reprStr, List.cons_append, List.append_assoc, List.singleton_append, reprDec, if_pos rfl, reprDec_body,
    List.nil_append]

theorem reprDec_items (l : List Str) (items : List Str) (rest : Str) :
    reprDec none items (reprItems l ++ rest) = reprDec none (items ++ l) rest := by
  induction l generalizing items with
  | nil => rw [reprItems, List.nil_append, List.append_nil]
  | cons a l ih =>
    cases l with
    | nil => rw [reprItems, reprDec_str]
    | cons b r =>
      rw [reprItems, List.append_assoc, List.cons_append, List.cons_append, reprDec_str, reprDec, if_neg (by decide),
        reprDec, if_neg (by decide), ih, List.append_assoc, List.singleton_append]

theorem reprDec_list (l : List Str) : reprDec none [] (reprList l) = l := by
  rw [reprList, reprDec, if_neg (by decide), reprDec_items, reprDec, if_neg (by decide), reprDec, List.nil_append]

theorem reprList_injective (a b : List Str) (h : reprList a = reprList b) : a = b := by
  rw [← reprDec_list a, h, reprDec_list b]

end MesonModel.Quote
