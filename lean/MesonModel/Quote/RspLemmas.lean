/-
Helper lemmas for C03: the response-file layer.  `buildargv` run over the output of `gccRspQuote`.
-/
import MesonModel.Quote.ShLemmas

namespace MesonModel.Quote
open MesonModel.Py

/-- every backslash doubled: the first step of `gcc_rsp_quote`, and what `escape_extra_args` does to a define -/
def dbl (s : Str) : Str := replaceChar '\\' ['\\', '\\'] s

theorem gccRspQuote_eq (s : Str) : gccRspQuote s = shQuote (dbl s) := rfl

/-- every character `shlex.quote` leaves unquoted is above the ASCII controls and space -/
theorem safe_toNat {c : Char} (h : shSafeChar c = true) : 37 ≤ c.toNat := by
  unfold shSafeChar isWord isAlnum isDigit isAlpha at h
  simp only [Bool.or_eq_true, Bool.and_eq_true, decide_eq_true_eq, beq_iff_eq] at h
  rcases h with (((((((((h | h) | h) | h) | h) | h) | h) | h) | h) | h)
  · rcases h with (h | h) | h
    · omega
    · omega
    · subst h
      decide
  all_goals
    subst h
    decide

theorem safe_not_cspace {c : Char} (h : shSafeChar c = true) : isCSpace c = false := by
  have := safe_toNat h
  have h1 : c ≠ ' ' := safe_ne h (by decide)
  unfold isCSpace
  simp only [Bool.or_eq_false_iff, beq_eq_false_iff_ne, ne_eq, Bool.and_eq_false_iff, decide_eq_false_iff_not]
  exact ⟨h1, by omega⟩

theorem safe_not_bs {c : Char} (h : shSafeChar c = true) : c ≠ '\\' := safe_ne h (by decide)

theorem bav_none_safe (a : Str) (c : Char) (cs : Str) (h : shSafeChar c = true) :
    buildargvGo (.arg a .none false) (c :: cs) = buildargvGo (.arg (a ++ [c]) .none false) cs := by
  simp [buildargvGo, bArgStep, safe_not_cspace h, safe_not_bs h, safe_not_sq h, safe_not_dq h]

theorem bav_gap_safe (c : Char) (cs : Str) (h : shSafeChar c = true) :
    buildargvGo .gap (c :: cs) = buildargvGo (.arg [c] .none false) cs := by
  simp [buildargvGo, bArgStep, safe_not_cspace h, safe_not_bs h, safe_not_sq h, safe_not_dq h]

theorem bav_gap_sq (cs : Str) : buildargvGo .gap ('\'' :: cs) = buildargvGo (.arg [] .sq false) cs := by
  simp [buildargvGo, bArgStep, isCSpace]

theorem bav_gap_space (cs : Str) : buildargvGo .gap (' ' :: cs) = buildargvGo .gap cs := by
  simp [buildargvGo, isCSpace]

theorem bav_none_space (a : Str) (cs : Str) :
    buildargvGo (.arg a .none false) (' ' :: cs) = a :: buildargvGo .gap cs := by
  simp [buildargvGo, isCSpace]

theorem bav_sq_bs (a : Str) (cs : Str) :
    buildargvGo (.arg a .sq false) ('\\' :: '\\' :: cs) = buildargvGo (.arg (a ++ ['\\']) .sq false) cs := by
  simp [buildargvGo, bArgStep]

theorem bav_sq_other (a : Str) (c : Char) (cs : Str) (h1 : c ≠ '\\') (h2 : c ≠ '\'') :
    buildargvGo (.arg a .sq false) (c :: cs) = buildargvGo (.arg (a ++ [c]) .sq false) cs := by
  simp [buildargvGo, bArgStep, h1, h2]

theorem bav_sq_esc (a : Str) (cs : Str) :
    buildargvGo (.arg a .sq false) ('\'' :: '"' :: '\'' :: '"' :: '\'' :: cs) =
      buildargvGo (.arg (a ++ ['\'']) .sq false) cs := by
  simp [buildargvGo, bArgStep, isCSpace]

theorem bav_sq_close (a : Str) (cs : Str) :
    buildargvGo (.arg a .sq false) ('\'' :: cs) = buildargvGo (.arg a .none false) cs := by
  simp [buildargvGo, bArgStep]

theorem bav_none_run (s : Str) (hs : s.all shSafeChar = true) (a rest : Str) :
    buildargvGo (.arg a .none false) (s ++ rest) = buildargvGo (.arg (a ++ s) .none false) rest :=
  run_plain (fun a => buildargvGo (.arg a .none false)) s
    (fun c hc a rest => bav_none_safe a c rest (List.all_eq_true.1 hs c hc)) a rest

theorem dbl_cons (c : Char) (s : Str) : dbl (c :: s) = (if c = '\\' then ['\\', '\\'] else [c]) ++ dbl s := by
  simp [dbl, replaceChar, List.flatMap_cons]

/-- the body of a single-quoted string produced by `gccRspQuote`: `\` is written `\\`, `'` is written
`'"'"'`, and `buildargv` reads either back as the one character -/
theorem bav_sq_body (s : Str) (a rest : Str) :
    buildargvGo (.arg a .sq false) (replaceChar '\'' sqEsc (dbl s) ++ '\'' :: rest) =
      buildargvGo (.arg (a ++ s) .none false) rest := by
  rw [dbl, replaceChar, replaceChar, List.flatMap_assoc,
    run_flatMap (fun a => buildargvGo (.arg a .sq false)) _ s _ a, bav_sq_close]
  intro c _ a rest
  by_cases h1 : c = '\\'
  · subst h1
    exact bav_sq_bs a rest
  · rw [if_neg h1, List.flatMap_singleton]
    split
    · next h2 =>
      subst h2
      exact bav_sq_esc a rest
    · next h2 => exact bav_sq_other a c rest h1 h2

/-- a string without unsafe characters has no backslash, so doubling is the identity -/
theorem dbl_safe (s : Str) (hs : (dbl s).all shSafeChar = true) : dbl s = s :=
  replaceChar_id _ _ _ fun hm =>
    safe_not_bs (List.all_eq_true.1 hs _ (mem_replaceChar_self hm List.mem_cons_self)) rfl

/-- as `shLex_quote`: after a quoted word `buildargv` holds exactly that word, outside any quotes -/
theorem bav_quote (s rest : Str) :
    buildargvGo .gap (gccRspQuote s ++ rest) = buildargvGo (.arg s .none false) rest := by
  rw [gccRspQuote_eq]
  rcases shQuote_cases (dbl s) with ⟨hne, hs, h⟩ | h
  · have hd := dbl_safe s hs
    rw [h, hd]
    rw [hd] at hs hne
    cases s with
    | nil => exact absurd rfl hne
    | cons c s =>
      rw [List.all_cons, Bool.and_eq_true] at hs
      rw [List.cons_append, bav_gap_safe _ _ hs.1, bav_none_run s hs.2]
      rfl
  · rw [h, List.cons_append, bav_gap_sq, List.append_assoc, List.singleton_append, bav_sq_body]
    rfl

theorem bav_reads : ReadsItems (buildargvGo .gap) gccRspQuote List.cons where
  space := bav_gap_space
  item_space s rest := by rw [bav_quote, bav_none_space]
  item_end s := by
    have := bav_quote s []
    rwa [List.append_nil] at this

theorem bav_join_end (ws : List Str) : buildargvGo .gap (joinSp (ws.map gccRspQuote)) = ws := by
  rw [bav_reads.join_end]
  exact List.foldr_cons_nil

theorem bav_pieces (ps : List (List Str)) : buildargv (piecesStr gccRspQuote ps) = ps.flatten := by
  rw [buildargv, bav_reads.pieces]
  exact List.foldr_cons_nil

end MesonModel.Quote
