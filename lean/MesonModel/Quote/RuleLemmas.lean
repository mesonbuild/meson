/-
The compile / link rule shapes of C03 (`c_COMPILER`, `c_LINKER`, plain and `_RSP`).
A rule is the quoted `exe` words followed by fixed argument words; its text is written once for any
argument words, its evaluation for a statement is the flat expansion of `edgeBinding_flat`, and each
shape contributes the quoter's output on its argument words and their lexing, both by evaluation.
-/
import MesonModel.Quote.EdgeLemmas
namespace MesonModel.Quote
open MesonModel.Py

def sARGS : Str := ['A','R','G','S']
def sLINK_ARGS : Str := ['L','I','N','K','_','A','R','G','S']
def scommand : Str := ['c','o','m','m','a','n','d']
def wO : Str := ['-', 'o']
def wC : Str := ['-', 'c']

/-- an `exe` word that `NinjaRule` quotes both for the shell and for Ninja (`Quoting.both`): not `&&`, which is kept from
the shell quoter, and not beginning with `$`, which marks a Ninja variable -/
def GoodExe (e : Str) : Prop := NoNl e ∧ e ≠ andand ∧ e.head? ≠ some '$'

instance (e : Str) : Decidable (GoodExe e) := by unfold GoodExe; infer_instance

theorem strToCommandArg_good (e : Str) (h : GoodExe e) : strToCommandArg e = ⟨e, .both⟩ := by
  unfold strToCommandArg
  rw [if_neg h.2.1, if_neg h.2.2]

theorem quoter_exe (qf : Str → Str) (hqf : ∀ s, NoNl s → NoNl (qf s)) (exe : List Str) (h : ∀ e ∈ exe, GoodExe e) :
    (exe.map strToCommandArg).mapM (quoter qf) = .ok ((exe.map qf).map (ninjaEsc false)) := by
  rw [List.mapM_map]
  rw [mapM_ok _ (fun e => ninjaEsc false (qf e))]
  · simp [List.map_map, Function.comp_def]
  · intro e he
    show quoter qf (strToCommandArg e) = _
    rw [strToCommandArg_good e (h e he)]
    exact ninjaQuote_var_eq _ (hqf e (h e he).1)

/-- the quoted `exe` words as `NinjaRule` writes them -/
def exeText (exe : List Str) : Str := joinSp ((exe.map shQuote).map (ninjaEsc false))

theorem exeRule_commandStr (exe : List Str) (as : List CmdArg) (ws : List Str) (hne : exe ≠ []) (hws : ws ≠ [])
    (h : ∀ e ∈ exe, GoodExe e) (has : as.mapM (quoter shQuote) = .ok ws) :
    ({ command := exe.map strToCommandArg, args := as } : Rule).commandStr =
      .ok (exeText exe ++ ' ' :: joinSp ws) := by
  rw [Rule.commandStr, List.mapM_append, quoter_exe shQuote shQuote_noNl exe h, has]
  exact congrArg Except.ok (joinSp_append _ _ (by simpa using hne) hws)

theorem exeRule_rspCommandStr (exe : List Str) (as : List CmdArg) (h : ∀ e ∈ exe, GoodExe e) :
    ({ command := exe.map strToCommandArg, args := as } : Rule).rspCommandStr = .ok (exeText exe ++ atOutRsp) := by
  unfold Rule.rspCommandStr
  simp only [quoter_exe shQuote shQuote_noNl exe h, bind, Except.bind]
  rfl

theorem exeRule_rspContentStr (exe : List Str) (as : List CmdArg) (ws : List Str)
    (has : as.mapM (quoter gccRspQuote) = .ok ws) :
    ({ command := exe.map strToCommandArg, args := as } : Rule).rspContentStr = .ok (joinSp ws) := by
  simp only [Rule.rspContentStr, has, map_ok]

/-- the `command` of a statement whose rule text is `exe… <tail>`: the `exe` words as the shell will
read them, then the tail expanded in the statement's environment -/
theorem exeCommand_edge (e : Edge) (exe : List Str) (tail : Str) (toks : List NTok) (hexe : ∀ x ∈ exe, GoodExe x)
    (hv : assocGet e.vars scommand = none) (hr : assocGet e.ruleBindings scommand = some (exeText exe ++ tail))
    (hl : nLex .norm tail = .ok toks) (hfree : ruleFree e.ruleBindings toks = true) :
    edgeBinding e scommand = .ok (joinSp (exe.map shQuote) ++ nExpand (stmtVal e) toks) := by
  have hl' := nLex_join_rest (exe.map shQuote)
    (List.forall_mem_map.2 fun x hx => shQuote_noNl x (hexe x hx).1) tail
  rw [hl, map_ok] at hl'
  rw [edgeBinding_flat e scommand _ _ (by decide) hv hr hl'
    ((ruleFree_lits _ _ _).trans hfree), nExpand_lits]

/-- a statement with one plain input and one plain output: Ninja's own escaping of `$in`/`$out` is the
identity -/
theorem stmtVal_in_plain (e : Edge) (inp : Str) (hi : e.ins = [inp]) (h : PlainWord inp) : stmtVal e sIn = inp := by
  rw [stmtVal_in, hi]
  exact ninjaShellEscape_plain h

theorem stmtVal_out_plain (e : Edge) (out : Str) (ho : e.outs = [out]) (h : PlainWord out) : stmtVal e sOut = out := by
  rw [stmtVal_out, ho]
  exact ninjaShellEscape_plain h

theorem stmtVal_ARGS (e : Edge) (v : Str) (h : assocGet e.vars sARGS = some v) : stmtVal e sARGS = v :=
  stmtVal_var e sARGS v (by decide) (by decide) (by decide) h

theorem stmtVal_LINK_ARGS (e : Edge) (v : Str) (h : assocGet e.vars sLINK_ARGS = some v) :
    stmtVal e sLINK_ARGS = v :=
  stmtVal_var e sLINK_ARGS v (by decide) (by decide) (by decide) h

theorem plain_wO : PlainWord wO := by decide
theorem plain_wC : PlainWord wC := by decide

/-! ### compile shape: `cc $ARGS -o $out -c $in` -/

def compileArgs : List CmdArg :=
  [strToCommandArg ('$' :: sARGS), ⟨wO, .none⟩, ⟨'$' :: sOut, .none⟩, strToCommandArg wC, strToCommandArg ('$' :: sIn)]

def compileWords : List Str := ['$' :: sARGS, wO, '$' :: sOut, wC, '$' :: sIn]

theorem compileArgs_sh : compileArgs.mapM (quoter shQuote) = .ok compileWords := by decide +kernel
theorem compileArgs_rsp : compileArgs.mapM (quoter gccRspQuote) = .ok compileWords := by decide +kernel

def compileRule (exe : List Str) : Rule := { command := exe.map strToCommandArg, args := compileArgs }

def compileToks : List NTok :=
  [.var sARGS, .lit ' ', .lit '-', .lit 'o', .lit ' ', .var sOut, .lit ' ', .lit '-', .lit 'c', .lit ' ', .var sIn]

theorem nLex_compileWords : nLex .norm (joinSp compileWords) = .ok compileToks := by decide +kernel

/-- what the argument words evaluate to for a statement with `ARGS`, one plain input and one plain
output, whichever quoting function wrote `ARGS` -/
theorem compileToks_val (e : Edge) (qf : Str → Str) (hq : ∀ {w}, PlainWord w → qf w = w) (args : List Str)
    (out inp : Str) (hA : assocGet e.vars sARGS = some (joinSp (args.map qf))) (hi : e.ins = [inp])
    (ho : e.outs = [out]) (hout : PlainWord out) (hinp : PlainWord inp) :
    nExpand (stmtVal e) compileToks = piecesStr qf [args, [wO, out, wC, inp]] := by
  simp only [compileToks, nExpand, stmtVal_ARGS e _ hA, stmtVal_out_plain e out ho hout,
    stmtVal_in_plain e inp hi hinp]
  simp [piecesStr, joinSp, hq plain_wO, hq plain_wC, hq hout, hq hinp]
  simp [wO, wC]

abbrev compileEdge (exe args : List Str) (out inp : Str) : Edge :=
  { ruleBindings := [(scommand, exeText exe ++ ' ' :: joinSp compileWords)],
    vars := [(sARGS, joinSp (args.map shQuote))], ins := [inp], outs := [out] }

theorem compile_edge (exe args : List Str) (out inp : Str) (hexe : ∀ e ∈ exe, GoodExe e)
    (hout : PlainWord out) (hinp : PlainWord inp) :
    edgeBinding (compileEdge exe args out inp) scommand =
      .ok (piecesStr shQuote [exe, args, [wO, out, wC, inp]]) := by
  rw [exeCommand_edge (compileEdge exe args out inp) exe _ (.lit ' ' :: compileToks) hexe rfl rfl
      (by rw [nLex_space, nLex_compileWords, map_ok]) rfl,
    nExpand, compileToks_val _ shQuote plain_shQuote args out inp rfl rfl rfl hout hinp]
  rfl

/-! ### link shape: `cc $ARGS -o $out $in $LINK_ARGS` -/

def linkArgs : List CmdArg :=
  [strToCommandArg ('$' :: sARGS), ⟨wO, .none⟩, ⟨'$' :: sOut, .none⟩, strToCommandArg ('$' :: sIn),
   strToCommandArg ('$' :: sLINK_ARGS)]

def linkWords : List Str := ['$' :: sARGS, wO, '$' :: sOut, '$' :: sIn, '$' :: sLINK_ARGS]

theorem linkArgs_sh : linkArgs.mapM (quoter shQuote) = .ok linkWords := by decide +kernel
theorem linkArgs_rsp : linkArgs.mapM (quoter gccRspQuote) = .ok linkWords := by decide +kernel

def linkRule (exe : List Str) : Rule := { command := exe.map strToCommandArg, args := linkArgs }

def linkToks : List NTok :=
  [.var sARGS, .lit ' ', .lit '-', .lit 'o', .lit ' ', .var sOut, .lit ' ', .var sIn, .lit ' ', .var sLINK_ARGS]

theorem nLex_linkWords : nLex .norm (joinSp linkWords) = .ok linkToks := by decide +kernel

theorem linkToks_val (e : Edge) (qf : Str → Str) (hq : ∀ {w}, PlainWord w → qf w = w) (args largs : List Str)
    (out inp : Str) (hA : assocGet e.vars sARGS = some (joinSp (args.map qf)))
    (hL : assocGet e.vars sLINK_ARGS = some (joinSp (largs.map qf))) (hi : e.ins = [inp])
    (ho : e.outs = [out]) (hout : PlainWord out) (hinp : PlainWord inp) :
    nExpand (stmtVal e) linkToks = piecesStr qf [args, [wO, out, inp], largs] := by
  simp only [linkToks, nExpand, stmtVal_ARGS e _ hA, stmtVal_LINK_ARGS e _ hL, stmtVal_out_plain e out ho hout,
    stmtVal_in_plain e inp hi hinp]
  simp [piecesStr, joinSp, hq plain_wO, hq hout, hq hinp]
  simp [wO]

abbrev linkEdge (exe args largs : List Str) (out inp : Str) : Edge :=
  { ruleBindings := [(scommand, exeText exe ++ ' ' :: joinSp linkWords)],
    vars := [(sARGS, joinSp (args.map shQuote)), (sLINK_ARGS, joinSp (largs.map shQuote))], ins := [inp], outs := [out] }

theorem link_edge (exe args largs : List Str) (out inp : Str) (hexe : ∀ e ∈ exe, GoodExe e)
    (hout : PlainWord out) (hinp : PlainWord inp) :
    edgeBinding (linkEdge exe args largs out inp) scommand =
      .ok (piecesStr shQuote [exe, args, [wO, out, inp], largs]) := by
  rw [exeCommand_edge (linkEdge exe args largs out inp) exe _ (.lit ' ' :: linkToks) hexe rfl rfl
      (by rw [nLex_space, nLex_linkWords, map_ok]) rfl,
    nExpand, linkToks_val _ shQuote plain_shQuote args largs out inp rfl rfl rfl rfl hout hinp]
  rfl

/-! ### `_RSP` rules: `command = exe @$out.rsp`, `rspfile_content = <argument words>` -/

def srspfile_content : Str := "rspfile_content".toList

def rspToks : List NTok := [.lit ' ', .lit '@', .var sOut, .lit '.', .lit 'r', .lit 's', .lit 'p']

theorem nLex_atOutRsp : nLex .norm atOutRsp = .ok rspToks := by decide +kernel

/-- the name of the response file as the compiler sees it -/
def atFile (out : Str) : Str := '@' :: (out ++ ['.', 'r', 's', 'p'])

theorem atFile_safe (out : Str) (h : PlainWord out) : shQuote (atFile out) = atFile out := by
  apply shQuote_safe (by simp [atFile])
  unfold atFile
  simp only [List.all_cons, List.all_append, plain_all_safe h, List.all_nil]
  decide

/-- the `command` of any `_RSP` statement whose rule is `exe… @$out.rsp` -/
theorem rsp_command_edge (e : Edge) (exe : List Str) (out : Str) (hexe : ∀ x ∈ exe, GoodExe x)
    (hout : PlainWord out) (hv : assocGet e.vars scommand = none)
    (hr : assocGet e.ruleBindings scommand = some (exeText exe ++ atOutRsp))
    (hro : assocGet e.ruleBindings sOut = none) (houts : e.outs = [out]) :
    edgeBinding e scommand = .ok (piecesStr shQuote [exe, [atFile out]]) := by
  rw [exeCommand_edge e exe atOutRsp rspToks hexe hv hr nLex_atOutRsp (by simp [ruleFree, rspToks, hro])]
  simp only [rspToks, nExpand, stmtVal_out_plain e out houts hout]
  simp [piecesStr, joinSp, atFile_safe out hout]
  simp [atFile]

abbrev compileRspEdge (exe args : List Str) (out inp : Str) : Edge :=
  { ruleBindings := [(scommand, exeText exe ++ atOutRsp), (srspfile_content, joinSp compileWords)],
    vars := [(sARGS, joinSp (args.map gccRspQuote))], ins := [inp], outs := [out] }

theorem compile_rsp_content (exe args : List Str) (out inp : Str) (hout : PlainWord out) (hinp : PlainWord inp) :
    edgeBinding (compileRspEdge exe args out inp) srspfile_content =
      .ok (piecesStr gccRspQuote [args, [wO, out, wC, inp]]) := by
  rw [edgeBinding_flat (compileRspEdge exe args out inp) srspfile_content _ _ (by decide +kernel)
      rfl rfl nLex_compileWords rfl,
    compileToks_val _ gccRspQuote plain_gccRspQuote args out inp rfl rfl rfl hout hinp]

abbrev linkRspEdge (exe args largs : List Str) (out inp : Str) : Edge :=
  { ruleBindings := [(scommand, exeText exe ++ atOutRsp), (srspfile_content, joinSp linkWords)],
    vars := [(sARGS, joinSp (args.map gccRspQuote)), (sLINK_ARGS, joinSp (largs.map gccRspQuote))],
    ins := [inp], outs := [out] }

theorem link_rsp_content (exe args largs : List Str) (out inp : Str) (hout : PlainWord out) (hinp : PlainWord inp) :
    edgeBinding (linkRspEdge exe args largs out inp) srspfile_content =
      .ok (piecesStr gccRspQuote [args, [wO, out, inp], largs]) := by
  rw [edgeBinding_flat (linkRspEdge exe args largs out inp) srspfile_content _ _ (by decide +kernel)
      rfl rfl nLex_linkWords rfl,
    linkToks_val _ gccRspQuote plain_gccRspQuote args largs out inp rfl rfl rfl rfl hout hinp]

end MesonModel.Quote
