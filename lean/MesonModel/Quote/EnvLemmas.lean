/-
Environment delivery for C03 (`MesonModel/Quote/Env.lean`): `get_env` read one variable at a time (`getEnv_meaning`: the
folds over operations and unsets commute with looking up `n`), env(1) run over a list of `K=V` operands, and the
`can_use_env` flag as an invariant of the API calls (`flagSound_run`).
-/
import MesonModel.Quote.Env
import MesonModel.Util.Assoc

namespace MesonModel.Quote
open MesonModel.Py

theorem isLookup_dictGet : IsLookup fun k d => dictGet d k := ⟨fun _ => rfl, fun _ _ _ _ => rfl⟩

theorem isUpdate_dictSet : IsUpdate fun k v d => dictSet d k v := by
  refine ⟨fun _ _ => rfl, fun k v k' v' r => ?_⟩
  show dictSet _ k v = _
  rw [dictSet]
  split
  · next h => rw [h]
  · rfl

theorem dictGet_dictSet (d : Dict) (k v n : Str) : dictGet (dictSet d k v) n = if k = n then some v else dictGet d n :=
  isLookup_dictGet.update isUpdate_dictSet n k v d

theorem dictGet_dictPop (d : Dict) (k n : Str) : dictGet (dictPop d k) n = if k = n then none else dictGet d n := by
  rw [dictPop, isLookup_dictGet.filter_key (fun x => decide (x ≠ k)) n d]
  by_cases h : k = n <;> simp [h, Ne.symm]

theorem dictGet_foldl_pop (l : List Str) (d : Dict) (n : Str) :
    dictGet (l.foldl dictPop d) n = if l.contains n then none else dictGet d n := by
  induction l generalizing d with
  | nil => simp
  | cons k r ih =>
    simp only [List.foldl_cons, ih, dictGet_dictPop, List.contains_cons]
    by_cases h : k = n
    · subst h
      simp
    · have h' : (n == k) = false := by simpa using fun e : n = k => h e.symm
      simp [h, h']

theorem dictGet_applyOp (dflt : Str → Option Str) (d : Dict) (op : EnvOp) (n : Str) :
    dictGet (applyOp dflt d op) n =
      if op.name = n then some (opValue ((dictGet d n).orElse (fun _ => dflt n)) op) else dictGet d n := by
  rw [applyOp, dictGet_dictSet]
  split
  · next h => rw [h]
  · rfl

theorem dictGet_foldl_ops (dflt : Str → Option Str) (ops : List EnvOp) (d : Dict) (n : Str) :
    dictGet (ops.foldl (applyOp dflt) d) n = evalVar n (dflt n) (dictGet d n) ops := by
  induction ops generalizing d with
  | nil => simp [evalVar]
  | cons op r ih =>
    simp only [List.foldl_cons, ih, dictGet_applyOp, evalVar]
    by_cases h : op.name = n <;> simp [h]

theorem getEnv_meaning (e : EnvVars) (dflt : Str → Option Str) (base : Dict) (n : Str) :
    dictGet (getEnv e dflt base) n = envMeaning e dflt base n := by
  unfold getEnv envMeaning
  rw [dictGet_foldl_pop, dictGet_foldl_ops]

def dictKeys (d : Dict) : List Str := d.map (·.1)

theorem nodup_foldl_ops (dflt : Str → Option Str) (ops : List EnvOp) (d : Dict) (h : (dictKeys d).Nodup) :
    (dictKeys (ops.foldl (applyOp dflt) d)).Nodup := by
  induction ops generalizing d with
  | nil => exact h
  | cons op r ih => exact ih _ (isUpdate_dictSet.nodup_keys _ _ h)

theorem keys_foldl_ops (dflt : Str → Option Str) (ops : List EnvOp) (d : Dict) (a : Str)
    (h : a ∈ dictKeys (ops.foldl (applyOp dflt) d)) : a ∈ dictKeys d ∨ ∃ op ∈ ops, op.name = a := by
  induction ops generalizing d with
  | nil => exact .inl h
  | cons op r ih =>
    rcases ih _ h with h1 | ⟨o, ho, hn⟩
    · rcases isUpdate_dictSet.mem_keys h1 with h2 | h2
      · exact .inr ⟨op, by simp, h2.symm⟩
      · exact .inl h2
    · exact .inr ⟨o, by simp [ho], hn⟩

theorem dictGet_foldl_assign (l : Dict) (base : Dict) (n : Str) (h : (dictKeys l).Nodup) :
    dictGet (l.foldl (fun d kv => dictSet d kv.1 kv.2) base) n = (dictGet l n).orElse (fun _ => dictGet base n) := by
  induction l generalizing base with
  | nil => simp [dictGet]
  | cons p r ih =>
    obtain ⟨k, v⟩ := p
    simp only [dictKeys, List.map_cons, List.nodup_cons] at h
    simp only [List.foldl_cons]
    rw [ih _ h.2]
    by_cases hk : k = n
    · subst hk
      rw [(isLookup_dictGet.eq_none_iff k r).mpr h.1]
      simp [dictGet, dictGet_dictSet]
    · simp [dictGet, hk, dictGet_dictSet]

theorem splitEq_assign (k v : Str) (h : '=' ∉ k) : splitEq (k ++ '=' :: v) = some (k, v) := by
  induction k with
  | nil => simp [splitEq]
  | cons c k ih =>
    simp only [List.mem_cons, not_or] at h
    have hc : ¬ c = '=' := fun e => h.1 e.symm
    simp [splitEq, hc, ih h.2]

theorem splitEq_none (w : Str) (h : '=' ∉ w) : splitEq w = none := by
  induction w with
  | nil => rfl
  | cons c w ih =>
    simp only [List.mem_cons, not_or] at h
    have hc : ¬ c = '=' := fun e => h.1 e.symm
    simp [splitEq, hc, ih h.2]

/-- a variable name env(1) accepts as the left side of an operand -/
def GoodName (k : Str) : Prop := k ≠ [] ∧ '=' ∉ k ∧ k.head? ≠ some '-'

/-- a first command word env(1) takes as the utility -/
def GoodUtility (w : Str) : Prop := '=' ∉ w ∧ w.head? ≠ some '-'

theorem envUtility_assignments (l : Dict) (base : Dict) (c0 : Str) (rest : List Str)
    (hl : ∀ kv ∈ l, GoodName kv.1) (hc : GoodUtility c0) :
    envUtility base (l.map (fun kv => kv.1 ++ '=' :: kv.2) ++ c0 :: rest) =
      .ok (l.foldl (fun d kv => dictSet d kv.1 kv.2) base, c0 :: rest) := by
  induction l generalizing base with
  | nil =>
    simp only [List.map_nil, List.nil_append, List.foldl_nil, envUtility]
    rw [if_neg hc.2, splitEq_none c0 hc.1]
  | cons p r ih =>
    obtain ⟨k, v⟩ := p
    have hk := hl (k, v) (by simp)
    have hhead : (k ++ '=' :: v).head? ≠ some '-' := by
      obtain ⟨hne, _, hh⟩ := hk
      cases k with
      | nil => exact absurd rfl hne
      | cons c k => simpa using hh
    simp only [List.map_cons, List.cons_append, envUtility, List.foldl_cons]
    rw [if_neg hhead, splitEq_assign k v hk.2.1]
    simp only [hk.1, if_false]
    exact ih _ (fun kv hkv => hl kv (by simp [hkv]))

/-! ### set-only environments: the inline prefix and the pickled wrapper agree -/

/-- what `can_use_env` stands for -/
def OnlySet (e : EnvVars) : Prop := (∀ op ∈ e.ops, op.kind = .set) ∧ e.unset = []

/-- a `set` makes a variable independent of what was inherited: with only `set` operations the
inherited value matters exactly when no operation touches the variable -/
theorem evalVar_onlySet (n : Str) (ops : List EnvOp) (h : ∀ op ∈ ops, op.kind = .set) (c : Option Str) :
    evalVar n none c ops = (evalVar n none none ops).orElse (fun _ => c) := by
  induction ops generalizing c with
  | nil => rfl
  | cons op r ih =>
    rw [List.forall_mem_cons] at h
    by_cases hn : op.name = n
    · have hv : ∀ c : Option Str, opValue c op = joinSep op.sep op.values := by
        intro c
        simp [opValue, h.1]
      simp only [evalVar, hn, if_true, hv]
      rw [ih h.2 (some _)]
      cases evalVar n none none r <;> rfl
    · simp only [evalVar, hn, if_false]
      exact ih h.2 c

theorem getEnv_onlySet (e : EnvVars) (h : OnlySet e) (base : Dict) (n : Str) :
    dictGet (getEnv e noDflt base) n = (dictGet (getEnv e noDflt []) n).orElse (fun _ => dictGet base n) := by
  rw [getEnv_meaning, getEnv_meaning]
  unfold envMeaning
  simp only [h.2, List.contains_nil, Bool.false_eq_true, if_false, noDflt, dictGet]
  exact evalVar_onlySet n e.ops h.1 (dictGet base n)

def FlagSound (e : EnvVars) : Prop := e.canUseEnv = true → OnlySet e

def CallOk : EnvCall → Prop
  | .merge o => FlagSound o
  | _ => True

theorem flagSound_step (e : EnvVars) (c : EnvCall) (he : FlagSound e) (hc : CallOk c) : FlagSound (e.step c).1 := by
  -- `append`, `prepend` and `unset` clear the flag before anything else
  have cleared {e' : EnvVars} (h : e'.canUseEnv = false) : FlagSound e' := fun hf => absurd hf (by rw [h]; decide)
  cases c with
  | set n vs sep =>
    simp only [EnvVars.step]
    split
    · exact he
    · exact fun hf =>
        ⟨List.forall_mem_append.2 ⟨(he hf).1, fun op hop => by rw [List.mem_singleton.1 hop]⟩, (he hf).2⟩
  | append n vs sep | prepend n vs sep | unset n =>
    simp only [EnvVars.step]
    split <;> exact cleared rfl
  | merge o =>
    intro hf
    simp only [EnvVars.step, Bool.and_eq_true, List.isEmpty_iff] at hf
    obtain ⟨⟨h1, h2⟩, h3⟩ := hf
    exact ⟨List.forall_mem_append.2 ⟨(he h1).1, (hc h2).1⟩, by simp [EnvVars.step, (he h1).2, h3]⟩

theorem flagSound_run (e : EnvVars) (cs : List EnvCall) (he : FlagSound e) (hc : ∀ c ∈ cs, CallOk c) :
    FlagSound (e.run cs) := by
  unfold EnvVars.run
  induction cs generalizing e with
  | nil => exact he
  | cons c r ih =>
    simp only [List.foldl_cons]
    exact ih _ (flagSound_step e c he (hc c (by simp))) (fun x hx => hc x (by simp [hx]))

end MesonModel.Quote
