/-
Model of the argument-source API that feeds the compile / link command lines (property C03:
"same bytes, same count, same relative order").  Mirrors
`mesonbuild/interpreter/interpreter.py`: `Interpreter._add_arguments`, the common tail of
`add_project_arguments`, `add_global_arguments`, `add_project_link_arguments`,
`add_global_link_arguments` and `add_project_dependencies`:

    for lang in kwargs['language']:
        argsdict[lang] = argsdict.get(lang, []) + args

Core Lean only.
-/
import MesonModel.Quote.Model

namespace MesonModel.Quote

/-- `argsdict`: language → argument list, in insertion order -/
abbrev ArgsDict := List (Str × List Str)

/-- `argsdict.get(lang, [])` -/
def argsGet : ArgsDict → Str → List Str
  | [], _ => []
  | (k, v) :: r, l => if k = l then v else argsGet r l

/-- `argsdict[lang] = v` -/
def argsSet : ArgsDict → Str → List Str → ArgsDict
  | [], l, v => [(l, v)]
  | (k, v') :: r, l, v => if k = l then (k, v) :: r else (k, v') :: argsSet r l v

/-- one call of `_add_arguments` (not frozen) -/
def addArguments (d : ArgsDict) (langs : List Str) (args : List Str) : ArgsDict :=
  langs.foldl (fun d l => argsSet d l (argsGet d l ++ args)) d

/-- a history of calls `(language list, argument batch)`, applied in order to `d` -/
def addHistory (d : ArgsDict) (h : List (List Str × List Str)) : ArgsDict :=
  h.foldl (fun d c => addArguments d c.1 c.2) d

/-- what one call contributes to language `l`: its batch, once per occurrence of `l` in `language:` -/
def contribution (l : Str) (c : List Str × List Str) : List Str :=
  (c.1.filter (· = l)).flatMap (fun _ => c.2)

theorem argsGet_argsSet (d : ArgsDict) (l : Str) (v : List Str) (n : Str) :
    argsGet (argsSet d l v) n = if l = n then v else argsGet d n := by
  induction d with
  | nil => rfl
  | cons p r ih =>
    obtain ⟨k, v'⟩ := p
    by_cases hk : k = l
    · subst hk
      by_cases hn : k = n <;> simp [argsSet, argsGet, hn]
    · by_cases hn : k = n
      · subst hn
        simp [argsSet, argsGet, hk, Ne.symm hk]
      · simp [argsSet, argsGet, hk, hn, ih]

theorem argsGet_addArguments (d : ArgsDict) (langs args : List Str) (l : Str) :
    argsGet (addArguments d langs args) l = argsGet d l ++ contribution l (langs, args) := by
  unfold addArguments contribution
  induction langs generalizing d with
  | nil => simp
  | cons x r ih =>
    simp only [List.foldl_cons]
    rw [ih]
    by_cases h : x = l
    · subst h
      simp [argsGet_argsSet, List.filter_cons, List.flatMap_cons, List.append_assoc]
    · simp [argsGet_argsSet, List.filter_cons, h]

theorem argsGet_addHistory (d : ArgsDict) (h : List (List Str × List Str)) (l : Str) :
    argsGet (addHistory d h) l = argsGet d l ++ h.flatMap (contribution l) := by
  unfold addHistory
  induction h generalizing d with
  | nil => simp
  | cons c r ih =>
    simp only [List.foldl_cons, List.flatMap_cons]
    rw [ih, argsGet_addArguments, List.append_assoc]

end MesonModel.Quote
