/-
Helper lemmas for C03: membership in and fixed points of `replaceChar`, which every quoting function is
built from, then the shell layer: `shLex` run over the output of `shQuote`.
-/
import MesonModel.Quote.JoinLemmas

namespace MesonModel.Quote
open MesonModel.Py

theorem mem_replaceChar {x c : Char} {r s : Str} (h : x ∈ replaceChar c r s) : x ∈ r ∨ x ∈ s := by
  obtain ⟨y, hy, hx⟩ := List.mem_flatMap.1 h
  split at hx
  · exact .inl hx
  · rw [List.mem_singleton] at hx
    exact .inr (hx ▸ hy)

theorem mem_replaceChar_of_ne {x c : Char} {r s : Str} (hx : x ∈ s) (hne : x ≠ c) : x ∈ replaceChar c r s :=
  List.mem_flatMap.2 ⟨x, hx, by rw [if_neg hne]; exact List.mem_singleton_self x⟩

theorem mem_replaceChar_self {x c : Char} {r s : Str} (hc : c ∈ s) (hx : x ∈ r) : x ∈ replaceChar c r s :=
  List.mem_flatMap.2 ⟨c, hc, by rwa [if_pos rfl]⟩

theorem replaceChar_id (c : Char) (r s : Str) (h : c ∉ s) : replaceChar c r s = s :=
  flatMap_eq_self fun x hx => if_neg fun (e : x = c) => h (e ▸ hx)

theorem safe_ne {c d : Char} (h : shSafeChar c = true) (hd : shSafeChar d = false) : c ≠ d :=
  ne_of_apply_ne shSafeChar (by simp [h, hd])

theorem safe_not_blank {c : Char} (h : shSafeChar c = true) : isBlank c = false := by
  have h1 : c ≠ ' ' := safe_ne h (by decide)
  have h2 : c ≠ '\t' := safe_ne h (by decide)
  simp [isBlank, h1, h2]

theorem safe_not_sq {c : Char} (h : shSafeChar c = true) : c ≠ '\'' := safe_ne h (by decide)
theorem safe_not_dq {c : Char} (h : shSafeChar c = true) : c ≠ '"' := safe_ne h (by decide)
theorem safe_not_amp {c : Char} (h : shSafeChar c = true) : c ≠ '&' := safe_ne h (by decide)

theorem shLex_gap_blank (c : Char) (cs : Str) (h : isBlank c = true) :
    shLex .gap (c :: cs) = shLex .gap cs := by
  simp [shLex, h]

theorem shLex_gap_space (cs : Str) : shLex .gap (' ' :: cs) = shLex .gap cs :=
  shLex_gap_blank _ _ (by decide)

theorem shLex_gap_sq (cs : Str) : shLex .gap ('\'' :: cs) = shLex (.sq []) cs := by
  simp [shLex, isBlank]

theorem shLex_gap_safe (c : Char) (cs : Str) (h : shSafeChar c = true) :
    shLex .gap (c :: cs) = shLex (.word [c]) cs := by
  simp [shLex, safe_not_blank h, safe_not_sq h, safe_not_dq h, safe_not_amp h, h]

theorem shLex_word_safe (a : Str) (c : Char) (cs : Str) (h : shSafeChar c = true) :
    shLex (.word a) (c :: cs) = shLex (.word (a ++ [c])) cs := by
  simp [shLex, safe_not_blank h, safe_not_sq h, safe_not_dq h, safe_not_amp h, h]

theorem shLex_word_space (a : Str) (cs : Str) :
    shLex (.word a) (' ' :: cs) = (ShTok.w a :: ·) <$> shLex .gap cs := by
  simp [shLex, isBlank]

theorem shLex_word_sq (a : Str) (cs : Str) : shLex (.word a) ('\'' :: cs) = shLex (.sq a) cs := by
  simp [shLex, isBlank]

theorem shLex_word_dq (a : Str) (cs : Str) : shLex (.word a) ('"' :: cs) = shLex (.dq a) cs := by
  simp [shLex, isBlank]

theorem shLex_sq_close (a : Str) (cs : Str) : shLex (.sq a) ('\'' :: cs) = shLex (.word a) cs := by
  simp [shLex]

theorem shLex_sq_other (a : Str) (c : Char) (cs : Str) (h : c ≠ '\'') :
    shLex (.sq a) (c :: cs) = shLex (.sq (a ++ [c])) cs := by
  simp [shLex, h]

theorem shLex_dq_sq (a : Str) (cs : Str) : shLex (.dq a) ('\'' :: cs) = shLex (.dq (a ++ ['\''])) cs := by
  simp [shLex]

theorem shLex_dq_close (a : Str) (cs : Str) : shLex (.dq a) ('"' :: cs) = shLex (.word a) cs := by
  simp [shLex]

theorem shLex_word_run (s : Str) (hs : s.all shSafeChar = true) (a rest : Str) :
    shLex (.word a) (s ++ rest) = shLex (.word (a ++ s)) rest :=
  run_plain (fun a => shLex (.word a)) s
    (fun c hc a rest => shLex_word_safe a c rest (List.all_eq_true.1 hs c hc)) a rest

/-- the body of a single-quoted string produced by `shQuote`: `'` is written `'"'"'` -/
theorem shLex_sq_body (s : Str) (a rest : Str) :
    shLex (.sq a) (replaceChar '\'' sqEsc s ++ '\'' :: rest) = shLex (.word (a ++ s)) rest := by
  rw [replaceChar, run_flatMap (fun a => shLex (.sq a)) _ s _ a, shLex_sq_close]
  intro c _ a rest
  split
  · next hc =>
    subst hc
    rw [sqEsc]
    simp only [List.cons_append, List.nil_append]
    rw [shLex_sq_close, shLex_word_dq, shLex_dq_sq, shLex_dq_close, shLex_word_sq]
  · next hc => exact shLex_sq_other a c rest hc

/-- `shlex.quote` leaves a non-empty word of safe characters alone and puts every other string, the
empty one included, between single quotes -/
theorem shQuote_cases (s : Str) :
    (s ≠ [] ∧ s.all shSafeChar = true ∧ shQuote s = s) ∨
      shQuote s = '\'' :: (replaceChar '\'' sqEsc s ++ ['\'']) := by
  unfold shQuote
  split
  · next h =>
    subst h
    exact .inr rfl
  · split
    · next hne hs => exact .inl ⟨hne, hs, rfl⟩
    · exact .inr rfl

theorem shLex_quote (s rest : Str) : shLex .gap (shQuote s ++ rest) = shLex (.word s) rest := by
  rcases shQuote_cases s with ⟨hne, hs, h⟩ | h
  · cases s with
    | nil => exact absurd rfl hne
    | cons c s =>
      rw [List.all_cons, Bool.and_eq_true] at hs
      rw [h, List.cons_append, shLex_gap_safe _ _ hs.1, shLex_word_run s hs.2]
      rfl
  · rw [h, List.cons_append, shLex_gap_sq, List.append_assoc, List.singleton_append, shLex_sq_body]
    rfl

theorem foldr_tok {α} (f : α → ShTok) (l : List α) :
    l.foldr (fun a r => (f a :: ·) <$> r) (.ok [] : Except ShErr (List ShTok)) = .ok (l.map f) := by
  induction l with
  | nil => rfl
  | cons a l ih =>
    rw [List.foldr_cons, ih]
    rfl

theorem shLex_reads : ReadsItems (shLex .gap) shQuote (fun w r => (ShTok.w w :: ·) <$> r) where
  space := shLex_gap_space
  item_space s rest := by rw [shLex_quote, shLex_word_space]
  item_end s := by
    have := shLex_quote s []
    rwa [List.append_nil] at this

theorem shLex_join_end (ws : List Str) :
    shLex .gap (joinSp (ws.map shQuote)) = .ok (ws.map ShTok.w) := by
  rw [shLex_reads.join_end]
  exact foldr_tok ShTok.w ws

theorem wordsOnly_words (ws : List Str) : wordsOnly (ws.map ShTok.w) = .ok ws := by
  induction ws with
  | nil => rfl
  | cons w ws ih =>
    simp only [List.map_cons, wordsOnly, ih]
    rfl

theorem shSplit_pieces (ps : List (List Str)) : shSplit (piecesStr shQuote ps) = .ok ps.flatten := by
  rw [shSplit, shLex_reads.pieces]
  exact (congrArg (fun t => t >>= wordsOnly) (foldr_tok ShTok.w ps.flatten)).trans (wordsOnly_words _)

end MesonModel.Quote
