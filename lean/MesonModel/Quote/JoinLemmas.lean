/-
Helper lemmas for C03, shared by the shell, response-file and digest layers: a reader that takes the
text written for one character as that character reads a whole escaped string back, and a reader that
takes one quoted item followed by a space as that item reads a whole space-joined list back.
-/
import MesonModel.Quote.Model

namespace MesonModel.Quote

theorem joinSp_append (a b : List Str) (ha : a ≠ []) (hb : b ≠ []) :
    joinSp (a ++ b) = joinSp a ++ ' ' :: joinSp b := by
  induction a with
  | nil => exact absurd rfl ha
  | cons x a ih =>
    cases a with
    | nil =>
      cases b with
      | nil => exact absurd rfl hb
      | cons y b => simp [joinSp]
    | cons x2 a =>
      have := ih (by simp)
      simp only [List.cons_append, joinSp] at this ⊢
      rw [this]
      simp

/-- `run a` is a reader that has collected `a` so far.  If it reads the text `esc c` written for each
character `c` of `s` as the one character `c`, it reads `s.flatMap esc` as `s`. -/
theorem run_flatMap {β} (run : Str → Str → β) (esc : Char → Str) (s : Str)
    (h : ∀ c ∈ s, ∀ a rest, run a (esc c ++ rest) = run (a ++ [c]) rest) (a rest : Str) :
    run a (s.flatMap esc ++ rest) = run (a ++ s) rest := by
  induction s generalizing a with
  | nil => rw [List.flatMap_nil, List.nil_append, List.append_nil]
  | cons c s ih =>
    rw [List.forall_mem_cons] at h
    rw [List.flatMap_cons, List.append_assoc, h.1, ih h.2, List.append_assoc, List.singleton_append]

theorem run_plain {β} (run : Str → Str → β) (s : Str)
    (h : ∀ c ∈ s, ∀ a rest, run a (c :: rest) = run (a ++ [c]) rest) (a rest : Str) :
    run a (s ++ rest) = run (a ++ s) rest := by
  have := run_flatMap run (fun c => [c]) s h a rest
  rwa [List.flatMap_singleton'] at this

theorem flatMap_eq_self {α} {esc : α → List α} {s : List α} (h : ∀ c ∈ s, esc c = [c]) : s.flatMap esc = s := by
  induction s with
  | nil => rfl
  | cons c s ih =>
    rw [List.forall_mem_cons] at h
    rw [List.flatMap_cons, h.1, ih h.2, List.singleton_append]

/-- `R` reads items written by `q` and separated by one space; `push a` is what reading the item `a`
adds to the result of reading what follows it. -/
structure ReadsItems {α β} (R : Str → β) (q : α → Str) (push : α → β → β) : Prop where
  space : ∀ rest, R (' ' :: rest) = R rest
  item_space : ∀ a rest, R (q a ++ ' ' :: rest) = push a (R rest)
  item_end : ∀ a, R (q a) = push a (R [])

namespace ReadsItems
variable {α β} {R : Str → β} {q : α → Str} {push : α → β → β}

theorem join_space (h : ReadsItems R q push) (l : List α) (rest : Str) :
    R (joinSp (l.map q) ++ ' ' :: rest) = l.foldr push (R rest) := by
  induction l with
  | nil => exact h.space rest
  | cons a l ih =>
    cases l with
    | nil => exact h.item_space a rest
    | cons b l =>
      simp only [List.map_cons, joinSp, List.append_assoc, List.cons_append] at ih ⊢
      rw [h.item_space, ih]
      rfl

theorem join_end (h : ReadsItems R q push) (l : List α) : R (joinSp (l.map q)) = l.foldr push (R []) := by
  induction l with
  | nil => rfl
  | cons a l ih =>
    cases l with
    | nil => exact h.item_end a
    | cons b l =>
      simp only [List.map_cons, joinSp] at ih ⊢
      rw [h.item_space, ih]
      rfl

/-- space-joined lists of items are items of the same reader -/
theorem lists (h : ReadsItems R q push) :
    ReadsItems R (fun l : List α => joinSp (l.map q)) (fun l b => l.foldr push b) :=
  ⟨h.space, h.join_space, h.join_end⟩

end ReadsItems

/-- a command made of space-joined pieces, each a space-joined list of quoted words -/
def piecesStr (qf : Str → Str) (ps : List (List Str)) : Str := joinSp (ps.map (fun ws => joinSp (ws.map qf)))

theorem ReadsItems.pieces {β} {R : Str → β} {qf : Str → Str} {push : Str → β → β} (h : ReadsItems R qf push)
    (ps : List (List Str)) : R (piecesStr qf ps) = ps.flatten.foldr push (R []) := by
  rw [piecesStr, h.lists.join_end, List.foldr_flatten]

end MesonModel.Quote
