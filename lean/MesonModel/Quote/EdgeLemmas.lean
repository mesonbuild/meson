/-
Helper lemmas for C03: evaluation of a rule's `command` / `rspfile_content` for a build statement
(`edgeLookup`), and the words Ninja and the quoters leave as they are.
-/
import MesonModel.Quote.PipeLemmas

namespace MesonModel.Quote
open MesonModel.Py

theorem evalToks_lit (look : Str → Except NErr Str) (c : Char) (r : List NTok) :
    evalToks look (.lit c :: r) = (c :: ·) <$> evalToks look r := by
  unfold evalToks
  simp only [List.mapM_cons (m := Except NErr), pure, Except.pure, bind, Except.bind]
  generalize List.mapM (m := Except NErr) _ r = X
  cases X <;> rfl

theorem evalToks_var (look : Str → Except NErr Str) (v : Str) (x : Str) (r : List NTok) (hx : look v = .ok x) :
    evalToks look (.var v :: r) = (x ++ ·) <$> evalToks look r := by
  unfold evalToks
  simp only [List.mapM_cons (m := Except NErr), hx, pure, Except.pure, bind, Except.bind]
  generalize List.mapM (m := Except NErr) _ r = X
  cases X <;> simp

theorem evalToks_flat (look : Str → Except NErr Str) (env : Str → Str) (toks : List NTok)
    (h : ∀ v, NTok.var v ∈ toks → look v = .ok (env v)) : evalToks look toks = .ok (nExpand env toks) := by
  induction toks with
  | nil => rfl
  | cons t r ih =>
    have ih' := ih (fun v hv => h v (List.mem_cons_of_mem _ hv))
    cases t with
    | lit c => rw [evalToks_lit, ih', map_ok, nExpand]
    | var v => rw [evalToks_var look v _ r (h v List.mem_cons_self), ih', map_ok, nExpand]

/-- what a build statement defines by itself: `in`/`in_newline`/`out`, then its own bindings -/
def stmtVal (e : Edge) (name : Str) : Str :=
  if name = sIn then joinSp (e.ins.map ninjaShellEscape)
  else if name = sInNewline then joinNl (e.ins.map ninjaShellEscape)
  else if name = sOut then joinSp (e.outs.map ninjaShellEscape)
  else (assocGet e.vars name).getD []

theorem stmtVal_in (e : Edge) : stmtVal e sIn = joinSp (e.ins.map ninjaShellEscape) := by
  rw [stmtVal, if_pos rfl]

theorem stmtVal_out (e : Edge) : stmtVal e sOut = joinSp (e.outs.map ninjaShellEscape) := by
  rw [stmtVal, if_neg (by decide), if_neg (by decide), if_pos rfl]

theorem stmtVal_var (e : Edge) (name v : Str) (h1 : name ≠ sIn) (h2 : name ≠ sInNewline) (h3 : name ≠ sOut)
    (hv : assocGet e.vars name = some v) : stmtVal e name = v := by
  rw [stmtVal, if_neg h1, if_neg h2, if_neg h3, hv]
  rfl

theorem edgeLookup_stmt (e : Edge) (n : Nat) (name : Str) (h : assocGet e.ruleBindings name = none) :
    edgeLookup e (n + 1) name = .ok (stmtVal e name) := by
  rw [edgeLookup, stmtVal, h, apply_ite Except.ok, apply_ite Except.ok, apply_ite Except.ok]
  cases assocGet e.vars name <;> rfl

theorem edgeLookup_rule (e : Edge) (n : Nat) (name raw : Str) (toks : List NTok) (h1 : name ≠ sIn)
    (h2 : name ≠ sInNewline) (h3 : name ≠ sOut) (hv : assocGet e.vars name = none)
    (hr : assocGet e.ruleBindings name = some raw) (hl : nLex .norm raw = .ok toks) :
    edgeLookup e (n + 1) name = evalToks (fun v => edgeLookup e n v) toks := by
  rw [edgeLookup, if_neg h1, if_neg h2, if_neg h3, hv, hr]
  simp only [hl]

/-- no variable the tokens mention is bound by the rule (for a given rule and token list, a
computation) -/
def ruleFree (rb : List (Str × Str)) (toks : List NTok) : Bool :=
  toks.all fun t => match t with
    | .var v => (assocGet rb v).isNone
    | .lit _ => true

theorem ruleFree_lits (rb : List (Str × Str)) (s : Str) (toks : List NTok) :
    ruleFree rb (s.map NTok.lit ++ toks) = ruleFree rb toks := by
  simp [ruleFree, List.all_append, List.all_map]

/-- a rule binding whose text mentions only names the rule does not bind evaluates like a plain binding
value (`ninjaEval`) in the statement's own environment -/
theorem edgeBinding_flat (e : Edge) (name raw : Str) (toks : List NTok) (hname : name ∉ [sIn, sInNewline, sOut])
    (hv : assocGet e.vars name = none) (hr : assocGet e.ruleBindings name = some raw)
    (hl : nLex .norm raw = .ok toks) (hfree : ruleFree e.ruleBindings toks = true) :
    edgeBinding e name = .ok (nExpand (stmtVal e) toks) := by
  simp only [List.mem_cons, List.not_mem_nil, or_false, not_or] at hname
  -- `edgeBinding` looks up with fuel 16 = 15 + 1, the variables in the rule's text with 15 = 14 + 1
  rw [edgeBinding, edgeLookup_rule e 15 name raw toks hname.1 hname.2.1 hname.2.2 hv hr hl]
  refine evalToks_flat _ _ _ (fun v hv => edgeLookup_stmt e 14 v ?_)
  exact Option.isNone_iff_eq_none.1 (List.all_eq_true.1 hfree _ hv)

theorem ninjaSafe_shSafe {c : Char} (h : ninjaShellSafeChar c = true) : shSafeChar c = true := by
  unfold ninjaShellSafeChar at h
  unfold shSafeChar isWord
  simp only [Bool.or_eq_true, beq_iff_eq] at h ⊢
  rcases h with ((((h | h) | h) | h) | h) | h <;> simp [h]

def PlainWord (w : Str) : Prop := w ≠ [] ∧ w.all ninjaShellSafeChar = true

instance (w : Str) : Decidable (PlainWord w) := by unfold PlainWord; infer_instance

theorem plain_all_safe {w : Str} (h : PlainWord w) : w.all shSafeChar = true := by
  rw [List.all_eq_true]
  intro c hc
  exact ninjaSafe_shSafe (List.all_eq_true.1 h.2 c hc)

theorem shQuote_safe {w : Str} (hne : w ≠ []) (hs : w.all shSafeChar = true) : shQuote w = w := by
  unfold shQuote
  rw [if_neg hne, if_pos hs]

theorem gccRspQuote_safe {w : Str} (hne : w ≠ []) (hs : w.all shSafeChar = true) : gccRspQuote w = w := by
  have hb : '\\' ∉ w := fun hm => safe_not_bs (List.all_eq_true.1 hs _ hm) rfl
  have : replaceChar '\\' ['\\', '\\'] w = w := replaceChar_id _ _ _ hb
  unfold gccRspQuote
  rw [this]
  exact shQuote_safe hne hs

theorem ninjaShellEscape_plain {w : Str} (h : PlainWord w) : ninjaShellEscape w = w := by
  unfold ninjaShellEscape
  rw [if_pos h.2]

theorem plain_shQuote {w : Str} (h : PlainWord w) : shQuote w = w := shQuote_safe h.1 (plain_all_safe h)

theorem plain_gccRspQuote {w : Str} (h : PlainWord w) : gccRspQuote w = w :=
  gccRspQuote_safe h.1 (plain_all_safe h)

end MesonModel.Quote
