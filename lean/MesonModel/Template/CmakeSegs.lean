/-
C14 — data-independent segmentation of a line for the cmake formats (specification side), and the proof
that the repaired index scanner `parseLine` computes exactly "render the segments": one pass, for all data.
-/
import MesonModel.Template.Lemmas

namespace MesonModel.Template
open MesonModel.Py

/-- one item of a cmake-format line -/
inductive CSeg where
  | lit (c : Char)
  | atVar (nm : Name)
  | braceVar (nm : Name)
  deriving Repr, DecidableEq

def CSeg.src : CSeg → List Char
  | .lit c => [c]
  | .atVar nm => '@' :: (nm ++ ['@'])
  | .braceVar nm => '$' :: '{' :: (nm ++ ['}'])

/-- what a segment is replaced by -/
def CSeg.text (d : Data) : CSeg → List Char
  | .lit c => [c]
  | .atVar nm => varVal d nm
  | .braceVar nm => varVal d nm

/-- what a segment adds to the missing variables -/
def CSeg.miss (d : Data) : CSeg → List Name
  | .lit _ => []
  | .atVar nm => varMiss d nm
  | .braceVar nm => varMiss d nm

/-- outcome of the segmentation: segments, an error raised for every data, or `nested`: some `${…}` has `$` or `@`
between its braces, so the variable *name* is computed from the data (`${${X}}`, `${a@X@}`) — the one place where
the structure of a cmake-format line depends on the data -/
inductive Skel where
  | ok (segs : List CSeg)
  | err (e : Err)
  | nested
  deriving Repr, DecidableEq

def Skel.cons (s : CSeg) : Skel → Skel
  | .ok l => .ok (s :: l)
  | x => x

def isSpecial (c : Char) : Bool := c == '@' || c == '$'

/-- takes no data; fuel as for `parseLine` (length + 1 suffices) -/
def cmakeSegs (atOnly : Bool) : Nat → List Char → Skel
  | 0, _ => .err .fuel
  | _ + 1, [] => .ok []
  | f + 1, '@' :: r =>
    match splitAt r with
    | some (nm, after) =>
      if !nm.isEmpty && nm.all isCmakeChar then (cmakeSegs atOnly f after).cons (.atVar nm)
      else (cmakeSegs atOnly f r).cons (.lit '@')
    | none => (cmakeSegs atOnly f r).cons (.lit '@')
  | f + 1, '$' :: '{' :: r =>
    if atOnly then (cmakeSegs atOnly f ('{' :: r)).cons (.lit '$')
    else
      match bracket 1 r [] with
      | .error e => .err e
      | .ok (inner, after) =>
        if inner.any isSpecial then .nested
        else if inner.any (fun c => !isCmakeChar c) then .err .invalidChar
        else (cmakeSegs atOnly f after).cons (.braceVar inner)
  | f + 1, c :: r => (cmakeSegs atOnly f r).cons (.lit c)

/-- the result the scanner must produce from a skeleton, given the output so far (`pre`, reversed) and the
missing names so far -/
def Skel.run (d : Data) (pre : List Char) (m : List Name) : Skel → Option (Except Err (List Char × List Name))
  | .ok segs => some (.ok (pre.reverse ++ segs.flatMap (CSeg.text d), (segs.flatMap (CSeg.miss d)).reverse ++ m))
  | .err e => some (.error e)
  | .nested => none

theorem varMiss_reverse (d : Data) (nm : Name) : (varMiss d nm).reverse = varMiss d nm := by
  unfold varMiss
  split <;> rfl

theorem CSeg.miss_reverse (d : Data) (s : CSeg) : (s.miss d).reverse = s.miss d := by
  cases s <;> simp [CSeg.miss, varMiss_reverse]

theorem CSeg.mem_miss {d : Data} {sg : CSeg} {nm : Name} :
    nm ∈ sg.miss d ↔ (sg = .atVar nm ∨ sg = .braceVar nm) ∧ d.get? nm = none := by
  cases sg <;> simp [CSeg.miss, mem_varMiss]

theorem Skel.run_cons (d : Data) (s : CSeg) (x : Skel) (pre : List Char) (m : List Name) :
    (x.cons s).run d pre m = x.run d ((s.text d).reverse ++ pre) (s.miss d ++ m) := by
  cases x with
  | ok segs => simp [Skel.cons, Skel.run, CSeg.miss_reverse]
  | err e => rfl
  | nested => rfl

theorem not_special_iff {l : List Char} : l.any isSpecial = false ↔ ('@' ∉ l ∧ '$' ∉ l) := by
  simp only [List.any_eq_false, isSpecial, Bool.or_eq_true, beq_iff_eq, not_or]
  exact ⟨fun h => ⟨fun hm => (h _ hm).1 rfl, fun hm => (h _ hm).2 rfl⟩,
    fun h c hc => ⟨fun e => h.1 (e ▸ hc), fun e => h.2 (e ▸ hc)⟩⟩

theorem parseLine_eq_run (atOnly : Bool) (d : Data) (f : Nat) (pre rest : List Char) (m : List Name) :
    rest.length < f → ∀ res, (cmakeSegs atOnly f rest).run d pre m = some res →
      parseLine atOnly d f pre rest m = res := by
  fun_induction cmakeSegs atOnly f rest generalizing pre m
  all_goals intro hlen
  all_goals try (simp at hlen)
  case case2 => simp [parseLine, Skel.run]
  case case3 f r nm after hs hc ih =>
    have hl := congrArg List.length (splitAt_some hs)
    simp at hl
    simp only [Skel.run_cons, parseLine, hs, hc, if_true, varGet_eq]
    exact ih _ _ (by omega)
  case case4 f r nm after hs hc ih =>
    simp only [Skel.run_cons, parseLine, hs, hc, Bool.false_eq_true, if_false]
    exact ih _ _ hlen
  case case5 f r hs ih =>
    simp only [Skel.run_cons, parseLine, hs]
    exact ih _ _ hlen
  case case6 f r hat ih =>
    subst hat
    simp only [Skel.run_cons, parseLine, if_true]
    exact ih _ _ (by simp; omega)
  case case7 f r hat e hb =>
    cases eq_false_of_ne_true hat
    simp [parseLine, hb, Skel.run]
  case case8 => exact fun _ h => nomatch h
  case case9 f r hat inner after hb hsp hinv =>
    cases eq_false_of_ne_true hat
    obtain ⟨h1, h2⟩ := not_special_iff.mp (eq_false_of_ne_true hsp)
    have hl := bracket_length hb
    rw [parseLine_brace_step d f pre r inner after m hb h1 h2 (by omega), if_pos hinv]
    simp [Skel.run]
  case case10 f r hat inner after hb hsp hinv ih =>
    cases eq_false_of_ne_true hat
    obtain ⟨h1, h2⟩ := not_special_iff.mp (eq_false_of_ne_true hsp)
    have hl := bracket_length hb
    rw [parseLine_brace_step d f pre r inner after m hb h1 h2 (by omega), if_neg hinv, Skel.run_cons]
    exact ih _ _ (by omega)
  case case11 f c r hc1 hc2 ih =>
    rw [Skel.run_cons, parseLine]
    · exact ih _ _ hlen
    · exact hc1
    · exact hc2

theorem Skel.cons_eq_ok {s : CSeg} {x : Skel} {segs : List CSeg} (h : x.cons s = .ok segs) :
    ∃ t, x = .ok t ∧ segs = s :: t := by
  cases x with
  | ok t =>
    simp only [Skel.cons, Skel.ok.injEq] at h
    exact ⟨t, rfl, h.symm⟩
  | err e => cases h
  | nested => cases h

theorem Skel.cons_ne_nested {s : CSeg} {x : Skel} (h : x ≠ .nested) : x.cons s ≠ .nested := by
  cases x <;> simp_all [Skel.cons]

theorem cmakeSegs_partition (atOnly : Bool) (f : Nat) (line : List Char) :
    ∀ segs, cmakeSegs atOnly f line = .ok segs → segs.flatMap CSeg.src = line := by
  fun_induction cmakeSegs atOnly f line
  all_goals intro segs h
  case case1 => cases h
  case case2 =>
    cases h
    rfl
  case case3 f r nm after hs hc ih =>
    obtain ⟨t, ht, rfl⟩ := Skel.cons_eq_ok h
    have := splitAt_some hs
    simp [CSeg.src, ih t ht, this]
  case case4 f r nm after hs hc ih =>
    obtain ⟨t, ht, rfl⟩ := Skel.cons_eq_ok h
    simp [CSeg.src, ih t ht]
  case case5 f r hs ih =>
    obtain ⟨t, ht, rfl⟩ := Skel.cons_eq_ok h
    simp [CSeg.src, ih t ht]
  case case6 f r hat ih =>
    obtain ⟨t, ht, rfl⟩ := Skel.cons_eq_ok h
    simp [CSeg.src, ih t ht]
  case case7 => cases h
  case case8 => cases h
  case case9 => cases h
  case case10 f r hat inner after hb hsp hinv ih =>
    obtain ⟨t, ht, rfl⟩ := Skel.cons_eq_ok h
    have := bracket_some 1 r [] hb
    simp at this
    simp [CSeg.src, ih t ht, this]
  case case11 f c r hc1 hc2 ih =>
    obtain ⟨t, ht, rfl⟩ := Skel.cons_eq_ok h
    simp [CSeg.src, ih t ht]

/-- with `cmake@` (`${` is not a placeholder) the structure never depends on the data -/
theorem cmakeSegs_atOnly_ne_nested (f : Nat) (line : List Char) : cmakeSegs true f line ≠ .nested := by
  fun_induction cmakeSegs true f line
  all_goals try (exact Skel.cons_ne_nested ‹_›)
  all_goals simp_all

theorem cmakeSegs_name_wf (atOnly : Bool) (f : Nat) (line : List Char) :
    ∀ segs, cmakeSegs atOnly f line = .ok segs → ∀ nm, (CSeg.atVar nm ∈ segs ∨ CSeg.braceVar nm ∈ segs) →
      ∀ c ∈ nm, isCmakeChar c = true := by
  fun_induction cmakeSegs atOnly f line
  all_goals intro segs h nm hm
  case case1 => cases h
  case case2 =>
    cases h
    simp at hm
  case case3 f r nm' after hs hc ih =>
    obtain ⟨t, ht, rfl⟩ := Skel.cons_eq_ok h
    simp only [List.mem_cons, CSeg.atVar.injEq, reduceCtorEq, false_or] at hm
    rcases hm with (rfl | hm) | hm
    · simp only [Bool.and_eq_true, List.all_eq_true] at hc
      exact hc.2
    · exact ih t ht nm (Or.inl hm)
    · exact ih t ht nm (Or.inr hm)
  case case10 f r hat inner after hb hsp hinv ih =>
    obtain ⟨t, ht, rfl⟩ := Skel.cons_eq_ok h
    simp only [List.mem_cons, CSeg.braceVar.injEq, reduceCtorEq, false_or] at hm
    rcases hm with hm | rfl | hm
    · exact ih t ht nm (Or.inl hm)
    · intro c hc
      have := hinv
      simp only [List.any_eq_true, not_exists, not_and, Bool.not_eq_true, Bool.not_eq_false'] at this
      simpa using this c hc
    · exact ih t ht nm (Or.inr hm)
  all_goals try (cases h; done)
  all_goals
    obtain ⟨t, ht, rfl⟩ := Skel.cons_eq_ok h
    simp only [List.mem_cons, reduceCtorEq, false_or] at hm
    rename_i ih
    exact ih t ht nm hm

end MesonModel.Template
