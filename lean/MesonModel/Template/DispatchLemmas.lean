/-
C14 — `configure_file` (`Dispatch.lean`): which branch produced a result; the `#define` lines a `#cmakedefine` becomes.
-/
import MesonModel.Template.Dispatch
import MesonModel.Template.Lemmas

namespace MesonModel.Template
open MesonModel.Py

theorem cfRun_single (c : Codec) (fuel : Nat) (a : CfArgs) (x : Action) (h : presentActions a = [x]) :
    cfRun c fuel a = if a.capture && !a.command then .error .captureNeedsCommand else cfBranch c fuel a := by
  simp [cfRun, h]

theorem presentActions_conf (a : CfArgs) (es : List Entry) (hconf : a.configuration.entries? = some es)
    (hcmd : a.command = false) (hcopy : a.copy = false) : presentActions a = [Action.configuration] := by
  simp [presentActions, hconf, hcmd, hcopy]

/-- every branch that returns names its action and what it writes; only the header of a configuration without
input has to be looked at to see that it is written -/
theorem cfBranch_ok {c : Codec} {fuel : Nat} {a : CfArgs} {o : CfOut} (h : cfBranch c fuel a = .ok o) :
    o.action = (if a.configuration.entries?.isSome then .configuration else if a.command then .command else .copy) ∧
    (o.out = .untouched → a.configuration.entries? = none ∧ (a.command = true ∨ a.copy = false)) := by
  revert h
  fun_cases cfBranch c fuel a <;> rintro ⟨⟩ <;> simp [*]
  cases a.outputFormat <;> simp [headerFile]

theorem strip_of_ends (a z : Char) (mid ws : List Char) (ha : isSpace a = false) (hz : isSpace z = false)
    (hw : ∀ c ∈ ws, isSpace c = true) : strip (a :: (mid ++ [z]) ++ ws) = a :: (mid ++ [z]) := by
  have h1 : lstrip (a :: (mid ++ [z]) ++ ws) = a :: (mid ++ [z]) ++ ws := by
    simp [lstrip, List.dropWhile, ha]
  unfold strip
  rw [h1]
  unfold rstrip
  have : (a :: (mid ++ [z]) ++ ws).reverse = ws.reverse ++ z :: (mid.reverse ++ [a]) := by simp
  rw [this, List.dropWhile_append_of_pos (fun c hc => hw c (List.mem_reverse.mp hc))]
  simp [List.dropWhile, hz]

/-- `"define "` (the text of `sDefine` after the `#`), opaque to `simp` -/
def sDefineTail : List Char := ['d', 'e', 'f', 'i', 'n', 'e', ' ']

theorem sDefine_cons : sDefine = '#' :: sDefineTail := by decide +kernel

theorem at_not_mem_sDefine : '@' ∉ sDefine := by decide +kernel
theorem dollar_not_mem_sDefine : '$' ∉ sDefine := by decide +kernel

theorem substCmake_define_plain (atOnly : Bool) (d : Data) (fuel : Nat) (t : List Char)
    (h1 : '@' ∉ t) (h2 : '$' ∉ t) (hf : t.length + 8 < fuel) :
    (substCmake atOnly d fuel (sDefine ++ t)).map (·.1) = .ok (sDefine ++ t) := by
  have hlen : sDefine.length = 8 := by decide +kernel
  have := parseLine_plain atOnly d fuel [] (sDefine ++ t) []
    (by simp only [List.mem_append, not_or]; exact ⟨at_not_mem_sDefine, h1⟩)
    (by simp only [List.mem_append, not_or]; exact ⟨dollar_not_mem_sDefine, h2⟩)
    (by simp only [List.length_append, hlen]; omega)
  unfold substCmake
  rw [this]
  rfl

/-- the text `do_define_cmake` assembles, when neither the name nor the value part holds a placeholder: `strip` takes
the blanks `ws` off its end (there are none in front: it begins with `#`), and the final replacement pass copies it -/
theorem substCmake_define (atOnly : Bool) (d : Data) (fuel : Nat) (body ws : List Char) (z : Char)
    (hz : isSpace z = false) (hw : ∀ c ∈ ws, isSpace c = true) (h1 : '@' ∉ body ++ [z]) (h2 : '$' ∉ body ++ [z])
    (hf : body.length + 10 < fuel) :
    (substCmake atOnly d fuel (strip (sDefine ++ (body ++ [z]) ++ ws) ++ ['\n'])).map (·.1) =
      .ok (sDefine ++ (body ++ [z]) ++ ['\n']) := by
  have e : sDefine ++ (body ++ [z]) = '#' :: ((sDefineTail ++ body) ++ [z]) := by
    rw [sDefine_cons]
    simp only [List.cons_append, List.append_assoc]
  rw [e, strip_of_ends '#' z _ ws (by decide) hz hw, ← e, List.append_assoc]
  exact substCmake_define_plain atOnly d fuel _ (by simpa using h1) (by simpa using h2) (by simp; omega)

end MesonModel.Template
