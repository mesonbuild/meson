/-
C14 — a data-independent *top-level* segmentation of a cmake-format line (literal character / `@name@` / `${inner}`
up to its matching brace / a position where the scanner raises) and the proof that `parseLine` is, for every line,
data and fuel, its left-to-right rendering.  The *name* of a `${inner}` segment is the result of the same scanner on
`inner` (the documented nesting `${${X}}`); its value goes to the output and is never read again.
-/
import MesonModel.Template.CmakeSegs

namespace MesonModel.Template
open MesonModel.Py

inductive TSeg where
  | lit (c : Char)
  | atVar (nm : Name)
  | brace (inner : List Char)     -- `${inner}` ; `inner` may itself contain placeholders
  | bad (e : Err)                 -- the scanner raises `e` when it reaches this position
  deriving Repr, DecidableEq

def TSeg.src : TSeg → List Char
  | .lit c => [c]
  | .atVar nm => '@' :: (nm ++ ['@'])
  | .brace inner => '$' :: '{' :: (inner ++ ['}'])
  | .bad _ => []

/-- takes no data; fuel as for `parseLine` (one unit per segment) -/
def cmakeTop (atOnly : Bool) : Nat → List Char → List TSeg
  | 0, _ => [.bad .fuel]
  | _ + 1, [] => []
  | f + 1, '@' :: r =>
    match splitAt r with
    | some (nm, after) =>
      if !nm.isEmpty && nm.all isCmakeChar then .atVar nm :: cmakeTop atOnly f after
      else .lit '@' :: cmakeTop atOnly f r
    | none => .lit '@' :: cmakeTop atOnly f r
  | f + 1, '$' :: '{' :: r =>
    if atOnly then .lit '$' :: cmakeTop atOnly f ('{' :: r)
    else
      match bracket 1 r [] with
      | .error e => [.bad e]
      | .ok (inner, after) => .brace inner :: cmakeTop atOnly f after
  | f + 1, c :: r => .lit c :: cmakeTop atOnly f r

/-- `pre` is the output so far (reversed), `m` the names reported so far -/
def runTop (atOnly : Bool) (d : Data) : Nat → List TSeg → List Char → List Name → Except Err (List Char × List Name)
  | 0, _, _, _ => .error .fuel
  | _ + 1, [], pre, m => .ok (pre.reverse, m)
  | f + 1, .lit c :: t, pre, m => runTop atOnly d f t (c :: pre) m
  | f + 1, .atVar nm :: t, pre, m => runTop atOnly d f t ((varVal d nm).reverse ++ pre) (varMiss d nm ++ m)
  | f + 1, .brace inner :: t, pre, m =>
    match parseLine atOnly d f [] inner m with
    | .error e => .error e
    | .ok (nm, m1) =>
      if nm.any (fun c => !isCmakeChar c) then .error .invalidChar
      else runTop atOnly d f t ((varVal d nm).reverse ++ pre) (varMiss d nm ++ m1)
  | _ + 1, .bad e :: _, _, _ => .error e

theorem parseLine_eq_runTop (atOnly : Bool) (d : Data) (f : Nat) (pre rest : List Char) (m : List Name) :
    parseLine atOnly d f pre rest m = runTop atOnly d f (cmakeTop atOnly f rest) pre m := by
  -- over the segmentation, not the scanner: `runTop` runs the scanner on `inner` itself, so the outcome of the nested
  -- call is never analysed
  fun_induction cmakeTop atOnly f rest generalizing pre m
  case case1 => rfl
  case case2 => rfl
  case case3 f r nm after hs hc ih => simp only [parseLine, hs, hc, if_true, varGet_eq, runTop, ih]
  case case4 f r nm after hs hc ih => simp only [parseLine, hs, hc, Bool.false_eq_true, if_false, runTop, ih]
  case case5 f r hs ih => simp only [parseLine, hs, runTop, ih]
  case case6 f r hat ih =>
    subst hat
    simp only [parseLine, if_true, runTop, ih]
  case case7 f r hat e hb =>
    cases eq_false_of_ne_true hat
    simp only [parseLine, Bool.false_eq_true, if_false, hb, runTop]
  case case8 f r hat inner after hb ih =>
    cases eq_false_of_ne_true hat
    simp only [parseLine, Bool.false_eq_true, if_false, hb, varGet_eq, runTop, ih]
    -- both sides are the same `match` on the nested call, through two auxiliary matchers
    rfl
  case case9 f c r hc1 hc2 ih =>
    rw [parseLine, runTop, ih]
    · exact hc1
    · exact hc2

/-- the output accumulated so far is never read -/
theorem runTop_append (atOnly : Bool) (d : Data) (f : Nat) (segs : List TSeg) (pre : List Char) (m : List Name)
    (pre2 : List Char) : runTop atOnly d f segs (pre ++ pre2) m =
      (runTop atOnly d f segs pre m).map fun (t, mm) => (pre2.reverse ++ t, mm) := by
  fun_induction runTop atOnly d f segs pre m
  case case1 => simp [runTop, Except.map]
  case case2 => simp [runTop, Except.map]
  case case3 f c t pre m ih =>
    simp only [runTop, ← List.cons_append]
    exact ih
  case case4 f nm t pre m ih =>
    simp only [runTop, ← List.append_assoc]
    exact ih
  case case5 f inner t pre m e hn =>
    simp [runTop, hn, Except.map]
  case case6 f inner t pre m nm m1 hn hinv =>
    simp [runTop, hn, hinv, Except.map]
  case case7 f inner t pre m nm m1 hn hinv ih =>
    simp only [runTop, hn, hinv, ← List.append_assoc]
    exact ih
  case case8 => simp [runTop, Except.map]

theorem runTop_pre (atOnly : Bool) (d : Data) (f : Nat) (segs : List TSeg) (pre : List Char) (m : List Name) :
    runTop atOnly d f segs pre m =
      (runTop atOnly d f segs [] m).map fun (t, mm) => (pre.reverse ++ t, mm) := by
  simpa using runTop_append atOnly d f segs [] m pre

theorem cmakeTop_partition (atOnly : Bool) (f : Nat) (line : List Char) :
    (∀ e, TSeg.bad e ∉ cmakeTop atOnly f line) → (cmakeTop atOnly f line).flatMap TSeg.src = line := by
  fun_induction cmakeTop atOnly f line
  all_goals intro h
  case case1 => exact absurd (by simp) (h .fuel)
  case case2 => rfl
  case case3 f r nm after hs hc ih =>
    have := splitAt_some hs
    simp [TSeg.src, ih (fun e he => h e (List.mem_cons_of_mem _ he)), this]
  case case4 f r nm after hs hc ih =>
    simp [TSeg.src, ih (fun e he => h e (List.mem_cons_of_mem _ he))]
  case case5 f r hs ih =>
    simp [TSeg.src, ih (fun e he => h e (List.mem_cons_of_mem _ he))]
  case case6 f r hat ih =>
    simp [TSeg.src, ih (fun e he => h e (List.mem_cons_of_mem _ he))]
  case case7 f r hat e hb => exact absurd (by simp) (h e)
  case case8 f r hat inner after hb ih =>
    have := bracket_some 1 r [] hb
    simp at this
    simp [TSeg.src, ih (fun e he => h e (List.mem_cons_of_mem _ he)), this]
  case case9 f c r hc1 hc2 ih =>
    simp [TSeg.src, ih (fun e he => h e (List.mem_cons_of_mem _ he))]

theorem cmakeTop_fuel (atOnly : Bool) (f : Nat) (line : List Char) :
    line.length < f → TSeg.bad .fuel ∉ cmakeTop atOnly f line := by
  fun_induction cmakeTop atOnly f line
  all_goals intro hlen
  all_goals try (simp at hlen)
  case case2 => simp
  case case3 f r nm after hs hc ih =>
    have hl := congrArg List.length (splitAt_some hs)
    simp at hl
    simp only [List.mem_cons, reduceCtorEq, false_or]
    exact ih (by omega)
  case case4 f r nm after hs hc ih =>
    simp only [List.mem_cons, reduceCtorEq, false_or]
    exact ih hlen
  case case5 f r hs ih =>
    simp only [List.mem_cons, reduceCtorEq, false_or]
    exact ih hlen
  case case6 f r hat ih =>
    simp only [List.mem_cons, reduceCtorEq, false_or]
    exact ih (by simp; omega)
  case case7 f r hat e hb =>
    simp only [List.mem_singleton, TSeg.bad.injEq]
    intro he
    subst he
    exact bracket_ne_fuel _ _ _ hb
  case case8 f r hat inner after hb ih =>
    have hl := bracket_length hb
    simp only [List.mem_cons, reduceCtorEq, false_or]
    exact ih (by omega)
  case case9 f c r hc1 hc2 ih =>
    simp only [List.mem_cons, reduceCtorEq, false_or]
    exact ih hlen

end MesonModel.Template
