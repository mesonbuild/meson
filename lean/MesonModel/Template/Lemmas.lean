/-
Meson format: every match is a well-formed prefix of the text (`matchAt_some`); `scanFrom`, the scan without fuel,
partitions the line and is a left-to-right machine whose only state is "the text so far ends in a backslash"
(`scanFrom_split`).  Cmake formats: `splitAt` and `bracket` cut the text they are given, a step of the index scanner at a
placeholder consumes it, and `rest.length + 1` fuel is enough (`fuel_suffices`).  Lines without `#` and without
placeholders are copied; `_dump_c_header` emits the keys in sorted order.  At the end, what the byte layer asks of a
codec so that a text encodes as its segments do, one after the other (`Codec.Stateless`).
-/
import MesonModel.Template.Model
import MesonModel.Util.Sort
import MesonModel.Py.ExceptEq
namespace MesonModel.Template
open MesonModel.Py

/-- what the scanner guarantees of a match -/
def Seg.Wf : Seg → Prop
  | .lit _ => True
  | .esc n => 1 ≤ n
  | .var nm => nm ≠ [] ∧ ∀ c ∈ nm, isNameChar c = true
  | .escaped nm => nm ≠ [] ∧ ∀ c ∈ nm, isNameChar c = true

theorem take_bs (s : List Char) {n : Nat} (h : n ≤ (s.takeWhile isBs).length) :
    s.take n = List.replicate n '\\' := by
  have hp : s.take n <+: s.takeWhile isBs :=
    List.prefix_of_prefix_length_le (List.take_prefix n s) (List.takeWhile_prefix isBs) (by simp; omega)
  refine List.eq_replicate_iff.mpr ⟨?_, fun c hc => ?_⟩
  · exact List.length_take_of_le (Nat.le_trans h (List.takeWhile_prefix isBs).length_le)
  · simpa [isBs] using List.all_eq_true.mp List.all_takeWhile c (hp.subset hc)

theorem nameThen_some {close r nm r'} (h : nameThen close r = some (nm, r')) :
    r = nm ++ close ++ r' ∧ nm ≠ [] ∧ (∀ c ∈ nm, isNameChar c = true) := by
  simp only [nameThen] at h
  split at h
  · cases h
  · rename_i hne
    split at h
    · rename_i hp
      obtain ⟨t, ht⟩ := List.isPrefixOf_iff_prefix.mp hp
      cases h
      refine ⟨?_, by simpa using hne, List.all_eq_true.mp List.all_takeWhile⟩
      rw [List.append_assoc, ← ht, List.drop_left, ht, List.takeWhile_append_dropWhile]
    · cases h

theorem matchEsc_some {p : Bool} {s sg r} (h : matchEsc s = some (sg, r)) :
    s = sg.src ++ r ∧ sg.Wf ∧ ∀ nm, sg = .var nm → p = false := by
  simp only [matchEsc] at h
  split at h
  · rename_i hc
    simp only [Bool.and_eq_true, decide_eq_true_eq] at hc
    cases h
    refine ⟨?_, by simp only [Seg.Wf]; omega, nofun⟩
    rw [Seg.src, ← take_bs s (by omega), List.take_append_drop]
  · cases h

theorem matchVar_some {p s sg r} (h : matchVar p s = some (sg, r)) :
    s = sg.src ++ r ∧ sg.Wf ∧ ∀ nm, sg = .var nm → p = false := by
  unfold matchVar at h
  split at h
  · split at h
    · cases h
    · rename_i hp
      simp only [Option.map_eq_some_iff] at h
      obtain ⟨⟨nm, r'⟩, hn, he⟩ := h
      cases he
      obtain ⟨h1, h2⟩ := nameThen_some hn
      exact ⟨by simp [Seg.src, h1], h2, fun _ _ => by simpa using hp⟩
  · cases h

theorem matchEscaped_some {p : Bool} {s sg r} (h : matchEscaped s = some (sg, r)) :
    s = sg.src ++ r ∧ sg.Wf ∧ ∀ nm, sg = .var nm → p = false := by
  unfold matchEscaped at h
  split at h
  · simp only [Option.map_eq_some_iff] at h
    obtain ⟨⟨nm, r'⟩, hn, he⟩ := h
    cases he
    obtain ⟨h1, h2⟩ := nameThen_some hn
    exact ⟨by simp [Seg.src, h1], h2, nofun⟩
  · cases h

theorem matchAt_some {p s sg r} (h : matchAt p s = some (sg, r)) :
    s = sg.src ++ r ∧ sg.Wf ∧ ∀ nm, sg = .var nm → p = false := by
  unfold matchAt at h
  split at h
  · exact matchEsc_some (h ▸ ‹_›)
  · split at h
    · exact matchVar_some (h ▸ ‹_›)
    · exact matchEscaped_some h

theorem Seg.Wf.src_ne_nil {sg : Seg} (h : sg.Wf) : sg.src ≠ [] := by
  cases sg with
  | esc n =>
    obtain ⟨k, rfl⟩ : ∃ k, n = k + 1 := ⟨n - 1, by simp only [Seg.Wf] at h; omega⟩
    simp [Seg.src, Nat.mul_succ, List.replicate_succ]
  | _ => simp [Seg.src]

theorem matchAt_shorter {p s sg r} (h : matchAt p s = some (sg, r)) : r.length < s.length := by
  obtain ⟨hs, hw, _⟩ := matchAt_some h
  have := List.length_pos_iff.mpr hw.src_ne_nil
  rw [hs, List.length_append]
  omega

theorem matchEsc_none_of_no_at {s : List Char} (h : '@' ∉ s) : matchEsc s = none := by
  unfold matchEsc
  simp only
  split
  · rename_i hc
    simp only [Bool.and_eq_true, decide_eq_true_eq, beq_iff_eq] at hc
    exfalso
    have : '@' ∈ s.dropWhile isBs := List.mem_of_mem_head? hc.2
    exact h ((List.dropWhile_sublist _).subset this)
  · rfl

theorem matchAt_none_of_no_at {p : Bool} {s : List Char} (h : '@' ∉ s) : matchAt p s = none := by
  unfold matchAt
  rw [matchEsc_none_of_no_at h]
  have h2 : matchVar p s = none := by
    unfold matchVar
    split
    · simp at h
    · rfl
  have h3 : matchEscaped s = none := by
    unfold matchEscaped
    split
    · simp at h
    · rfl
  simp [h2, h3]

theorem matchEsc_none_of_head {c : Char} {r : List Char} (h : c ≠ '\\') : matchEsc (c :: r) = none := by
  have : isBs c = false := by simpa [isBs] using h
  simp [matchEsc, this]

theorem matchAt_none_of_plain {p : Bool} {c : Char} {r : List Char} (h1 : c ≠ '@') (h2 : c ≠ '\\') :
    matchAt p (c :: r) = none := by
  unfold matchAt
  rw [matchEsc_none_of_head h2]
  have h3 : matchVar p (c :: r) = none := by
    unfold matchVar
    split
    · rename_i heq
      simp at heq
      exact absurd heq.1 h1
    · rfl
  have h4 : matchEscaped (c :: r) = none := by
    unfold matchEscaped
    split
    · rename_i heq
      simp at heq
      exact absurd heq.1 h2
    · rfl
  simp [h3, h4]

theorem nameThen_exact (x : Char) (xs name post : List Char) (hn : name ≠ [])
    (hnc : ∀ c ∈ name, isNameChar c = true) (hx : isNameChar x = false) :
    nameThen (x :: xs) (name ++ (x :: xs) ++ post) = some (name, post) := by
  have he : name.isEmpty = false := by simpa using hn
  simp [nameThen, List.takeWhile_append_of_pos hnc, List.dropWhile_append_of_pos hnc, hx, he]

theorem matchAt_var (name post : List Char) (hn : name ≠ []) (hnc : ∀ c ∈ name, isNameChar c = true) :
    matchAt false ('@' :: (name ++ '@' :: post)) = some (.var name, post) := by
  unfold matchAt
  rw [matchEsc_none_of_head (by decide)]
  have := nameThen_exact '@' [] name post hn hnc (by decide)
  simp only [List.append_assoc, List.singleton_append] at this
  simp [matchVar, this]

theorem matchAt_escaped (p : Bool) (name post : List Char) (hn : name ≠ []) (hnc : ∀ c ∈ name, isNameChar c = true) :
    matchAt p ('\\' :: '@' :: (name ++ '\\' :: '@' :: post)) = some (.escaped name, post) := by
  have := nameThen_exact '\\' ['@'] name post hn hnc (by decide)
  simp only [List.append_assoc, List.cons_append, List.nil_append] at this
  simp [matchAt, matchEsc, isBs, matchVar, matchEscaped, this]

/-- `scan` without fuel: the recursion is on the length of the text, which every match shortens -/
def scanFrom (p : Bool) (s : List Char) : List Seg :=
  match s with
  | [] => []
  | c :: r =>
    match _ : matchAt p (c :: r) with
    | some (sg, rest) => sg :: scanFrom sg.endsBs rest
    | none => .lit c :: scanFrom (isBs c) r
termination_by s.length
decreasing_by
  · exact matchAt_shorter ‹_›
  · simp

theorem scan_eq_scanFrom (f : Nat) (p : Bool) (s : List Char) (h : s.length ≤ f) : scan f p s = scanFrom p s := by
  fun_induction scan f p s
  · rw [List.eq_nil_of_length_eq_zero (Nat.le_zero.mp h), scanFrom]
  · rw [scanFrom]
  · rename_i hm ih
    have := matchAt_shorter hm
    rw [scanFrom]
    split
    · rename_i hm'
      rw [hm] at hm'
      cases hm'
      rw [ih (by simp at h this; omega)]
    · rename_i hm'
      rw [hm] at hm'
      cases hm'
  · rename_i hm ih
    rw [scanFrom]
    split
    · rename_i hm'
      rw [hm] at hm'
      cases hm'
    · rw [ih (by simpa using h)]

theorem segments_eq (s : List Char) : segments s = scanFrom false s := scan_eq_scanFrom _ _ _ (Nat.le_refl _)

theorem scanFrom_cons (p : Bool) (c : Char) (r : List Char) :
    scanFrom p (c :: r) = match matchAt p (c :: r) with
      | some (sg, rest) => sg :: scanFrom sg.endsBs rest
      | none => .lit c :: scanFrom (isBs c) r := by
  rw [scanFrom]
  split <;> simp [*]

theorem scanFrom_partition (p : Bool) (s : List Char) : (scanFrom p s).flatMap Seg.src = s := by
  fun_induction scanFrom p s
  · rfl
  · rename_i hm ih
    rw [List.flatMap_cons, ih, ← (matchAt_some hm).1]
  · rename_i ih
    rw [List.flatMap_cons, ih]
    rfl

theorem scanFrom_wf (p : Bool) (s : List Char) : ∀ sg ∈ scanFrom p s, sg.Wf := by
  fun_induction scanFrom p s
  · simp
  · rename_i hm ih
    exact List.forall_mem_cons.mpr ⟨(matchAt_some hm).2.1, ih⟩
  · rename_i ih
    exact List.forall_mem_cons.mpr ⟨trivial, ih⟩

theorem scanFrom_no_at (p : Bool) (s : List Char) (hat : '@' ∉ s) : scanFrom p s = s.map Seg.lit := by
  fun_induction scanFrom p s
  · rfl
  · rename_i hm _
    rw [matchAt_none_of_no_at hat] at hm
    cases hm
  · rename_i ih
    rw [ih fun hh => hat (List.mem_cons_of_mem _ hh)]
    rfl

theorem scanFrom_plain_prefix (p : Bool) (rest : List Char) : ∀ pre : List Char,
    (∀ c ∈ pre, c ≠ '@' ∧ c ≠ '\\') →
    scanFrom p (pre ++ rest) = pre.map Seg.lit ++ scanFrom (if pre.isEmpty then p else false) rest := by
  intro pre
  induction pre generalizing p with
  | nil => intro _; rfl
  | cons c pre ih =>
    intro hp
    have hc := hp c (by simp)
    have hbs : isBs c = false := by simpa [isBs] using hc.2
    rw [List.cons_append, scanFrom_cons, matchAt_none_of_plain hc.1 hc.2, ih _ fun x hx => hp x (List.mem_cons_of_mem _ hx)]
    cases pre <;> simp [hbs]

theorem scanFrom_cons_eq {p : Bool} {s : List Char} {sg : Seg} {t : List Seg} (h : scanFrom p s = sg :: t) :
    ∃ r, s = sg.src ++ r ∧ scanFrom sg.endsBs r = t ∧ sg.Wf := by
  cases s with
  | nil => simp [scanFrom] at h
  | cons c r =>
    rw [scanFrom_cons] at h
    split at h
    · rename_i sg' rest hm
      cases h
      exact ⟨rest, (matchAt_some hm).1, rfl, (matchAt_some hm).2.1⟩
    · cases h
      exact ⟨r, rfl, rfl, trivial⟩

/-- the look-behind of the scanner in front of the text that follows `t` -/
def lastBs (t : List Char) : Bool := t.getLast? == some '\\'

theorem Seg.Wf.lastBs_src {sg : Seg} (h : sg.Wf) (t : List Char) : lastBs (t ++ sg.src) = sg.endsBs := by
  rw [lastBs, List.getLast?_append]
  cases sg with
  | esc n =>
    obtain ⟨k, rfl⟩ : ∃ k, n = k + 1 := ⟨n - 1, by simp only [Seg.Wf] at h; omega⟩
    simp [Seg.src, Seg.endsBs, Nat.mul_succ, List.replicate_succ']
  | _ => simp [Seg.src, Seg.endsBs, isBs, List.getLast?_cons, List.getLast?_append]

/-- the scan is a left-to-right machine whose only state is whether the text so far ends in a backslash -/
theorem scanFrom_split : ∀ (segs1 : List Seg) (t s : List Char) (segs2 : List Seg),
    scanFrom (lastBs t) s = segs1 ++ segs2 →
    scanFrom (lastBs (t ++ segs1.flatMap Seg.src)) (s.drop (segs1.flatMap Seg.src).length) = segs2 := by
  intro segs1
  induction segs1 with
  | nil => intro t s segs2 h; simpa using h
  | cons sg u ih =>
    intro t s segs2 h
    obtain ⟨r, rfl, hu, hw⟩ := scanFrom_cons_eq h
    rw [← hw.lastBs_src t] at hu
    rw [List.flatMap_cons, List.length_append, ← List.drop_drop, List.drop_left, ← List.append_assoc]
    exact ih _ r segs2 hu

theorem flatMap_render_lit (d : Data) (s : List Char) : (s.map Seg.lit).flatMap (render d) = s := by
  induction s with
  | nil => rfl
  | cons c r ih => simp [List.flatMap_cons, render, ih]

theorem filterMap_missing_lit (d : Data) (s : List Char) : (s.map Seg.lit).filterMap (segMissing d) = [] := by
  induction s with
  | nil => rfl
  | cons c r ih => simp [segMissing]

theorem segMissing_eq_some {d : Data} {sg : Seg} {nm : Name} :
    segMissing d sg = some nm ↔ sg = .var nm ∧ d.get? nm = none := by
  cases sg <;> simp only [segMissing, reduceCtorEq, false_and, Seg.var.injEq, Option.isNone_iff_eq_none,
    Option.ite_none_right_eq_some, Option.some.injEq]
  constructor
  · rintro ⟨h, rfl⟩
    exact ⟨rfl, h⟩
  · rintro ⟨rfl, h⟩
    exact ⟨h, rfl⟩

theorem substMeson_no_at (d : Data) (s : List Char) (h : '@' ∉ s) : substMeson d s = s := by
  simp [substMeson, segments_eq, scanFrom_no_at _ _ h, flatMap_render_lit]

theorem missingMeson_no_at (d : Data) (s : List Char) (h : '@' ∉ s) : missingMeson d s = [] := by
  simp only [missingMeson, segments_eq, scanFrom_no_at _ _ h]
  exact filterMap_missing_lit d s

theorem substMeson_plain_then_match (d : Data) (pre rest post : List Char) (sg : Seg)
    (hpre : ∀ c ∈ pre, c ≠ '@' ∧ c ≠ '\\') (hm : matchAt false rest = some (sg, post)) (he : sg.endsBs = false) :
    substMeson d (pre ++ rest) = pre ++ render d sg ++ substMeson d post := by
  obtain ⟨c, r, rfl⟩ : ∃ c r, rest = c :: r := List.exists_cons_of_length_pos (by have := matchAt_shorter hm; omega)
  simp only [substMeson, segments_eq]
  rw [scanFrom_plain_prefix false _ pre hpre, ite_self, scanFrom_cons, hm]
  simp [he, List.flatMap_append, flatMap_render_lit]

theorem splitAt_some {r nm after : List Char} (h : splitAt r = some (nm, after)) : r = nm ++ '@' :: after := by
  fun_induction splitAt r generalizing nm with
  | case1 => cases h
  | case2 c r hc =>
    cases h
    simp [beq_iff_eq.mp hc]
  | case3 c r hc ih =>
    simp only [Option.map_eq_some_iff] at h
    obtain ⟨⟨a, b⟩, hab, he⟩ := h
    cases he
    rw [ih hab]
    rfl

theorem splitAt_name (post : List Char) : ∀ (name : List Char), '@' ∉ name →
    splitAt (name ++ '@' :: post) = some (name, post) := by
  intro name
  induction name with
  | nil => intro _; simp [splitAt]
  | cons c name ih =>
    intro h
    have hc : c ≠ '@' := fun e => h (by simp [e])
    simp [splitAt, hc, ih (fun hh => h (List.mem_cons_of_mem _ hh))]

theorem bracket_some (cnt : Nat) (r acc : List Char) : ∀ {inner after : List Char},
    bracket cnt r acc = .ok (inner, after) → inner ++ '}' :: after = acc.reverse ++ r := by
  fun_induction bracket cnt r acc <;> intro inner after h
  · cases h
  · rename_i ih
    have := ih h
    simpa using this
  · simp only [Except.ok.injEq, Prod.mk.injEq] at h
    obtain ⟨rfl, rfl⟩ := h
    rfl
  · rename_i ih
    have := ih h
    simpa using this
  · rename_i ih
    have := ih h
    simpa using this
  · cases h
  · rename_i ih
    have := ih h
    simpa using this

theorem bracket_length {cnt : Nat} {r inner after : List Char} (h : bracket cnt r [] = .ok (inner, after)) :
    inner.length + 1 + after.length = r.length := by
  have := congrArg List.length (bracket_some cnt r [] h)
  simp at this
  omega

theorem bracket_ne_fuel (cnt : Nat) (r acc : List Char) : bracket cnt r acc ≠ .error .fuel := by
  fun_induction bracket cnt r acc <;> simp_all

theorem cmakeChar_ne {c : Char} (h : isCmakeChar c = true) : c ≠ '$' ∧ c ≠ '}' ∧ c ≠ '@' ∧ c ≠ '\n' ∧ c ≠ '{' := by
  refine ⟨?_, ?_, ?_, ?_, ?_⟩
  all_goals
    intro e
    subst e
    revert h
    decide

theorem bracket_name (post : List Char) : ∀ (name acc : List Char), (∀ c ∈ name, isCmakeChar c = true) →
    bracket 1 (name ++ '}' :: post) acc = .ok (acc.reverse ++ name, post) := by
  intro name
  induction name with
  | nil => intro acc _; simp [bracket]
  | cons c name ih =>
    intro acc h
    have hc := h c (by simp)
    obtain ⟨h1, h2, h3, h4, _⟩ := cmakeChar_ne hc
    have := ih (c :: acc) (fun x hx => h x (List.mem_cons_of_mem _ hx))
    rw [List.cons_append, bracket]
    · simp [h3, h4, hc, this]
    · intro r hh _
      exact h1 hh
    · intro hh
      exact h2 hh

theorem name_no_special {name : List Char} (h : ∀ c ∈ name, isCmakeChar c = true) : '@' ∉ name ∧ '$' ∉ name :=
  ⟨fun hm => (cmakeChar_ne (h _ hm)).2.2.1 rfl, fun hm => (cmakeChar_ne (h _ hm)).1 rfl⟩

theorem any_not_cmake_false {name : List Char} (h : ∀ c ∈ name, isCmakeChar c = true) :
    (name.any fun c => !isCmakeChar c) = false := by
  simp only [List.any_eq_false]
  intro c hc
  simp [h c hc]

/-- text substituted by the cmake scanner for a name (empty when undefined) -/
def varVal (d : Data) (nm : Name) : List Char := match d.get? nm with | some v => v.cmakeStr | none => []

/-- what a look-up adds to the missing list -/
def varMiss (d : Data) (nm : Name) : List Name := match d.get? nm with | some _ => [] | none => [nm]

theorem varGet_eq (d : Data) (nm : Name) (m : List Name) : varGet d nm m = (varVal d nm, varMiss d nm ++ m) := by
  unfold varGet varVal varMiss
  split <;> simp_all

theorem mem_varMiss {d : Data} {n nm : Name} : nm ∈ varMiss d n ↔ n = nm ∧ d.get? nm = none := by
  unfold varMiss
  split
  · simp only [List.not_mem_nil, false_iff]
    rintro ⟨rfl, h⟩
    simp_all
  · simp only [List.mem_singleton]
    constructor
    · rintro rfl
      exact ⟨rfl, ‹_›⟩
    · exact fun h => h.1.symm

theorem parseLine_plain_prefix (atOnly : Bool) (d : Data) : ∀ (p : List Char) (f : Nat) (pre rest : List Char)
    (m : List Name), (∀ c ∈ p, c ≠ '@' ∧ c ≠ '$') →
    parseLine atOnly d (f + p.length) pre (p ++ rest) m = parseLine atOnly d f (p.reverse ++ pre) rest m := by
  intro p
  induction p with
  | nil => intros; simp
  | cons c p ih =>
    intro f pre rest m h
    have hc := h c (by simp)
    have e : f + (c :: p).length = (f + p.length) + 1 := by
      simp
      omega
    rw [e, List.cons_append, parseLine]
    · rw [ih f (c :: pre) rest m (fun x hx => h x (List.mem_cons_of_mem _ hx))]
      simp
    · exact hc.1
    · intro r hh
      exact absurd hh hc.2

theorem parseLine_plain (atOnly : Bool) (d : Data) (f : Nat) (pre rest : List Char) (m : List Name)
    (h1 : '@' ∉ rest) (h2 : '$' ∉ rest) (h3 : rest.length < f) :
    parseLine atOnly d f pre rest m = .ok (pre.reverse ++ rest, m) := by
  obtain ⟨g, rfl⟩ : ∃ g, f = g + 1 + rest.length := ⟨f - 1 - rest.length, by omega⟩
  have := parseLine_plain_prefix atOnly d rest (g + 1) pre [] m
    (fun c hc => ⟨fun e => h1 (e ▸ hc), fun e => h2 (e ▸ hc)⟩)
  rw [List.append_nil] at this
  rw [this, parseLine, List.reverse_append, List.reverse_reverse]

/-- one step of the scanner at `${inner}` when `inner` holds no placeholder of its own: the nested call returns
`inner` unchanged, so `inner` is the name -/
theorem parseLine_brace_step (d : Data) (f : Nat) (pre r inner after : List Char) (m : List Name)
    (hb : bracket 1 r [] = .ok (inner, after)) (h1 : '@' ∉ inner) (h2 : '$' ∉ inner) (hf : inner.length < f) :
    parseLine false d (f + 1) pre ('$' :: '{' :: r) m =
      if inner.any (fun c => !isCmakeChar c) then .error .invalidChar
      else parseLine false d f ((varVal d inner).reverse ++ pre) after (varMiss d inner ++ m) := by
  rw [parseLine]
  simp only [Bool.false_eq_true, if_false, hb, parseLine_plain false d f [] inner m h1 h2 hf, List.reverse_nil,
    List.nil_append, varGet_eq]

/-- the repaired scanner at `${name}` continues *after* the placeholder: the value is not scanned again -/
theorem parseLine_var_step (d : Data) (f : Nat) (pre name post : List Char) (m : List Name)
    (hn : ∀ c ∈ name, isCmakeChar c = true) (hf : name.length < f) :
    parseLine false d (f + 1) pre ('$' :: '{' :: (name ++ '}' :: post)) m =
      parseLine false d f ((varVal d name).reverse ++ pre) post (varMiss d name ++ m) := by
  obtain ⟨h1, h2⟩ := name_no_special hn
  rw [parseLine_brace_step d f pre _ name post m (bracket_name post name [] hn) h1 h2 hf, any_not_cmake_false hn]
  rfl

theorem parseLine_at_step (atOnly : Bool) (d : Data) (f : Nat) (pre name post : List Char) (m : List Name)
    (hne : name ≠ []) (hn : ∀ c ∈ name, isCmakeChar c = true) :
    parseLine atOnly d (f + 1) pre ('@' :: (name ++ '@' :: post)) m =
      parseLine atOnly d f ((varVal d name).reverse ++ pre) post (varMiss d name ++ m) := by
  obtain ⟨h1, _⟩ := name_no_special hn
  have hall : name.all isCmakeChar = true := by simpa [List.all_eq_true] using hn
  have hemp : name.isEmpty = false := by cases name <;> simp_all
  rw [parseLine]
  simp [splitAt_name post name h1, hall, hemp, varGet_eq]

/-- after the repair every iteration consumes template text, so `rest.length + 1` fuel is enough -/
theorem fuel_suffices (atOnly : Bool) (d : Data) (f : Nat) (pre rest : List Char) (m : List Name) :
    rest.length < f → parseLine atOnly d f pre rest m ≠ .error .fuel := by
  fun_induction parseLine atOnly d f pre rest m
  all_goals intro hlen
  all_goals try (simp at hlen)
  case case2 => simp
  case case3 nm after hs _ _ _ _ ih =>
    have hl := congrArg List.length (splitAt_some hs)
    simp at hl
    exact ih (by omega)
  case case4 ih => exact ih hlen
  case case5 ih => exact ih hlen
  case case6 ih => exact ih (by simp; omega)
  case case7 e hb =>
    intro he
    simp only [Except.error.injEq] at he
    subst he
    exact bracket_ne_fuel _ _ _ hb
  case case8 inner after hb e hn ih =>
    have hl := bracket_length hb
    intro he
    simp only [Except.error.injEq] at he
    subst he
    exact ih (by omega) hn
  case case9 => simp
  case case10 inner after hb _ _ _ _ _ _ _ ih2 ih1 =>
    have hl := bracket_length hb
    exact ih1 (by omega)
  case case11 ih => exact ih hlen

theorem splitLinesAux_flatten (s cur : List Char) : (splitLinesAux s cur).flatten = cur.reverse ++ s := by
  fun_induction splitLinesAux s cur <;> simp_all

theorem splitLines_flatten (s : List Char) : (splitLines s).flatten = s := by
  simp [splitLines, splitLinesAux_flatten]

theorem mem_of_mem_splitLines (s l : List Char) (h : l ∈ splitLines s) : ∀ c ∈ l, c ∈ s :=
  fun c hc => splitLines_flatten s ▸ List.mem_flatten.mpr ⟨l, h, hc⟩

theorem not_startsWith_of_head_not_mem {p s : List Char} {c : Char} (hp : p.head? = some c) (h : c ∉ s) :
    startsWith s p = false := by
  cases p with
  | nil => simp at hp
  | cons a p =>
    simp at hp
    subst hp
    cases s with
    | nil => simp [startsWith, List.isPrefixOf]
    | cons b s =>
      have : a ≠ b := fun e => h (by simp [e])
      simp [startsWith, List.isPrefixOf, this]

theorem sMesondefine_head : sMesondefine.head? = some '#' := by decide +kernel

theorem isMesonDefineLine_false {l : List Char} (h : '#' ∉ l) : isMesonDefineLine l = false := by
  unfold isMesonDefineLine
  apply not_startsWith_of_head_not_mem sMesondefine_head
  intro hh
  exact h ((List.dropWhile_sublist _).subset hh)

theorem hasCmakeDefine_false {l : List Char} (h : '#' ∉ l) : hasCmakeDefine l = false := by
  induction l with
  | nil => rfl
  | cons c r ih =>
    have hc : c ≠ '#' := fun e => h (by simp [e])
    simp only [hasCmakeDefine, Bool.or_eq_false_iff, Bool.and_eq_false_iff]
    exact ⟨Or.inl (by simpa using hc), ih (fun hh => h (List.mem_cons_of_mem _ hh))⟩

theorem hasSub_false {p l : List Char} {c : Char} (hp : p.head? = some c) (h : c ∉ l) : hasSub p l = false := by
  induction l with
  | nil => cases p <;> simp_all [hasSub]
  | cons a r ih =>
    simp only [hasSub, Bool.or_eq_false_iff]
    refine ⟨?_, ih (fun hh => h (List.mem_cons_of_mem _ hh))⟩
    exact not_startsWith_of_head_not_mem hp h

theorem isCmakeDefineLine_false {l : List Char} (h : '#' ∉ l) : isCmakeDefineLine l = false := by
  unfold isCmakeDefineLine
  split
  · rename_i t ht
    exfalso
    have : '#' ∈ lstrip l := by
      rw [ht]
      simp
    exact h ((List.dropWhile_sublist _).subset this)
  · rfl

theorem lineMeson_nohash (d : Data) {l : List Char} (h : '#' ∉ l) :
    lineMeson d l = .ok ⟨substMeson d l, missingMeson d l, false⟩ := by
  simp [lineMeson, isMesonDefineLine_false h, hasCmakeDefine_false h]

theorem lineCmake_nohash (atOnly : Bool) (d : Data) (fuel : Nat) {l : List Char} (h : '#' ∉ l) :
    lineCmake atOnly d fuel l = (substCmake atOnly d fuel l).map fun (t, m) => ⟨t, m, false⟩ := by
  simp [lineCmake, isCmakeDefineLine_false h, hasSub_false sMesondefine_head h]

theorem lineMeson_plain (d : Data) {l : List Char} (h1 : '@' ∉ l) (h2 : '#' ∉ l) :
    lineMeson d l = .ok ⟨l, [], false⟩ := by
  rw [lineMeson_nohash d h2, substMeson_no_at d l h1, missingMeson_no_at d l h1]

theorem lineCmake_plain (atOnly : Bool) (d : Data) (fuel : Nat) {l : List Char}
    (h1 : '@' ∉ l) (h2 : '#' ∉ l) (h3 : '$' ∉ l) (hf : l.length < fuel) :
    lineCmake atOnly d fuel l = .ok ⟨l, [], false⟩ := by
  rw [lineCmake_nohash atOnly d fuel h2, substCmake, parseLine_plain atOnly d fuel [] l [] h1 h3 hf]
  rfl

theorem mapLines_ok (f : List Char → Except Err LineOut) (g : List Char → LineOut) :
    ∀ ls : List (List Char), (∀ l ∈ ls, f l = .ok (g l)) → mapLines f ls = .ok (ls.map g) := by
  intro ls
  induction ls with
  | nil => intro _; rfl
  | cons l ls ih =>
    intro h
    simp only [mapLines, h l (by simp), ih (fun x hx => h x (List.mem_cons_of_mem _ hx)), List.map_cons]

theorem all_plain (os : List (List Char)) :
    (os.map fun l => (⟨l, [], false⟩ : LineOut)).all (fun o => !o.isDefine && o.missing.isEmpty) = true := by
  induction os <;> simp_all

theorem collect_plain (d : Data) (ls : List (List Char)) :
    collect d (ls.map fun l => (⟨l, [], false⟩ : LineOut)) = ⟨ls, [], d.isEmpty⟩ := by
  simp only [collect, all_plain, Bool.and_true]
  congr 1
  · simp [Function.comp_def]
  · induction ls <;> simp_all

theorem confFile_meson_nohash (d : Data) (fuel : Nat) (text : List Char) (h : '#' ∉ text) :
    confFile .meson d fuel text =
      .ok ((splitLines text).flatMap (substMeson d), (splitLines text).flatMap (missingMeson d),
           d.isEmpty && (splitLines text).all (fun l => (missingMeson d l).isEmpty)) := by
  have hl : ∀ l ∈ splitLines text, lineMeson d l = .ok ⟨substMeson d l, missingMeson d l, false⟩ := by
    intro l hl
    exact lineMeson_nohash d (fun hh => h (mem_of_mem_splitLines _ _ hl _ hh))
  simp only [confFile, confStr, confStrMeson, mapLines_ok _ _ _ hl, Except.map, collect, List.map_map,
    List.flatMap_map, List.all_map]
  simp [Function.comp_def, List.flatMap_def]

theorem mem_of_mem_strip {c : Char} {s : List Char} (h : c ∈ strip s) : c ∈ s := by
  unfold strip rstrip lstrip at h
  have h1 := List.mem_reverse.mp h
  have h2 := (List.dropWhile_sublist _).subset h1
  have h3 := List.mem_reverse.mp h2
  exact (List.dropWhile_sublist _).subset h3

theorem isStrLe : IsStrLe strLe := by
  refine ⟨fun _ => rfl, fun _ _ => rfl, fun a as b bs => ?_⟩
  rw [strLe]
  split
  · simp [*]
  · split
    · have : a ≠ b := fun e => by simp [e] at *
      simp [*]
    · have : a = b := Char.toNat_inj.mp (by omega)
      simp [*]

def KeyLe (a b : Entry) : Prop := strLe a.key b.key = true

theorem isInsertionSort : IsInsertionSort (fun e x => strLe e.key x.key) insertEntry sortEntries :=
  ⟨fun _ => rfl, fun _ _ _ => rfl, rfl, fun _ _ => rfl⟩

theorem sortEntries_perm (l : List Entry) : (sortEntries l).Perm l := isInsertionSort.perm l

theorem sortEntries_sorted (l : List Entry) : (sortEntries l).Pairwise KeyLe :=
  isInsertionSort.pairwise_le (fun _ _ => rfl) isStrLe.trans isStrLe.total l

/-- holds of single-byte code pages, utf-8, BOM-less utf-16/32; *not* of codecs that emit a BOM or keep shift state -/
structure Codec.Stateless (c : Codec) : Prop where
  nil : c.encode [] = some []
  app : ∀ a b x y, c.encode a = some x → c.encode b = some y → c.encode (a ++ b) = some (x ++ y)

theorem encode_flatMap {α : Type} (c : Codec) (hc : c.Stateless) (g : α → List Char) (b : α → Bytes) :
    ∀ l : List α, (∀ x ∈ l, c.encode (g x) = some (b x)) → c.encode (l.flatMap g) = some (l.flatMap b) := by
  intro l
  induction l with
  | nil => intro _; simpa using hc.nil
  | cons x xs ih =>
    intro h
    simp only [List.flatMap_cons]
    exact hc.app _ _ _ _ (h x (by simp)) (ih (fun y hy => h y (List.mem_cons_of_mem _ hy)))

theorem latin1_stateless : latin1.Stateless := by
  refine ⟨rfl, ?_⟩
  intro a b x y ha hb
  simp only [latin1] at ha hb ⊢
  rw [List.mapM_append, ha, hb]
  rfl

end MesonModel.Template
