import MesonModel.DepPolicy.PolicyLemmas
/-
`lookup = policy`: argument validation, the prepared holder against the plan, and the assembly.
-/
namespace MesonModel.DepPolicy

variable (sat : Str → List Str → Bool)

theorem contains_append_singleton (acc : List Str) (n m : Str) :
    (acc ++ [n]).contains m = (acc.contains m || m == n) := by
  rw [List.contains_append, List.contains_cons, List.contains_nil, Bool.or_false]

theorem all_not_contains_snoc (acc rest : List Str) (n : Str) :
    rest.all (fun m => !(acc ++ [n]).contains m) = (!rest.contains n && rest.all (fun m => !acc.contains m)) := by
  induction rest with
  | nil => rfl
  | cons m rest ih =>
    rw [List.all_cons, List.all_cons, ih, List.contains_cons, contains_append_singleton, BEq.comm (a := n)]
    simp only [Bool.not_or, Bool.and_assoc, Bool.and_left_comm]

/-- the constructor's loop over the names succeeds exactly on the lists `namesOk` accepts, none of the names seen before -/
theorem initNames_spec : ∀ (ns acc : List Str), ∃ k, initNames ns acc =
    if namesOk ns && ns.all (fun n => !acc.contains n) then .ok (acc ++ ns) else .error k := by
  intro ns
  induction ns with
  | nil =>
    intro acc
    exact ⟨.interpreter, by simp [initNames, namesOk]⟩
  | cons n rest ih =>
    intro acc
    obtain ⟨k, hk⟩ := ih (acc ++ [n])
    simp only [initNames, namesOk, List.all_cons, hk, all_not_contains_snoc, List.append_assoc, List.singleton_append]
    rcases Bool.eq_false_or_eq_true n.isEmpty with h1 | h1
    · exact ⟨.interpreter, by simp only [h1, if_true, Bool.not_true, Bool.false_and, Bool.false_eq_true, if_false]⟩
    · rcases Bool.eq_false_or_eq_true (n.any badNameChar) with h2 | h2
      · exact ⟨.invalidArguments,
          by simp only [h1, h2, if_true, Bool.not_true, Bool.and_false, Bool.false_and, Bool.false_eq_true, if_false]⟩
      · rcases Bool.eq_false_or_eq_true (acc.contains n) with h3 | h3
        · exact ⟨.interpreter,
            by simp only [h1, h2, h3, if_true, Bool.not_true, Bool.and_false, Bool.false_and, Bool.false_eq_true, if_false]⟩
        · -- the three tests passed: what is left is the condition for `rest`, with `n` among the names seen
          refine ⟨k, ?_⟩
          simp only [h1, h2, h3, Bool.false_eq_true, if_false, Bool.not_false, Bool.true_and, Bool.and_assoc,
            Bool.and_left_comm]

theorem initNames_nil (ns : List Str) : ∃ k, initNames ns [] = if namesOk ns then .ok ns else .error k := by
  obtain ⟨k, hk⟩ := initNames_spec ns []
  exact ⟨k, by simpa using hk⟩

theorem mkHolder_err (r : Request) (h : (!namesOk r.names || !fallbackArgOk r) = true) :
    ∃ k, mkHolder r = .error k := by
  obtain ⟨names, wanted, required, allow, fb⟩ := r
  unfold mkHolder
  obtain ⟨k, hk⟩ := initNames_nil names
  rw [hk]
  cases hn : namesOk names with
  | false => exact ⟨k, rfl⟩
  | true =>
    simp only [hn] at h
    -- the shapes `fallbackArgOk` rejects (`h` rules out the others): `set_fallback` raises on each
    match fb, allow, h with
    | some _, some _, _ => exact ⟨_, rfl⟩
    | some (_ :: _ :: _ :: _), none, _ => exact ⟨_, rfl⟩

theorem firstProvider_ne_nil (w : World) (sp : Str) (v : Option Str) :
    ∀ ns, firstProvider w ns = some (sp, v) → sp ≠ [] := by
  intro ns
  induction ns with
  | nil => nofun
  | cons m rest ih =>
    intro h
    simp only [firstProvider] at h
    split at h
    · split at h
      · exact ih h
      · rename_i hne
        cases h
        exact fun he => hne (by rw [he]; rfl)
    · exact ih h

/-- the loop over the names is the policy's `firstProvider`, with the policy's admission test -/
theorem implicitFallback_spec (w : World) (req : Bool) :
    ∀ (ns : List Str) (h : Holder), (∀ n ∈ ns, lower n = n) →
      implicitFallback w req ns h =
        match firstProvider w ns with
        | none => h
        | some (sp, v) =>
          if h.allowFallback == some true || req || (h.forcefallback || w.fff.contains sp) || (getSubproject w sp).isSome
          then { h with forcefallback := h.forcefallback || w.fff.contains sp, spName := some sp, spVar := v }
          else { h with forcefallback := h.forcefallback || w.fff.contains sp } := by
  intro ns
  induction ns with
  | nil =>
    intro h _
    rfl
  | cons n rest ih =>
    intro h hl
    have ih' := ih h (fun m hm => hl m (List.mem_cons_of_mem n hm))
    simp only [implicitFallback, firstProvider, findDepProvider, hl n List.mem_cons_self]
    -- no `[provide]` entry for `n`, or one without a subproject: the loop goes on
    rcases alookup n w.provides with _ | ⟨_ | ⟨c, cs⟩, v⟩
    · exact ih'
    · exact ih'
    · -- the code tests `forcefallback` first, the policy `allow_fallback`
      have hcond : ∀ a b c d : Bool, (a || b || c || d) = (b || c || a || d) := by decide
      simp only [truthy, if_true, Option.getD_some, hcond (h.forcefallback || _), List.isEmpty_cons, Bool.false_eq_true,
        if_false]

/-- the holder after the first lines of `lookup`, up to and including the assignment of `self.forcefallback` -/
def prepBase (w : World) (h : Holder) : Holder :=
  { h with nofallback := w.wrapMode == .nofallback,
           forcefallback := w.wrapMode == .forcefallback || h.names.any (fun n => w.fff.contains n)
                            || (match h.spName with | some s => w.fff.contains s | none => false) }

theorem prepare_eq (w : World) (r : Request) (h : Holder) :
    prepare w r h =
      if (!truthy (prepBase w h).spName && (prepBase w h).allowFallback != some false) = true
      then implicitFallback w r.required (prepBase w h).names (prepBase w h) else prepBase w h := rfl

/-- no explicit fallback subproject: the implicit-fallback loop computes the policy's plan -/
theorem implicit_agree (w : World) (r : Request) (hwf : WellFormed r) (h1 : Holder) (hnames : h1.names = r.names)
    (htr : truthy h1.spName = false) (hforce : h1.forcefallback = forced0 w r)
    (hnofb : h1.nofallback = (w.wrapMode == .nofallback)) (hallow : h1.allowFallback = allowOf r)
    (hexp : explicitFallback r = none) :
    Agree w r (plan w r) (if (!truthy h1.spName && h1.allowFallback != some false) = true
                          then implicitFallback w r.required h1.names h1 else h1) := by
  unfold plan
  simp only [hexp, ← hforce, ← hallow, htr, bne, Bool.not_false, Bool.true_and]
  cases h1.allowFallback == some false with
  | true => exact ⟨hnames, rfl, hnofb, htr⟩
  | false =>
    simp only [Bool.not_false, if_true, Bool.false_eq_true, if_false]
    rw [implicitFallback_spec w r.required h1.names h1 (hnames ▸ hwf), hnames]
    rcases hfp : firstProvider w r.names with _ | ⟨sp, v⟩
    · exact ⟨hnames, rfl, hnofb, htr⟩
    · simp only [subFound]
      -- the admission test, the same in the loop and in the plan
      split
      · rename_i hc
        simp only [hc, if_true]
        exact ⟨rfl, rfl, hnofb, rfl, rfl, firstProvider_ne_nil w sp v _ hfp⟩
      · rename_i hc
        simp only [hc]
        exact ⟨rfl, rfl, hnofb, htr⟩

/-- the holder before `lookup` runs: the names of the request, nothing forced -/
def initHolder (r : Request) (a : Option Bool) (sn sv : Option Str) : Holder :=
  { names := r.names, allowFallback := a, spName := sn, spVar := sv, forcefallback := false, nofallback := false }

/-- the prepared holder agrees with the plan, given the subproject and variable `set_fallback` took from `fallback:` -/
theorem prepare_agree_of (w : World) (r : Request) (hwf : WellFormed r) (sn sv : Option Str)
    (hforce : (prepBase w (initHolder r (allowOf r) sn sv)).forcefallback = forced0 w r)
    (hexp : explicitFallback r = match sn with | some (c :: cs) => some (c :: cs, sv) | _ => none) :
    Agree w r (plan w r) (prepare w r (initHolder r (allowOf r) sn sv)) := by
  rw [prepare_eq]
  match sn, hforce, hexp with
  | none, hforce, hexp => exact implicit_agree w r hwf _ rfl rfl hforce rfl rfl hexp
  | some [], hforce, hexp => exact implicit_agree w r hwf _ rfl rfl hforce rfl rfl hexp
  | some (c :: cs), hforce, hexp =>
    unfold plan
    simp only [hexp]
    exact ⟨rfl, hforce, rfl, rfl, rfl, List.cons_ne_nil c cs⟩

/-- `lookup`'s preamble computes the policy's plan -/
theorem prepare_agree (w : World) (r : Request) (hwf : WellFormed r)
    (hn : namesOk r.names = true) (hf : fallbackArgOk r = true) :
    ∃ h0, mkHolder r = .ok h0 ∧ Agree w r (plan w r) (prepare w r h0) := by
  obtain ⟨names, wanted, required, allow, fb⟩ := r
  unfold mkHolder
  obtain ⟨k, hk⟩ := initNames_nil names
  rw [hk, if_pos hn]
  -- the shapes `fallbackArgOk` admits (`hf` rules out the others), each with what `set_fallback` makes of it
  match fb, allow, hf with
  | none, _, _ => exact ⟨_, rfl, prepare_agree_of w _ hwf none none rfl rfl⟩
  | some [], none, _ => exact ⟨_, rfl, prepare_agree_of w _ hwf none none rfl rfl⟩
  | some [s], none, _ => exact ⟨_, rfl, prepare_agree_of w _ hwf (some s) none rfl (by cases s <;> rfl)⟩
  | some [s, v], none, _ => exact ⟨_, rfl, prepare_agree_of w _ hwf (some s) (some v) rfl (by cases s <;> rfl)⟩

theorem getCandidates_none (h : Holder) (ht : truthy h.spName = false) :
    getCandidates h = h.names.map Cand.cache ++ h.names.map Cand.system := by
  simp [getCandidates, ht]

theorem getCandidates_some (h : Holder) (sp : Str) (hs : h.spName = some sp) (hne : sp ≠ []) :
    getCandidates h = h.names.map Cand.cache ++
      (Cand.existing sp :: ((if h.forcefallback then [] else h.names.map Cand.system) ++ [Cand.subproject sp])) := by
  cases hf : h.forcefallback <;> simp [getCandidates, truthy_some hne, hs, hf]

/-- the candidates of a holder that agrees with the plan, walked: the decision table -/
theorem walk_decide (w : World) (r : Request) (p : Plan) (h : Holder) (ha : Agree w r p h) :
    walk sat h r.wanted r.required (getCandidates h) w = decide sat w r p := by
  have hn := ha.names
  unfold decide
  rcases p with ⟨_ | ⟨sp, var⟩, forced⟩
  · have huc : h.useCache = true := by simpa using ha.useCache_eq
    have hs := walk_sys sat h r.wanted r.required [] w r.names
    rw [List.append_nil] at hs
    rw [getCandidates_none h ha.fb, hn, walk_known, huc, hs, hn]
    simp only [Option.isSome_none, Bool.and_false, Bool.not_false]
    cases scanKnown sat w r.wanted true r.names <;> rfl
  · have huc : h.useCache = !forced := by simpa using ha.useCache_eq
    obtain ⟨hspn, _, hspne⟩ : h.spName = some sp ∧ h.spVar = var ∧ sp ≠ [] := ha.fb
    rw [getCandidates_some h sp hspn hspne, hn, ha.forced, walk_known, huc, hn]
    simp only [Option.isSome_some, Bool.and_true]
    cases hk : scanKnown sat w r.wanted (!forced) r.names with
    | found d => rfl
    | failed => rfl
    | unknown =>
      have hcache : h.useCache = true → ∀ n ∈ r.names, knownCached sat w r.wanted n = .unknown :=
        fun hu => scanKnown_unknown_cached sat w r.wanted r.names (huc.symm.trans hu ▸ hk)
      rw [walk_existing sat ha _ hcache]
      cases getSubproject w sp with
      | some s => rfl
      | none =>
        have hsub := walk_subproject sat ha hcache
        cases forced with
        | true => exact hsub
        | false =>
          simp only [Bool.false_eq_true, if_false, Bool.not_false, if_true]
          rw [walk_sys, hn, hsub]
          rfl

/-- outcome and world together; `Props.C10.lookup_eq_policy` says what it means for Meson -/
theorem lookup_eq_policy_core (w : World) (r : Request) (hwf : WellFormed r) :
    (lookup sat w r).toP = policy sat w r := by
  unfold policy
  cases hbad : !namesOk r.names || !fallbackArgOk r with
  | true =>
    obtain ⟨k, hk⟩ := mkHolder_err r hbad
    unfold lookup
    rw [hk]
    rfl
  | false =>
    simp only [Bool.or_eq_false_iff, Bool.not_eq_false'] at hbad
    obtain ⟨h0, hm, hag⟩ := prepare_agree w r hwf hbad.1 hbad.2
    rw [lookup_walk sat w r h0 hm]
    exact walk_decide sat w r (plan w r) (prepare w r h0) hag

end MesonModel.DepPolicy
