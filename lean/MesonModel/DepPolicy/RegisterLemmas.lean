import MesonModel.DepPolicy.Register
import MesonModel.Util.Assoc
/-
The registration side: a fresh `meson.override_dependency` appends one entry per `static` flavour it covers
(`flavours`), and `covers` is membership in that list.
-/
namespace MesonModel.DepPolicy

theorem isLookup_tlookup : IsLookup tlookup := ⟨fun _ => rfl, fun _ _ _ _ => rfl⟩

theorem tlookup_append (k : Key) (t l : OvTable) : tlookup k (t ++ l) = (tlookup k t).or (tlookup k l) :=
  isLookup_tlookup.append k t l

/-- a lookup with `static: σ` on machine `nat` reads the table at key `(nat, name, σ)` -/
theorem alookup_slice (nat : Bool) (σ : Option Bool) (name : Str) : ∀ (t : OvTable),
    alookup name (slice t nat σ) = tlookup ⟨nat, name, σ⟩ t := by
  intro t
  induction t with
  | nil => rfl
  | cons e rest ih =>
    rcases e with ⟨⟨n2, name2, s2⟩, v2⟩
    -- the keys agree iff the entry is in the slice and carries the name
    simp only [slice, List.filterMap_cons, tlookup, Key.mk.injEq]
    by_cases h1 : n2 = nat ∧ s2 = σ
    · rw [if_pos h1, alookup]
      by_cases h2 : name2 = name
      · rw [if_pos h2, if_pos ⟨h1.1, h2, h1.2⟩]
      · rw [if_neg h2, if_neg fun h => h2 h.2.1]
        exact ih
    · rw [if_neg h1, if_neg fun h => h1 ⟨h.1, h.2.2⟩]
      exact ih

theorem overrideImpl_fresh (t : OvTable) (k : Key) (d : Dep) (p : Bool) (h : tlookup k t = none) :
    overrideImpl t k d p = some (t ++ [(k, d, true)]) := by
  simp [overrideImpl, h]

/-- the `static` flavours under which `override_dependency(static: s)` registers when `default_library` is `dl` -/
def flavours (s : Option Bool) (dl : DefLib) : List (Option Bool) :=
  none :: match s, dl with
    | some b, _ => [some b]
    | none, .static => [some true]
    | none, .shared => [some false]
    | none, .both => [some true, some false]

theorem covers_eq_mem_flavours (s : Option Bool) (dl : DefLib) (σ : Option Bool) :
    covers s dl σ = decide (σ ∈ flavours s dl) := by
  rcases s with _ | _ | _ <;>
    cases dl <;>
    rcases σ with _ | _ | _ <;>
    rfl

/-- the entries one registration adds -/
def entries (nat : Bool) (name : Str) (d : Dep) (σs : List (Option Bool)) : OvTable :=
  σs.map fun σ => (⟨nat, name, σ⟩, d, true)

theorem tlookup_entries (nat : Bool) (name : Str) (d : Dep) (σ : Option Bool) : ∀ σs,
    tlookup ⟨nat, name, σ⟩ (entries nat name d σs) = if σ ∈ σs then some (d, true) else none := by
  intro σs
  induction σs with
  | nil => rfl
  | cons τ rest ih =>
    simp only [entries, List.map_cons, tlookup, List.mem_cons, Key.mk.injEq, true_and] at ih ⊢
    by_cases h : τ = σ
    · simp [h]
    · rw [if_neg h, ih]
      simp [Ne.symm h]

theorem tlookup_entries_other (nat : Bool) (name : Str) (d : Dep) (k : Key) (hk : k.native ≠ nat ∨ k.name ≠ name) :
    ∀ σs, tlookup k (entries nat name d σs) = none := by
  intro σs
  induction σs with
  | nil => rfl
  | cons τ rest ih =>
    have : (⟨nat, name, τ⟩ : Key) ≠ k := fun h => hk.elim (· (h ▸ rfl)) (· (h ▸ rfl))
    simp only [entries, List.map_cons, tlookup, if_neg this]
    exact ih

theorem overrideDependency_fresh (t : OvTable) (name : Str) (d : Dep) (s : Option Bool) (dl : DefLib) (nat : Bool)
    (hne : name ≠ []) (hfresh : ∀ σ, tlookup ⟨nat, name, σ⟩ t = none) :
    overrideDependency t name d s dl nat = some (t ++ entries nat name d (flavours s dl)) := by
  have hn : name.isEmpty = false := List.isEmpty_eq_false_iff.mpr hne
  rcases s with _ | b <;> cases dl <;>
    simp [overrideDependency, hn, overrideImpl, hfresh, tlookup_append, tlookup, flavours, entries]

/-- **Registration follows the documented rule.** `meson.override_dependency(name, d, static: s)` in a
project with `default_library = dl`, for a name not yet overridden or resolved on that machine, succeeds
and afterwards the table answers the key `(machine, name, σ)` with `d` exactly when `covers s dl σ`;
every other machine/name is untouched. -/
theorem register_covers (t : OvTable) (name : Str) (d : Dep) (s : Option Bool) (dl : DefLib) (nat : Bool)
    (hne : name ≠ []) (hfresh : ∀ σ, tlookup ⟨nat, name, σ⟩ t = none) :
    ∃ t', overrideDependency t name d s dl nat = some t' ∧
      (∀ σ, tlookup ⟨nat, name, σ⟩ t' = if covers s dl σ then some (d, true) else none) ∧
      (∀ k : Key, (k.native ≠ nat ∨ k.name ≠ name) → tlookup k t' = tlookup k t) := by
  refine ⟨_, overrideDependency_fresh t name d s dl nat hne hfresh, fun σ => ?_, fun k hk => ?_⟩
  · simp [tlookup_append, hfresh, tlookup_entries, covers_eq_mem_flavours]
  · rw [tlookup_append, tlookup_entries_other nat name d k hk]
    cases tlookup k t <;> rfl

end MesonModel.DepPolicy
