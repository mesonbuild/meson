import MesonModel.DepPolicy.Model
import MesonModel.Util.Assoc
/-
Truthiness of a non-empty name.  Association lists: `alookup` is a first-match lookup (`IsLookup`, whose laws and
those of the in-place update `IsUpdate` are in `Util/Assoc.lean`); mapping the values; what `addImplicit` keeps.
-/
namespace MesonModel.DepPolicy

theorem truthy_some {sp : Str} (hne : sp ≠ []) : truthy (some sp) = true := by
  cases sp with
  | nil => exact absurd rfl hne
  | cons a b => rfl

theorem isLookup_alookup {β : Type} : IsLookup (alookup (β := β)) := ⟨fun _ => rfl, fun _ _ _ _ => rfl⟩

theorem alookup_append {β : Type} (k : Str) (l l' : List (Str × β)) :
    alookup k (l ++ l') = (alookup k l).or (alookup k l') :=
  isLookup_alookup.append k l l'

theorem alookup_append_of_some {β : Type} {k : Str} {v : β} {l : List (Str × β)} (l' : List (Str × β))
    (h : alookup k l = some v) : alookup k (l ++ l') = some v := by
  rw [alookup_append, h]
  rfl

theorem alookup_mem {β : Type} (k : Str) (v : β) : ∀ (l : List (Str × β)), alookup k l = some v → (k, v) ∈ l :=
  isLookup_alookup.mem k v

theorem alookup_map {β γ : Type} (k : Str) (f : Str × β → γ) :
    ∀ (l : List (Str × β)), alookup k (l.map (fun e => (e.1, f e))) = (alookup k l).map (fun v => f (k, v)) := by
  intro l
  induction l with
  | nil => rfl
  | cons p rest ih =>
    simp only [List.map_cons, alookup]
    split
    · rename_i hk
      cases hk
      rfl
    · exact ih

/-- the implicit overrides are only ever added behind what is there -/
theorem alookup_addImplicit_some (k : Str) (v : Dep × Bool) (d : Dep) :
    ∀ (names : List Str) (ov : List (Str × Dep × Bool)), alookup k ov = some v →
      alookup k (addImplicit ov d names) = some v := by
  intro names
  induction names with
  | nil => exact fun ov h => h
  | cons n rest ih =>
    intro ov h
    unfold addImplicit
    split
    · exact ih ov h
    · exact ih _ (alookup_append_of_some _ h)

end MesonModel.DepPolicy
