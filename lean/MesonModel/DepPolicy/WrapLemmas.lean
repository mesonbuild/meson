import MesonModel.DepPolicy.Wrap
/-
The hash gate as an invariant of the trace of the wrap step machine: `GateEv cfg` holds of every event a
function logs, from the state it starts in to every state it can end in — normal or exceptional, under every
fault function.  And the three ways a run ends (`resolve_exits`).
-/
namespace MesonModel.DepPolicy.Wrap

def R.st {α : Type} : R α → St
  | .ok _ s => s
  | .err _ s => s

@[simp] theorem R.st_ok {α : Type} (a : α) (s : St) : (R.ok a s).st = s := rfl

@[simp] theorem R.st_err {α : Type} (e : Err) (s : St) : (R.err e s : R α).st = s := rfl

def AllEv (P : Event → Prop) (tr : List Event) : Prop := ∀ e ∈ tr, P e

theorem allEv_snoc {P : Event → Prop} {tr : List Event} {e : Event} (h : AllEv P tr) (he : P e) :
    AllEv P (tr ++ [e]) := by
  intro x hx
  rcases List.mem_append.mp hx with hx | hx
  · exact h x hx
  · exact List.mem_singleton.mp hx ▸ he

theorem allEv_log {P : Event → Prop} {s : St} {e : Event} (h : AllEv P s.trace) (he : P e) :
    AllEv P (s.log e).trace :=
  allEv_snoc h he

/-- the digest recorded for `w` admits `sha` -/
def HashOk (cfg : Cfg) (w : What) (sha : Hash) : Prop := ∀ h, (fileCfg cfg w).hash = some h → sha = h

def GateEv (cfg : Cfg) : Event → Prop
  | .used w sha => HashOk cfg w sha
  | .cacheStore w sha => HashOk cfg w sha
  | .fetch _ _ => cfg.nodownload = false      -- a download attempt happens only when downloading is allowed
  | _ => True

@[simp] theorem setCache_trace (s : St) (w : What) (c : Content) : (s.setCache w c).trace = s.trace := by
  cases w <;> rfl

@[simp] theorem extract_trace (s : St) (c : Content) : (s.extract c).trace = s.trace := rfl

theorem fetchLoop_gate (cfg : Cfg) (hnd : cfg.nodownload = false) (flt : Faults) (w : What) (fb : Bool) (url : Fetch) :
    ∀ n i s, AllEv (GateEv cfg) s.trace → AllEv (GateEv cfg) (fetchLoop flt w fb url n i s).st.trace := by
  intro n
  induction n with
  | zero =>
    intro i s h
    simpa [fetchLoop, R.st] using h
  | succ n ih =>
    intro i s h
    have h1 : AllEv (GateEv cfg) (s.log (.fetch w fb)).trace := allEv_log h (by simp [GateEv, hnd])
    unfold fetchLoop
    simp only []
    split
    · exact h1
    · split
      · exact h1
      · exact ih _ _ h1

/-- a result of the acquisition: its trace is admissible and, if it is a file, the file has the recorded digest -/
def Gated (cfg : Cfg) (w : What) (r : R Content) : Prop :=
  AllEv (GateEv cfg) r.st.trace ∧ ∀ c s', r = .ok c s' → HashOk cfg w c.sha

theorem gated_err {cfg : Cfg} {w : What} {s : St} (e : Err) (h : AllEv (GateEv cfg) s.trace) :
    Gated cfg w (.err e s) :=
  ⟨h, fun _ _ hc => by cases hc⟩

theorem gated_ok {cfg : Cfg} {w : What} {c : Content} {s : St} (h : AllEv (GateEv cfg) s.trace)
    (hc : HashOk cfg w c.sha) : Gated cfg w (.ok c s) :=
  ⟨h, fun _ _ he => by cases he; exact hc⟩

/-- what `tryDownload` hands back satisfies the recorded digest -/
def DResOk (cfg : Cfg) (w : What) : DRes → Prop
  | .done r => Gated cfg w r
  | .wrapExc s' => AllEv (GateEv cfg) s'.trace

theorem tryDownload_gate (cfg : Cfg) (hnd : cfg.nodownload = false) (env : Env) (flt : Faults) (w : What) (fb : Bool) (s : St)
    (h : AllEv (GateEv cfg) s.trace) : DResOk cfg w (tryDownload cfg env flt w fb s) := by
  have hf := fetchLoop_gate cfg hnd flt w fb (if fb then (fileEnv env w).fallbackUrl else (fileEnv env w).url) 6 0 s h
  unfold tryDownload
  simp only []
  generalize fetchLoop flt w fb _ 6 0 s = r at hf ⊢
  split
  · exact hf
  · exact gated_err _ hf
  · rename_i c s1
    split
    · exact hf
    · rename_i h0 hhash
      split
      · exact hf
      · rename_i hsha
        have hok : HashOk cfg w c.sha := by
          intro h' hh'
          rw [hhash] at hh'
          cases hh'
          simpa using hsha
        split
        · exact gated_err _ hf
        · exact gated_ok (allEv_log (by simpa using hf) (by simpa [GateEv] using hok)) hok

theorem download_gate (cfg : Cfg) (env : Env) (flt : Faults) (w : What) (s : St)
    (h : AllEv (GateEv cfg) s.trace) : Gated cfg w (download cfg env flt w s) := by
  unfold download
  split
  · exact gated_err _ h
  · rename_i hnd
    have hnd' : cfg.nodownload = false := by simpa using hnd
    have h1 := tryDownload_gate cfg hnd' env flt w false s h
    generalize tryDownload cfg env flt w false s = d1 at h1
    cases d1 with
    | done r => exact h1
    | wrapExc s1 =>
      simp only []
      split
      · have h2 := tryDownload_gate cfg hnd' env flt w true s1 h1
        generalize tryDownload cfg env flt w true s1 = d2 at h2
        cases d2 with
        | done r => exact h2
        | wrapExc s2 => exact gated_err _ h2
      · exact gated_err _ h1

theorem checkHash_spec (cfg : Cfg) (flt : Faults) (w : What) (c : Content) (req : Bool) (s : St) :
    (checkHash cfg flt w c req s).st = s ∧
    (∀ u s', checkHash cfg flt w c req s = .ok u s' → HashOk cfg w c.sha) := by
  unfold checkHash HashOk
  cases (fileCfg cfg w).hash with
  | none => exact ⟨by cases req <;> rfl, fun _ _ _ _ hh => by cases hh⟩
  | some h0 =>
    cases faultErr (flt (.hash w)) with
    | some e => exact ⟨rfl, fun _ _ hc => by cases hc⟩
    | none =>
      simp only []
      split
      · exact ⟨rfl, fun _ _ hc => by cases hc⟩
      · rename_i hsha
        exact ⟨rfl, fun _ _ _ h' hh' => by cases hh'; simpa using hsha⟩

/-- a file that went through `check_hash`: nothing was logged, and it is handed on only with the recorded digest -/
theorem checked_gate (cfg : Cfg) (flt : Faults) (w : What) (c : Content) (req : Bool) (s : St)
    (h : AllEv (GateEv cfg) s.trace) :
    Gated cfg w (match checkHash cfg flt w c req s with
                 | .err e s => R.err e s
                 | .ok _ s => R.ok c s) := by
  have hs := checkHash_spec cfg flt w c req s
  generalize checkHash cfg flt w c req s = r at hs
  rcases r with ⟨u, s1⟩ | ⟨e, s1⟩
  · obtain rfl : s1 = s := hs.1
    exact gated_ok h (hs.2 u _ rfl)
  · obtain rfl : s1 = s := hs.1
    exact gated_err e h

theorem getFileInternal_gate (cfg : Cfg) (env : Env) (flt : Faults) (w : What) (s : St)
    (h : AllEv (GateEv cfg) s.trace) : Gated cfg w (getFileInternal cfg env flt w s) := by
  unfold getFileInternal
  simp only []
  split
  · exact gated_err _ h
  · split
    · split
      · exact checked_gate cfg flt w _ true s h
      · exact download_gate cfg env flt w s h
    · split
      · exact gated_err _ h
      · exact checked_gate cfg flt w _ false s h

theorem mkLead_trace (cfg : Cfg) (flt : Faults) (s : St) : (mkLead cfg flt s).st.trace = s.trace := by
  unfold mkLead
  cases faultErr (flt .mkdir) <;> simp only [apply_ite R.st, apply_ite St.trace, R.st_ok, R.st_err, ite_self]

theorem unpackSource_trace (flt : Faults) (c : Content) (s : St) :
    (unpackSource flt c s).st.trace = s.trace ++ [.used .source c.sha] := by
  unfold unpackSource
  simp only []
  split
  · rfl
  · rfl
  · split
    · rfl
    · split <;> rfl

theorem unpackPatch_trace (flt : Faults) (c : Content) (s : St) :
    (unpackPatch flt c s).st.trace = s.trace ++ [.used .patch c.sha] := by
  unfold unpackPatch
  -- whichever attempt succeeds or fails, the state it ends in carries the trace with the one `used` event
  cases faultErr (flt .unpack2) <;> cases faultErr (flt .copyTree) <;>
    simp only [apply_ite R.st, apply_ite St.trace, R.st_ok, R.st_err, extract_trace, ite_self, St.log]

theorem patchDir_trace (env : Env) (flt : Faults) (s : St) : (patchDir env flt s).st.trace = s.trace := by
  unfold patchDir
  cases faultErr (flt .copyTree) <;> simp only [apply_ite R.st, apply_ite St.trace, R.st_ok, R.st_err, ite_self]

theorem getFile_gate (cfg : Cfg) (env : Env) (flt : Faults) (s : St) (h : AllEv (GateEv cfg) s.trace) :
    AllEv (GateEv cfg) (getFile cfg env flt s).st.trace := by
  have hg := getFileInternal_gate cfg env flt .source s h
  unfold getFile
  generalize getFileInternal cfg env flt .source s = r at hg
  rcases r with ⟨c, s1⟩ | ⟨e, s1⟩
  · simp only []
    have hm := mkLead_trace cfg flt s1
    generalize mkLead cfg flt s1 = m at hm
    rcases m with ⟨u, s2⟩ | ⟨e, s2⟩
    · simp only [R.st] at hm
      simp only []
      rw [unpackSource_trace, hm]
      exact allEv_snoc hg.1 (hg.2 c s1 rfl)
    · simp only [R.st] at hm
      simp only [R.st, hm]
      exact hg.1
  · exact hg.1

theorem applyPatch_gate (cfg : Cfg) (env : Env) (flt : Faults) (s : St) (h : AllEv (GateEv cfg) s.trace) :
    AllEv (GateEv cfg) (applyPatch cfg env flt s).st.trace := by
  have hg := getFileInternal_gate cfg env flt .patch s h
  -- the arms of `apply_patch`: both keys given; the patch file is not had, or is had and unpacked; a patch
  -- directory; neither
  fun_cases applyPatch cfg env flt s
  case case1 => exact h
  case case2 hgf =>
    rw [hgf] at hg
    exact hg.1
  case case3 c s1 hgf =>
    rw [hgf] at hg
    rw [unpackPatch_trace]
    exact allEv_snoc hg.1 (hg.2 c s1 rfl)
  case case4 =>
    rw [patchDir_trace]
    exact h
  case case5 => exact h

theorem applyDiffs_st (flt : Faults) : ∀ ds i s, (applyDiffs flt ds i s).st = s := by
  intro ds
  induction ds with
  | nil =>
    intro i s
    rfl
  | cons d rest ih =>
    intro i s
    unfold applyDiffs
    cases faultErr (flt (.diff i)) <;> simp only [apply_ite R.st, R.st_err, ih, ite_self]

theorem acquire_gate (cfg : Cfg) (env : Env) (flt : Faults) (s : St) (h : AllEv (GateEv cfg) s.trace) :
    AllEv (GateEv cfg) (acquire cfg env flt s).st.trace := by
  unfold acquire
  split
  · split
    · exact h
    · simp only [R.st]
      exact allEv_log (by simpa using h) (by simp [GateEv])
  · exact getFile_gate cfg env flt s h

theorem patchPhase_gate (cfg : Cfg) (env : Env) (flt : Faults) (s : St) (h : AllEv (GateEv cfg) s.trace) :
    AllEv (GateEv cfg) (patchPhase cfg env flt s).st.trace := by
  have hp := applyPatch_gate cfg env flt s h
  unfold patchPhase
  generalize applyPatch cfg env flt s = pr at hp
  rcases pr with ⟨u, s2⟩ | ⟨e, s2⟩
  · simp only []
    rw [applyDiffs_st]
    exact hp
  · exact hp

theorem finish_st (s : St) : (finish s).st = s := by
  unfold finish
  split <;> rfl

theorem finish_phase (s : St) : (finish s).phase = .final := by
  unfold finish
  split <;> rfl

theorem finish_ok (s : St) : (finish s).ok = s.dirBuild := by
  unfold finish
  cases s.dirBuild <;> rfl

/-- the three ways a run ends: at once, on what is already there; through the final build-file test; or in
the `except` clause, after `rmtree` -/
theorem resolve_exits (cfg : Cfg) (env : Env) (flt : Faults) :
    ((resolve cfg env flt).phase = .early ∧ (resolve cfg env flt).st = initSt env ∧
      ((resolve cfg env flt).ok = true → (initSt env).dirBuild = true)) ∨
    (∃ s, resolve cfg env flt = finish s) ∨
    (∃ e ph s, resolve cfg env flt = ⟨false, some e, ph, cleanup s⟩ ∧ (ph = .acquire ∨ ph = .patch)) := by
  fun_cases resolve cfg env flt
  case case1 h => exact .inl ⟨rfl, rfl, fun _ => h⟩
  case case2 => exact .inl ⟨rfl, rfl, nofun⟩
  case case3 => exact .inr (.inl ⟨_, rfl⟩)
  case case4 e s _ => exact .inr (.inr ⟨e, .acquire, s, rfl, .inl rfl⟩)
  case case5 e s _ => exact .inr (.inr ⟨e, .patch, s, rfl, .inr rfl⟩)
  case case6 => exact .inr (.inl ⟨_, rfl⟩)

/-- every event of a whole run is admissible: nothing is unpacked or stored in the cache unless its
digest is the recorded one, and nothing is fetched under `nodownload` -/
theorem resolve_gate (cfg : Cfg) (env : Env) (flt : Faults) :
    AllEv (GateEv cfg) (resolve cfg env flt).st.trace := by
  have h0 : AllEv (GateEv cfg) (initSt env).trace := nofun
  have ha := acquire_gate cfg env flt _ h0
  -- the arms of `resolve`: a build file is there; what is there is no directory; a directory without build file;
  -- the acquisition fails; the patch phase fails; both go through
  fun_cases resolve cfg env flt
  case case1 => exact h0
  case case2 => exact h0
  case case3 =>
    rw [finish_st]
    exact h0
  case case4 e s hacq =>
    rw [hacq] at ha
    exact allEv_log ha trivial
  case case5 _ s1 hacq e s2 hpat =>
    rw [hacq] at ha
    have hp := patchPhase_gate cfg env flt s1 ha
    rw [hpat] at hp
    exact allEv_log hp trivial
  case case6 _ s1 hacq _ s2 hpat =>
    rw [hacq] at ha
    have hp := patchPhase_gate cfg env flt s1 ha
    rw [hpat] at hp
    rw [finish_st]
    exact hp

end MesonModel.DepPolicy.Wrap
