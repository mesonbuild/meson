import MesonModel.DepPolicy.Policy
import MesonModel.DepPolicy.AlookupLemmas
/-
`lookup` (candidate list + loop, model of the code) against `policy` (decision table): the pieces.
The loop is first brought into the policy's terms (`walk`: outcome and world only, exceptions not told apart, no
accumulator, and running out of candidates is "nothing suitable"); then each block of candidates is set against the
table.  The effect trace is not part of the policy.
-/
namespace MesonModel.DepPolicy

variable (sat : Str → List Str → Bool)

theorem checkVersion_eq (wanted : List Str) (v : Str) : checkVersion sat wanted v = satisfies sat wanted v := by
  unfold checkVersion satisfies
  cases wanted.isEmpty <;>
    by_cases hv : v = undefinedStr <;>
    cases sat v wanted <;>
    simp [hv, bne]

/-- outcome (exceptions not told apart) and world: what the policy speaks of -/
def Res.toP (x : Res) : POutcome × World := (x.out.simplify, x.world)

theorem Outcome.simplify_eq_found {o : Outcome} {d : Dep} (h : o.simplify = .found d) : o = .found d := by
  cases o <;> simp_all [Outcome.simplify]

/-- what the loop makes of a dependency object a candidate returned -/
def hitOutcome (names : List Str) (req : Bool) (d : Dep) (w : World) : POutcome × World :=
  if d.found then answer w names d else (failure req, w)

theorem hitOutcome_found (names : List Str) (req : Bool) (d : Dep) (w : World) (hd : d.found = true) :
    hitOutcome names req d w = answer w names d :=
  if_pos hd

theorem hitOutcome_notFound (names : List Str) (req : Bool) (d : Dep) (w : World) (hd : d.found = false) :
    hitOutcome names req d w = (failure req, w) :=
  if_neg (by simp [hd])

/-- the candidate loop in the policy's terms: outcome and world only, no accumulator; a list that is used up gives
"nothing suitable" -/
def walk (h : Holder) (wanted : List Str) (req : Bool) : List Cand → World → POutcome × World
  | [], w => (failure req, w)
  | c :: rest, w =>
    match runCand sat h wanted (req && rest.isEmpty) w c with
    | .raise _ w' _ => (.error, w')
    | .hit d w' _ => hitOutcome h.names req d w'
    | .cont w' _ => walk h wanted req rest w'

/-- `loop` is `walk` on every list but one: a required lookup without any candidate, for which `lookup` has an exception
of its own -/
theorem loop_walk (h : Holder) (wanted : List Str) (req : Bool) :
    ∀ cs w tr, (cs ≠ [] ∨ req = false) → (loop sat h wanted req cs w tr).toP = walk sat h wanted req cs w := by
  intro cs
  induction cs with
  | nil =>
    intro w tr hc
    obtain rfl : req = false := hc.resolve_left (fun h => h rfl)
    rfl
  | cons c rest ih =>
    intro w tr _
    unfold loop walk
    simp only []
    cases runCand sat h wanted (req && rest.isEmpty) w c with
    | raise k w' t => rfl
    | hit d w' t =>
      cases hd : d.found <;>
        cases req <;>
        simp [Res.toP, hitOutcome, hd, answer, failure, Outcome.simplify]
    | cont w' t =>
      simp only []
      cases hl : req && rest.isEmpty with
      | true =>
        simp only [Bool.and_eq_true, List.isEmpty_iff] at hl
        obtain ⟨rfl, rfl⟩ := hl
        rfl
      | false =>
        refine ih w' _ ?_
        cases req
        · exact .inr rfl
        · exact .inl (List.isEmpty_eq_false_iff.mp hl)

theorem lookup_walk (w : World) (r : Request) (h0 : Holder) (hm : mkHolder r = .ok h0) :
    (lookup sat w r).toP =
      walk sat (prepare w r h0) r.wanted r.required (getCandidates (prepare w r h0)) w := by
  unfold lookup
  rw [hm]
  simp only []
  cases hc : getCandidates (prepare w r h0) with
  | nil => cases r.required <;> rfl
  | cons c cs => exact loop_walk sat _ _ _ _ w [] (.inl (List.cons_ne_nil c cs))

theorem walk_cache (h : Holder) (wanted : List Str) (req : Bool) (tail : List Cand) (w : World) :
    ∀ ns, walk sat h wanted req (ns.map Cand.cache ++ tail) w =
      match (firstCached sat h w wanted ns).1 with
      | some d => hitOutcome h.names req d w
      | none => walk sat h wanted req tail w := by
  intro ns
  induction ns with
  | nil => rfl
  | cons n rest ih =>
    simp only [List.map_cons, List.cons_append, walk, runCand, firstCached]
    generalize getCachedDep sat h w wanted n = g
    rcases g with ⟨_ | d, t⟩
    · exact ih
    · rfl

/-- `_get_cached_dep` reads the cache of system dependencies unless fallback is forced -/
def Holder.useCache (h : Holder) : Bool := !(h.forcefallback && truthy h.spName)

/-- what `_get_cached_dep` returned, as a verdict -/
def toKnown : Option Dep → Known
  | some d => if d.found then .found d else .failed
  | none => .unknown

/-- one name of `scanKnown` -/
def knownName (w : World) (wanted : List Str) (uc : Bool) (n : Str) : Known :=
  match knownOverride sat w wanted n with
  | .unknown => if uc then knownCached sat w wanted n else .unknown
  | k => k

theorem scanKnown_cons (w : World) (wanted : List Str) (uc : Bool) (n : Str) (rest : List Str) :
    scanKnown sat w wanted uc (n :: rest) =
      match knownName sat w wanted uc n with
      | .unknown => scanKnown sat w wanted uc rest
      | k => k := by
  rw [scanKnown, knownName]
  cases knownOverride sat w wanted n <;> rfl

theorem getCachedDep_known (h : Holder) (w : World) (wanted : List Str) (n : Str) :
    toKnown (getCachedDep sat h w wanted n).1 = knownName sat w wanted h.useCache n := by
  unfold knownName knownOverride getCachedDep Holder.useCache
  cases alookup n w.overrides with
  | some p =>
    simp only [checkVersion_eq]
    cases hf : p.1.found <;>
      cases satisfies sat wanted p.1.version <;>
      simp [toKnown, hf, nfDep]
  | none =>
    cases h.forcefallback && truthy h.spName with
    | true => rfl
    | false =>
      simp only [Bool.false_eq_true, if_false, Bool.not_false, if_true, knownCached]
      cases alookup n w.cache with
      | none => rfl
      | some d =>
        simp only [checkVersion_eq]
        cases satisfies sat wanted d.version <;> rfl

theorem firstCached_known (h : Holder) (w : World) (wanted : List Str) :
    ∀ ns, toKnown (firstCached sat h w wanted ns).1 = scanKnown sat w wanted h.useCache ns := by
  intro ns
  induction ns with
  | nil => rfl
  | cons n rest ih =>
    rw [scanKnown_cons, ← getCachedDep_known, ← ih, firstCached]
    generalize getCachedDep sat h w wanted n = g
    rcases g with ⟨_ | d, t⟩
    · rfl
    · simp only [toKnown]
      cases d.found <;> rfl

/-- what the policy makes of a verdict: the answer, a failure, or whatever comes next -/
def knownResult (w : World) (names : List Str) (req : Bool) (next : POutcome × World) : Known → POutcome × World
  | .found d => answer w names d
  | .failed => (failure req, w)
  | .unknown => next

theorem hit_known (names : List Str) (req : Bool) (w : World) (o : Option Dep) (next : POutcome × World) :
    (match o with | some d => hitOutcome names req d w | none => next) = knownResult w names req next (toKnown o) := by
  rcases o with _ | d
  · rfl
  · simp only [hitOutcome, toKnown]
    cases d.found <;> rfl

/-- the cache candidates against the policy's scan of what is known; then the rest of the loop -/
theorem walk_known (h : Holder) (wanted : List Str) (req : Bool) (tail : List Cand) (w : World) (ns : List Str) :
    walk sat h wanted req (ns.map Cand.cache ++ tail) w =
      knownResult w h.names req (walk sat h wanted req tail w) (scanKnown sat w wanted h.useCache ns) := by
  rw [walk_cache, ← firstCached_known]
  exact hit_known _ req w _ _

theorem findExternal_eq (w : World) (wanted : List Str) (n : Str) :
    findExternal sat w wanted n =
      match alookup n w.system with
      | some v => if satisfies sat wanted v then some { ident := sysIdent n v, found := true, version := v } else none
      | none => none := by
  unfold findExternal
  cases alookup n w.system <;> simp [checkVersion_eq]

theorem sysScan_cons (w : World) (wanted : List Str) (n : Str) (rest : List Str) :
    sysScan sat w wanted (n :: rest) =
      match findExternal sat w wanted n with
      | some d => some (n, d)
      | none => sysScan sat w wanted rest := by
  rw [findExternal_eq]
  simp only [sysScan]
  cases alookup n w.system with
  | none => rfl
  | some v => cases hs : satisfies sat wanted v <;> simp [hs]

theorem findExternal_found (w : World) (wanted : List Str) (n : Str) (d : Dep)
    (h : findExternal sat w wanted n = some d) : d.found = true := by
  rw [findExternal_eq] at h
  split at h
  · split at h
    · cases h
      rfl
    · cases h
  · cases h

theorem walk_sys (h : Holder) (wanted : List Str) (req : Bool) (tail : List Cand) (w : World) :
    ∀ ns, walk sat h wanted req (ns.map Cand.system ++ tail) w =
      match sysScan sat w wanted ns with
      | some (n, d) => answer { w with cache := cachePut w.cache n d } h.names d
      | none => walk sat h wanted req tail w := by
  intro ns
  induction ns with
  | nil => rfl
  | cons n rest ih =>
    simp only [List.map_cons, List.cons_append, walk, runCand, sysScan_cons]
    cases hf : findExternal sat w wanted n with
    | some d => exact hitOutcome_found _ _ d _ (findExternal_found sat w wanted n d hf)
    | none =>
      simp only []
      -- told that it is the last one of a required lookup, `_do_dependency` raises what the loop would raise anyway
      cases hl : req && (rest.map Cand.system ++ tail).isEmpty with
      | false => exact ih
      | true =>
        simp only [Bool.and_eq_true, List.isEmpty_iff, List.append_eq_nil_iff, List.map_eq_nil_iff] at hl
        obtain ⟨rfl, rfl, rfl⟩ := hl
        rfl

theorem firstVarname_eq (w : World) (sp : Str) : ∀ ns, firstVarname w sp ns = provideVar w sp ns := by
  intro ns
  induction ns with
  | nil => rfl
  | cons n rest ih =>
    simp only [firstVarname, provideVar, getVarname, ih]
    -- a `[provide]` entry counts if it is the subproject's and names a non-empty variable
    cases alookup n w.provides with
    | none => rfl
    | some p =>
      obtain ⟨sp', v⟩ := p
      by_cases hsp : sp' = sp <;>
        rcases v with _ | _ | ⟨c, cs⟩ <;>
        simp [hsp, truthy]

theorem knownName_unknown (w : World) (wanted : List Str) (uc : Bool) (n : Str)
    (h : knownName sat w wanted uc n = .unknown) :
    alookup n w.overrides = none ∧ (uc = true → knownCached sat w wanted n = .unknown) := by
  unfold knownName knownOverride at h
  cases ho : alookup n w.overrides with
  | some pr =>
    obtain ⟨d0, e⟩ := pr
    rw [ho] at h
    cases hc : d0.found && satisfies sat wanted d0.version <;> simp [hc] at h
  | none =>
    rw [ho] at h
    refine ⟨rfl, fun hu => ?_⟩
    rw [hu] at h
    exact h

theorem scanKnown_unknown (w : World) (wanted : List Str) (uc : Bool) :
    ∀ ns, scanKnown sat w wanted uc ns = .unknown → ∀ n ∈ ns, knownName sat w wanted uc n = .unknown := by
  intro ns
  induction ns with
  | nil => nofun
  | cons m rest ih =>
    intro hs n hn
    rw [scanKnown_cons] at hs
    split at hs
    next hk =>
      rcases List.mem_cons.mp hn with rfl | hn
      · exact hk
      · exact ih hs n hn
    next hk => exact absurd hs hk

theorem scanKnown_unknown_cached (w : World) (wanted : List Str) (ns : List Str)
    (hs : scanKnown sat w wanted true ns = .unknown) : ∀ n ∈ ns, knownCached sat w wanted n = .unknown :=
  fun n hn => (knownName_unknown sat w wanted true n (scanKnown_unknown sat w wanted true ns hs n hn)).2 rfl

theorem scanKnown_unknown_override (w : World) (wanted : List Str) (uc : Bool) (ns : List Str)
    (hs : scanKnown sat w wanted uc ns = .unknown) : ∀ n ∈ ns, alookup n w.overrides = none :=
  fun n hn => (knownName_unknown sat w wanted uc n (scanKnown_unknown sat w wanted uc ns hs n hn)).1

theorem scanKnown_nocache (w : World) (wanted : List Str) (uc : Bool) :
    ∀ ns, (∀ n ∈ ns, knownCached sat w wanted n = .unknown) →
      scanKnown sat w wanted uc ns = scanKnown sat w wanted false ns := by
  intro ns
  induction ns with
  | nil =>
    intro _
    rfl
  | cons m rest ih =>
    intro hc
    obtain ⟨hm, hr⟩ := List.forall_mem_cons.mp hc
    rw [scanKnown_cons, scanKnown_cons, ih hr]
    simp only [knownName, hm, ite_self, Bool.false_eq_true, if_false]

theorem knownCached_congr (w w' : World) (hc : w'.cache = w.cache) (wanted : List Str) (n : Str) :
    knownCached sat w' wanted n = knownCached sat w wanted n := by
  simp only [knownCached, hc]

theorem findSub_name (w : World) (sp : Str) (s : Sub) (h : findSub w sp = some s) : s.name = sp := by
  unfold findSub at h
  have := List.find?_some h
  simpa using this

theorem getSubproject_name (w : World) (sp : Str) (s : Sub) (h : getSubproject w sp = some s) : s.name = sp := by
  unfold getSubproject at h
  split at h
  next s' hf =>
    split at h
    · cases h
      exact findSub_name w sp _ hf
    · cases h
  · cases h

/-- `_get_subproject_dep` is the policy's `fromSubproject` on a configured subproject, and gives nothing otherwise -/
theorem getSubprojectDep_hit (h : Holder) (r : Request) (w : World) (sp : Str) (var : Option Str)
    (hn : h.names = r.names)
    (hcache : h.useCache = true → ∀ n ∈ r.names, knownCached sat w r.wanted n = .unknown)
    (next : POutcome × World) :
    (match (getSubprojectDep sat h w r.wanted sp var).1 with
     | some d => hitOutcome r.names r.required d w
     | none => next) =
      match getSubproject w sp with
      | some s => fromSubproject sat w r s var
      | none => next := by
  unfold getSubprojectDep
  cases hs : getSubproject w sp with
  | none => rfl
  | some s =>
    -- the names were scanned with the cache, the policy scans without: every cached entry was without verdict
    have hk : toKnown (firstCached sat h w r.wanted h.names).1 = scanKnown sat w r.wanted false r.names := by
      rw [firstCached_known, hn]
      cases hu : h.useCache with
      | false => rfl
      | true => exact scanKnown_nocache sat w r.wanted true r.names (hcache hu)
    unfold fromSubproject
    rw [← hk]
    simp only []
    generalize firstCached sat h w r.wanted h.names = g
    rcases g with ⟨_ | d, t⟩
    · simp only [toKnown, firstVarname_eq, getSubproject_name w sp s hs, hn]
      have hv : (if (!truthy var) = true then provideVar w sp r.names else var) =
                (if truthy var = true then var else provideVar w sp r.names) := by
        cases truthy var <;> rfl
      rw [hv]
      generalize (if truthy var = true then var else provideVar w sp r.names) = V
      have hnf0 : hitOutcome r.names r.required nfDep w = (failure r.required, w) := rfl
      rcases V with _ | _ | ⟨c, cs⟩
      · exact hnf0
      · exact hnf0
      · simp only [truthy, Bool.not_true, Bool.false_eq_true, if_false, Option.getD, checkVersion_eq, subVariable]
        generalize alookup (c :: cs) s.vars = x
        rcases x with _ | d | _
        · exact hnf0
        · simp only []
          cases hf : d.found with
          | false => exact hitOutcome_notFound _ _ d w hf
          | true =>
            cases hsat : satisfies sat r.wanted d.version with
            | false => exact hnf0
            | true => exact hitOutcome_found _ _ d w hf
        · exact hnf0
    · simp only [toKnown, hitOutcome]
      cases d.found <;> rfl

theorem setSubState_cache (w : World) (sp : Str) (st : SpState) : (setSubState w sp st).cache = w.cache := by
  unfold setSubState
  split <;> rfl

theorem findSub_setSubState (w : World) (sp : Str) (st : SpState) :
    ∃ s, findSub (setSubState w sp st) sp = some s ∧ s.state = st := by
  unfold setSubState
  cases hf : findSub w sp with
  | some s =>
    refine ⟨{ s with state := st }, ?_, rfl⟩
    unfold findSub at hf ⊢
    -- the update keeps every name, so the search stops at the same entry
    simp only [List.find?_map, Function.comp_def, apply_ite Sub.name, ite_self, hf, Option.map_some,
      List.find?_some hf, if_true]
  | none =>
    refine ⟨{ name := sp, state := st, configureOk := false, overrides := [], vars := [] }, ?_, rfl⟩
    unfold findSub at hf ⊢
    rw [List.find?_append, hf]
    simp

theorem getSubproject_setSubState (w : World) (sp : Str) (st : SpState) (hst : st ≠ .found) :
    getSubproject (setSubState w sp st) sp = none := by
  obtain ⟨s, h1, h2⟩ := findSub_setSubState w sp st
  simp [getSubproject, h1, h2, hst]

/-- the holder `lookup` has prepared says what the policy's plan says: same names, same forcing, same `nofallback`,
same fallback subproject and variable -/
structure Agree (w : World) (r : Request) (p : Plan) (h : Holder) : Prop where
  names : h.names = r.names
  forced : h.forcefallback = p.forced
  nofb : h.nofallback = (w.wrapMode == .nofallback)
  fb : match p.fallback with
       | some (sp, v) => h.spName = some sp ∧ h.spVar = v ∧ sp ≠ []
       | none => truthy h.spName = false

theorem Agree.useCache_eq {w : World} {r : Request} {p : Plan} {h : Holder} (ha : Agree w r p h) :
    h.useCache = !(p.forced && p.fallback.isSome) := by
  obtain ⟨_, hforce, _, hfb⟩ := ha
  unfold Holder.useCache
  rw [hforce]
  rcases p with ⟨_ | ⟨sp, v⟩, forced⟩
  · rw [show truthy h.spName = false from hfb]
    rfl
  · rw [hfb.1, truthy_some hfb.2.2]
    rfl

theorem walk_existing {w : World} {r : Request} {h : Holder} {sp : Str} {var : Option Str} {forced : Bool}
    (ha : Agree w r ⟨some (sp, var), forced⟩ h) (rest : List Cand)
    (hcache : h.useCache = true → ∀ n ∈ r.names, knownCached sat w r.wanted n = .unknown) :
    walk sat h r.wanted r.required (Cand.existing sp :: rest) w =
      match getSubproject w sp with
      | some s => fromSubproject sat w r s var
      | none => walk sat h r.wanted r.required rest w := by
  obtain ⟨hn, _, _, _, hv, hne⟩ := ha
  rw [← getSubprojectDep_hit sat h r w sp var hn hcache]
  simp only [walk, runCand, List.isEmpty_eq_false_iff.mpr hne, Bool.not_false, Bool.true_and, hv, hn]
  cases hg : getSubproject w sp with
  | none => simp [getSubprojectDep, hg]
  | some s =>
    simp only [Option.isSome_some, if_true]
    generalize getSubprojectDep sat h w r.wanted sp var = g
    rcases g with ⟨_ | d, t⟩ <;> rfl

/-- what the loop makes of the result of `do_subproject`, the subproject candidate being the last one -/
def afterSub (h : Holder) (r : Request) (sp : Str) (w : World) : Except ErrKind World × List Effect → POutcome × World
  | (.error _, _) => (.error, w)
  | (.ok w', _) =>
    match (getSubprojectDep sat h w' r.wanted sp h.spVar).1 with
    | some d => hitOutcome r.names r.required d w'
    | none => (failure r.required, w')

theorem walk_subproject_eq (h : Holder) (r : Request) (sp : Str) (w : World) (hn : h.names = r.names) :
    walk sat h r.wanted r.required [Cand.subproject sp] w =
      if (!h.forcefallback && h.nofallback) = true then (failure r.required, w)
      else afterSub sat h r sp w (doSubproject w sp r.required) := by
  simp only [walk, runCand, List.isEmpty_nil, Bool.and_true, hn]
  cases (!h.forcefallback && h.nofallback) with
  | true => rfl
  | false =>
    simp only [Bool.false_eq_true, if_false]
    generalize doSubproject w sp r.required = x
    rcases x with ⟨_ | w', tr⟩
    · rfl
    · simp only [afterSub]
      generalize getSubprojectDep sat h w' r.wanted sp h.spVar = g
      rcases g with ⟨_ | d, tr'⟩ <;> rfl

/-- the configure-the-subproject candidate (always the last one) -/
theorem walk_subproject {w : World} {r : Request} {h : Holder} {sp : Str} {var : Option Str} {forced : Bool}
    (ha : Agree w r ⟨some (sp, var), forced⟩ h)
    (hcache : h.useCache = true → ∀ n ∈ r.names, knownCached sat w r.wanted n = .unknown) :
    walk sat h r.wanted r.required [Cand.subproject sp] w = fallbackStep sat w r ⟨some (sp, var), forced⟩ sp var := by
  obtain ⟨hn, hforce, hnofb, _, rfl, _⟩ := ha
  rw [walk_subproject_eq sat h r sp w hn, hforce, hnofb, Bool.and_comm]
  unfold fallbackStep
  split
  · rfl
  · -- `do_subproject` went through: `_get_subproject_dep` in the world `w'` it leaves
    have hafter : ∀ (w' : World) (tr : List Effect), w'.cache = w.cache →
        afterSub sat h r sp w (.ok w', tr) =
          match getSubproject w' sp with
          | some s' => fromSubproject sat w' r s' h.spVar
          | none => (failure r.required, w') := fun w' tr hc =>
      getSubprojectDep_hit sat h r w' sp _ hn
        (fun hu n hn' => (knownCached_congr sat w w' hc r.wanted n).trans (hcache hu n hn')) _
    -- `do_subproject` gave up: its exception if required, else the subproject is disabled and gives nothing
    have hgaveup : ∀ (k : ErrKind) (tr : List Effect),
        afterSub sat h r sp w
              (if r.required = true then (.error k, tr) else (.ok (setSubState w sp .disabled), tr)) =
          (failure r.required, if r.required = true then w else setSubState w sp .disabled) := by
      intro k tr
      cases hr : r.required with
      | true => rfl
      | false =>
        simp only [Bool.false_eq_true, if_false]
        rw [hafter _ _ (setSubState_cache w sp .disabled), getSubproject_setSubState w sp .disabled (by decide), hr]
    unfold doSubproject
    cases hfs : findSub w sp with
    | none => exact hgaveup _ _
    | some s =>
      simp only []
      cases hst : s.state with
      | found =>
        have hg : getSubproject w sp = some s := by simp [getSubproject, hfs, hst]
        simp only [show (SpState.found != SpState.no) = true from rfl,
                   show (SpState.found != SpState.found) = false from rfl, Bool.and_false, if_true,
                   Bool.false_eq_true, if_false]
        rw [hafter w _ rfl, hg]
      | disabled =>
        have hg : getSubproject w sp = none := by simp [getSubproject, hfs, hst]
        simp only [show (SpState.disabled != SpState.no) = true from rfl,
                   show (SpState.disabled != SpState.found) = true from rfl, Bool.and_true, if_true]
        cases hr : r.required with
        | true => rfl
        | false =>
          simp only [Bool.false_eq_true, if_false]
          rw [hafter w _ rfl, hg, hr]
      | no =>
        simp only [show (SpState.no != SpState.no) = false from rfl, Bool.false_eq_true, if_false, configured]
        cases s.configureOk with
        | false => exact hgaveup _ _
        | true =>
          cases s.overrides.any fun p => (alookup p.1 w.overrides).isSome with
          | true => exact hgaveup _ _
          | false =>
            simp only [findSub_name w sp s hfs]
            exact hafter _ _ (by rw [setSubState_cache])

end MesonModel.DepPolicy
