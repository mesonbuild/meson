import MesonModel.DepPolicy.Cache
import MesonModel.Util.Assoc
namespace MesonModel.DepPolicy.Cache

/-- every entry sits under the sub-key of its own type and of the relevant option value at the time it
was stored -/
def EntriesOk (es : List ((CType × List Str) × CDep)) : Prop :=
  ∀ k d, (k, d) ∈ es → k = (d.type, d.storedAt.sel (relevant d.type))

def Inv (c : MCache) : Prop := ∀ i s, (i, s) ∈ c.subs → EntriesOk s.entries

theorem isLookup_elookup : IsLookup elookup := ⟨fun _ => rfl, fun _ _ _ _ => rfl⟩

theorem isLookup_slookup : IsLookup slookup := ⟨fun _ => rfl, fun _ _ _ _ => rfl⟩

theorem isUpdate_eset : IsUpdate eset := ⟨fun _ _ => rfl, fun _ _ _ _ _ => rfl⟩

theorem isUpdate_sset : IsUpdate sset := ⟨fun _ _ => rfl, fun _ _ _ _ _ => rfl⟩

theorem put_inv (c : MCache) (ident id : Str) (t : CType) (h : Inv c) : Inv (put relevant c ident id t) := by
  intro i s hm
  simp only [put] at hm
  rcases isUpdate_sset.mem _ _ _ _ hm with heq | hold
  · cases heq
    intro k d hkd
    rcases isUpdate_eset.mem _ _ _ _ hkd with heq2 | hold2
    · cases heq2
      rfl
    · cases hs : slookup ident c.subs with
      | none => simp [hs] at hold2
      | some s0 =>
        simp only [hs] at hold2
        exact h ident s0 (isLookup_slookup.mem _ _ _ hs) k d hold2
  · exact h i s hold

theorem getIn_sound (p : Paths) (s : SubCache) (hs : EntriesOk s.entries) :
    ∀ ts d, getIn relevant p s ts = some d → Reusable p d := by
  intro ts d
  fun_induction getIn relevant p s ts
  case case1 => nofun
  case case2 t _ d0 he =>
    intro h
    cases h
    -- the entry sits under the key made of its own type and of the paths that type looks at
    obtain ⟨rfl, hp⟩ := Prod.mk.inj (hs _ _ (isLookup_elookup.mem _ _ _ he))
    exact hp.symm
  case case3 ih => exact ih

theorem get_sound (c : MCache) (h : Inv c) (ident : Str) (d : CDep) (hg : get relevant c ident = some d) :
    Reusable c.paths d := by
  unfold get at hg
  cases hs : slookup ident c.subs with
  | none => simp [hs] at hg
  | some s =>
    simp only [hs] at hg
    exact getIn_sound c.paths s (h ident s (isLookup_slookup.mem _ _ _ hs)) s.types d hg

def InvSt (s : St) : Prop := Inv s.host ∧ Inv s.build

theorem inv_nil (p : Paths) : Inv { paths := p, subs := [] } := by
  intro i s hm
  cases hm

theorem inv_paths (c : MCache) (p : Paths) (h : Inv c) : Inv { c with paths := p } := by
  intro i s hm
  exact h i s hm

theorem InvSt.mc {s : St} (h : InvSt s) (b : Bool) : Inv (s.mc b) := by
  cases b
  · exact h.1
  · exact h.2

theorem InvSt.setMc {s : St} (h : InvSt s) (b : Bool) {c : MCache} (hc : Inv c) : InvSt (s.setMc b c) := by
  cases b
  · exact ⟨hc, h.2⟩
  · exact ⟨h.1, hc⟩

theorem step_inv (s : St) (op : Op) (h : InvSt s) : InvSt (step relevant s op).1 := by
  cases op with
  | setPkg b v => exact h.setMc b (inv_paths _ _ (h.mc b))
  | setCmake b v => exact h.setMc b (inv_paths _ _ (h.mc b))
  | put b i id t => exact h.setMc b (put_inv _ _ _ _ (h.mc b))
  | get b i => exact h
  | clear b => exact h.setMc b (inv_nil _)

theorem run_inv : ∀ (ops : List Op) (s : St), InvSt s → InvSt (run relevant s ops).1 := by
  intro ops
  induction ops with
  | nil =>
    intro s h
    exact h
  | cons op rest ih =>
    intro s h
    simp only [run]
    exact ih _ (step_inv s op h)

theorem init_inv : InvSt init := ⟨inv_nil _, inv_nil _⟩

/-- the documented cache reading, for an identifier cached once: the entry is served exactly while the
option relevant to its type still has the value it had when the entry was stored -/
theorem fresh_put_get (c : MCache) (i id : Str) (t : CType) (p' : Paths) (hfresh : slookup i c.subs = none) :
    get relevant { put relevant c i id t with paths := p' } i =
      if p'.sel (relevant t) = c.paths.sel (relevant t) then some { id := id, type := t, storedAt := c.paths } else none := by
  simp only [get, put, hfresh, isLookup_slookup.update isUpdate_sset, ↓reduceIte, getIn, eset, elookup, subkey]
  by_cases h : p'.sel (relevant t) = c.paths.sel (relevant t)
  · simp [h]
  · have : ¬ ((t, c.paths.sel (relevant t)) = (t, p'.sel (relevant t))) := by
      intro he
      simp only [Prod.mk.injEq, true_and] at he
      exact h he.symm
    simp [h, this]

end MesonModel.DepPolicy.Cache
