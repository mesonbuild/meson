import MesonModel.DepPolicy.PolicyProof
/-
Repeated lookups: once the policy has answered `found d` for a request with at least one name, the
first name carries `d` as its override, `d` is found and satisfies the constraint — so the same
request in the resulting world is answered `found d` again by rule 1 of the table.
-/
namespace MesonModel.DepPolicy

variable (sat : Str → List Str → Bool)

/-- what a world must hold for the next lookup of `names` to give `d` -/
def Stable (w : World) (names wanted : List Str) (d : Dep) : Prop :=
  d.found = true ∧ satisfies sat wanted d.version = true ∧
  ∀ n0 rest, names = n0 :: rest → ∃ e, alookup n0 w.overrides = some (d, e)

/-- what holds of a world in which the policy answers `d`: as `Stable`, except that the first name may still be without
override -/
def CanAnswer (w : World) (names wanted : List Str) (d : Dep) : Prop :=
  d.found = true ∧ satisfies sat wanted d.version = true ∧
  ∀ n0 rest, names = n0 :: rest → (alookup n0 w.overrides = none ∨ ∃ e, alookup n0 w.overrides = some (d, e))

theorem knownName_found (w : World) (wanted : List Str) (uc : Bool) (n : Str) (d : Dep)
    (h : knownName sat w wanted uc n = .found d) :
    d.found = true ∧ satisfies sat wanted d.version = true ∧
      (alookup n w.overrides = none ∨ ∃ e, alookup n w.overrides = some (d, e)) := by
  revert h
  unfold knownName
  fun_cases knownOverride sat w wanted n
  case case1 d0 e ho hc =>
    intro h
    cases h
    rw [Bool.and_eq_true] at hc
    exact ⟨hc.1, hc.2, .inr ⟨e, ho⟩⟩
  case case2 => nofun
  case case3 ho =>
    -- no override: only the cache can answer, and only if it is asked
    cases uc
    · nofun
    · fun_cases knownCached sat w wanted n
      case case1 dc _ hs hf =>
        intro h
        cases h
        exact ⟨hf, hs, .inl ho⟩
      all_goals nofun

theorem scanKnown_found (w : World) (wanted : List Str) (uc : Bool) (d : Dep) :
    ∀ ns, scanKnown sat w wanted uc ns = .found d → CanAnswer sat w ns wanted d := by
  intro ns
  induction ns with
  | nil =>
    intro h
    cases h
  | cons n rest ih =>
    intro h
    rw [scanKnown_cons] at h
    split at h
    · rename_i hk
      have hg := ih h
      exact ⟨hg.1, hg.2.1, fun n0 rest' hn => by cases hn; exact .inl (knownName_unknown sat w wanted uc n hk).1⟩
    · obtain ⟨h1, h2, h3⟩ := knownName_found sat w wanted uc n d h
      exact ⟨h1, h2, fun n0 rest' hn => by cases hn; exact h3⟩

theorem sysScan_ok (w : World) (wanted : List Str) (ns : List Str) (n : Str) (d : Dep) :
    sysScan sat w wanted ns = some (n, d) → d.found = true ∧ satisfies sat wanted d.version = true := by
  fun_induction sysScan sat w wanted ns
  case case1 => nofun
  case case2 hs =>
    intro h
    cases h
    exact ⟨rfl, hs⟩
  case case3 ih => exact ih
  case case4 ih => exact ih

/-- if the answer is a dependency, the world it leaves gives it again -/
def Settled (names wanted : List Str) (x : POutcome × World) : Prop :=
  ∀ d w', x = (.found d, w') → Stable sat w' names wanted d

theorem settled_failure (names wanted : List Str) (req : Bool) (w : World) : Settled sat names wanted (failure req, w) := by
  intro d w' h
  cases req <;> simp [failure] at h

theorem settled_answer (w : World) (names wanted : List Str) (d : Dep) (hg : CanAnswer sat w names wanted d) :
    Settled sat names wanted (answer w names d) := by
  intro d' w' h
  cases h
  rcases hg with ⟨h1, h2, h3⟩
  refine ⟨h1, h2, ?_⟩
  intro n0 rest hn
  subst hn
  simp only [addImplicit]
  rcases h3 n0 rest rfl with h | ⟨e, h⟩
  · simp only [h, Option.isSome_none, Bool.false_eq_true, if_false]
    refine ⟨false, alookup_addImplicit_some n0 (d, false) d rest _ ?_⟩
    simp [alookup_append, h, alookup]
  · simp only [h, Option.isSome_some, if_true]
    exact ⟨e, alookup_addImplicit_some n0 (d, e) d rest _ h⟩

/-- an answer out of a world in which none of the names has an override -/
theorem settled_answer_fresh (w : World) (names wanted : List Str) (d0 : Dep) (hf : d0.found = true)
    (hs : satisfies sat wanted d0.version = true) (hno : ∀ n ∈ names, alookup n w.overrides = none) :
    Settled sat names wanted (answer w names d0) :=
  settled_answer sat w names wanted d0 ⟨hf, hs, fun n0 _ hn => .inl (hno n0 (hn ▸ List.mem_cons_self))⟩

theorem fromSubproject_settled (w : World) (r : Request) (s : Sub) (var : Option Str) :
    Settled sat r.names r.wanted (fromSubproject sat w r s var) := by
  unfold fromSubproject
  cases hk : scanKnown sat w r.wanted false r.names with
  | found d0 => exact settled_answer sat w _ _ d0 (scanKnown_found sat w r.wanted false d0 r.names hk)
  | failed => exact settled_failure sat _ _ _ w
  | unknown =>
    have hno := scanKnown_unknown_override sat w r.wanted false r.names hk
    simp only []
    -- every branch that is not an `answer` is a failure
    split
    · split
      · rename_i d0 _
        cases hc : d0.found && satisfies sat r.wanted d0.version with
        | false => exact settled_failure sat _ _ _ w
        | true =>
          simp only [Bool.and_eq_true] at hc
          exact settled_answer_fresh sat w _ _ d0 hc.1 hc.2 hno
      · exact settled_failure sat _ _ _ w
    · exact settled_failure sat _ _ _ w

theorem systemStep_settled (w : World) (r : Request) (next : POutcome × World)
    (hno : ∀ n ∈ r.names, alookup n w.overrides = none) (hnext : Settled sat r.names r.wanted next) :
    Settled sat r.names r.wanted (systemStep sat w r next) := by
  unfold systemStep
  cases hs : sysScan sat w r.wanted r.names with
  | none => exact hnext
  | some q =>
    have hok := sysScan_ok sat w r.wanted r.names q.1 q.2 hs
    exact settled_answer_fresh sat { w with cache := cachePut w.cache q.1 q.2 } _ _ q.2 hok.1 hok.2 hno

theorem fallbackStep_settled (w : World) (r : Request) (p : Plan) (sp : Str) (var : Option Str) :
    Settled sat r.names r.wanted (fallbackStep sat w r p sp var) := by
  unfold fallbackStep
  split
  · exact settled_failure sat _ _ _ w
  · split
    · exact settled_failure sat _ _ _ _
    · split
      · exact settled_failure sat _ _ _ w
      · exact fromSubproject_settled sat w r _ var
      · split
        · exact settled_failure sat _ _ _ _
        · split
          · exact fromSubproject_settled sat _ r _ var
          · exact settled_failure sat _ _ _ _

theorem decide_settled (w : World) (r : Request) (p : Plan) : Settled sat r.names r.wanted (decide sat w r p) := by
  unfold decide
  simp only []
  cases hk : scanKnown sat w r.wanted (!(p.forced && p.fallback.isSome)) r.names with
  | found d0 => exact settled_answer sat w _ _ d0 (scanKnown_found sat w r.wanted _ d0 r.names hk)
  | failed => exact settled_failure sat _ _ _ w
  | unknown =>
    have hno := scanKnown_unknown_override sat w r.wanted _ r.names hk
    simp only []
    split
    · exact systemStep_settled sat w r _ hno (settled_failure sat _ _ _ w)
    · split
      · exact fromSubproject_settled sat w r _ _
      · split
        · exact systemStep_settled sat w r _ hno (fallbackStep_settled sat w r p _ _)
        · exact fallbackStep_settled sat w r p _ _

theorem policy_of_stable (w : World) (r : Request) (d : Dep) (n0 : Str) (rest : List Str) (hn : r.names = n0 :: rest)
    (hargs : (!namesOk r.names || !fallbackArgOk r) = false)
    (hs : Stable sat w r.names r.wanted d) : (policy sat w r).1 = .found d := by
  rcases hs with ⟨h1, h2, h3⟩
  rcases h3 n0 rest hn with ⟨e, ho⟩
  unfold policy
  simp only [hargs, Bool.false_eq_true, if_false]
  unfold decide
  simp only [hn]
  rw [scanKnown_cons]
  simp only [knownName, knownOverride, ho, h1, h2, Bool.and_self, if_true]
  rfl

/-- **Repeated lookups agree** (policy side) -/
theorem policy_repeat (w : World) (r : Request) (d : Dep) (hne : r.names ≠ [])
    (h : (policy sat w r).1 = .found d) : (policy sat (policy sat w r).2 r).1 = .found d := by
  cases hargs : (!namesOk r.names || !fallbackArgOk r) with
  | true => simp [policy, hargs] at h
  | false =>
    have hdec : policy sat w r = decide sat w r (plan w r) := by
      simp [policy, hargs]
    rw [hdec] at h ⊢
    have hst := decide_settled sat w r (plan w r) d _ (Prod.ext h rfl)
    cases hnames : r.names with
    | nil => exact absurd hnames hne
    | cons n0 rest => exact policy_of_stable sat _ r d n0 rest hnames hargs hst

end MesonModel.DepPolicy
