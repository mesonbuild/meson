import MesonModel.DepPolicy.Model
/-
Effect-trace lemmas for the lookup model: which candidate functions can consult the system / the
dependency cache, and which can configure a subproject.
-/
namespace MesonModel.DepPolicy

/-- the effect touches the system: `find_external_dependency` or the cache of system dependencies -/
def Effect.isSystem : Effect → Bool
  | .system _ => true
  | .cacheGet _ => true
  | _ => false

/-- the effect enters `Interpreter.do_subproject` -/
def Effect.isSubproject : Effect → Bool
  | .doSubproject _ => true
  | .configure _ => true
  | _ => false

def Step.trace : Step → List Effect
  | .cont _ t => t
  | .hit _ _ t => t
  | .raise _ _ t => t

def Cand.isSystem : Cand → Bool
  | .system _ => true
  | _ => false

def Cand.isSubproject : Cand → Bool
  | .subproject _ => true
  | _ => false

variable (sat : Str → List Str → Bool)

def Forced (h : Holder) : Prop := h.forcefallback = true ∧ truthy h.spName = true

def NoFallback (h : Holder) : Prop := h.nofallback = true ∧ h.forcefallback = false

/-- the one effect of `_get_cached_dep`: a read of the cache of system dependencies, skipped under forced
fallback -/
def CacheRead (h : Holder) (e : Effect) : Prop := (∃ n, e = .cacheGet n) ∧ ¬ Forced h

theorem getCachedDep_trace (h : Holder) (w : World) (wanted : List Str) (n : Str) :
    ∀ e ∈ (getCachedDep sat h w wanted n).2, CacheRead h e := by
  unfold getCachedDep
  cases alookup n w.overrides with
  | some p =>
    simp only [apply_ite Prod.snd, ite_self]
    nofun
  | none =>
    cases hf : h.forcefallback && truthy h.spName with
    | true => nofun
    | false =>
      have hnf : ¬ Forced h := fun ⟨h1, h2⟩ => by simp [h1, h2] at hf
      -- every remaining branch carries the trace `[cacheGet n]`
      cases alookup n w.cache <;> simp only [apply_ite Prod.snd, ite_self, Bool.false_eq_true, if_false]
      all_goals exact fun e he => ⟨⟨n, List.mem_singleton.mp he⟩, hnf⟩

theorem firstCached_trace (h : Holder) (w : World) (wanted : List Str) :
    ∀ ns, ∀ e ∈ (firstCached sat h w wanted ns).2, CacheRead h e := by
  intro ns
  induction ns with
  | nil => nofun
  | cons n rest ih =>
    have hg := getCachedDep_trace sat h w wanted n
    unfold firstCached
    generalize getCachedDep sat h w wanted n = g at hg
    rcases g with ⟨_ | d, tr⟩
    · intro e he
      rcases List.mem_append.mp he with he | he
      · exact hg e he
      · exact ih e he
    · exact hg

theorem getSubprojectDep_trace (h : Holder) (w : World) (wanted : List Str) (sp : Str) (v : Option Str) :
    ∀ e ∈ (getSubprojectDep sat h w wanted sp v).2, CacheRead h e := by
  have hc := firstCached_trace sat h w wanted h.names
  unfold getSubprojectDep
  cases getSubproject w sp with
  | none => nofun
  | some s =>
    generalize firstCached sat h w wanted h.names = g at hc
    rcases g with ⟨_ | d, tr⟩
    · simp only [apply_ite Prod.snd, ite_self]
      exact hc
    · exact hc

theorem doSubproject_trace (w : World) (sp : Str) (req : Bool) :
    (doSubproject w sp req).2 = [.doSubproject sp] ∨ (doSubproject w sp req).2 = [.doSubproject sp, .configure sp] := by
  unfold doSubproject
  cases findSub w sp with
  | none =>
    simp only [apply_ite Prod.snd, ite_self]
    exact Or.inr trivial
  | some s =>
    simp only [apply_ite Prod.snd, ite_self]
    split
    · exact Or.inl rfl
    · exact Or.inr rfl

/-- the effects a candidate function can have -/
def Cand.emits (h : Holder) : Cand → Effect → Prop
  | .system n, e => e = .system n
  | .subproject sp, e => ¬ NoFallback h ∧ (e = .doSubproject sp ∨ e = .configure sp ∨ CacheRead h e)
  | _, e => CacheRead h e

theorem runCand_emits (h : Holder) (wanted : List Str) (req : Bool) (w : World) (c : Cand) :
    ∀ e ∈ (runCand sat h wanted req w c).trace, c.emits h e := by
  cases c with
  | cache n =>
    have hg := getCachedDep_trace sat h w wanted n
    simp only [runCand]
    generalize getCachedDep sat h w wanted n = g at hg
    rcases g with ⟨_ | d, tr⟩ <;> exact hg
  | existing sp =>
    have hg := getSubprojectDep_trace sat h w wanted sp h.spVar
    simp only [runCand]
    split
    · generalize getSubprojectDep sat h w wanted sp h.spVar = g at hg
      rcases g with ⟨_ | d, tr⟩ <;> exact hg
    · nofun
  | system n =>
    simp only [runCand]
    cases findExternal sat w wanted n <;>
      cases req <;>
      exact fun e he => List.mem_singleton.mp he
  | subproject sp =>
    simp only [runCand]
    split
    · nofun
    · rename_i hnf
      have hnf : ¬ NoFallback h := fun ⟨h1, h2⟩ => by simp [h1, h2] at hnf
      have hd : ∀ e ∈ (doSubproject w sp req).2, (Cand.subproject sp).emits h e := by
        intro e he
        refine ⟨hnf, ?_⟩
        rcases doSubproject_trace w sp req with ht | ht <;>
          rw [ht] at he <;>
          simp at he
        · exact Or.inl he
        · exact he.imp id Or.inl
      generalize doSubproject w sp req = g at hd
      rcases g with ⟨_ | w', tr⟩
      · exact hd
      · have hg := getSubprojectDep_trace sat h w' wanted sp h.spVar
        simp only []
        generalize getSubprojectDep sat h w' wanted sp h.spVar = g at hg
        have happ : ∀ e ∈ tr ++ g.2, (Cand.subproject sp).emits h e := fun e he =>
          (List.mem_append.mp he).elim (hd e) fun he => ⟨hnf, .inr (.inr (hg e he))⟩
        rcases g with ⟨_ | d, tr'⟩ <;> exact happ

/-- under forced fallback only `_do_dependency` touches the system -/
theorem Cand.emits_forced {h : Holder} (hf : Forced h) {c : Cand} (hc : c.isSystem = false) {e : Effect}
    (he : c.emits h e) : e.isSystem = false := by
  cases c with
  | system n => cases hc
  | subproject sp =>
    rcases he.2 with rfl | rfl | he
    · rfl
    · rfl
    · exact absurd hf he.2
  | cache n => exact absurd hf he.2
  | existing sp => exact absurd hf he.2

/-- under `nofallback` (not forced) no candidate enters `do_subproject` -/
theorem Cand.emits_nofallback {h : Holder} (hn : NoFallback h) {c : Cand} {e : Effect} (he : c.emits h e) :
    e.isSubproject = false := by
  cases c with
  | system n =>
    rw [show e = .system n from he]
    rfl
  | subproject sp => exact absurd hn he.1
  | cache n =>
    obtain ⟨⟨m, rfl⟩, _⟩ := he
    rfl
  | existing sp =>
    obtain ⟨⟨m, rfl⟩, _⟩ := he
    rfl

theorem loop_trace (P : Effect → Prop) (h : Holder) (wanted : List Str) (required : Bool) :
    ∀ cands w tr, (∀ c ∈ cands, ∀ req w, ∀ e ∈ (runCand sat h wanted req w c).trace, P e) → (∀ e ∈ tr, P e) →
      ∀ e ∈ (loop sat h wanted required cands w tr).trace, P e := by
  intro cands
  induction cands with
  | nil => exact fun w tr _ htr => htr
  | cons c rest ih =>
    intro w tr hc htr
    have hrun := hc c List.mem_cons_self (required && rest.isEmpty) w
    unfold loop
    simp only []
    generalize runCand sat h wanted (required && rest.isEmpty) w c = st at hrun
    have happ : ∀ e ∈ tr ++ st.trace, P e := fun e he => (List.mem_append.mp he).elim (htr e) (hrun e)
    cases st with
    | raise k w' t => exact happ
    | hit d w' t =>
      simp only [apply_ite Res.trace, ite_self]
      exact happ
    | cont w' t =>
      simp only []
      split
      · exact happ
      · exact ih w' _ (fun c hc' => hc c (List.mem_cons_of_mem _ hc')) happ

theorem lookup_trace (P : Effect → Prop) (w : World) (r : Request) (h0 : Holder) (hm : mkHolder r = .ok h0)
    (hc : ∀ c ∈ getCandidates (prepare w r h0), ∀ req w', ∀ e ∈ (runCand sat (prepare w r h0) r.wanted req w' c).trace, P e) :
    ∀ e ∈ (lookup sat w r).trace, P e := by
  unfold lookup
  rw [hm]
  simp only []
  split
  · nofun
  · exact loop_trace sat P _ r.wanted r.required _ w [] hc nofun

theorem getCandidates_forced (h : Holder) (hf : Forced h) : ∀ c ∈ getCandidates h, c.isSystem = false := by
  intro c hc
  unfold getCandidates at hc
  simp [hf.1, hf.2] at hc
  rcases hc with ⟨n, _, rfl⟩ | rfl | rfl <;> rfl

end MesonModel.DepPolicy
