import MesonModel.DepPolicy.WrapFile
import MesonModel.DepPolicy.AlookupLemmas
/-
Lemmas about the wrap-file layer: `add_wrap` builds a *function* from names to wraps (or raises), every wrap
provides its own lower-cased name, merged wraps never displace an existing provider, and the `[provide]` view of
`DepPolicy.World` derived from a `Resolver` answers as the `Resolver` does.
-/
namespace MesonModel.DepPolicy.WrapFile
open MesonModel.DepPolicy

theorem alookup_isSome_of_mem_keys {β : Type} (k : Str) (l : List (Str × β)) (h : k ∈ keys l) :
    (alookup k l).isSome = true :=
  Option.isSome_iff_ne_none.mpr fun e => (isLookup_alookup.eq_none_iff k l).mp e h

theorem mem_keys_of_alookup {β : Type} (k : Str) (v : β) (l : List (Str × β)) (h : alookup k l = some v) : k ∈ keys l := by
  have := alookup_mem k v l h
  exact List.mem_map.mpr ⟨(k, v), this, rfl⟩

theorem isUpdate_dset {β : Type} : IsUpdate (dset (β := β)) := ⟨fun _ _ => rfl, fun _ _ _ _ _ => rfl⟩

theorem keys_dset {β : Type} (k : Str) (v : β) (x : Str) (l : List (Str × β)) (h : x ∈ keys l) : x ∈ keys (dset k v l) := by
  unfold keys
  rw [isUpdate_dset.keys]
  split
  · exact h
  · exact List.mem_append_left _ h

/-- entries present before stay what they were — in both modes (`ignore_dups`: "first wins") -/
theorem addDeps_old (w : PkgDef) (ig : Bool) (ks : List Str) (t t' : List (Str × PkgDef)) (h : addDeps w ig ks t = .ok t')
    (k : Str) (v : PkgDef) (hk : alookup k t = some v) : alookup k t' = some v := by
  fun_induction addDeps w ig ks t
  case case1 =>
    cases h
    exact hk
  case case2 ih => exact ih h (alookup_append_of_some _ hk)
  case case3 ih => exact ih h hk
  case case4 => cases h

/-- a successful strict `add_wrap` loop: the table afterwards holds what it held, and `w` under the new keys -/
theorem addDeps_iff (w : PkgDef) (ks : List Str) (t t' : List (Str × PkgDef)) (h : addDeps w false ks t = .ok t')
    (k : Str) (v : PkgDef) : alookup k t' = some v ↔ alookup k t = some v ∨ (v = w ∧ k ∈ ks) := by
  fun_induction addDeps w false ks t
  case case1 =>
    cases h
    simp
  case case2 x rest t hx ih =>
    rw [ih h, alookup_append, List.mem_cons, alookup, alookup]
    by_cases hk : x = k
    · subst hk
      simp +contextual [hx, eq_comm (a := w)]
    · cases alookup k t <;> simp [hk, Ne.symm hk]
  -- a key already there: the strict mode raises
  all_goals contradiction

theorem addWrap_deps (w : PkgDef) (ig : Bool) (t t' : Tables) (h : addWrap w ig t = .ok t') :
    addDeps w ig (keys w.providedDeps) t.deps = .ok t'.deps := by
  unfold addWrap at h
  split at h
  · cases h
  · rename_i d hd
    split at h
    · cases h
    · cases h
      exact hd

theorem addAll_iff (ws : List PkgDef) (t t' : Tables) (h : addAll ws t = .ok t') (k : Str) (v : PkgDef) :
    alookup k t'.deps = some v ↔ alookup k t.deps = some v ∨ (v ∈ ws ∧ k ∈ keys v.providedDeps) := by
  fun_induction addAll ws t
  case case1 =>
    cases h
    simp
  case case2 => cases h
  case case3 x rest t t1 h1 ih =>
    rw [ih h, addDeps_iff x _ _ _ (addWrap_deps x false t t1 h1), List.mem_cons, or_and_right, or_assoc]
    exact or_congr_right (or_congr_left (and_congr_right fun e => e ▸ .rfl))

def OwnName (p : PkgDef) : Prop := lower p.name ∈ keys p.providedDeps

theorem addDepNames_keys (x : Str) (ns : List Str) (deps : List (Str × Option Str)) (h : x ∈ keys deps) :
    x ∈ keys (addDepNames deps ns) := by
  fun_induction addDepNames deps ns
  case case1 => exact h
  case case2 ih => exact ih (keys_dset _ _ x _ h)

theorem provideItems_keys (x : Str) (its : List (Str × Str)) (p p' : PkgDef) (h : provideItems its p = .ok p')
    (hx : x ∈ keys p.providedDeps) : x ∈ keys p'.providedDeps ∧ p'.name = p.name := by
  fun_induction provideItems its p
  case case1 =>
    cases h
    exact ⟨hx, rfl⟩
  case case2 ih => exact ih h (addDepNames_keys x _ _ hx)
  case case3 ih => exact ih h hx
  case case4 => cases h
  case case5 ih => exact ih h (keys_dset _ _ x _ hx)

theorem mkPkg_own (name : Str) (ty : Option Str) (vals : List (Str × Str)) (p : PkgDef)
    (h : mkPkg name ty vals = .ok p) : p.name = name ∧ p.providedDeps = [(lower name, none)] ∧ p.providedPrograms = [] := by
  unfold mkPkg at h
  simp only [] at h
  split at h
  · cases h
  · split at h
    · cases h
    · cases h
      exact ⟨rfl, rfl, rfl⟩

theorem parseProvideSection_own (ini : Ini) (p p' : PkgDef) (h : parseProvideSection ini p = .ok p') (ho : OwnName p) :
    OwnName p' := by
  unfold parseProvideSection at h
  split at h
  · cases h
  · split at h
    · have := provideItems_keys (lower p.name) _ _ _ h ho
      unfold OwnName
      rw [this.2]
      exact this.1
    · cases h
      exact ho

theorem fromWrapFile_own (fs : FS) : ∀ (fuel : Nat) (dir : Path) (f : Str) (p : PkgDef),
    fromWrapFile fs fuel dir f = .ok p → OwnName p := by
  intro fuel dir f
  -- all arms of `from_wrap_file` but two are error exits
  fun_induction fromWrapFile fs fuel dir f
  case case10 w hw _ ih =>
    -- a redirect marks what its target gave as redirected
    intro p h
    cases h
    exact (ih w hw : OwnName w)
  case case12 q hq =>
    obtain ⟨hname, hdeps, _⟩ := mkPkg_own _ _ _ _ hq
    intro p h
    apply parseProvideSection_own _ _ _ h
    unfold OwnName
    rw [hname, hdeps]
    exact List.mem_singleton.mpr rfl
  all_goals nofun

theorem dirPkg_own (d : Str) : OwnName (dirPkg d) := by simp [OwnName, dirPkg, keys]

theorem loadFiles_own (fs : FS) (fuel : Nat) (base : Path) (files : List Str) (acc ws : List (Str × PkgDef))
    (h : loadFiles fs fuel base files acc = .ok ws) (hacc : ∀ e ∈ acc, OwnName e.2 ∧ e.2.name = e.1) :
    ∀ e ∈ ws, OwnName e.2 ∧ e.2.name = e.1 := by
  fun_induction loadFiles fs fuel base files acc
  case case1 =>
    cases h
    exact hacc
  case case2 ih => exact ih h hacc
  case case3 => cases h
  case case4 f _ acc _ w hw ih =>
    apply ih h
    intro e he
    rcases isUpdate_dset.mem _ _ e acc he with h1 | h1
    · subst h1
      exact ⟨fromWrapFile_own fs fuel base f w hw, rfl⟩
    · exact hacc e h1

theorem loadDirs_own (ign : List Str) (dirs : List Str) (acc : List (Str × PkgDef))
    (hacc : ∀ e ∈ acc, OwnName e.2 ∧ e.2.name = e.1) : ∀ e ∈ loadDirs ign dirs acc, OwnName e.2 ∧ e.2.name = e.1 := by
  fun_induction loadDirs ign dirs acc
  case case1 => exact hacc
  case case2 ih => exact ih hacc
  case case3 d _ acc _ ih =>
    apply ih
    intro e he
    rcases isUpdate_dset.mem _ _ e acc he with h1 | h1
    · subst h1
      exact ⟨dirPkg_own d, rfl⟩
    · exact hacc e h1

/-- what a successful `load_wraps` establishes -/
structure Loaded (r : Resolver) : Prop where
  provider : ∀ e ∈ r.wraps, ∀ k ∈ keys e.2.providedDeps, alookup k r.providedDeps = some e.2
  /-- the table holds nothing else -/
  sound : ∀ k v, alookup k r.providedDeps = some v → (∃ e ∈ r.wraps, e.2 = v) ∧ k ∈ keys v.providedDeps
  own : ∀ e ∈ r.wraps, OwnName e.2 ∧ e.2.name = e.1

theorem loadWraps_loaded (fs : FS) (fuel : Nat) (base : Path) (files dirs : List Str) (wdb : List (Str × List Str × List Str))
    (r : Resolver) (h : loadWraps fs fuel base files dirs wdb = .ok r) : Loaded r := by
  unfold loadWraps at h
  split at h
  · cases h
  · rename_i ws hws
    simp only [] at h
    split at h
    · cases h
    · rename_i t ht
      cases h
      have hiff := addAll_iff _ _ _ ht
      refine ⟨fun e he k hk => (hiff k e.2).mpr (.inr ⟨List.mem_map_of_mem he, hk⟩), fun k v hv => ?_, ?_⟩
      · obtain ⟨hm, hk⟩ := ((hiff k v).mp hv).resolve_left nofun
        exact ⟨List.exists_of_mem_map hm, hk⟩
      · exact loadDirs_own _ dirs ws (loadFiles_own fs fuel base files [] ws hws nofun)

theorem Loaded.provides_own {r : Resolver} (hl : Loaded r) (e : Str × PkgDef) (he : e ∈ r.wraps) :
    alookup (lower e.1) r.providedDeps = some e.2 :=
  have ho := hl.own e he
  hl.provider e he _ (ho.2 ▸ ho.1)

theorem Loaded.wrap_unique {r : Resolver} (hl : Loaded r) (e e' : Str × PkgDef) (he : e ∈ r.wraps) (he' : e' ∈ r.wraps)
    (h : e.1 = e'.1) : e.2 = e'.2 := by
  have a := hl.provides_own e he
  rw [h, hl.provides_own e' he'] at a
  exact (Option.some.inj a).symm

/-- the provider of a name is the wrap stored under its own name -/
theorem Loaded.stored {r : Resolver} (hl : Loaded r) {k : Str} {v : PkgDef} (h : alookup k r.providedDeps = some v) :
    alookup v.name r.wraps = some v := by
  obtain ⟨⟨e, he, rfl⟩, _⟩ := hl.sound k v h
  rw [(hl.own e he).2]
  have hs := alookup_isSome_of_mem_keys e.1 r.wraps (List.mem_map_of_mem he)
  cases hp : alookup e.1 r.wraps with
  | none =>
    rw [hp] at hs
    cases hs
  | some p => exact congrArg some (hl.wrap_unique (e.1, p) e (alookup_mem e.1 p _ hp) he rfl)

theorem world_findDepProvider (w : World) (r : Resolver) (hw : w.provides = providesOf r) (hdb : r.wrapdbDeps = [])
    (n : Str) : MesonModel.DepPolicy.findDepProvider w n = findDepProvider r n := by
  unfold MesonModel.DepPolicy.findDepProvider findDepProvider providesOf at *
  rw [hw, alookup_map]
  simp only [hdb]
  cases alookup (lower n) r.providedDeps <;> simp [alookup]

theorem alookup_ddel_ne {β : Type} (key k : Str) (hne : key ≠ k) :
    ∀ (l : List (Str × β)), alookup key (ddel k l) = alookup key l := by
  intro l
  induction l with
  | nil => rfl
  | cons p rest ih =>
    rcases p with ⟨k', v'⟩
    simp only [ddel]
    split
    · rename_i hk'
      simp only [alookup, if_neg (show ¬ k' = key from hk' ▸ hne.symm)]
    · simp only [alookup, ih]

theorem mergeOne_old (r r' : Resolver) (k : Str) (v : PkgDef) (h : mergeOne r k v = .ok r')
    (key : Str) (w : PkgDef) (hk : alookup key r.providedDeps = some w) (hne : key ≠ lower v.directory) :
    alookup key r'.providedDeps = some w := by
  unfold mergeOne at h
  simp only [] at h
  split at h
  · cases h
  · rename_i r1 hr1
    have h1 : alookup key r1.providedDeps = some w := by
      split at hr1
      · split at hr1
        · split at hr1
          · cases hr1
          · cases hr1
            -- the one arm that deletes: the entry of a bare directory that the merged wrap file now describes;
            -- `hne` keeps `key` off it
            exact (alookup_ddel_ne key _ hne _).trans hk
        · cases hr1
          exact hk
      · cases hr1
        exact hk
    split at h
    · cases h
      exact h1
    · split at h
      · cases h
      · rename_i t ht
        cases h
        exact addDeps_old v true _ _ _ (addWrap_deps v true _ t ht) key w h1

theorem mergeWraps_old (ws : List (Str × PkgDef)) (r r' : Resolver) (h : mergeWraps ws r = .ok r') (key : Str) (w : PkgDef)
    (hk : alookup key r.providedDeps = some w) (hne : ∀ e ∈ ws, key ≠ lower e.2.directory) :
    alookup key r'.providedDeps = some w := by
  fun_induction mergeWraps ws r
  case case1 =>
    cases h
    exact hk
  case case2 => cases h
  case case3 k v rest r r1 hr1 ih =>
    exact ih h (mergeOne_old r r1 k v hr1 key w hk (hne (k, v) (by simp))) fun e he => hne e (List.mem_cons_of_mem _ he)

end MesonModel.DepPolicy.WrapFile
