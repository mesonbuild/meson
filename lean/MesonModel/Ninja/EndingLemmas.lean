/-
Lemmas about the aggregate targets (`Ending.lean`): the attribute the backend reads equals the documented rule, the
prerequisite list of a test is exactly the set of targets it uses, and the statements `generate_ending` /
`generate_install` write satisfy the reachability clauses of C04 for every target table.
-/
import MesonModel.Ninja.Ending

namespace MesonModel.Ninja.Ending
open MesonModel.Ninja

/-- Reference manual: `build_by_default` of a build target defaults to true, and a target that is installed is built by
default; for `custom_target()` an explicit `build_by_default` decides, otherwise `install` does (then the deprecated
`build_always`), otherwise false. -/
def DocBuiltByDefault (t : Target) : Prop :=
  match t.kind with
  | .build => t.bbdKw ≠ some false ∨ t.install = true
  | .custom =>
    match t.bbdKw with
    | some b => b = true
    | none => t.install = true ∨ t.buildAlways = some true

theorem buildByDefault_iff_doc (t : Target) : t.buildByDefault = true ↔ DocBuiltByDefault t := by
  obtain ⟨kind, _, _, _, bbdKw, install, buildAlways, _⟩ := t
  rcases kind with _ | _ <;> rcases bbdKw with _ | _ | _ <;> rcases install with _ | _ <;>
    rcases buildAlways with _ | _ | _ <;> simp [Target.buildByDefault, DocBuiltByDefault]

theorem firstPath_mem_paths (t : Target) : t.firstPath ∈ t.paths := by
  simp [Target.firstPath, Target.paths, Target.outputs]

theorem maskedPaths_subset (t : Target) (p : Str) (hp : p ∈ maskedPaths t) : p ∈ t.paths := by
  simp only [maskedPaths, List.mem_map, List.mem_filter] at hp
  obtain ⟨⟨o, i⟩, ⟨hmem, _⟩, rfl⟩ := hp
  obtain ⟨_, hlt, heq⟩ := List.mem_zipIdx hmem
  simp only [Target.paths, List.mem_map]
  exact ⟨o, heq ▸ List.getElem_mem _, rfl⟩

theorem mandatoryInstall_spec (t : Target) (p : Str) (hp : p ∈ mandatoryInstall t) :
    t.buildByDefault = true ∧ p ∈ t.paths := by
  unfold mandatoryInstall at hp
  split at hp
  · cases hp
  · next hi =>
    split at hp
    · next hk =>
      rw [List.mem_singleton.1 hp, buildByDefault_iff_doc]
      simp only [DocBuiltByDefault, hk]
      exact ⟨.inr (by simpa using hi), firstPath_mem_paths t⟩
    · split at hp
      · next hb => exact ⟨hb, maskedPaths_subset t p hp⟩
      · cases hp

/-! ### what a test uses = what `get_testlike_targets` yields -/

/-- the target a program / argument reference stands for -/
inductive Denotes : Ref → Target → Prop
  | target (t) : Denotes (.target t) t
  | index (t) : Denotes (.index t) t
  | localTarget (t) : Denotes (.localTarget t) t
  | localIndex (t) : Denotes (.localIndex t) t

inductive DDenotes : DRef → Target → Prop
  | target (t) : DDenotes (.target t) t
  | index (t) : DDenotes (.index t) t

/-- the targets a test runs or depends on: its program, the targets among its arguments (directly, as an output index,
or through a `find_program` override), its `depends:` -/
def Uses (x : Test) (t : Target) : Prop :=
  Denotes x.exe t ∨ (∃ a ∈ x.args, Denotes a t) ∨ (∃ d ∈ x.depends, DDenotes d t)

theorem mem_yield_unwrap_iff (r : Ref) (t : Target) : t ∈ yieldOf (unwrap r) ↔ Denotes r t := by
  constructor
  · intro h
    cases r <;> simp only [unwrap, yieldOf, List.mem_singleton, List.not_mem_nil] at h
    all_goals
      subst h
      constructor
  · intro h
    cases h <;> exact List.mem_singleton.2 rfl

theorem mem_yieldDep_iff (d : DRef) (t : Target) : t ∈ yieldDep d ↔ DDenotes d t := by
  constructor
  · intro h
    cases d <;> simp only [yieldDep, List.mem_singleton] at h
    all_goals
      subst h
      constructor
  · intro h
    cases h <;> exact List.mem_singleton.2 rfl

theorem mem_testlikeOne_iff (x : Test) (t : Target) : t ∈ testlikeOne x ↔ Uses x t := by
  simp only [testlikeOne, List.mem_append, List.mem_flatMap, mem_yield_unwrap_iff, mem_yieldDep_iff, Uses, or_assoc]

theorem mem_testlike_iff (tests : List Test) (t : Target) : t ∈ testlike tests ↔ ∃ x ∈ tests, Uses x t := by
  simp only [testlike, List.mem_flatMap, mem_testlikeOne_iff]

/-- the statement(s) written for the target itself (`generate_target` / `generate_custom_target`): one statement has
every output of the target among its outputs -/
def Produces (es : List (Edge Str)) (t : Target) : Prop := ∃ e ∈ es, ∀ p ∈ t.paths, p ∈ e.outs

theorem need_of_phony {es : List (Edge Str)} {name : Str} {ins : List Str} (h : phonyEdge name ins ∈ es) {i : Str}
    (hi : i ∈ ins) : Need es name i :=
  ⟨_, h, by simp [phonyEdge], by simp [phonyEdge, Edge.touched, hi]⟩

theorem need_sibling {es : List (Edge Str)} {t : Target} (hp : Produces es t) {p : Str} (hpp : p ∈ t.paths) :
    Need es t.firstPath p := by
  obtain ⟨e, he, hall⟩ := hp
  exact ⟨e, he, hall _ (firstPath_mem_paths t), by simp [Edge.touched, hall _ hpp]⟩

/-- a phony aggregate that lists the first output of `t` makes every output of `t` reachable -/
theorem aggregate_reaches {es : List (Edge Str)} {name : Str} {ts : List Target} (h : phonyEdge name (ts.map (·.firstPath)) ∈ es)
    {t : Target} (ht : t ∈ ts) (hp : Produces es t) {p : Str} (hpp : p ∈ t.paths) : Star (Need es) name p :=
  .tail (.tail .refl (need_of_phony h (List.mem_map.2 ⟨t, ht, rfl⟩))) (need_sibling hp hpp)

theorem aggregate_reqs {es : List (Edge Str)} {name : Str} {ts : List Target} (h : phonyEdge name (ts.map (·.firstPath)) ∈ es)
    (hp : ∀ t ∈ ts, Produces es t) (rt : Str × Str) (hrt : rt ∈ ts.flatMap (fun t => t.paths.map (fun p => (name, p)))) :
    Star (Need es) rt.1 rt.2 := by
  obtain ⟨t, ht, hrt⟩ := List.mem_flatMap.1 hrt
  obtain ⟨p, hpp, rfl⟩ := List.mem_map.1 hrt
  exact aggregate_reaches h ht (hp t ht) hpp

theorem install_reaches_all {es : List (Edge Str)} (h : ∀ e ∈ installEdges, e ∈ es) : Star (Need es) installName allName := by
  have h1 : Need es installName installInternalName :=
    need_of_phony (ins := [installInternalName]) (h _ (List.mem_cons_self ..)) (List.mem_singleton.2 rfl)
  have h2 : Need es installInternalName allName :=
    ⟨_, h _ (List.mem_cons_of_mem _ (List.mem_singleton.2 rfl)), List.mem_singleton.2 rfl, by simp [Edge.touched]⟩
  exact .tail (.tail .refl h1) h2

theorem allEdge_mem (tbl : List Target) (tests benches : List Test) :
    phonyEdge allName ((buildByDefaultTargets tbl).map (·.firstPath)) ∈ endingEdges tbl tests benches :=
  List.mem_cons_self ..

theorem testEdge_mem (tbl : List Target) (tests benches : List Test) :
    phonyEdge testPrereqName ((testlike tests).map (·.firstPath)) ∈ endingEdges tbl tests benches :=
  List.mem_cons_of_mem _ (List.mem_cons_self ..)

theorem benchEdge_mem (tbl : List Target) (tests benches : List Test) :
    phonyEdge benchPrereqName ((testlike benches).map (·.firstPath)) ∈ endingEdges tbl tests benches :=
  List.mem_cons_of_mem _ (List.mem_cons_of_mem _ (List.mem_cons_self ..))

end MesonModel.Ninja.Ending
