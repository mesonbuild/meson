/-
The build-line quoting of the backend (`ninja_quote`, model `Emit.ninjaQuoteBuild` / `Emit.quoteChars`) against the manifest lexer
(`Manifest.readEval`): what is written for a name is read back as exactly that name — unless the name holds a `|`
(`readEval_quote`); and the manifest parser on the build statements as `Emit.printBuilds` lays them out: each line is read
back group by group (`parseEdge_print`), the whole text with the fuel `parse` computes from its length (`parse_printBuilds`).
-/
import MesonModel.Ninja.Manifest
import MesonModel.Ninja.Emit
namespace MesonModel.Ninja
open MesonModel.Ninja.Emit

def PlainChar (c : Char) : Prop := c ≠ '\n' ∧ c ≠ '\r' ∧ c ≠ '|'

def isTerm (c : Char) : Prop := c = ' ' ∨ c = ':' ∨ c = '|' ∨ c = '\n'

theorem forall_plainChar_iff (s : Str) : (∀ c ∈ s, PlainChar c) ↔ '\n' ∉ s ∧ '\r' ∉ s ∧ '|' ∉ s :=
  ⟨fun h => ⟨fun hc => (h _ hc).1 rfl, fun hc => (h _ hc).2.1 rfl, fun hc => (h _ hc).2.2 rfl⟩,
   fun ⟨h1, h2, h3⟩ _ hc => ⟨fun e => h1 (e ▸ hc), fun e => h2 (e ▸ hc), fun e => h3 (e ▸ hc)⟩⟩

/-! ### the lexer on one character

`quoteChars` splits the characters in two classes, `c = '$' ∨ c = ' ' ∨ c = ':'` (written `$c`) and the others (written
as they are); the equations below say what `readEval` and `eatWs` do on either class, and are all the later proofs know
about the two functions. -/

theorem readEval_term (fuel : Nat) (c0 : Char) (h0 : isTerm c0) (tail : Str) (acc : EvalStr) :
    readEval true (fuel + 1) false (c0 :: tail) acc = .ok (acc.reverse, c0 :: tail) := by
  rcases h0 with h | h | h | h <;> subst h <;> rfl

theorem readEval_esc (path : Bool) (fuel : Nat) (skip : Bool) {c : Char} (hq : c = '$' ∨ c = ' ' ∨ c = ':') (r : Str)
    (acc : EvalStr) : readEval path (fuel + 1) skip ('$' :: c :: r) acc = readEval path fuel false r (.lit c :: acc) := by
  rcases hq with h | h | h <;> subst h <;> rfl

theorem readEval_lit (path : Bool) (fuel : Nat) (skip : Bool) {c : Char} (hc : PlainChar c)
    (hq : ¬ (c = '$' ∨ c = ' ' ∨ c = ':')) (r : Str) (acc : EvalStr) :
    readEval path (fuel + 1) skip (c :: r) acc = readEval path fuel false r (.lit c :: acc) := by
  obtain ⟨h1, h2, h3⟩ := hc
  obtain ⟨h4, h56⟩ := not_or.1 hq
  obtain ⟨h5, h6⟩ := not_or.1 h56
  -- the equation of the last alternative; its side conditions say that `c` is none of the characters matched before
  rw [readEval]
  all_goals
    intros
    contradiction

theorem eatWs_esc {c : Char} (hq : c = '$' ∨ c = ' ' ∨ c = ':') (r : Str) : eatWs ('$' :: c :: r) = '$' :: c :: r := by
  rcases hq with h | h | h <;> subst h <;> rfl

theorem eatWs_cons {c : Char} (h1 : c ≠ ' ') (h2 : c ≠ '$') (r : Str) : eatWs (c :: r) = c :: r := by
  unfold eatWs
  split <;> simp_all

theorem readEval_quote (s : Str) (hs : ∀ c ∈ s, PlainChar c) (c0 : Char) (h0 : isTerm c0) (tail : Str) (acc : EvalStr)
    (fuel : Nat) (hf : s.length + 1 ≤ fuel) :
    readEval true fuel false (quoteChars s ++ c0 :: tail) acc = .ok (acc.reverse ++ s.map Piece.lit, c0 :: tail) := by
  induction s generalizing acc fuel with
  | nil =>
    cases fuel with
    | zero => omega
    | succ f => simpa [quoteChars] using readEval_term f c0 h0 tail acc
  | cons c r ih =>
    cases fuel with
    | zero => omega
    | succ f =>
      have ih := ih (fun d hd => hs d (List.mem_cons_of_mem _ hd)) (.lit c :: acc) f (by simpa using hf)
      rw [quoteChars]
      split
      · next hq =>
        rw [List.cons_append, List.cons_append, readEval_esc _ _ _ hq, ih]
        simp
      · next hq =>
        rw [List.cons_append, readEval_lit _ _ _ (hs c (List.mem_cons_self ..)) hq, ih]
        simp

theorem evalStr_lits (env : List (Str × Str)) (s : Str) : evalStr env (s.map Piece.lit) = s := by
  induction s with
  | nil => rfl
  | cons c r ih => simp [evalStr, ih]

/-- a name the emission can put on a build line and Ninja can read back -/
def GoodName (p : Str) : Prop := p ≠ [] ∧ ∀ c ∈ p, PlainChar c

def lits (ps : List Str) : List EvalStr := ps.map (fun p => p.map Piece.lit)

def isSep (c : Char) : Prop := c = ':' ∨ c = '|' ∨ c = '\n'

/-- What follows a list of names on a build line: `u` is some blanks and then `v`, which starts with a separator. -/
inductive SepAfter : Str → Str → Prop
  | here {c : Char} {t : Str} : isSep c → SepAfter (c :: t) (c :: t)
  | blank {u v : Str} : SepAfter u v → SepAfter (' ' :: u) v

theorem eatWs_sep {u v : Str} (h : SepAfter u v) : eatWs u = v := by
  induction h with
  | here hc => rcases hc with h | h | h <;> subst h <;> rfl
  | blank _ ih => rwa [eatWs]

theorem eatWs_quote {p : Str} (hp : p ≠ []) (t : Str) : eatWs (quoteChars p ++ t) = quoteChars p ++ t := by
  cases p with
  | nil => exact absurd rfl hp
  | cons c r =>
    rw [quoteChars]
    split
    · next hq => exact eatWs_esc hq _
    · next hq => exact eatWs_cons (fun h => hq (.inr (.inl h))) (fun h => hq (.inl h)) _

theorem readPath_quote (n : Nat) (p : Str) (hp : GoodName p) (c0 : Char) (h0 : isTerm c0) (t : Str)
    (hn : p.length + 1 ≤ n) :
    readPath n (quoteChars p ++ c0 :: t) = .ok (p.map Piece.lit, eatWs (c0 :: t)) := by
  unfold readPath
  rw [readEval_quote p hp.2 c0 h0 t [] n hn]
  simp

theorem sep_head {u v : Str} (h : SepAfter u v) : ∃ c0 t0, isTerm c0 ∧ u = c0 :: t0 := by
  cases h with
  | here hc => exact ⟨_, _, .inr hc, rfl⟩
  | blank _ => exact ⟨' ', _, .inl rfl, rfl⟩

theorem readPath_sep (n : Nat) {u v : Str} (h : SepAfter u v) : readPath (n + 1) v = .ok ([], v) := by
  induction h with
  | here hc => simp [readPath, readEval_term n _ (.inr hc), eatWs_sep (.here hc)]
  | blank _ ih => exact ih

theorem joinQ_cons_sep (p : Str) (hp : p ≠ []) (ps : List Str) {u v : Str} (h : SepAfter u v) :
    ∃ c0 t0, isTerm c0 ∧ eatWs (joinQ (p :: ps) ++ u) = quoteChars p ++ c0 :: t0 ∧
      eatWs (c0 :: t0) = eatWs (joinQ ps ++ u) := by
  cases ps with
  | nil =>
    obtain ⟨c0, t0, hc0, rfl⟩ := sep_head h
    exact ⟨c0, t0, hc0, by simpa [joinQ] using eatWs_quote hp _, rfl⟩
  | cons q r => exact ⟨' ', joinQ (q :: r) ++ u, .inl rfl, by simpa [joinQ] using eatWs_quote hp _, by rw [eatWs]⟩

theorem readPaths_nil {n fuel : Nat} {s r : Str} (h : readPath n s = .ok ([], r)) (acc : List EvalStr) :
    readPaths n (fuel + 1) s acc = .ok (acc.reverse, r) := by
  simp [readPaths, h]

theorem readPaths_cons {n fuel : Nat} {s r : Str} {p : EvalStr} (h : readPath n s = .ok (p, r)) (hp : p ≠ [])
    (acc : List EvalStr) : readPaths n (fuel + 1) s acc = readPaths n fuel r (p :: acc) := by
  cases p with
  | nil => exact absurd rfl hp
  | cons _ _ => simp [readPaths, h]

/-- The reader of a name list stands where `eatWs` has left it (behind `build`, a rule name or a `|`, each followed by a
blank; behind the name before). -/
theorem readPaths_join (n : Nat) (ps : List Str) (hg : ∀ p ∈ ps, GoodName p) (hl : ∀ p ∈ ps, p.length + 1 ≤ n)
    (hn : 1 ≤ n) {u v : Str} (h : SepAfter u v) (acc : List EvalStr) (fuel : Nat) (hf : ps.length + 1 ≤ fuel) :
    readPaths n fuel (eatWs (joinQ ps ++ u)) acc = .ok (acc.reverse ++ lits ps, v) := by
  induction ps generalizing acc fuel with
  | nil =>
    cases fuel with
    | zero => omega
    | succ f =>
      obtain ⟨m, rfl⟩ : ∃ m, n = m + 1 := ⟨n - 1, by omega⟩
      rw [show joinQ [] ++ u = u from rfl, eatWs_sep h, readPaths_nil (readPath_sep m h)]
      simp [lits]
  | cons p ps ih =>
    cases fuel with
    | zero => omega
    | succ f =>
      have hp := hg p (List.mem_cons_self ..)
      obtain ⟨c0, t0, hc0, heq, hws⟩ := joinQ_cons_sep p hp.1 ps h
      rw [heq, readPaths_cons (readPath_quote n p hp c0 hc0 t0 (hl p (List.mem_cons_self ..))) (mt List.map_eq_nil_iff.1 hp.1), hws,
        ih (fun q hq => hg q (List.mem_cons_of_mem _ hq)) (fun q hq => hl q (List.mem_cons_of_mem _ hq)) _ f
          (by simpa using hf)]
      simp [lits]

def IdentName (r : Str) : Prop := r ≠ [] ∧ ∀ c ∈ r, isIdentChar c = true

theorem spanP_append {p : Char → Bool} (r : Str) (hr : ∀ c ∈ r, p c = true) {c : Char} (hc : p c = false) (t : Str) :
    spanP p (r ++ c :: t) = (r, c :: t) := by
  induction r with
  | nil => simp [spanP, hc]
  | cons d r ih => simp [spanP, hr d (List.mem_cons_self ..), ih (fun e he => hr e (List.mem_cons_of_mem _ he))]

theorem tok_colon (n : Nat) (t : Str) : tok (n + 1) (':' :: t) = (.colon, eatWs t) :=
  rfl

theorem tok_newline (n : Nat) (t : Str) : tok (n + 1) ('\n' :: t) = (.newline, t) :=
  rfl

theorem tok_pipe_blank (n : Nat) (t : Str) : tok (n + 1) ('|' :: ' ' :: t) = (.pipe, eatWs (' ' :: t)) :=
  rfl

theorem tok_pipe2 (n : Nat) (t : Str) : tok (n + 1) ('|' :: '|' :: t) = (.pipe2, eatWs t) :=
  rfl

theorem ident_not_special (c : Char) (hc : isIdentChar c = true) :
    c ≠ '\n' ∧ c ≠ '\r' ∧ c ≠ ' ' ∧ c ≠ '#' ∧ c ≠ '=' ∧ c ≠ ':' ∧ c ≠ '|' ∧ c ≠ '$' := by
  refine ⟨?_, ?_, ?_, ?_, ?_, ?_, ?_, ?_⟩ <;>
    (intro h
     subst h
     exact absurd hc (by decide))

theorem tok_ident (n : Nat) (r : Str) (hr : IdentName r) (t : Str) :
    tok (n + 1) (r ++ ' ' :: t) = (.ident r, eatWs (' ' :: t)) := by
  obtain ⟨hne, hall⟩ := hr
  cases r with
  | nil => exact absurd rfl hne
  | cons c r' =>
    have hc := hall c (List.mem_cons_self ..)
    obtain ⟨h1, h2, h3, h4, h5, h6, h7, _⟩ := ident_not_special c hc
    rw [tok, List.cons_append, readToken]
    · rw [if_pos hc, ← List.cons_append, spanP_append (c :: r') hall (by decide)]
    all_goals
      intros
      contradiction

theorem eatWs_ident (r : Str) (hr : IdentName r) (u : Str) : eatWs (' ' :: (r ++ u)) = r ++ u := by
  obtain ⟨hne, hall⟩ := hr
  cases r with
  | nil => exact absurd rfl hne
  | cons c r' =>
    obtain ⟨_, _, h3, _, _, _, _, h8⟩ := ident_not_special c (hall c (List.mem_cons_self ..))
    rw [eatWs]
    exact eatWs_cons h3 h8 _

structure Fits (n : Nat) (ps : List Str) : Prop where
  good : ∀ p ∈ ps, GoodName p
  len : ∀ p ∈ ps, p.length + 1 ≤ n
  cnt : ps.length + 1 ≤ n

theorem fits_nil (n : Nat) (h : 1 ≤ n) : Fits n [] := ⟨by simp, by simp, by simpa using h⟩

theorem readPaths_fits (n : Nat) (ps : List Str) (hf : Fits n ps) {u v : Str} (h : SepAfter u v) :
    readPaths n n (eatWs (' ' :: (joinQ ps ++ u))) [] = .ok (lits ps, v) := by
  have hcnt := hf.cnt
  rw [eatWs]
  simpa using readPaths_join n ps hf.good hf.len (by omega) h [] n hcnt

theorem optGroup_present {n : Nat} {g : Tok} {s r : Str} (h : tok n s = (g, r)) :
    optGroup n g s = readPaths n n r [] := by
  simp [optGroup, h]

theorem optGroup_absent (n : Nat) (g : Tok) (s : Str) (h : (tok n s).1 ≠ g) : optGroup n g s = .ok ([], s) := by
  unfold optGroup
  cases htk : tok n s with
  | mk t' r =>
    simp only [htk] at h ⊢
    simp [h]

/-- An optional group ` | names` or ` || names` (`mid` = what follows the first `|` of the separator, `g` its token) in
front of a text `u` that ends a name list: the whole ends the name list before it, `optGroup` reads the names back
from where the reader of that list stops, and the first token there is `g` exactly when the group is present. -/
theorem optGroup_group (n : Nat) (g : Tok) (mid : Str) (hm : ∀ u, tok n ('|' :: (mid ++ ' ' :: u)) = (g, eatWs (' ' :: u)))
    (ps : List Str) (hf : Fits n ps) {u v : Str} (h : SepAfter u v) (hg : (tok n v).1 ≠ g) :
    ∃ v', SepAfter (group (' ' :: '|' :: (mid ++ [' '])) ps ++ u) v' ∧ optGroup n g v' = .ok (lits ps, v) ∧
      (tok n v').1 = if ps = [] then (tok n v).1 else g := by
  by_cases hne : ps = []
  · subst hne
    exact ⟨v, h, optGroup_absent n g _ hg, by simp⟩
  · refine ⟨'|' :: (mid ++ ' ' :: (joinQ ps ++ u)), ?_, ?_, ?_⟩
    · have : group (' ' :: '|' :: (mid ++ [' '])) ps ++ u = ' ' :: '|' :: (mid ++ ' ' :: (joinQ ps ++ u)) := by
        simp [group, hne]
      rw [this]
      exact .blank (.here (.inr (.inl rfl)))
    · rw [optGroup_present (hm _)]
      exact readPaths_fits n ps hf h
    · rw [hm, if_neg hne]

theorem parseBinds_none (n : Nat) (rest : Str) (h : (tok (n + 1) rest).1 ≠ .indent) :
    parseBinds (n + 1) (n + 1) rest [] = .ok ([], rest) := by
  unfold parseBinds
  cases htk : tok (n + 1) rest with
  | mk t r =>
    simp only [htk] at h
    cases t <;> simp_all

def synOf (b : OutBuild) : BuildSyn :=
  { outs := lits b.outs, implOuts := lits b.implOuts, rule := b.rule, ins := lits b.ins, implIns := lits b.deps,
    orderIns := lits b.orderdeps, vals := [], binds := [] }

structure GoodLine (n : Nat) (b : OutBuild) : Prop where
  outs : Fits n b.outs
  outsNe : b.outs ≠ []
  implOuts : Fits n b.implOuts
  rule : IdentName b.rule
  ins : Fits n b.ins
  deps : Fits n b.deps
  orderdeps : Fits n b.orderdeps

theorem parseEdge_print (n : Nat) (b : OutBuild) (hb : GoodLine n b) (rest : Str) (hrest : (tok n rest).1 ≠ .indent) :
    parseEdge n (eatWs (' ' :: printEdgeThen b rest)) = .ok (synOf b, rest) := by
  have hcnt := hb.outs.cnt
  obtain ⟨m, rfl⟩ : ∃ m, n = m + 1 := ⟨n - 1, by omega⟩
  -- the line is taken apart from its end: each optional group hands the reader before it a text that ends a name list
  obtain ⟨v3, h3, hod, htk⟩ := optGroup_group (m + 1) .pipe2 ['|'] (fun _ => tok_pipe2 m _) b.orderdeps hb.orderdeps
    (.here (t := rest) (.inr (.inr rfl))) (by simp [tok_newline])
  obtain ⟨v2, h2, hdeps, _⟩ := optGroup_group (m + 1) .pipe [] (tok_pipe_blank m) b.deps hb.deps h3
    (by rw [htk]; split <;> simp [tok_newline])
  let X := joinQ b.ins ++ (group sepPipe b.deps ++ (group sepPipe2 b.orderdeps ++ '\n' :: rest))
  obtain ⟨v1, h1, hio, _⟩ := optGroup_group (m + 1) .pipe [] (tok_pipe_blank m) b.implOuts hb.implOuts
    (.here (t := ' ' :: (b.rule ++ ' ' :: X)) (.inl rfl)) (by simp [tok_colon])
  -- `s1` … `s10`: the steps of `parseEdge` in its order; steps 2, 6, 7 (the optional groups) are `hio`, `hdeps`, `hod`
  have s1 : readPaths (m + 1) (m + 1) (eatWs (' ' :: printEdgeThen b rest)) [] = .ok (lits b.outs, v1) :=
    readPaths_fits (m + 1) b.outs hb.outs h1
  have s3 : tok (m + 1) (':' :: ' ' :: (b.rule ++ ' ' :: X)) = (.colon, b.rule ++ ' ' :: X) := by
    rw [tok_colon, eatWs_ident b.rule hb.rule]
  have s4 : tok (m + 1) (b.rule ++ ' ' :: X) = (.ident b.rule, eatWs (' ' :: X)) := tok_ident m b.rule hb.rule X
  have s5 : readPaths (m + 1) (m + 1) (eatWs (' ' :: X)) [] = .ok (lits b.ins, v2) :=
    readPaths_fits (m + 1) b.ins hb.ins h2
  have s8 : optGroup (m + 1) .pipeAt ('\n' :: rest) = .ok ([], '\n' :: rest) :=
    optGroup_absent (m + 1) .pipeAt _ (by simp [tok_newline])
  have s9 : expectNewline (m + 1) ('\n' :: rest) = .ok rest := by simp [expectNewline, tok_newline]
  have s10 := parseBinds_none m rest hrest
  have hemp : (lits b.outs).isEmpty = false := by simpa [lits] using hb.outsNe
  simp [parseEdge, bind, Except.bind, pure, Except.pure, s1, hio, hemp, s3, s4, s5, hdeps, hod, s8, s9, s10, synOf]

theorem kw_build_ident : IdentName (kw "build") := by
  refine ⟨by decide, ?_⟩
  decide

theorem parseTop_eof {n fuel : Nat} {s r : Str} (h : tok n s = (.eof, r)) (acc : List Stmt) :
    parseTop n (fuel + 1) s acc = .ok acc.reverse := by
  simp [parseTop, h]

theorem parseTop_newline {n fuel : Nat} {s r : Str} (h : tok n s = (.newline, r)) (acc : List Stmt) :
    parseTop n (fuel + 1) s acc = parseTop n fuel r acc := by
  simp [parseTop, h]

theorem parseTop_build {n fuel : Nat} {s r r' : Str} {b : BuildSyn} (h : tok n s = (.ident (kw "build"), r))
    (hb : parseEdge n r = .ok (b, r')) (acc : List Stmt) :
    parseTop n (fuel + 1) s acc = parseTop n fuel r' (.build b :: acc) := by
  simp [parseTop, h, hb]

/-! ### sizes: the fuel the reader computes from the text is always enough -/

theorem length_quoteChars_ge : ∀ (p : Str), p.length ≤ (quoteChars p).length
  | [] => by simp [quoteChars]
  | c :: r => by
    have := length_quoteChars_ge r
    simp only [quoteChars]
    split <;> simp <;> omega

theorem length_joinQ_cons (p : Str) (ps : List Str) :
    (quoteChars p).length + (joinQ ps).length ≤ (joinQ (p :: ps)).length := by
  cases ps <;> simp [joinQ]

theorem joinQ_sizes (ps : List Str) (hg : ∀ p ∈ ps, GoodName p) :
    (∀ p ∈ ps, p.length ≤ (joinQ ps).length) ∧ ps.length ≤ (joinQ ps).length := by
  induction ps with
  | nil => simp [joinQ]
  | cons p ps ih =>
    obtain ⟨ih1, ih2⟩ := ih (fun q hq => hg q (List.mem_cons_of_mem _ hq))
    have h1 := length_quoteChars_ge p
    have h2 := length_joinQ_cons p ps
    have h3 : 0 < p.length := List.length_pos_iff.2 (hg p (List.mem_cons_self ..)).1
    refine ⟨fun x hx => ?_, by simp only [List.length_cons]; omega⟩
    rcases List.mem_cons.1 hx with rfl | hx
    · omega
    · have := ih1 x hx
      omega

theorem fits_of_size (n : Nat) (ps : List Str) (hg : ∀ p ∈ ps, GoodName p) (h : (joinQ ps).length + 1 ≤ n) : Fits n ps := by
  obtain ⟨h1, h2⟩ := joinQ_sizes ps hg
  refine ⟨hg, fun p hp => ?_, by omega⟩
  have := h1 p hp
  omega

theorem joinQ_le_group (sep : Str) (ps : List Str) : (joinQ ps).length ≤ (group sep ps).length := by
  unfold group
  split
  · next h =>
    subst h
    simp [joinQ]
  · simp

/-- size-free description of a line the round trip covers -/
structure GoodLine0 (b : OutBuild) : Prop where
  outs : ∀ p ∈ b.outs, GoodName p
  outsNe : b.outs ≠ []
  implOuts : ∀ p ∈ b.implOuts, GoodName p
  rule : IdentName b.rule
  ins : ∀ p ∈ b.ins, GoodName p
  deps : ∀ p ∈ b.deps, GoodName p
  orderdeps : ∀ p ∈ b.orderdeps, GoodName p

theorem goodLine_of_size (n : Nat) (b : OutBuild) (hb : GoodLine0 b) (rest : Str)
    (h : (printEdgeThen b rest).length ≤ n) : GoodLine n b := by
  have h1 := joinQ_le_group sepPipe b.implOuts
  have h2 := joinQ_le_group sepPipe b.deps
  have h3 := joinQ_le_group sepPipe2 b.orderdeps
  simp only [printEdgeThen, List.length_append, List.length_cons] at h
  -- every list of names of the line is shorter than the line
  have hs : ∀ ps ∈ [b.outs, b.implOuts, b.ins, b.deps, b.orderdeps], (joinQ ps).length + 1 ≤ n := by
    simp only [List.mem_cons, List.not_mem_nil, or_false, forall_eq_or_imp, forall_eq]
    omega
  have fits (ps : List Str) (hps : ps ∈ [b.outs, b.implOuts, b.ins, b.deps, b.orderdeps]) (hg : ∀ p ∈ ps, GoodName p) :=
    fits_of_size n ps hg (hs ps hps)
  exact ⟨fits _ (by simp) hb.outs, hb.outsNe, fits _ (by simp) hb.implOuts, hb.rule, fits _ (by simp) hb.ins,
    fits _ (by simp) hb.deps, fits _ (by simp) hb.orderdeps⟩

theorem parseTop_printBuilds (n : Nat) (bs : List OutBuild) (hg : ∀ b ∈ bs, GoodLine0 b)
    (hn : (printBuilds bs).length < n) (acc : List Stmt) (fuel : Nat) (hf : (printBuilds bs).length < fuel) :
    parseTop n fuel (printBuilds bs) acc = .ok (acc.reverse ++ bs.map (fun b => Stmt.build (synOf b))) := by
  obtain ⟨m, rfl⟩ : ∃ m, n = m + 1 := ⟨n - 1, by omega⟩
  induction bs generalizing acc fuel with
  | nil =>
    obtain ⟨f, rfl⟩ : ∃ f, fuel = f + 1 := ⟨fuel - 1, by omega⟩
    rw [printBuilds, parseTop_eof (r := []) rfl]
    simp
  | cons b r ih =>
    -- the line is shorter than the text, and so is the text after it; a statement takes two rounds and more than two characters
    have hlen : (printBuilds (b :: r)).length = (printEdgeThen b ('\n' :: printBuilds r)).length + 6 := by
      simp [printBuilds]
    have hr : (printBuilds r).length + 4 ≤ (printEdgeThen b ('\n' :: printBuilds r)).length := by
      simp only [printEdgeThen, List.length_append, List.length_cons]
      omega
    obtain ⟨f, rfl⟩ : ∃ f, fuel = f + 2 := ⟨fuel - 2, by omega⟩
    have hb := goodLine_of_size (m + 1) b (hg b (List.mem_cons_self ..)) ('\n' :: printBuilds r) (by omega)
    -- one round for the statement, one for the empty line after it
    rw [printBuilds, show "build".toList = kw "build" from rfl,
      parseTop_build (tok_ident m (kw "build") kw_build_ident _) (parseEdge_print (m + 1) b hb _ (by simp [tok_newline])),
      parseTop_newline (tok_newline m _),
      ih (fun x hx => hg x (List.mem_cons_of_mem _ hx)) _ f (by omega) (by omega)]
    simp

theorem parse_printBuilds (bs : List OutBuild) (hg : ∀ b ∈ bs, GoodLine0 b) :
    parse (printBuilds bs) = .ok (bs.map (fun b => Stmt.build (synOf b))) := by
  simpa [parse] using parseTop_printBuilds _ bs hg (Nat.lt_succ_self _) [] _ (Nat.lt_succ_self _)

end MesonModel.Ninja
