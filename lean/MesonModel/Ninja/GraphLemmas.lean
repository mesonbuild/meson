/-
Soundness and completeness of the graph checker (`Graph.lean`) against the declarative `WellFormed`: one `_iff` per
clause, put together in `wellFormed_iff` and `wellFormedInst_iff`.
-/
import MesonModel.Ninja.Graph

namespace MesonModel.Ninja

set_option linter.unusedSectionVars false

variable {α : Type} [DecidableEq α]

theorem Plus.trans {β : Type} {R : β → β → Prop} {a b c : β} (p : Plus R a b) (q : Plus R b c) : Plus R a c := by
  induction q with
  | single h => exact .tail p h
  | tail _ h ih => exact .tail ih h

theorem Plus.head {β : Type} {R : β → β → Prop} {a b c : β} (h : R a b) (p : Plus R b c) : Plus R a c :=
  Plus.trans (.single h) p

theorem Star.trans {β : Type} {R : β → β → Prop} {a b c : β} (p : Star R a b) (q : Star R b c) : Star R a c := by
  induction q with
  | refl => exact p
  | tail _ h ih => exact .tail ih h

theorem Plus.mono {β : Type} {R S : β → β → Prop} (hRS : ∀ a b, R a b → S a b) {a b : β} (p : Plus R a b) :
    Plus S a b := by
  induction p with
  | single h => exact .single (hRS _ _ h)
  | tail _ h ih => exact .tail ih (hRS _ _ h)

theorem Plus.cycle_pred {β : Type} {R : β → β → Prop} {v : β} (p : Plus R v v) : ∃ u, Plus R u u ∧ R u v := by
  cases p with
  | single h => exact ⟨v, .single h, h⟩
  | tail q h => exact ⟨_, Plus.head h q, h⟩

theorem rulesDefined_iff (g : Graph α) :
    rulesDefined g = true ↔ ∀ e ∈ g.edges, e.rule = phony ∨ e.rule ∈ g.rules := by
  simp [rulesDefined, ruleOk]

theorem nodupB_iff (l : List α) : nodupB l = true ↔ l.Nodup := by
  induction l with
  | nil => simp [nodupB]
  | cons x xs ih => simp [nodupB, ih]

theorem outputsDisjoint_iff (es : List (Edge α)) :
    outputsDisjoint es = true ↔
      (∀ e ∈ es, e.outs.Nodup) ∧ es.Pairwise (fun e e' => ∀ p, p ∈ e.outs → p ∈ e'.outs → False) := by
  unfold outputsDisjoint allOuts
  rw [nodupB_iff, List.Nodup, List.pairwise_flatMap]
  refine and_congr Iff.rfl (List.Pairwise.iff fun a b => ?_)
  exact ⟨fun h p ha hb => h p ha p hb rfl, fun h x hx y hy hxy => h x hx (hxy ▸ hy)⟩

theorem producedBy_iff (es : List (Edge α)) (p : α) : producedBy es p = true ↔ ∃ e ∈ es, p ∈ e.outs := by
  simp [producedBy]

theorem producedBy_false_iff (es : List (Edge α)) (p : α) : producedBy es p = false ↔ ∀ e ∈ es, p ∉ e.outs := by
  rw [← Bool.not_eq_true, producedBy_iff]
  simp

theorem closedB_iff (fs : List α) (es : List (Edge α)) :
    closedB fs es = true ↔ ∀ e ∈ es, ∀ i, i ∈ e.ins ++ e.vals → i ∈ fs ∨ ∃ e' ∈ es, i ∈ e'.outs := by
  simp only [closedB, List.all_eq_true, inputOk, Bool.or_eq_true, decide_eq_true_eq, producedBy_iff]

theorem Dep.mono {es es' : List (Edge α)} (h : ∀ e ∈ es, e ∈ es') {u v : α} (d : Dep es u v) : Dep es' u v := by
  obtain ⟨e, he, hu, hv⟩ := d
  exact ⟨e, h e he, hu, hv⟩

theorem Acyclic.mono {es es' : List (Edge α)} (h : ∀ e ∈ es, e ∈ es') (a : Acyclic es') : Acyclic es :=
  fun v p => a v (p.mono (fun _ _ d => Dep.mono h d))

theorem ready_false_iff (rest : List (Edge α)) (e : Edge α) :
    ready rest e = false ↔ ∃ i ∈ e.ins, ∃ e' ∈ rest, i ∈ e'.outs := by
  rw [← Bool.not_eq_true]
  simp [ready, producedBy]

theorem not_dep_of_isEmpty {rest : List (Edge α)} (h : rest.isEmpty = true) (u v : α) : ¬ Dep rest u v := by
  rintro ⟨e, he, _⟩
  rw [List.isEmpty_iff.1 h] at he
  cases he

/-- soundness, in the form: a set in which every member has a direct prerequisite in the set is empty -/
theorem kahn_sound (n : Nat) (rest : List (Edge α)) (hk : kahn n rest = true) (C : α → Prop)
    (hC : ∀ v, C v → ∃ u, C u ∧ Dep rest u v) (v : α) (hv : C v) : False := by
  fun_induction kahn n rest with
  | case2 _ rest _ _ ih =>
    refine ih hk fun w hw => ?_
    obtain ⟨u, hu, e, he, hue, hwe⟩ := hC w hw
    -- `e` is not ready: its input `u` is still to be produced, because `u ∈ C`
    obtain ⟨_, _, e', he', _, hue'⟩ := hC u hu
    have hnr : ready rest e = false := (ready_false_iff rest e).2 ⟨u, hue, e', he', hue'⟩
    exact ⟨u, hu, e, List.mem_filter.2 ⟨he, by simp [hnr]⟩, hue, hwe⟩
  | _ =>
    obtain ⟨u, _, hd⟩ := hC v hv
    exact not_dep_of_isEmpty hk u v hd

theorem acyclic_of_acyclicB (es : List (Edge α)) (h : acyclicB es = true) : Acyclic es :=
  fun v p => kahn_sound es.length es h (fun v => Plus (Dep es) v v) (fun _ => Plus.cycle_pred) v p

/-- In a non-empty finite set in which everything has a predecessor, some element precedes itself: an element that
does not can be left out, since its own predecessor precedes whatever it precedes. -/
theorem cycle_of_pred {β : Type} (P : β → β → Prop) :
    ∀ L : List β, L ≠ [] → (∀ e ∈ L, ∃ e' ∈ L, Plus P e' e) → ∃ e ∈ L, Plus P e e
  | [], hne, _ => absurd rfl hne
  | x :: L, _, h => by
    obtain ⟨p, hp, hpx⟩ := h x (List.mem_cons_self ..)
    rcases List.mem_cons.1 hp with rfl | hpL
    · exact ⟨p, List.mem_cons_self .., hpx⟩
    · obtain ⟨e, he, hc⟩ := cycle_of_pred P L (List.ne_nil_of_mem hpL) fun e he => by
        obtain ⟨e', he', hee⟩ := h e (List.mem_cons_of_mem _ he)
        rcases List.mem_cons.1 he' with rfl | he'L
        · exact ⟨p, hpL, hpx.trans hee⟩
        · exact ⟨e', he'L, hee⟩
      exact ⟨e, List.mem_cons_of_mem _ he, hc⟩

theorem stuck_cycle (rest : List (Edge α)) (hne : rest ≠ []) (hst : ∀ e ∈ rest, ready rest e = false) :
    ∃ v, Plus (Dep rest) v v := by
  -- a statement that is not ready has an input that is an output again: every output has a direct prerequisite among
  -- the outputs
  have step : ∀ e ∈ rest, ∃ i ∈ allOuts rest, ∀ v ∈ e.outs, Dep rest i v := fun e he => by
    obtain ⟨i, hi, e', he', hie'⟩ := (ready_false_iff rest e).1 (hst e he)
    exact ⟨i, List.mem_flatMap.2 ⟨e', he', hie'⟩, fun v hv => ⟨e, he, hi, hv⟩⟩
  obtain ⟨e, he⟩ := List.exists_mem_of_ne_nil _ hne
  obtain ⟨i, hi, _⟩ := step e he
  obtain ⟨v, _, hv⟩ := cycle_of_pred (Dep rest) (allOuts rest) (List.ne_nil_of_mem hi) fun v hv => by
    obtain ⟨e, he, hve⟩ := List.mem_flatMap.1 hv
    obtain ⟨i, hi, hd⟩ := step e he
    exact ⟨i, hi, .single (hd v hve)⟩
  exact ⟨v, hv⟩

theorem kahn_complete (n : Nat) (rest : List (Edge α)) (hac : Acyclic rest) (hl : rest.length ≤ n) :
    kahn n rest = true := by
  fun_induction kahn n rest with
  | case1 rest => exact List.isEmpty_iff.2 (List.eq_nil_of_length_eq_zero (Nat.le_zero.1 hl))
  | case2 _ rest _ hlt ih => exact ih (hac.mono fun e he => (List.mem_filter.1 he).1) (by omega)
  | case3 _ rest _ hge =>
    -- nothing was removed: every remaining statement waits for another one
    have hall := List.length_filter_eq_length_iff.1
      (Nat.le_antisymm (List.length_filter_le ..) (Nat.le_of_not_lt hge))
    rw [List.isEmpty_iff]
    apply Classical.byContradiction
    intro hne
    obtain ⟨v, hv⟩ := stuck_cycle rest hne (fun e he => by simpa using hall e he)
    exact hac v hv

theorem acyclicB_iff (es : List (Edge α)) : acyclicB es = true ↔ Acyclic es :=
  ⟨acyclic_of_acyclicB es, fun h => kahn_complete es.length es h (Nat.le_refl _)⟩

theorem fires_iff (S : List α) (e : Edge α) : fires S e = true ↔ ∃ o ∈ e.outs, o ∈ S := by
  simp [fires]

/-- The loop invariant: every edge is still pending or has everything it touches in `S`. When no pending edge fires,
`S` holds all it needs: a pending edge that produces some `x ∈ S` would fire. -/
theorem mem_iff_of_no_fire (es rest : List (Edge α)) (S : List α)
    (hinv : ∀ e ∈ es, e ∈ rest ∨ ∀ y ∈ e.touched, y ∈ S) (hno : ∀ e ∈ rest, fires S e = false) (t : α) :
    t ∈ S ↔ ∃ s ∈ S, Star (Need es) s t := by
  refine ⟨fun h => ⟨t, h, .refl⟩, ?_⟩
  rintro ⟨s, hs, hst⟩
  induction hst with
  | refl => exact hs
  | tail _ hn ih =>
    obtain ⟨e, he, hxe, hye⟩ := hn
    rcases hinv e he with h | h
    · have hf := hno e h
      rw [(fires_iff S e).2 ⟨_, hxe, ih⟩] at hf
      cases hf
    · exact h _ hye

/-- What the loop computes, started in a state that satisfies the invariant: everything `S` needs. -/
theorem mem_reachLoop_iff (es : List (Edge α)) :
    ∀ (n : Nat) (rest : List (Edge α)) (S : List α), rest.length ≤ n → (∀ e ∈ rest, e ∈ es) →
      (∀ e ∈ es, e ∈ rest ∨ ∀ y ∈ e.touched, y ∈ S) →
      ∀ t, t ∈ reachLoop n rest S ↔ ∃ s ∈ S, Star (Need es) s t
  | 0, rest, S, hl, _, hinv, t => by
    obtain rfl : rest = [] := List.eq_nil_of_length_eq_zero (by omega)
    exact mem_iff_of_no_fire es [] S hinv (fun _ h => nomatch h) t
  | n + 1, rest, S, hl, hsub, hinv, t => by
    rw [reachLoop]
    split
    · next hemp =>
      refine mem_iff_of_no_fire es rest S hinv (fun e he => ?_) t
      have := List.filter_eq_nil_iff.1 (List.isEmpty_iff.1 hemp) e he
      simpa using this
    · next hemp =>
      rw [mem_reachLoop_iff es n _ _ ?_ (fun e he => hsub e (List.mem_filter.1 he).1) ?_ t]
      · -- what a fired edge adds is needed by the output that made it fire
        refine ⟨fun ⟨s, hs, hst⟩ => ?_, fun ⟨s, hs, hst⟩ => ⟨s, List.mem_append_left _ hs, hst⟩⟩
        rcases List.mem_append.1 hs with hs | hs
        · exact ⟨s, hs, hst⟩
        · obtain ⟨e, he, hse⟩ := List.mem_flatMap.1 hs
          obtain ⟨her, hf⟩ := List.mem_filter.1 he
          obtain ⟨o, hoe, hoS⟩ := (fires_iff S e).1 hf
          exact ⟨o, hoS, Star.trans (.tail .refl ⟨e, hsub e her, hoe, hse⟩) hst⟩
      · -- at least one edge fired, so the pending list shrinks
        obtain ⟨e, he⟩ := List.exists_mem_of_ne_nil _ (mt List.isEmpty_iff.2 hemp)
        obtain ⟨her, hfe⟩ := List.mem_filter.1 he
        have := (List.length_filter_lt_length_iff_exists (p := fun e => !fires S e)).2 ⟨e, her, by simp [hfe]⟩
        omega
      · intro e he
        rcases hinv e he with h | h
        · by_cases hf : fires S e = true
          · exact .inr fun z hz => List.mem_append_right _ (List.mem_flatMap.2 ⟨e, List.mem_filter.2 ⟨h, hf⟩, hz⟩)
          · exact .inl (List.mem_filter.2 ⟨h, by simp [hf]⟩)
        · exact .inr fun z hz => List.mem_append_left _ (h z hz)

theorem mem_reachSet_iff (es : List (Edge α)) (root t : α) : t ∈ reachSet es root ↔ Star (Need es) root t := by
  simpa [reachSet] using mem_reachLoop_iff es es.length es [root] (Nat.le_refl _) (fun _ h => h) (fun e he => .inl he) t

theorem reqsOk_iff (es : List (Edge α)) (reqs : List (α × α)) :
    reqsOk es reqs = true ↔ ∀ rt ∈ reqs, Star (Need es) rt.1 rt.2 := by
  simp only [reqsOk, List.all_eq_true, decide_eq_true_eq, mem_reachSet_iff]

theorem poolsB_iff (g : Graph α) :
    poolsB g = true ↔ (∀ e ∈ g.edges, e.pool = [] ∨ e.pool = console ∨ e.pool ∈ g.pools) ∧
      (g.pools.Nodup ∧ console ∉ g.pools) := by
  simp only [poolsB, poolOk, Bool.and_eq_true, List.all_eq_true, Bool.or_eq_true, decide_eq_true_eq, nodupB_iff,
    Bool.not_eq_true', decide_eq_false_iff_not, or_assoc, and_assoc]

theorem defaultsB_iff (g : Graph α) :
    defaultsB g = true ↔ ∀ d ∈ g.defaults, ∃ e ∈ g.edges, d ∈ e.outs := by
  simp only [defaultsB, List.all_eq_true, producedBy_iff]

theorem wellFormed_iff (g : Graph α) (fs : List α) (reqs : List (α × α)) :
    wellFormed g fs reqs = true ↔ WellFormed g fs reqs := by
  simp only [wellFormed, Bool.and_eq_true, rulesDefined_iff, outputsDisjoint_iff, acyclicB_iff, closedB_iff,
    reqsOk_iff, poolsB_iff, defaultsB_iff]
  constructor
  · intro ⟨⟨⟨⟨⟨⟨h1, h2, h2'⟩, h3⟩, h4⟩, h5⟩, h6, h6'⟩, h7⟩
    exact ⟨h1, h2, h2', h3, h4, h5, h6, h6', h7⟩
  · intro h
    exact ⟨⟨⟨⟨⟨⟨h.rules, h.uniqueIn, h.uniqueAcross⟩, h.acyclic⟩, h.closed⟩, h.reach⟩, h.poolsBound, h.poolsUnique⟩,
      h.defaultsProduced⟩

theorem instOk_iff (fs : List α) (es : List (Edge α)) (R : List α) (f : α) :
    instOk fs es R f = true ↔ ((∃ e ∈ es, f ∈ e.outs) → f ∈ R) ∧ ((¬ ∃ e ∈ es, f ∈ e.outs) → f ∈ fs) := by
  rw [instOk, ← producedBy_iff]
  by_cases h : producedBy es f = true <;> simp [h]

theorem installB_iff (fs : List α) (es : List (Edge α)) (iroot : α) (inst : List α) :
    installB fs es iroot inst = true ↔
      (∀ f ∈ inst, (∃ e ∈ es, f ∈ e.outs) → Star (Need es) iroot f) ∧
      (∀ f ∈ inst, (¬ ∃ e ∈ es, f ∈ e.outs) → f ∈ fs) := by
  simp only [installB, List.all_eq_true, instOk_iff, mem_reachSet_iff, imp_and, forall_and]

theorem mem_installMissing_iff (fs : List α) (es : List (Edge α)) (iroot : α) (inst : List α) (f : α) :
    f ∈ installMissing fs es iroot inst ↔ f ∈ inst ∧ instOk fs es (reachSet es iroot) f = false := by
  simp [installMissing]

theorem wellFormedInst_iff (g : Graph α) (fs : List α) (reqs : List (α × α)) (iroot : α) (inst : List α) :
    wellFormedInst g fs reqs iroot inst = true ↔ WellFormedInst g fs reqs iroot inst := by
  simp only [wellFormedInst, Bool.and_eq_true, wellFormed_iff, installB_iff]
  exact ⟨fun ⟨h, h1, h2⟩ => ⟨h, h1, h2⟩, fun h => ⟨h.base, h.installReach, h.installExist⟩⟩

end MesonModel.Ninja
