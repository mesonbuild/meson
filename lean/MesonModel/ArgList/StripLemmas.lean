/-
`to_native` of the C-like class, second half: removal of `-isystem <default include dir>`.

The code collects indices (`bad_idx_list`) in one pass and pops them back to front.  `stripSpec` is the
index-free meaning; `stripDefaults_eq_stripSpec` proves the two equal for every list, provided no default
directory itself starts with `-isystem` (`DirsOk`; they are `os.path.realpath` results, i.e. absolute).
-/
import MesonModel.ArgList.NativeLemmas

namespace MesonModel.ArgList

def isys : Arg := ['-', 'i', 's', 'y', 's', 't', 'e', 'm']
def isysEq : Arg := ['-', 'i', 's', 'y', 's', 't', 'e', 'm', '=']

/-- a joined form that names a default directory: `-isystem=<dir>` or `-isystem<dir>` (not the bare word) -/
def joinedDefault (dirs : List Arg) (a : Arg) : Bool :=
  isys.isPrefixOf a && !decide (a = isys) &&
    (if isysEq.isPrefixOf a then decide (a.drop 9 ∈ dirs) else decide (a.drop 8 ∈ dirs))

def stripSpec (dirs : List Arg) : List Arg → List Arg
  | [] => []
  | [a] => if joinedDefault dirs a then [] else [a]
  | a :: nxt :: rest =>
    if a = isys then
      (if nxt ∈ dirs then stripSpec dirs rest else a :: stripSpec dirs (nxt :: rest))
    else if joinedDefault dirs a then stripSpec dirs (nxt :: rest)
    else a :: stripSpec dirs (nxt :: rest)

/-- what position `i` contributes to `bad_idx_list` -/
def hereIdx (dirs : List Arg) (a : Arg) (as : List Arg) (i : Nat) : List Nat :=
  if isys.isPrefixOf a then
    if a = isys then
      (match as with
        | nxt :: _ => if nxt ∈ dirs then [i, i + 1] else []
        | [] => [])
    else if isysEq.isPrefixOf a then
      (if a.drop 9 ∈ dirs then [i] else [])
    else if a.drop 8 ∈ dirs then [i] else []
  else []

theorem badIdx_cons (dirs : List Arg) (a : Arg) (as : List Arg) (i : Nat) :
    badIdx dirs (a :: as) i = hereIdx dirs a as i ++ badIdx dirs as (i + 1) := rfl

theorem hereIdx_shift (dirs : List Arg) (a : Arg) (as : List Arg) (i : Nat) :
    hereIdx dirs a as (i + 1) = (hereIdx dirs a as i).map (· + 1) := by
  cases as <;> simp only [hereIdx, apply_ite (List.map (· + 1)), List.map_cons, List.map_nil]

theorem badIdx_shift (dirs l : List Arg) (i : Nat) :
    badIdx dirs l (i + 1) = (badIdx dirs l i).map (· + 1) := by
  induction l generalizing i with
  | nil => rfl
  | cons a as ih => rw [badIdx_cons, badIdx_cons, hereIdx_shift, ih (i + 1), List.map_append]

theorem isys_prefix_self : isys.isPrefixOf isys = true := by decide

theorem hereIdx_bare_in (dirs : List Arg) (nxt : Arg) (rest : List Arg) (i : Nat) (h : nxt ∈ dirs) :
    hereIdx dirs isys (nxt :: rest) i = [i, i + 1] := by
  simp [hereIdx, isys_prefix_self, h]

theorem hereIdx_bare_notin (dirs : List Arg) (nxt : Arg) (rest : List Arg) (i : Nat) (h : nxt ∉ dirs) :
    hereIdx dirs isys (nxt :: rest) i = [] := by
  simp [hereIdx, isys_prefix_self, h]

theorem hereIdx_bare_last (dirs : List Arg) (i : Nat) : hereIdx dirs isys [] i = [] := by
  simp [hereIdx, isys_prefix_self]

theorem hereIdx_of_ne (dirs : List Arg) (a : Arg) (as : List Arg) (i : Nat) (hne : a ≠ isys) :
    hereIdx dirs a as i = if joinedDefault dirs a = true then [i] else [] := by
  unfold joinedDefault hereIdx
  cases hp : isys.isPrefixOf a
  · simp
  · by_cases he : isysEq.isPrefixOf a = true <;> simp [hne, he]

/-- pop the listed positions, last one first -/
def eraseAll (is : List Nat) (l : List Arg) : List Arg := is.foldr (fun i l => l.eraseIdx i) l

theorem eraseAll_map_succ (js : List Nat) (a : Arg) (l : List Arg) :
    eraseAll (js.map (· + 1)) (a :: l) = a :: eraseAll js l := by
  induction js with
  | nil => rfl
  | cons j js ih =>
    simp only [eraseAll, List.map_cons, List.foldr_cons] at ih ⊢
    rw [ih]
    rfl

/-- the positions found behind the head are popped before those the head contributes -/
theorem eraseAll_badIdx_cons (dirs : List Arg) (a : Arg) (as : List Arg) :
    eraseAll (badIdx dirs (a :: as) 0) (a :: as) =
      eraseAll (hereIdx dirs a as 0) (a :: eraseAll (badIdx dirs as 0) as) := by
  rw [badIdx_cons, badIdx_shift, ← eraseAll_map_succ]
  exact List.foldr_append

theorem stripDefaults_eq_eraseAll (dirs l : List Arg) (h : dirs.isEmpty = false) :
    stripDefaults dirs l = eraseAll (badIdx dirs l 0) l := by
  simp only [stripDefaults, h, Bool.false_eq_true, if_false, eraseAll, List.foldl_reverse]

def DirsOk (dirs : List Arg) : Prop := ∀ d ∈ dirs, isys.isPrefixOf d = false

theorem hereIdx_dir (dirs : List Arg) (hd : DirsOk dirs) (d : Arg) (h : d ∈ dirs) (as : List Arg) (i : Nat) :
    hereIdx dirs d as i = [] := by
  simp [hereIdx, hd d h]

theorem eraseAll_badIdx (dirs : List Arg) (hd : DirsOk dirs) (l : List Arg) :
    eraseAll (badIdx dirs l 0) l = stripSpec dirs l := by
  fun_induction stripSpec dirs l with
  | case1 => rfl
  | case2 a h =>
    have hne : a ≠ isys := by
      intro he
      subst he
      simp [joinedDefault] at h
    rw [eraseAll_badIdx_cons, hereIdx_of_ne dirs a [] 0 hne, if_pos h]
    rfl
  | case3 a h =>
    by_cases hne : a = isys
    · subst hne
      rw [eraseAll_badIdx_cons, hereIdx_bare_last]
      rfl
    · rw [eraseAll_badIdx_cons, hereIdx_of_ne dirs a [] 0 hne, if_neg h]
      rfl
  | case4 nxt rest hin ih =>
    rw [eraseAll_badIdx_cons, eraseAll_badIdx_cons, ih, hereIdx_bare_in dirs nxt rest 0 hin, hereIdx_dir dirs hd nxt hin]
    rfl
  | case5 nxt rest hnin ih =>
    rw [eraseAll_badIdx_cons, ih, hereIdx_bare_notin dirs nxt rest 0 hnin]
    rfl
  | case6 a nxt rest hne hj ih =>
    rw [eraseAll_badIdx_cons, ih, hereIdx_of_ne dirs a _ 0 hne, if_pos hj]
    rfl
  | case7 a nxt rest hne hj ih =>
    rw [eraseAll_badIdx_cons, ih, hereIdx_of_ne dirs a _ 0 hne, if_neg hj]
    rfl

theorem joinedDefault_nil (a : Arg) : joinedDefault [] a = false := by
  simp [joinedDefault]

theorem stripSpec_nil_dirs (l : List Arg) : stripSpec [] l = l := by
  fun_induction stripSpec [] l <;> simp_all [joinedDefault_nil]

theorem stripDefaults_eq_stripSpec (dirs : List Arg) (hd : DirsOk dirs) (l : List Arg) :
    stripDefaults dirs l = stripSpec dirs l := by
  cases h : dirs.isEmpty
  · rw [stripDefaults_eq_eraseAll dirs l h, eraseAll_badIdx dirs hd l]
  · have : dirs = [] := List.isEmpty_iff.mp h
    subst this
    simp [stripDefaults, stripSpec_nil_dirs]

theorem stripSpec_sublist (dirs l : List Arg) : (stripSpec dirs l).Sublist l := by
  fun_induction stripSpec dirs l with
  | case1 => exact List.Sublist.refl _
  | case2 a h => exact List.nil_sublist _
  | case3 a h => exact List.Sublist.refl _
  | case4 nxt rest hin ih => exact (ih.cons _).cons _
  | case5 nxt rest hnin ih => exact ih.cons_cons _
  | case6 a nxt rest hne hj ih => exact ih.cons _
  | case7 a nxt rest hne hj ih => exact ih.cons_cons _

/-- an argument the pass never removes, wherever it stands: not the bare `-isystem`, not a joined form naming a
default directory, and not a default directory itself (which goes when it follows the bare word) -/
def survives (dirs : List Arg) (x : Arg) : Bool :=
  !decide (x = isys) && !joinedDefault dirs x && !decide (x ∈ dirs)

theorem stripSpec_filter (dirs : List Arg) (p : Arg → Bool) (hp : ∀ x, p x = true → survives dirs x = true)
    (l : List Arg) : (stripSpec dirs l).filter p = l.filter p := by
  have hno1 : p isys = false := by
    cases h : p isys
    · rfl
    · have := hp _ h
      simp [survives] at this
  have hno2 : ∀ a, joinedDefault dirs a = true → p a = false := by
    intro a ha
    cases h : p a
    · rfl
    · have := hp _ h
      simp [survives, ha] at this
  have hno3 : ∀ a, a ∈ dirs → p a = false := by
    intro a ha
    cases h : p a
    · rfl
    · have := hp _ h
      simp [survives, ha] at this
  fun_induction stripSpec dirs l with
  | case1 => rfl
  | case2 a h => simp [hno2 a h]
  | case3 a h => rfl
  | case4 nxt rest hin ih => simp [hno1, hno3 nxt hin, ih]
  | case5 nxt rest hnin ih => simp only [List.filter_cons, ih]
  | case6 a nxt rest hne hj ih =>
    rw [ih]
    simp [List.filter_cons, hno2 a hj]
  | case7 a nxt rest hne hj ih => simp only [List.filter_cons, ih]

theorem stripSpec_count (dirs l : List Arg) (x : Arg) (hx : survives dirs x = true) :
    (stripSpec dirs l).count x = l.count x := by
  have h := stripSpec_filter dirs (fun y => y == x)
    (by
      intro y hy
      simp at hy
      subst hy
      exact hx) l
  rw [List.count_eq_length_filter, List.count_eq_length_filter, h]

theorem stripSpec_cons_keep (dirs : List Arg) (m : Arg) (hm : survives dirs m = true) (rest : List Arg) :
    stripSpec dirs (m :: rest) = m :: stripSpec dirs rest := by
  simp only [survives, Bool.and_eq_true, Bool.not_eq_true', decide_eq_false_iff_not] at hm
  cases rest with
  | nil => simp [stripSpec, hm.1.2]
  | cons b bs => simp [stripSpec, hm.1.1, hm.1.2]

theorem stripSpec_split (dirs : List Arg) (m : Arg) (hm : survives dirs m = true) (pre rest : List Arg) :
    stripSpec dirs (pre ++ m :: rest) = stripSpec dirs pre ++ m :: stripSpec dirs rest := by
  have hm' := hm
  simp only [survives, Bool.and_eq_true, Bool.not_eq_true', decide_eq_false_iff_not] at hm'
  fun_induction stripSpec dirs pre with
  | case1 => exact stripSpec_cons_keep dirs m hm rest
  | case2 a h =>
    have hne : a ≠ isys := by
      intro he
      subst he
      simp [joinedDefault] at h
    simp [stripSpec, hne, h, stripSpec_cons_keep dirs m hm rest]
  | case3 a h =>
    by_cases hne : a = isys
    · subst hne
      simp [stripSpec, hm'.2, stripSpec_cons_keep dirs m hm rest]
    · have h' : joinedDefault dirs a = false := by simpa using h
      simp [stripSpec, hne, h', stripSpec_cons_keep dirs m hm rest]
  | case4 nxt rest' hin ih =>
    simp only [List.cons_append]
    rw [stripSpec]
    · simp [hin, ih]
  | case5 nxt rest' hnin ih =>
    simp only [List.cons_append] at ih ⊢
    rw [stripSpec]
    · simp [hnin, ih]
  | case6 a nxt rest' hne hj ih =>
    simp only [List.cons_append] at ih ⊢
    rw [stripSpec]
    · simp [hne, hj, ih]
  | case7 a nxt rest' hne hj ih =>
    simp only [List.cons_append] at ih ⊢
    rw [stripSpec]
    · simp [hne, hj, ih]

end MesonModel.ArgList
