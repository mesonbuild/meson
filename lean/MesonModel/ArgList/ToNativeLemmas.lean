/-
`CLikeCompilerArgs.to_native` as a whole: group markers, then default-include stripping
(`nativeList`), stated through `stripSpec` and `group_placement`.
-/
import MesonModel.ArgList.StripLemmas

namespace MesonModel.ArgList

/-- the default directories are absolute paths (they are `os.path.realpath` results) -/
def DirsAbs (dirs : List Arg) : Prop := ∀ d ∈ dirs, isAbs d = true

theorem isAbs_cases {a : Arg} (h : isAbs a = true) : ∃ t, a = '/' :: t := by
  unfold isAbs at h
  split at h
  · exact ⟨_, rfl⟩
  · cases h

theorem dirsOk_of_abs {dirs : List Arg} (h : DirsAbs dirs) : DirsOk dirs := by
  intro d hd
  obtain ⟨t, rfl⟩ := isAbs_cases (h d hd)
  simp [isys, List.isPrefixOf]

theorem survives_of_plain {dirs : List Arg} (h : DirsAbs dirs) (m : Arg) (h1 : isys.isPrefixOf m = false)
    (h2 : isAbs m = false) : survives dirs m = true := by
  have hne : m ≠ isys := by
    intro he
    subst he
    simp [isys_prefix_self] at h1
  have hnd : m ∉ dirs := by
    intro hm
    rw [h m hm] at h2
    cases h2
  simp [survives, joinedDefault, h1, hne, hnd]

theorem survives_startGroup {dirs : List Arg} (h : DirsAbs dirs) : survives dirs startGroup = true :=
  survives_of_plain h _ (by decide) (by decide)

theorem survives_endGroup {dirs : List Arg} (h : DirsAbs dirs) : survives dirs endGroup = true :=
  survives_of_plain h _ (by decide) (by decide)

theorem nativeList_clike (gnu : Bool) (dirs l : List Arg) (hd : DirsAbs dirs) :
    nativeList (.clike gnu dirs) l = stripSpec dirs (if gnu then addGroups l else l) := by
  simp only [nativeList]
  exact stripDefaults_eq_stripSpec dirs (dirsOk_of_abs hd) _

theorem count_nativeList (gnu : Bool) (dirs l : List Arg) (hd : DirsAbs dirs) {x : Arg} (hx : survives dirs x = true) :
    (nativeList (.clike gnu dirs) l).count x = (if gnu then addGroups l else l).count x := by
  rw [nativeList_clike gnu dirs l hd, stripSpec_count dirs _ x hx]

theorem mem_stripSpec {dirs l : List Arg} {x : Arg} (h : x ∈ stripSpec dirs l) : x ∈ l :=
  (stripSpec_sublist dirs l).subset h

/-- with fewer than two library-like arguments only the default-include pass runs; otherwise the markers enclose
the first to the last of them, and the three pieces are stripped separately -/
theorem nativeList_gnu_shape (dirs l : List Arg) (hd : DirsAbs dirs) :
    ((l.filter groupFlags).length ≤ 1 ∧ nativeList (.clike true dirs) l = stripSpec dirs l) ∨
    ∃ pre a mid b post, l = pre ++ (a :: (mid ++ (b :: post))) ∧
      groupFlags a = true ∧ groupFlags b = true ∧
      (∀ x ∈ pre, groupFlags x = false) ∧ (∀ x ∈ post, groupFlags x = false) ∧
      nativeList (.clike true dirs) l =
        stripSpec dirs pre ++ startGroup :: (stripSpec dirs (a :: (mid ++ [b])) ++ endGroup :: stripSpec dirs post) := by
  rw [nativeList_clike true dirs l hd]
  simp only [if_true]
  rcases group_placement l with ⟨h1, h2⟩ | ⟨pre, a, mid, b, post, hl, ha, hb, hpre, hpost, hg⟩
  · left
    rw [h1]
    exact ⟨h2, rfl⟩
  · right
    refine ⟨pre, a, mid, b, post, hl, ha, hb, hpre, hpost, ?_⟩
    rw [hg, stripSpec_split dirs startGroup (survives_startGroup hd)]
    have e : a :: (mid ++ b :: endGroup :: post) = (a :: (mid ++ [b])) ++ endGroup :: post := by simp
    rw [e, stripSpec_split dirs endGroup (survives_endGroup hd)]

end MesonModel.ArgList
