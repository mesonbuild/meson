/-
The language `dedup1_regex` is meant to recognise -- "a .so of the form path/to/libfoo.so.0.1.0" --
and the recogniser of the model (`dedup1Regex`): every path of the documented form is accepted, for
version components of any length.
-/
import MesonModel.ArgList.Model

namespace MesonModel.ArgList

/-- a version component `[0-9]+` -/
def NumComp (c : List Char) : Prop := c ≠ [] ∧ ∀ d ∈ c, isDigitC d = true

theorem stripVerRev_comp (c rest : List Char) (hc : NumComp c) :
    stripVerRev (c.reverse ++ '.' :: rest) = some rest := by
  have hd : ∀ x ∈ c.reverse, isDigitC x = true := fun x hx => hc.2 x (List.mem_reverse.mp hx)
  have hdot : isDigitC '.' = false := by decide
  unfold stripVerRev
  simp only [List.takeWhile_append_of_pos hd, List.dropWhile_append_of_pos hd, List.takeWhile_cons_of_neg,
    List.dropWhile_cons_of_neg, hdot, Bool.false_eq_true, not_false_eq_true, List.append_nil]
  have : c.reverse.isEmpty = false := by
    cases h : c.reverse with
    | nil => exact absurd (List.reverse_eq_nil_iff.mp h) hc.1
    | cons _ _ => rfl
  simp [this]

theorem mem_dollarEnds_self (r : List Char) : r ∈ dollarEnds r := by
  unfold dollarEnds
  split <;> simp

theorem libScan_accepts (name dirR : List Char) (hn : ∀ x ∈ name, x ≠ '\n')
    (hb : dirR = [] ∨ ∃ s t, dirR = s :: t ∧ (s = '/' ∨ s = '\\')) :
    libScan (name ++ 'b' :: 'i' :: 'l' :: dirR) = true := by
  induction name with
  | nil =>
    rcases hb with rfl | ⟨s, t, rfl, hs | hs⟩
    · simp [libScan]
    · subst hs
      simp [libScan]
    · subst hs
      simp [libScan]
  | cons c cs ih =>
    have hc : c ≠ '\n' := hn c List.mem_cons_self
    have := ih (fun x hx => hn x (List.mem_cons_of_mem _ hx))
    simp only [List.cons_append]
    unfold libScan
    simp [this, hc]

/-- a path component separator, or nothing, in front of `lib` -/
def DirOk (dir : List Char) : Prop := dir = [] ∨ ∃ d s, dir = d ++ [s] ∧ (s = '/' ∨ s = '\\')

theorem dirOk_reverse (dir : List Char) (h : DirOk dir) :
    dir.reverse = [] ∨ ∃ s t, dir.reverse = s :: t ∧ (s = '/' ∨ s = '\\') := by
  rcases h with rfl | ⟨d, s, rfl, hs⟩
  · exact Or.inl rfl
  · exact Or.inr ⟨s, d.reverse, by simp, hs⟩

theorem mem_verTails (r : List Char) (comps : List (List Char)) (hl : comps.length ≤ 3)
    (hc : ∀ c ∈ comps, NumComp c) : r ∈ verTails ((comps.flatMap (fun c => '.' :: c)).reverse ++ r) := by
  match comps, hl, hc with
  | [], _, _ =>
    unfold verTails
    exact List.mem_cons_self
  | [c1], _, hc =>
    simp only [List.flatMap_cons, List.flatMap_nil, List.append_nil, List.reverse_cons, List.append_assoc,
      List.cons_append, List.nil_append]
    unfold verTails
    rw [stripVerRev_comp c1 _ (hc c1 (by simp))]
    simp
  | [c1, c2], _, hc =>
    simp only [List.flatMap_cons, List.flatMap_nil, List.append_nil, List.reverse_cons, List.reverse_append,
      List.append_assoc, List.cons_append, List.nil_append]
    unfold verTails
    rw [stripVerRev_comp c2 _ (hc c2 (by simp))]
    simp only
    rw [stripVerRev_comp c1 _ (hc c1 (by simp))]
    simp
  | [c1, c2, c3], _, hc =>
    simp only [List.flatMap_cons, List.flatMap_nil, List.append_nil, List.reverse_cons, List.reverse_append,
      List.append_assoc, List.cons_append, List.nil_append]
    unfold verTails
    rw [stripVerRev_comp c3 _ (hc c3 (by simp))]
    simp only
    rw [stripVerRev_comp c2 _ (hc c2 (by simp))]
    simp only
    rw [stripVerRev_comp c1 _ (hc c1 (by simp))]
    simp
  | _ :: _ :: _ :: _ :: _, hl, _ => simp at hl

/-- every `dir/libNAME.so[.N[.N[.N]]]` is accepted -/
theorem versioned_so_accepted (dir name : List Char) (comps : List (List Char))
    (hd : DirOk dir) (hn : ∀ x ∈ name, x ≠ '\n') (hl : comps.length ≤ 3) (hc : ∀ c ∈ comps, NumComp c) :
    dedup1Regex (dir ++ ['l', 'i', 'b'] ++ name ++ ['.', 's', 'o'] ++ comps.flatMap (fun c => '.' :: c)) = true := by
  have hscan := libScan_accepts name.reverse dir.reverse
    (fun x hx => hn x (List.mem_reverse.mp hx)) (dirOk_reverse dir hd)
  unfold dedup1Regex
  -- reversed, the version tail comes first: `verTails` strips it, `libScan` reads the rest
  rw [List.reverse_append, List.any_eq_true]
  refine ⟨_, mem_dollarEnds_self _, ?_⟩
  rw [List.any_eq_true]
  exact ⟨_, mem_verTails _ comps hl hc, by simpa using hscan⟩

end MesonModel.ArgList
