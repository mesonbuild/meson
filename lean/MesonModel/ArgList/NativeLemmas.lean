/-
`to_native` of the C-like class: where the `-Wl,--start-group` / `-Wl,--end-group` markers go.
-/
import MesonModel.ArgList.Model

namespace MesonModel.ArgList

def startGroup : Arg := ['-', 'W', 'l', ',', '-', '-', 's', 't', 'a', 'r', 't', '-', 'g', 'r', 'o', 'u', 'p']
def endGroup : Arg := ['-', 'W', 'l', ',', '-', '-', 'e', 'n', 'd', '-', 'g', 'r', 'o', 'u', 'p']

theorem groupBounds_nolib (l : List Arg) (i : Nat) (gs ge : Option Nat)
    (h : ∀ x ∈ l, groupFlags x = false) : groupBounds l i gs ge = (gs, ge) := by
  induction l generalizing i with
  | nil => rfl
  | cons a as ih =>
    simp only [groupBounds, h a List.mem_cons_self, Bool.false_eq_true, if_false]
    exact ih _ (fun x hx => h x (List.mem_cons_of_mem _ hx))

theorem groupBounds_append (l1 l2 : List Arg) (i : Nat) (gs ge : Option Nat) :
    groupBounds (l1 ++ l2) i gs ge =
      groupBounds l2 (i + l1.length) (groupBounds l1 i gs ge).1 (groupBounds l1 i gs ge).2 := by
  induction l1 generalizing i gs ge with
  | nil => simp [groupBounds]
  | cons a as ih =>
    simp only [List.cons_append, groupBounds, List.length_cons]
    split <;>
      (rw [ih]
       congr 1
       omega)

theorem groupBounds_fst_some (l : List Arg) (i g : Nat) (ge : Option Nat) :
    (groupBounds l i (some g) ge).1 = some g := by
  induction l generalizing i ge with
  | nil => rfl
  | cons a as ih =>
    simp only [groupBounds]
    split <;> exact ih _ _

theorem split_first (p : Arg → Bool) (l : List Arg) :
    (∀ x ∈ l, p x = false) ∨
    ∃ pre a rest, l = pre ++ a :: rest ∧ p a = true ∧ ∀ x ∈ pre, p x = false := by
  cases h : l.find? p with
  | none => exact Or.inl (by simpa using h)
  | some a =>
    obtain ⟨ha, pre, rest, hl, hpre⟩ := List.find?_eq_some_iff_append.mp h
    exact Or.inr ⟨pre, a, rest, hl, ha, by simpa using hpre⟩

theorem split_last (p : Arg → Bool) (l : List Arg) :
    (∀ x ∈ l, p x = false) ∨
    ∃ pre a post, l = pre ++ a :: post ∧ p a = true ∧ ∀ x ∈ post, p x = false := by
  rcases split_first p l.reverse with h | ⟨pre, a, rest, hl, ha, hpre⟩
  · exact Or.inl (fun x hx => h x (List.mem_reverse.mpr hx))
  · refine Or.inr ⟨rest.reverse, a, pre.reverse, ?_, ha, fun x hx => hpre x (List.mem_reverse.mp hx)⟩
    have := congrArg List.reverse hl
    simpa using this

theorem insertAt_split (l X Y : List Arg) (k : Nat) (a : Arg) (hl : l = X ++ Y) (hk : k = X.length) :
    insertAt l (Int.ofNat k) a = X ++ a :: Y := by
  subst hl hk
  have h1 : clampIdx (X ++ Y).length (Int.ofNat X.length) = X.length := by
    simp only [clampIdx, List.length_append]
    have h0 : ¬ ((Int.ofNat X.length) < 0) := by simp
    rw [if_neg h0]
    have h2 : ¬ ((Int.ofNat X.length).toNat > X.length + Y.length) := by simp
    rw [if_neg h2]
    simp
  simp only [insertAt, h1, List.take_left', List.drop_left']

theorem group_placement (l : List Arg) :
    (addGroups l = l ∧ (l.filter groupFlags).length ≤ 1) ∨
    ∃ pre a mid b post, l = pre ++ (a :: (mid ++ (b :: post))) ∧
      groupFlags a = true ∧ groupFlags b = true ∧
      (∀ x ∈ pre, groupFlags x = false) ∧ (∀ x ∈ post, groupFlags x = false) ∧
      addGroups l = pre ++ (startGroup :: a :: (mid ++ (b :: endGroup :: post))) := by
  rcases split_first groupFlags l with h | ⟨pre, a, rest, rfl, ha, hpre⟩
  · left
    constructor
    · simp [addGroups, groupBounds_nolib l 0 none none h]
    · have : l.filter groupFlags = [] := List.filter_eq_nil_iff.mpr (fun x hx => by simp [h x hx])
      simp [this]
  · rcases split_last groupFlags rest with h | ⟨mid, b, post, rfl, hb, hpost⟩
    · left
      have hb : groupBounds (pre ++ a :: rest) 0 none none = (some pre.length, some pre.length) := by
        rw [groupBounds_append, groupBounds_nolib pre 0 none none hpre]
        simp only [groupBounds, ha, if_true]
        rw [groupBounds_nolib rest _ _ _ h]
        simp
      constructor
      · simp [addGroups, hb]
      · have h1 : pre.filter groupFlags = [] := List.filter_eq_nil_iff.mpr (fun x hx => by simp [hpre x hx])
        have h2 : rest.filter groupFlags = [] := List.filter_eq_nil_iff.mpr (fun x hx => by simp [h x hx])
        simp [List.filter_append, List.filter_cons, ha, h1, h2]
    · right
      refine ⟨pre, a, mid, b, post, rfl, ha, hb, hpre, hpost, ?_⟩
      have hbd : groupBounds (pre ++ a :: (mid ++ b :: post)) 0 none none =
          (some pre.length, some (pre.length + 1 + mid.length)) := by
        rw [groupBounds_append, groupBounds_nolib pre 0 none none hpre]
        simp only [groupBounds, ha, if_true]
        rw [groupBounds_append]
        simp only [groupBounds, hb, if_true, groupBounds_fst_some]
        rw [groupBounds_nolib post _ _ _ hpost]
        simp
      simp only [addGroups, hbd]
      show (if pre.length + 1 + mid.length > pre.length then
        insertAt (insertAt (pre ++ a :: (mid ++ b :: post)) (Int.ofNat (pre.length + 1 + mid.length + 1)) endGroup)
          (Int.ofNat pre.length) startGroup else _) = _
      have hgt : pre.length + 1 + mid.length > pre.length := by omega
      simp only [hgt, if_true]
      rw [insertAt_split (pre ++ a :: (mid ++ b :: post)) (pre ++ a :: (mid ++ [b])) post
        (pre.length + 1 + mid.length + 1) endGroup (by simp) (by simp; omega)]
      rw [insertAt_split _ pre (a :: (mid ++ [b]) ++ endGroup :: post) pre.length startGroup (by simp) rfl]
      simp

theorem filter_insertAt (p : Arg → Bool) (l : List Arg) (i : Int) (a : Arg) (h : p a = false) :
    (insertAt l i a).filter p = l.filter p := by
  simp only [insertAt, List.filter_append, List.filter_cons, h, Bool.false_eq_true, if_false]
  rw [← List.filter_append, List.take_append_drop]

theorem filter_addGroups (p : Arg → Bool) (h1 : p startGroup = false) (h2 : p endGroup = false) (l : List Arg) :
    (addGroups l).filter p = l.filter p := by
  unfold addGroups
  split
  · split
    · exact (filter_insertAt _ _ _ _ h1).trans (filter_insertAt _ _ _ _ h2)
    · rfl
  · rfl

end MesonModel.ArgList
