/-
The backend's assembly of a compile line: lazy objects = eager meaning, and order facts about a fold of
eager `+=`.
-/
import MesonModel.ArgList.Assemble
import MesonModel.ArgList.SpecLemmas
import MesonModel.ArgList.StepLemmas

namespace MesonModel.ArgList

variable {K : Classify}

theorem inv_addAll (s : State) (gs : List (List Arg)) (hi : Inv K s) : Inv K (addAll K s gs) :=
  List.foldlRecOn gs _ hi fun s hs g _ => inv_iadd s g hs

theorem flush_addAll (s : State) (gs : List (List Arg)) (hi : Inv K s) :
    (flush K (addAll K s gs)).container = assembleFrom K (flush K s).container gs := by
  induction gs generalizing s with
  | nil => rfl
  | cons g gs ih =>
    simp only [addAll, assembleFrom, List.foldl_cons] at ih ⊢
    rw [ih _ (inv_iadd s g hi), flush_iadd_container s g hi]

theorem inv_ziFixState (s : State) : Inv K (ziFixState K s) := by
  unfold ziFixState
  split
  · exact inv_clean s _
  · exact inv_flush s

theorem flush_ziFixState (s : State) : (flush K (ziFixState K s)).container = ziFix (flush K s).container := by
  unfold ziFixState ziFix
  split
  · rw [flush_of_clean] <;> simp [flush_pre, flush_post, flush_noc]
  · rw [flush_flush]

theorem assembleFrom_append (L0 : List Arg) (g1 g2 : List (List Arg)) :
    assembleFrom K L0 (g1 ++ g2) = assembleFrom K (assembleFrom K L0 g1) g2 := by
  simp [assembleFrom, List.foldl_append]

theorem targetArgsLazy_eq (src : Sources) : targetArgsLazy K src = targetArgsSpec K src := by
  unfold targetArgsLazy basicArgsLazy targetArgsSpec
  rw [flush_addAll _ _ (inv_addAll _ _ (inv_ziFixState _)), flush_addAll _ _ (inv_ziFixState _), flush_ziFixState,
    flush_addAll _ _ (inv_mk []), flush_mk, assembleFrom_append]
  rfl

theorem baseArgsLazy_eq (src : Sources) :
    baseArgsLazy K src = assembleFrom K [] [src.visibility, src.baseOpts] := by
  unfold baseArgsLazy
  rw [flush_addAll _ _ (inv_mk []), flush_mk]
  rfl

theorem compileLine_eq (src : Sources) : compileLine K src = compileSpec K src := by
  unfold compileLine compileLazy compileSpec
  rw [eager_iadd_container, targetArgsLazy_eq, baseArgsLazy_eq]

theorem mem_assembleFrom {L0 : List Arg} {gs : List (List Arg)} {x : Arg} :
    x ∈ assembleFrom K L0 gs ↔ x ∈ L0 ∨ ∃ g ∈ gs, x ∈ g := by
  induction gs generalizing L0 with
  | nil => simp [assembleFrom]
  | cons g gs ih =>
    simp only [assembleFrom, List.foldl_cons] at ih ⊢
    rw [ih, mem_specAdd_iff]
    simp only [List.mem_cons, exists_eq_or_imp, or_assoc]

theorem not_mem_accept {L g : List Arg} {x : Arg} (h : x ∉ g) : x ∉ accept K L g :=
  fun hx => h ((accept_sublist L g).subset hx)

theorem filter_assembleFrom_of_untouched (p : Arg → Bool) (L : List Arg) (gs : List (List Arg))
    (h : ∀ g ∈ gs, ∀ x ∈ g, p x = false) : (assembleFrom K L gs).filter p = L.filter p :=
  List.foldlRecOn (motive := fun L' => L'.filter p = L.filter p) gs _ rfl fun L' h' g hg =>
    (filter_specAdd_of_untouched p L' (h g hg)).trans h'

/-- What group `g` did to `x` and `y` stays when no later group mentions either: a list `m` of `x`s and `y`s (in the
uses `[x, y]` or `[y, x]`) that is a sublist right after `g` is still one at the end, and the override-type `y` that
`g` added is still there exactly once. -/
theorem assembleFrom_after_group (L0 : List Arg) (B : List (List Arg)) (g : List Arg) (C : List (List Arg))
    (x y : Arg) (hxC : ∀ c ∈ C, x ∉ c) (hyC : ∀ c ∈ C, y ∉ c) (hy : y ∈ g) (hd : K.dd y = .overridden)
    (m : List Arg) (hm : ∀ z ∈ m, z = x ∨ z = y) (hs : m.Sublist (specAdd K (assembleFrom K L0 B) g)) :
    m.Sublist (assembleFrom K L0 (B ++ g :: C)) ∧ (assembleFrom K L0 (B ++ g :: C)).count y = 1 := by
  have e : assembleFrom K L0 (B ++ g :: C) = assembleFrom K (specAdd K (assembleFrom K L0 B) g) C := by
    rw [assembleFrom_append]
    rfl
  -- the later groups hold neither `x` nor `y`: the part of the list made of these two is as `g` left it
  have hf := filter_assembleFrom_of_untouched (K := K) (fun z => z == x || z == y) (specAdd K (assembleFrom K L0 B) g) C
    fun c hc z hz => by
      have hx : z ≠ x := fun e => hxC c hc (e ▸ hz)
      have hy : z ≠ y := fun e => hyC c hc (e ▸ hz)
      simp [hx, hy]
  rw [e]
  constructor
  · have hmf : m.filter (fun z => z == x || z == y) = m := List.filter_eq_self.mpr fun z hz => by simpa using hm z hz
    exact hmf ▸ ((hs.filter _).trans (hf ▸ List.filter_sublist))
  · have hc := congrArg (List.count y) hf
    rw [List.count_filter (by simp), List.count_filter (by simp), count_specAdd_ov hd hy] at hc
    exact hc

theorem pair_specAdd (L g : List Arg) (x y : Arg) (hx : x ∈ L) (hxg : x ∉ g) (hy : y ∈ g) (hd : K.dd y ≠ .unique) :
    (K.pp y = false → [x, y].Sublist (specAdd K L g)) ∧ (K.pp y = true → [y, x].Sublist (specAdd K L g)) := by
  have h1 : [x].Sublist (specMid K L g) :=
    List.singleton_sublist.mpr (mem_specMid.mpr ⟨hx, fun ha => absurd ha (not_mem_accept hxg)⟩)
  have hacc := mem_accept_of_not_unique (seen := L) hd hy
  rw [specAdd_eq]
  constructor
  · intro hp
    have h2 : [y].Sublist (specBack K L g) := List.singleton_sublist.mpr (mem_specBack.mpr ⟨hacc, hp⟩)
    rw [List.append_assoc]
    exact (h1.append h2).trans (List.sublist_append_right _ _)
  · intro hp
    have h2 : [y].Sublist (specFront K L g) := List.singleton_sublist.mpr (mem_specFront.mpr ⟨hacc, hp⟩)
    exact (h2.append h1).trans (List.sublist_append_left _ _)

theorem specAdd_blocks (L g A B : List Arg) (hL : L = A ++ B) (hA : ∀ a ∈ A, K.pp a = true)
    (hB : ∀ b ∈ B, K.pp b = false) :
    ∃ A' B', specAdd K L g = A' ++ B' ∧ (∀ a ∈ A', K.pp a = true) ∧ (∀ b ∈ B', K.pp b = false) := by
  subst hL
  refine ⟨specFront K (A ++ B) g ++ A.filter (fun a => a ∉ ovOf K (accept K (A ++ B) g)),
    B.filter (fun a => a ∉ ovOf K (accept K (A ++ B) g)) ++ specBack K (A ++ B) g, ?_, ?_, ?_⟩
  · simp [specAdd_eq, specMid, List.filter_append]
  · intro a ha
    rcases List.mem_append.mp ha with h | h
    · exact (mem_specFront.mp h).2
    · exact hA a (List.mem_filter.mp h).1
  · intro b hb
    rcases List.mem_append.mp hb with h | h
    · exact hB b (List.mem_filter.mp h).1
    · exact (mem_specBack.mp h).2

theorem assembleFrom_blocks (gs : List (List Arg)) (L A B : List Arg) (hL : L = A ++ B)
    (hA : ∀ a ∈ A, K.pp a = true) (hB : ∀ b ∈ B, K.pp b = false) :
    ∃ A' B', assembleFrom K L gs = A' ++ B' ∧ (∀ a ∈ A', K.pp a = true) ∧ (∀ b ∈ B', K.pp b = false) := by
  induction gs generalizing L A B with
  | nil => exact ⟨A, B, hL, hA, hB⟩
  | cons g gs ih =>
    obtain ⟨A', B', h, hA', hB'⟩ := specAdd_blocks L g A B hL hA hB
    exact ih _ A' B' h hA' hB'

end MesonModel.ArgList
