/-
C13: the loops of `flush_pre_post` and `__iadd__` in closed form, the invariant
of the lazy state, and the key commutation `flush (iadd (flush s) b) = flush (iadd s b)`.
-/
import MesonModel.ArgList.Spec

namespace MesonModel.ArgList

variable {K : Classify}

/-- `a` in front of `r`; an override-type `a` takes the place of its copies in `r` -/
def pushF (K : Classify) (a : Arg) (r : List Arg) : List Arg :=
  a :: r.filter (fun x => ¬(K.dd a = .overridden ∧ x = a))

/-- `a` behind `r`, likewise -/
def pushB (K : Classify) (r : List Arg) (a : Arg) : List Arg :=
  r.filter (fun x => ¬(K.dd a = .overridden ∧ x = a)) ++ [a]

/-- `keepFirst` without its set of seen arguments: the arguments are put in front one by one, last one first -/
theorem keepFirst_eq (seen l : List Arg) :
    keepFirst K seen l = (l.foldr (pushF K) []).filter (· ∉ seen) := by
  induction l generalizing seen with
  | nil => rfl
  | cons a as ih =>
    simp only [keepFirst, List.foldr_cons, pushF, List.filter_cons, ih, List.filter_filter]
    split
    · rename_i h
      simp only [h, not_true_eq_false, decide_false, Bool.false_eq_true, if_false]
      apply List.filter_congr
      intro x _
      by_cases hxa : x = a <;> simp [hxa, h]
    · rename_i h
      simp only [h, not_false_eq_true, decide_true, if_true]
      congr 1
      apply List.filter_congr
      intro x _
      by_cases hxa : x = a <;> split <;> simp_all

theorem keepFirst_seen (seen l : List Arg) : keepFirst K seen l = (keepFirst K [] l).filter (· ∉ seen) := by
  simp [keepFirst_eq, List.filter_filter]

theorem keepFirst_cons (a : Arg) (l : List Arg) : keepFirst K [] (a :: l) = pushF K a (keepFirst K [] l) := by
  simp only [keepFirst_eq, List.foldr_cons, List.not_mem_nil, not_false_eq_true, decide_true, List.filter_eq_self.mpr,
    implies_true]

theorem mem_keepFirst {seen l : List Arg} {x : Arg} :
    x ∈ keepFirst K seen l ↔ x ∈ l ∧ x ∉ seen := by
  -- a push in front drops nothing but copies of what it puts there
  suffices h : x ∈ l.foldr (pushF K) [] ↔ x ∈ l by simp [keepFirst_eq, h]
  induction l with
  | nil => simp
  | cons a as ih => by_cases hxa : x = a <;> simp [pushF, hxa, ih]

theorem mem_ovOf {l : List Arg} {x : Arg} : x ∈ ovOf K l ↔ x ∈ l ∧ K.dd x = .overridden := by
  simp [ovOf, List.mem_filter]

theorem ovOf_cons (a : Arg) (l : List Arg) :
    ovOf K (a :: l) = if K.dd a = .overridden then a :: ovOf K l else ovOf K l := by
  simp [ovOf, List.filter_cons]

theorem foldr_pushF (l Y : List Arg) :
    l.foldr (pushF K) Y = keepFirst K [] l ++ Y.filter (· ∉ ovOf K l) := by
  induction l with
  | nil => simp [keepFirst, ovOf, List.filter_eq_self.mpr]
  | cons a as ih =>
    rw [keepFirst_eq] at ih ⊢
    simp only [List.foldr_cons, pushF, ih, List.filter_append, List.filter_filter, List.cons_append,
      List.filter_cons, List.not_mem_nil, not_false_eq_true, decide_true, if_true, Bool.and_true, Bool.true_and]
    congr 2
    apply List.filter_congr
    intro x _
    rw [ovOf_cons]
    split <;> simp_all

theorem foldl_pushB (l Y : List Arg) :
    l.foldl (pushB K) Y = Y.filter (· ∉ ovOf K l) ++ keepLast K l := by
  have h : ∀ Y, l.foldl (pushB K) Y = (l.reverse.foldr (pushF K) Y.reverse).reverse := by
    induction l with
    | nil => simp
    | cons a as ih =>
      intro Y
      simp [ih, pushB, pushF, List.filter_reverse]
  rw [h, foldr_pushF, keepLast]
  simp [List.filter_reverse, mem_ovOf]

theorem keepFirst_id {seen l : List Arg} (h : ∀ x ∈ l, K.dd x ≠ .overridden) (hs : ∀ x ∈ l, x ∉ seen) :
    keepFirst K seen l = l := by
  induction l generalizing seen with
  | nil => rfl
  | cons a as ih =>
    have ha : K.dd a ≠ .overridden := h a List.mem_cons_self
    simp only [keepFirst, hs a List.mem_cons_self, if_false, ha]
    congr 1
    exact ih (fun x hx => h x (List.mem_cons_of_mem _ hx)) (fun x hx => hs x (List.mem_cons_of_mem _ hx))

theorem keepFirst_sublist (seen l : List Arg) : (keepFirst K seen l).Sublist l := by
  induction l generalizing seen with
  | nil => exact List.Sublist.slnil
  | cons a as ih =>
    simp only [keepFirst]
    split
    · exact (ih _).cons _
    · exact (ih _).cons_cons _

theorem keepLast_sublist (l : List Arg) : (keepLast K l).Sublist l := by
  unfold keepLast
  have := (keepFirst_sublist (K := K) [] l.reverse).reverse
  simpa using this

theorem mem_keepLast {l : List Arg} {x : Arg} : x ∈ keepLast K l ↔ x ∈ l := by
  simp [keepLast, mem_keepFirst]

theorem flushWalk_fst (l set : List Arg) : (flushWalk K l set).1 = keepFirst K set l := by
  induction l generalizing set with
  | nil => rfl
  | cons a as ih =>
    simp only [flushWalk, keepFirst]
    split
    · exact ih set
    · simp only [ih]

theorem mem_flushWalk_snd {l set : List Arg} {x : Arg} :
    x ∈ (flushWalk K l set).2 ↔ x ∈ set ∨ (x ∈ l ∧ K.dd x = .overridden) := by
  induction l generalizing set with
  | nil => simp [flushWalk]
  | cons a as ih =>
    simp only [flushWalk]
    split
    · by_cases hxa : x = a <;> simp_all
    · rw [ih]
      by_cases hxa : x = a <;> split <;> simp_all

/-- what a flush makes of container `C` and queues `P`, `Q`: the queued arguments are put in one by one, those of
`Q` behind in order, then those of `P` in front, last one first -/
def settle (K : Classify) (C P Q : List Arg) : List Arg := P.foldr (pushF K) (Q.foldl (pushB K) C)

/-- invariant of the lazy state; `noc` is `needs_override_check` -/
structure Inv (K : Classify) (s : State) : Prop where
  pre_pp : ∀ x ∈ s.pre, K.pp x = true
  post_pp : ∀ x ∈ s.post, K.pp x = false
  noc_ov : s.noc = false → ∀ x, x ∈ s.pre ∨ x ∈ s.post → K.dd x ≠ .overridden

theorem ovOf_nil_of {l : List Arg} (h : ∀ x ∈ l, K.dd x ≠ .overridden) : ovOf K l = [] := by
  simp only [ovOf, List.filter_eq_nil_iff]
  intro a ha
  simpa using h a ha

/-- the three blocks of a flush (the queues hold different arguments) -/
theorem settle_eq {P Q : List Arg} (hP : ∀ x ∈ P, K.pp x = true) (hQ : ∀ x ∈ Q, K.pp x = false) (C : List Arg) :
    settle K C P Q = keepFirst K [] P ++ C.filter (fun a => a ∉ ovOf K Q ∧ a ∉ ovOf K P) ++ keepLast K Q := by
  have hq : (keepLast K Q).filter (· ∉ ovOf K P) = keepLast K Q :=
    List.filter_eq_self.mpr fun x hx => by
      have hx' := hQ x (mem_keepLast.mp hx)
      simpa [mem_ovOf] using Or.inl fun hp => by simp [hP x hp] at hx'
  rw [settle, foldl_pushB, foldr_pushF, List.filter_append, hq, List.filter_filter, List.append_assoc]
  simp only [Bool.decide_and, Bool.and_comm]

theorem flush_eq (s : State) (hi : Inv K s) :
    flush K s = ⟨settle K s.container s.pre s.post, [], [], false⟩ := by
  rw [settle_eq hi.pre_pp hi.post_pp]
  unfold flush
  split
  · rename_i hn
    have hP : ∀ x ∈ s.pre, K.dd x ≠ .overridden := fun x hx => hi.noc_ov hn x (Or.inl hx)
    have hQ : ∀ x ∈ s.post, K.dd x ≠ .overridden := fun x hx => hi.noc_ov hn x (Or.inr hx)
    have hQr : ∀ x ∈ s.post.reverse, K.dd x ≠ .overridden := fun x hx => hQ x (List.mem_reverse.mp hx)
    rw [keepFirst_id hP (by simp), keepLast, keepFirst_id hQr (by simp), ovOf_nil_of hP, ovOf_nil_of hQ]
    have : s.container.filter (fun a => a ∉ ([] : List Arg) ∧ a ∉ ([] : List Arg)) = s.container :=
      List.filter_eq_self.mpr (by simp)
    rw [this]
    simp
  · simp only [flushWalk_fst, keepLast]
    congr 2
    congr 1
    apply List.filter_congr
    intro x _
    simp only [mem_flushWalk_snd, mem_ovOf, List.mem_reverse, List.not_mem_nil, false_or]

theorem flush_pre (s : State) : (flush K s).pre = [] := by
  unfold flush
  split <;> rfl

theorem flush_post (s : State) : (flush K s).post = [] := by
  unfold flush
  split <;> rfl

theorem flush_noc (s : State) : (flush K s).noc = false := by
  unfold flush
  split <;> rfl

theorem inv_of_empty {s : State} (h1 : s.pre = []) (h2 : s.post = []) : Inv K s :=
  ⟨by simp [h1], by simp [h2], by simp [h1, h2]⟩

theorem inv_flush (s : State) : Inv K (flush K s) := inv_of_empty (flush_pre s) (flush_post s)

theorem flush_of_clean (s : State) (h1 : s.pre = []) (h2 : s.post = []) (h3 : s.noc = false) :
    flush K s = s := by
  cases s
  simp_all [flush]

theorem flush_flush (s : State) : flush K (flush K s) = flush K s :=
  flush_of_clean (flush K s) (flush_pre s) (flush_post s) (flush_noc s)

theorem mem_settle {C P Q : List Arg} {x : Arg} : x ∈ settle K C P Q ↔ x ∈ C ∨ x ∈ P ∨ x ∈ Q := by
  simp only [settle, foldl_pushB, foldr_pushF, List.mem_append, mem_keepFirst, mem_keepLast, List.mem_filter, mem_ovOf,
    List.not_mem_nil, not_false_eq_true, and_true, decide_eq_true_eq]
  by_cases hp : x ∈ P <;> by_cases hq : x ∈ Q <;> simp [hp, hq]

/-- the classifier for which the once-only arguments of `K` are the override-type ones -/
def onceAsOv (K : Classify) : Classify := ⟨fun a => if K.dd a = .unique then .overridden else .noDedup, K.pp⟩

theorem onceAsOv_dd (a : Arg) : (onceAsOv K).dd a = .overridden ↔ K.dd a = .unique := by
  simp only [onceAsOv]
  split <;> simp_all

/-- dropping the repeats of once-only arguments is keeping first occurrences, for `onceAsOv K` -/
theorem accept_eq (seen b : List Arg) :
    accept K seen b = keepFirst (onceAsOv K) (seen.filter (fun a => K.dd a = .unique)) b := by
  induction b generalizing seen with
  | nil => rfl
  | cons a as ih =>
    simp only [accept, keepFirst, ih, List.mem_filter, decide_eq_true_eq, onceAsOv_dd, List.filter_cons]
    by_cases hu : K.dd a = .unique <;> simp [hu]

theorem accept_congr {s1 s2 : List Arg} (b : List Arg) (h : ∀ x, x ∈ s1 ↔ x ∈ s2) :
    accept K s1 b = accept K s2 b := by
  rw [accept_eq, accept_eq, keepFirst_eq, keepFirst_eq]
  exact List.filter_congr fun x _ => by simp [h x]

theorem extendLeft_eq (d xs : List Arg) : extendLeft d xs = xs.reverse ++ d := by
  unfold extendLeft
  induction xs generalizing d with
  | nil => rfl
  | cons x xs ih => simp [List.foldl_cons, ih]

theorem iaddLoop_eq (cont pre b tmp post seen : List Arg) (noc : Bool)
    (h : ∀ x, x ∈ seen ↔ x ∈ cont ∨ x ∈ pre ∨ x ∈ post ∨ x ∈ tmp) :
    iaddLoop K cont pre b tmp post noc =
      (((accept K seen b).filter (fun a => K.pp a)).reverse ++ tmp,
       post ++ (accept K seen b).filter (fun a => !K.pp a),
       noc || (accept K seen b).any (fun a => decide (K.dd a = .overridden))) := by
  fun_induction iaddLoop K cont pre b tmp post noc generalizing seen with
  | case1 => simp [accept]
  | case2 a as tmp post noc hs ih =>
    rw [accept, if_pos (by rwa [h a]), ih seen h]
  | case3 a as tmp post noc hs noc' hp ih =>
    rw [accept, if_neg (by rwa [h a]), ih (a :: seen) (by intro x; simp [h x, or_left_comm])]
    simp [List.filter_cons, hp, noc', Bool.or_assoc]
  | case4 a as tmp post noc hs noc' hp ih =>
    rw [accept, if_neg (by rwa [h a]), ih (a :: seen) (by intro x; simp [h x, or_assoc, or_left_comm])]
    simp [List.filter_cons, hp, noc', Bool.or_assoc]

/-- the accepted arguments of `s += b` -/
def accepted (K : Classify) (s : State) (b : List Arg) : List Arg :=
  accept K (s.container ++ s.pre ++ s.post) b

theorem iadd_eq (s : State) (b : List Arg) :
    iadd K s b =
      { container := s.container,
        pre := (accepted K s b).filter (fun a => K.pp a) ++ s.pre,
        post := s.post ++ (accepted K s b).filter (fun a => !K.pp a),
        noc := s.noc || (accepted K s b).any (fun a => decide (K.dd a = .overridden)) } := by
  unfold iadd accepted
  rw [iaddLoop_eq s.container s.pre b [] s.post (s.container ++ s.pre ++ s.post) s.noc
    (by intro x; simp [or_assoc])]
  simp [extendLeft_eq]

theorem inv_iadd (s : State) (b : List Arg) (hi : Inv K s) : Inv K (iadd K s b) := by
  rw [iadd_eq]
  refine ⟨List.forall_mem_append.mpr ⟨fun x h => (List.mem_filter.mp h).2, hi.pre_pp⟩,
    List.forall_mem_append.mpr ⟨hi.post_pp, fun x h => by simpa using (List.mem_filter.mp h).2⟩, fun hn x hx => ?_⟩
  simp only [Bool.or_eq_false_iff, List.any_eq_false, decide_eq_true_eq] at hn
  -- an accepted argument is covered by the new flag, a queued one by the old
  by_cases h : x ∈ accepted K s b
  · exact hn.2 x h
  · exact hi.noc_ov hn.1 x (by simpa [h] using hx)

theorem inv_mk (l : List Arg) : Inv K (mk l) := inv_of_empty rfl rfl

theorem pushB_pushF {a u : Arg} (h : a ≠ u) (r : List Arg) :
    pushB K (pushF K a r) u = pushF K a (pushB K r u) := by
  simp [pushB, pushF, List.filter_append, List.filter_filter, h, Ne.symm h, Bool.and_comm]

theorem pushB_foldr {P : List Arg} {u : Arg} (h : u ∉ P) (Y : List Arg) :
    pushB K (P.foldr (pushF K) Y) u = P.foldr (pushF K) (pushB K Y u) := by
  induction P with
  | nil => rfl
  | cons a as ih =>
    rw [List.foldr_cons, List.foldr_cons, pushB_pushF (fun e : a = u => h (e ▸ List.mem_cons_self)),
      ih (fun hm => h (List.mem_cons_of_mem _ hm))]

theorem foldl_foldr_comm {P U : List Arg} (h : ∀ u ∈ U, u ∉ P) (Y : List Arg) :
    U.foldl (pushB K) (P.foldr (pushF K) Y) = P.foldr (pushF K) (U.foldl (pushB K) Y) := by
  induction U generalizing Y with
  | nil => rfl
  | cons u us ih =>
    rw [List.foldl_cons, List.foldl_cons, pushB_foldr (h u List.mem_cons_self),
      ih (fun v hv => h v (List.mem_cons_of_mem _ hv))]

/-- flushing early changes nothing: longer queues are more pushes, and a push behind commutes with the pushes in
front as long as the arguments differ -/
theorem settle_settle (C P Q T U : List Arg) (h : ∀ u ∈ U, u ∉ P) :
    settle K (settle K C P Q) T U = settle K C (T ++ P) (Q ++ U) := by
  simp only [settle, List.foldr_append, List.foldl_append, foldl_foldr_comm h]

theorem flush_eq_mk (s : State) : flush K s = mk (flush K s).container := by
  unfold flush
  split <;> rfl

theorem flush_mk (l : List Arg) : flush K (mk l) = mk l := by simp [flush, mk]

/-- `specAdd` is a flush of the accepted batch into the list -/
theorem specAdd_eq_settle (L b : List Arg) :
    specAdd K L b =
      settle K L ((accept K L b).filter (fun a => K.pp a)) ((accept K L b).filter (fun a => !K.pp a)) := by
  rw [settle_eq (fun x hx => (List.mem_filter.mp hx).2) (fun x hx => by simpa using (List.mem_filter.mp hx).2), specAdd]
  congr 2
  apply List.filter_congr
  intro x _
  simp only [mem_ovOf, List.mem_filter, Bool.not_eq_true', decide_eq_decide]
  by_cases hp : K.pp x = true <;> simp [hp]

/-- `+=` on the lazy object means the eager `+=` on the list it stands for: longer queues are more pushes, and the
new pushes behind commute with the old ones in front because the arguments differ -/
theorem flush_iadd_container (s : State) (b : List Arg) (hi : Inv K s) :
    (flush K (iadd K s b)).container = specAdd K (flush K s).container b := by
  have hacc : accept K (settle K s.container s.pre s.post) b = accepted K s b :=
    accept_congr b fun x => by simp only [mem_settle, List.mem_append, or_assoc]
  rw [flush_eq _ (inv_iadd _ b hi), flush_eq s hi, specAdd_eq_settle, hacc, iadd_eq]
  refine (settle_settle _ _ _ _ _ fun u hu hp => ?_).symm
  simpa [hi.pre_pp u hp] using (List.mem_filter.mp hu).2

theorem flush_iadd_flush (s : State) (b : List Arg) (hi : Inv K s) :
    flush K (iadd K (flush K s) b) = flush K (iadd K s b) := by
  rw [flush_eq_mk (iadd K (flush K s) b), flush_eq_mk (iadd K s b), flush_iadd_container _ b (inv_flush s),
    flush_iadd_container s b hi, flush_flush]

theorem eager_iadd_container (L b : List Arg) : (flush K (iadd K (mk L) b)).container = specAdd K L b := by
  rw [flush_iadd_container _ b (inv_mk L), flush_mk]
  rfl

end MesonModel.ArgList
