/-
Consequences of the specification `specAdd`, read off its three blocks `specFront ++ specMid ++ specBack`:
membership, counts, what a filter sees; soundness of the table checker.
-/
import MesonModel.ArgList.Lemmas

namespace MesonModel.ArgList

variable {K : Classify}

theorem count_keepFirst_ov {l : List Arg} {x : Arg} (hx : K.dd x = .overridden) (hl : x ∈ l) :
    (keepFirst K [] l).count x = 1 := by
  induction l with
  | nil => cases hl
  | cons a as ih =>
    rw [keepFirst_cons, pushF, List.count_cons]
    by_cases hxa : a = x
    · subst hxa
      simp [hx, List.count_eq_zero]
    · rw [List.count_filter (by simp [Ne.symm hxa]), ih ((List.mem_cons.mp hl).resolve_left (Ne.symm hxa))]
      simp [hxa]

theorem count_keepLast_ov {l : List Arg} {x : Arg} (hx : K.dd x = .overridden) (hl : x ∈ l) :
    (keepLast K l).count x = 1 := by
  simp only [keepLast, List.count_reverse]
  exact count_keepFirst_ov hx (by simpa using hl)

theorem filter_keepFirst_not_ov (p : Arg → Bool) {l : List Arg} (hp : ∀ x ∈ l, p x = true → K.dd x ≠ .overridden) :
    (keepFirst K [] l).filter p = l.filter p := by
  induction l with
  | nil => rfl
  | cons a as ih =>
    have : ((keepFirst K [] as).filter fun x => ¬(K.dd a = .overridden ∧ x = a)).filter p = as.filter p := by
      rw [← ih fun x hx => hp x (List.mem_cons_of_mem _ hx), List.filter_filter]
      apply List.filter_congr
      intro x _
      cases hpx : p x
      · rfl
      · exact decide_eq_true fun h => hp a List.mem_cons_self (h.2 ▸ hpx) h.1
    simp only [keepFirst_cons, pushF, List.filter_cons, this]

theorem filter_keepLast_not_ov (p : Arg → Bool) {l : List Arg} (hp : ∀ x ∈ l, p x = true → K.dd x ≠ .overridden) :
    (keepLast K l).filter p = l.filter p := by
  simp only [keepLast, List.filter_reverse]
  rw [filter_keepFirst_not_ov p fun x hx => hp x (List.mem_reverse.mp hx), List.filter_reverse, List.reverse_reverse]

theorem count_keepFirst_not_ov {l : List Arg} {x : Arg} (hx : K.dd x ≠ .overridden) :
    (keepFirst K [] l).count x = l.count x := by
  rw [List.count_eq_length_filter, List.count_eq_length_filter,
    filter_keepFirst_not_ov (· == x) fun y _ hy => by rwa [beq_iff_eq.mp hy]]

theorem count_keepLast_not_ov {l : List Arg} {x : Arg} (hx : K.dd x ≠ .overridden) :
    (keepLast K l).count x = l.count x := by
  rw [List.count_eq_length_filter, List.count_eq_length_filter,
    filter_keepLast_not_ov (· == x) fun y _ hy => by rwa [beq_iff_eq.mp hy]]

theorem accept_sublist (seen b : List Arg) : (accept K seen b).Sublist b :=
  accept_eq seen b ▸ keepFirst_sublist _ b

theorem mem_accept {seen b : List Arg} {x : Arg} :
    x ∈ accept K seen b ↔ x ∈ b ∧ (K.dd x = .unique → x ∉ seen) := by
  simp [accept_eq, mem_keepFirst, imp.swap]

theorem mem_accept_of_not_unique {seen b : List Arg} {x : Arg} (hx : K.dd x ≠ .unique) (h : x ∈ b) :
    x ∈ accept K seen b :=
  mem_accept.mpr ⟨h, fun hu => absurd hu hx⟩

theorem filter_accept_of_not_unique (p : Arg → Bool) (seen : List Arg) {b : List Arg}
    (hp : ∀ x ∈ b, p x = true → K.dd x ≠ .unique) : (accept K seen b).filter p = b.filter p := by
  rw [accept_eq, keepFirst_seen, List.filter_filter,
    ← filter_keepFirst_not_ov (K := onceAsOv K) p fun x hx hpx h => hp x hx hpx ((onceAsOv_dd x).mp h)]
  apply List.filter_congr
  intro x hx
  cases hpx : p x
  · rfl
  · simp [hp x (mem_keepFirst.mp hx).1 hpx]

theorem count_accept_of_not_unique {seen b : List Arg} {x : Arg} (hx : K.dd x ≠ .unique) :
    (accept K seen b).count x = b.count x := by
  rw [List.count_eq_length_filter, List.count_eq_length_filter,
    filter_accept_of_not_unique (· == x) seen fun y _ hy => by rwa [beq_iff_eq.mp hy]]

theorem count_accept_unique {seen b : List Arg} {x : Arg} (hu : K.dd x = .unique) :
    (accept K seen b).count x = if x ∈ seen then 0 else if x ∈ b then 1 else 0 := by
  split
  · exact List.count_eq_zero.mpr fun h => (mem_accept.mp h).2 hu ‹_›
  · split
    · rw [accept_eq, keepFirst_seen, List.count_filter (by simp [*]), count_keepFirst_ov ((onceAsOv_dd x).mpr hu) ‹_›]
    · exact List.count_eq_zero.mpr fun h => absurd (mem_accept.mp h).1 ‹_›

/-- the accepted prepend-type arguments; of an override-type one the first occurrence -/
def specFront (K : Classify) (L b : List Arg) : List Arg :=
  keepFirst K [] ((accept K L b).filter (fun a => K.pp a))

/-- `L` without the override-type arguments the batch sets again -/
def specMid (K : Classify) (L b : List Arg) : List Arg :=
  L.filter (fun a => a ∉ ovOf K (accept K L b))

/-- the other accepted arguments; of an override-type one the last occurrence -/
def specBack (K : Classify) (L b : List Arg) : List Arg :=
  keepLast K ((accept K L b).filter (fun a => !K.pp a))

theorem specAdd_eq (L b : List Arg) : specAdd K L b = specFront K L b ++ specMid K L b ++ specBack K L b := rfl

theorem mem_specFront {L b : List Arg} {x : Arg} : x ∈ specFront K L b ↔ x ∈ accept K L b ∧ K.pp x = true := by
  simp [specFront, mem_keepFirst]

theorem mem_specMid {L b : List Arg} {x : Arg} :
    x ∈ specMid K L b ↔ x ∈ L ∧ (x ∈ accept K L b → K.dd x ≠ .overridden) := by
  simp only [specMid, List.mem_filter, decide_eq_true_eq, mem_ovOf, not_and, ne_eq]

theorem mem_specBack {L b : List Arg} {x : Arg} : x ∈ specBack K L b ↔ x ∈ accept K L b ∧ K.pp x = false := by
  simp [specBack, mem_keepLast]

theorem mem_specAdd_iff {L b : List Arg} {x : Arg} : x ∈ specAdd K L b ↔ x ∈ L ∨ x ∈ b := by
  simp only [specAdd_eq_settle, mem_settle, List.mem_filter, mem_accept]
  by_cases hl : x ∈ L <;> cases K.pp x <;> simp [hl]

theorem count_filter_split (p : Arg → Bool) (l : List Arg) (x : Arg) :
    (l.filter p).count x + (l.filter (fun a => !p a)).count x = l.count x :=
  (List.countP_eq_countP_filter_add l (· == x) p).symm

/-- what the batch cannot de-duplicate stays where it is: for a selection `p` of arguments none of which the batch
holds in a form that can be de-duplicated, `+=` puts the batch's prepend-type part in front and the rest behind -/
theorem filter_specAdd (p : Arg → Bool) (L : List Arg) {b : List Arg}
    (h : ∀ x ∈ b, p x = true → K.dd x = .noDedup) :
    (specAdd K L b).filter p =
      (b.filter (fun a => K.pp a)).filter p ++ L.filter p ++ (b.filter (fun a => !K.pp a)).filter p := by
  have hb : ∀ {q : Arg → Bool} {x : Arg}, x ∈ (accept K L b).filter q → x ∈ b := fun hx =>
    (accept_sublist L b).subset (List.mem_filter.mp hx).1
  have hacc : ∀ q : Arg → Bool, ((accept K L b).filter q).filter p = (b.filter q).filter p := fun q => by
    rw [List.filter_filter, List.filter_filter]
    exact filter_accept_of_not_unique _ L fun x hx hpx => by simp [h x hx (Bool.and_eq_true_iff.mp hpx).1]
  have hmid : (specMid K L b).filter p = L.filter p := by
    rw [specMid, List.filter_filter]
    apply List.filter_congr
    intro x _
    cases hpx : p x
    · rfl
    · refine decide_eq_true fun ho => ?_
      have := h x ((accept_sublist L b).subset (mem_ovOf.mp ho).1) hpx
      simp [(mem_ovOf.mp ho).2] at this
  rw [specAdd_eq, List.filter_append, List.filter_append, hmid, specFront, specBack,
    filter_keepFirst_not_ov p fun x hx hpx => by simp [h x (hb hx) hpx],
    filter_keepLast_not_ov p fun x hx hpx => by simp [h x (hb hx) hpx], hacc, hacc]

/-- in particular a batch does not disturb the arguments it does not hold -/
theorem filter_specAdd_of_untouched (p : Arg → Bool) (L : List Arg) {g : List Arg} (h : ∀ x ∈ g, p x = false) :
    (specAdd K L g).filter p = L.filter p := by
  have e : ∀ q : Arg → Bool, (g.filter q).filter p = [] := fun q =>
    List.filter_eq_nil_iff.mpr fun x hx => by simp [h x (List.mem_filter.mp hx).1]
  rw [filter_specAdd p L fun x hx hpx => by simp [h x hx] at hpx, e, e, List.nil_append, List.append_nil]

theorem count_specAdd_of_not_ov {L b : List Arg} {x : Arg} (hne : K.dd x ≠ .overridden) :
    (specAdd K L b).count x = L.count x + (accept K L b).count x := by
  have hmid : (specMid K L b).count x = L.count x :=
    List.count_filter (by simpa using fun h => hne (mem_ovOf.mp h).2)
  rw [specAdd_eq, List.count_append, List.count_append, hmid, specFront, specBack,
    count_keepFirst_not_ov hne, count_keepLast_not_ov hne]
  have := count_filter_split (fun a => K.pp a) (accept K L b) x
  omega

theorem count_specAdd_ov {L b : List Arg} {x : Arg} (hx : K.dd x = .overridden) (hb : x ∈ b) :
    (specAdd K L b).count x = 1 := by
  have hacc : x ∈ accept K L b := mem_accept_of_not_unique (by rw [hx]; decide) hb
  have hmid : (specMid K L b).count x = 0 :=
    List.count_eq_zero.mpr fun hm => (mem_specMid.mp hm).2 hacc hx
  rw [specAdd_eq, List.count_append, List.count_append, hmid]
  cases hp : K.pp x
  · have h1 : (specFront K L b).count x = 0 :=
      List.count_eq_zero.mpr fun hm => by simpa [hp] using (mem_specFront.mp hm).2
    rw [h1, specBack, count_keepLast_ov hx (List.mem_filter.mpr ⟨hacc, by simp [hp]⟩)]
  · have h1 : (specBack K L b).count x = 0 :=
      List.count_eq_zero.mpr fun hm => by simpa [hp] using (mem_specBack.mp hm).2
    rw [h1, specFront, count_keepFirst_ov hx (List.mem_filter.mpr ⟨hacc, by simp [hp]⟩)]

theorem isPrefixOf_trans {a b c : List Char} (h1 : a.isPrefixOf b = true) (h2 : b.isPrefixOf c = true) :
    a.isPrefixOf c = true := by
  rw [List.isPrefixOf_iff_prefix] at *
  exact h1.trans h2

theorem tablesOk_sound (T : Tables) (h : tablesOk T = true) : NoPrependUnique T.classify := by
  intro a hp
  simp only [Tables.classify, Tables.pp, startsWithAny, List.any_eq_true] at hp
  obtain ⟨p, hpm, hpa⟩ := hp
  simp only [tablesOk, List.all_eq_true, List.any_eq_true] at h
  obtain ⟨q, hqm, hqp⟩ := h p hpm
  have hqa : q.isPrefixOf a = true := isPrefixOf_trans hqp hpa
  have hs : startsWithAny T.dedup2Prefixes a = true := by
    simp only [startsWithAny, List.any_eq_true]
    exact ⟨q, hqm, hqa⟩
  simp only [Tables.classify, Tables.dd]
  split
  · simp
  · simp [hs]

end MesonModel.ArgList
