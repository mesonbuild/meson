/-
The reference-level machine simulates the value-level one as long as list objects are not shared,
and every operation keeps them unshared.
-/
import MesonModel.ArgList.RefModel

namespace MesonModel.ArgList

theorem getD_set_ne (cells : List (List Arg)) (a b : Nat) (v : List Arg) (h : a ≠ b) :
    (cells.set a v).getD b [] = cells.getD b [] := by
  simp [List.getD_eq_getElem?_getD, List.getElem?_set_ne h]

theorem getD_set_eq (cells : List (List Arg)) (a : Nat) (v : List Arg) (h : a < cells.length) :
    (cells.set a v).getD a [] = v := by
  simp [List.getD_eq_getElem?_getD, h]

theorem getD_append_lt (cells : List (List Arg)) (b : Nat) (v : List Arg) (h : b < cells.length) :
    (cells ++ [v]).getD b [] = cells.getD b [] := by
  simp [List.getD_eq_getElem?_getD, List.getElem?_append_left h]

theorem getD_append_len (cells : List (List Arg)) (v : List Arg) :
    (cells ++ [v]).getD cells.length [] = v := by
  simp [List.getD_eq_getElem?_getD]

theorem load_set_ne (cells : List (List Arg)) (a : Nat) (v : List Arg) (o : RObj) (h : a ≠ o.cont) :
    load (cells.set a v) o = load cells o := by
  unfold load
  rw [getD_set_ne cells a o.cont v h]

theorem load_append (cells : List (List Arg)) (v : List Arg) (o : RObj) (h : o.cont < cells.length) :
    load (cells ++ [v]) o = load cells o := by
  unfold load
  rw [getD_append_lt cells o.cont v h]

theorem getElem?_set_cases {α} {l : List α} {i j : Nat} {a b : α} (h : (l.set i a)[j]? = some b) :
    (j = i ∧ b = a) ∨ (j ≠ i ∧ l[j]? = some b) := by
  rw [List.getElem?_set] at h
  split at h
  · rename_i hij
    split at h
    · exact Or.inl ⟨hij.symm, (Option.some.inj h).symm⟩
    · cases h
  · rename_i hij
    exact Or.inr ⟨fun e => hij e.symm, h⟩

theorem getElem?_append_singleton {α} {l : List α} {x : α} {j : Nat} {y : α} (h : (l ++ [x])[j]? = some y) :
    (j = l.length ∧ y = x) ∨ (j ≠ l.length ∧ l[j]? = some y) := by
  rw [List.getElem?_append] at h
  split at h
  · exact Or.inr ⟨by omega, h⟩
  · rw [List.getElem?_singleton] at h
    split at h
    · exact Or.inl ⟨by omega, (Option.some.inj h).symm⟩
    · cases h

/-- changing or adding one object (slot `i`) keeps separation when its container is an allocated address that no
other object and no caller list holds -/
theorem Sep.put_obj {m : RMem} (hs : Sep m) (i : Nat) (o' : RObj) {objs' : List RObj} (cells' : List (List Arg))
    (hobjs : ∀ {j : Nat} {oj : RObj}, objs'[j]? = some oj → (j = i ∧ oj = o') ∨ (j ≠ i ∧ m.objs[j]? = some oj))
    (hlen : m.cells.length ≤ cells'.length) (hc : o'.cont < cells'.length)
    (ho : ∀ (j : Nat) (oj : RObj), m.objs[j]? = some oj → j ≠ i → oj.cont ≠ o'.cont)
    (hx : ∀ (k a : Nat), m.xs[k]? = some a → o'.cont ≠ a) :
    Sep { m with cells := cells', objs := objs' } := by
  refine ⟨?_, ?_, ?_, ?_, hs.xs_ne⟩
  · intro j oj hj
    rcases hobjs hj with ⟨_, rfl⟩ | ⟨_, h'⟩
    · exact hc
    · exact Nat.lt_of_lt_of_le (hs.objs_lt j oj h') hlen
  · intro k a hk
    exact Nat.lt_of_lt_of_le (hs.xs_lt k a hk) hlen
  · intro j1 j2 o1 o2 h1 h2 hne
    rcases hobjs h1 with ⟨rfl, rfl⟩ | ⟨n1, h1'⟩ <;>
      rcases hobjs h2 with ⟨rfl, rfl⟩ | ⟨n2, h2'⟩
    · exact absurd rfl hne
    · exact (ho j2 o2 h2' n2).symm
    · exact ho j1 o1 h1' n1
    · exact hs.objs_ne j1 j2 o1 o2 h1' h2' hne
  · intro j k oj a hj hk
    rcases hobjs hj with ⟨_, rfl⟩ | ⟨_, h'⟩
    · exact hx k a hk
    · exact hs.obj_x_ne j k oj a h' hk

theorem set_map_congr {α β} (f g : α → β) (l : List α) (i : Nat) (b : β)
    (h : ∀ j a, l[j]? = some a → j ≠ i → f a = g a) : (l.map f).set i b = (l.map g).set i b := by
  apply List.ext_getElem?
  intro j
  simp only [List.getElem?_set, List.length_map, List.getElem?_map]
  split
  · rfl
  · rename_i hij
    cases ha : l[j]? with
    | none => rfl
    | some a => exact congrArg some (h j a ha (Ne.symm hij))

theorem map_load_append (m : RMem) (hs : Sep m) (v : List Arg) :
    m.objs.map (load (m.cells ++ [v])) = m.objs.map (load m.cells) := by
  apply List.map_congr_left
  intro o ho
  obtain ⟨j, hj⟩ := List.getElem?_of_mem ho
  exact load_append _ _ _ (hs.objs_lt j o hj)

theorem map_getD_append (m : RMem) (hs : Sep m) (v : List Arg) :
    m.xs.map (fun ad => (m.cells ++ [v]).getD ad []) = m.xs.map (fun ad => m.cells.getD ad []) := by
  apply List.map_congr_left
  intro ad had
  obtain ⟨k, hk⟩ := List.getElem?_of_mem had
  exact getD_append_lt _ _ _ (hs.xs_lt k ad hk)

theorem store_spec (m : RMem) (i : Nat) (o : RObj) (s : State) (b : Bool) (hs : Sep m)
    (hi : m.objs[i]? = some o) :
    absM (store m i o s b) = ⟨(absM m).objs.set i s, (absM m).xs⟩ ∧ Sep (store m i o s b) := by
  have hlt := hs.objs_lt i o hi
  cases b
  · -- in place
    simp only [store, Bool.false_eq_true, if_false]
    constructor
    · simp only [absM, VMem.mk.injEq]
      constructor
      · rw [List.map_set, load, getD_set_eq _ _ _ hlt]
        exact set_map_congr _ _ _ _ _ fun j oj hj hne =>
          load_set_ne _ _ _ _ (hs.objs_ne i j o oj hi hj (Ne.symm hne))
      · apply List.map_congr_left
        intro ad had
        obtain ⟨k, hk⟩ := List.getElem?_of_mem had
        exact getD_set_ne _ _ _ _ (hs.obj_x_ne i k o ad hi hk)
    · exact hs.put_obj i _ _ getElem?_set_cases (by simp) (by simpa using hlt)
        (fun j oj hj hne => hs.objs_ne j i oj o hj hi hne) (hs.obj_x_ne i · o · hi)
  · -- rebind to a fresh cell
    simp only [store, if_true]
    constructor
    · simp only [absM, VMem.mk.injEq]
      constructor
      · rw [List.map_set, map_load_append m hs, load, getD_append_len]
      · exact map_getD_append m hs _
    · exact hs.put_obj i _ _ getElem?_set_cases (by simp) (by simp)
        (fun j oj hj _ => Nat.ne_of_lt (hs.objs_lt j oj hj)) (fun k a hk => Nat.ne_of_gt (hs.xs_lt k a hk))

theorem allocObj_spec (m : RMem) (l : List Arg) (hs : Sep m) :
    absM (allocObj m l) = ⟨(absM m).objs ++ [mk l], (absM m).xs⟩ ∧ Sep (allocObj m l) := by
  constructor
  · simp only [absM, allocObj, List.map_append, List.map_cons, List.map_nil, VMem.mk.injEq]
    refine ⟨?_, ?_⟩
    · congr 1
      · exact map_load_append m hs _
      · simp only [load, mk]
        rw [getD_append_len]
    · exact map_getD_append m hs _
  · exact hs.put_obj m.objs.length _ _ getElem?_append_singleton (by simp) (by simp)
      (fun j oj hj _ => Nat.ne_of_lt (hs.objs_lt j oj hj)) (fun k a hk => Nat.ne_of_gt (hs.xs_lt k a hk))

theorem xlist_spec (m : RMem) (l : List Arg) (hs : Sep m) :
    let m' : RMem := { m with cells := m.cells ++ [l], xs := m.xs ++ [m.cells.length] }
    absM m' = ⟨(absM m).objs, (absM m).xs ++ [l]⟩ ∧ Sep m' := by
  constructor
  · simp only [absM, List.map_append, List.map_cons, List.map_nil, VMem.mk.injEq]
    refine ⟨?_, ?_⟩
    · exact map_load_append m hs _
    · congr 1
      · exact map_getD_append m hs _
      · rw [getD_append_len]
  · refine ⟨?_, ?_, ?_, ?_, ?_⟩
    · intro j oj hj
      simp only [List.length_append, List.length_singleton]
      have := hs.objs_lt j oj hj
      omega
    · intro k a hk
      simp only [List.length_append, List.length_singleton]
      rcases getElem?_append_singleton hk with ⟨_, e⟩ | ⟨_, h'⟩
      · omega
      · have := hs.xs_lt k a h'
        omega
    · exact hs.objs_ne
    · intro j k oj a hj hk
      rcases getElem?_append_singleton hk with ⟨_, e⟩ | ⟨_, h'⟩
      · have := hs.objs_lt j oj hj
        omega
      · exact hs.obj_x_ne j k oj a hj h'
    · intro k1 k2 a b h1 h2 hne
      rcases getElem?_append_singleton h1 with ⟨e1, c1⟩ | ⟨_, h1'⟩ <;>
        rcases getElem?_append_singleton h2 with ⟨e2, c2⟩ | ⟨_, h2'⟩
      · omega
      · have := hs.xs_lt k2 b h2'
        omega
      · have := hs.xs_lt k1 a h1'
        omega
      · exact hs.xs_ne k1 k2 a b h1' h2' hne

theorem xwrite_spec (m : RMem) (k ad : Nat) (v : List Arg) (hs : Sep m) (hk : m.xs[k]? = some ad) :
    let m' : RMem := { m with cells := m.cells.set ad v }
    absM m' = ⟨(absM m).objs, (absM m).xs.set k v⟩ ∧ Sep m' := by
  have hlt := hs.xs_lt k ad hk
  obtain ⟨hkl, had⟩ := List.getElem?_eq_some_iff.mp hk
  constructor
  · simp only [absM, VMem.mk.injEq]
    refine ⟨?_, ?_⟩
    · apply List.map_congr_left
      intro o ho
      obtain ⟨j, hj⟩ := List.getElem?_of_mem ho
      exact load_set_ne _ _ _ _ (Ne.symm (hs.obj_x_ne j k o ad hj hk))
    · calc m.xs.map (fun a => (m.cells.set ad v).getD a [])
          = (m.xs.set k ad).map (fun a => (m.cells.set ad v).getD a []) := by rw [← had, List.set_getElem_self]
        _ = (m.xs.map fun a => (m.cells.set ad v).getD a []).set k v := by rw [List.map_set, getD_set_eq _ _ _ hlt]
        _ = _ := set_map_congr _ _ _ _ _ fun l b hb hne =>
          getD_set_ne _ _ _ _ (hs.xs_ne k l ad b hk hb (Ne.symm hne))
  · exact ⟨by simpa using hs.objs_lt, by simpa using hs.xs_lt, hs.objs_ne, hs.obj_x_ne, hs.xs_ne⟩

theorem absM_objs_get (m : RMem) (i : Nat) : (absM m).objs[i]? = m.objs[i]?.map (load m.cells) := by
  simp [absM]

theorem absM_xs_get (m : RMem) (k : Nat) : (absM m).xs[k]? = m.xs[k]?.map (fun ad => m.cells.getD ad []) := by
  simp [absM]

/-- with the copying constructor (`alias = false`) an operation writes its receiver only: the other objects and all
caller-owned lists keep their values.  For every write policy. -/
theorem rstep_simulates (pol : State → Op → Bool) (cfg : Cfg) (m : RMem) (op : ROp) (hs : Sep m) :
    absM (rstep false pol cfg m op).1 = (vstep cfg (absM m) op).1 ∧
    (rstep false pol cfg m op).2 = (vstep cfg (absM m) op).2 ∧
    Sep (rstep false pol cfg m op).1 := by
  cases op with
  | xlist l =>
    have h := xlist_spec m l hs
    simp only [rstep, vstep]
    exact ⟨h.1, trivial, h.2⟩
  | xappend k a =>
    simp only [rstep, vstep, absM_xs_get]
    cases hk : m.xs[k]? with
    | none => exact ⟨rfl, rfl, hs⟩
    | some ad =>
      have h := xwrite_spec m k ad (m.cells.getD ad [] ++ [a]) hs hk
      exact ⟨h.1, rfl, h.2⟩
  | xclear k =>
    simp only [rstep, vstep, absM_xs_get]
    cases hk : m.xs[k]? with
    | none => exact ⟨rfl, rfl, hs⟩
    | some ad =>
      have h := xwrite_spec m k ad [] hs hk
      exact ⟨h.1, rfl, h.2⟩
  | new l =>
    have h := allocObj_spec m l hs
    simp only [rstep, vstep]
    exact ⟨h.1, trivial, h.2⟩
  | newX k =>
    simp only [rstep, vstep, absM_xs_get, Bool.false_eq_true, if_false]
    cases hk : m.xs[k]? with
    | none => exact ⟨rfl, rfl, hs⟩
    | some ad =>
      have h := allocObj_spec m (m.cells.getD ad []) hs
      exact ⟨h.1, rfl, h.2⟩
  | on i op =>
    simp only [rstep, vstep, absM_objs_get]
    cases hi : m.objs[i]? with
    | none => exact ⟨rfl, rfl, hs⟩
    | some o =>
      have h := store_spec m i o (step cfg (load m.cells o) op).1 (pol (load m.cells o) op) hs hi
      exact ⟨h.1, rfl, h.2⟩
  | onX i lop k =>
    simp only [rstep, vstep, absM_objs_get, absM_xs_get]
    cases hi : m.objs[i]? with
    | none => exact ⟨rfl, rfl, hs⟩
    | some o =>
      cases hk : m.xs[k]? with
      | none => exact ⟨rfl, rfl, hs⟩
      | some ad =>
        have h := store_spec m i o (step cfg (load m.cells o) (lop.toOp (m.cells.getD ad []))).1
          (pol (load m.cells o) (lop.toOp (m.cells.getD ad []))) hs hi
        exact ⟨h.1, rfl, h.2⟩
  | copy i =>
    simp only [rstep, vstep, absM_objs_get]
    cases hi : m.objs[i]? with
    | none => exact ⟨rfl, rfl, hs⟩
    | some o =>
      have h := store_spec m i o (step cfg (load m.cells o) .copy).1 (pol (load m.cells o) .copy) hs hi
      have h2 := allocObj_spec _ (step cfg (load m.cells o) .copy).1.container h.2
      refine ⟨?_, rfl, h2.2⟩
      simp only [Option.map_some]
      rw [h2.1, h.1]

theorem sep_empty : Sep emptyMem := by
  refine ⟨?_, ?_, ?_, ?_, ?_⟩
  · intro i o h
    simp [emptyMem] at h
  · intro k a h
    simp [emptyMem] at h
  · intro i j oi oj h
    simp [emptyMem] at h
  · intro i k o a h
    simp [emptyMem] at h
  · intro k l a b h
    simp [emptyMem] at h

def vrun (cfg : Cfg) (v : VMem) : List ROp → List Out
  | [] => []
  | op :: ops => let r := vstep cfg v op; r.2 :: vrun cfg r.1 ops

theorem rrun_eq_vrun (pol : State → Op → Bool) (cfg : Cfg) (ops : List ROp) (m : RMem) (hs : Sep m) :
    rrun false pol cfg m ops = vrun cfg (absM m) ops := by
  induction ops generalizing m with
  | nil => rfl
  | cons op ops ih =>
    have h := rstep_simulates pol cfg m op hs
    simp only [rrun, vrun]
    rw [h.2.1, ih _ h.2.2, h.1]

end MesonModel.ArgList
