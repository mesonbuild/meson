/-
The documented permission rule (`modeRule`), its idempotence, and `set_mode` as its implementation.
-/
import MesonModel.Install.Tree

namespace MesonModel.Install

/-- the documented permission rule: a declared `install_mode` wins, otherwise `install_umask` applied to the
default permissions, otherwise (`preserve`) the source's permissions -/
def modeRule (cfg : Cfg) (mode : Option FileMode) (srcMode : Nat) : Nat :=
  match mode with
  | some { perms := some p, chown := _ } => p
  | _ => match cfg.umask with
    | some u => sanitizedMode srcMode u
    | none => srcMode

theorem andNot_and (a u b : Nat) : andNot a u &&& b = andNot (a &&& b) u := by
  apply Nat.eq_of_testBit_eq
  intro i
  simp only [andNot, Nat.testBit_and, Nat.testBit_xor]
  cases a.testBit i <;> cases u.testBit i <;> cases b.testBit i <;> rfl

theorem andNot_or (a b u : Nat) : andNot (a ||| b) u = andNot a u ||| andNot b u := by
  apply Nat.eq_of_testBit_eq
  intro i
  simp only [andNot, Nat.testBit_and, Nat.testBit_xor, Nat.testBit_or]
  cases a.testBit i <;> cases b.testBit i <;> cases u.testBit i <;> rfl

theorem andNot_and_self (x u : Nat) : andNot x u &&& u = 0 := by
  apply Nat.eq_of_testBit_eq
  intro i
  simp only [andNot, Nat.testBit_and, Nat.testBit_xor, Nat.zero_testBit]
  cases x.testBit i <;> cases u.testBit i <;> rfl

theorem sanitizedMode_idem (cur u : Nat) : sanitizedMode (sanitizedMode cur u) u = sanitizedMode cur u := by
  unfold sanitizedMode
  by_cases h : cur &&& 0o111 ≠ 0
  · rw [if_pos h]
    by_cases h' : andNot 0o777 u &&& 0o111 ≠ 0
    · rw [if_pos h']
    · -- the umask takes every execute bit, so starting from `0o666` or from `0o777` gives the same
      rw [if_neg h']
      have h0 : andNot 0o111 u = 0 := by
        have := andNot_and 0o777 u 0o111
        rwa [Decidable.not_not.mp h', eq_comm] at this
      calc andNot 0o666 u = andNot 0o666 u ||| andNot 0o111 u := by rw [h0, Nat.or_zero]
        _ = andNot (0o666 ||| 0o111) u := (andNot_or _ _ _).symm
  · -- nothing of `0o666` is an execute bit
    rw [if_neg h]
    have h0 : andNot 0o666 u &&& 0o111 = 0 := by
      rw [andNot_and]
      simp [andNot]
    rw [if_neg (not_not_intro h0)]

theorem modeRule_idem (cfg : Cfg) (mode : Option FileMode) (m : Nat) :
    modeRule cfg mode (modeRule cfg mode m) = modeRule cfg mode m := by
  unfold modeRule
  cases mode with
  | none => cases cfg.umask <;> simp [sanitizedMode_idem]
  | some fm =>
    obtain ⟨perms, chown⟩ := fm
    cases perms with
    | none => cases cfg.umask <;> simp [sanitizedMode_idem]
    | some p => rfl

def Node.perms : Node → Nat
  | .dir m => m
  | .file m _ _ => m
  | .link _ => 0

def Node.chmod (p : Nat) : Node → Node
  | .dir _ => .dir p
  | .file _ d t => .file p d t
  | .link t => .link t

theorem setMode_spec (cfg : Cfg) (hdry : cfg.dryRun = false) (k : Key) (hk : k ≠ []) (mode : Option FileMode)
    (s : St) (n : Node) (hn : ∀ t, n ≠ .link t) (hg : s.fs.get k = some n) :
    (setMode cfg k mode s).fs.get k = some (n.chmod (modeRule cfg mode n.perms)) ∧
    (∀ k', k' ≠ k → (setMode cfg k mode s).fs.get k' = s.fs.get k') ∧
    (setMode cfg k mode s).failed = s.failed := by
  have hl : s.fs.look k = some n := by
    rw [look_of_ne_nil _ _ hk]
    exact hg
  have hlex : lexists s k = true := by simp [lexists, hl]
  have hsan : (sanitize cfg k s).fs.get k =
        some (n.chmod (match cfg.umask with | some u => sanitizedMode n.perms u | none => n.perms)) ∧
      (∀ k', k' ≠ k → (sanitize cfg k s).fs.get k' = s.fs.get k') ∧ (sanitize cfg k s).failed = s.failed := by
    unfold sanitize
    cases hu : cfg.umask with
    | none =>
      refine ⟨?_, fun _ _ => rfl, rfl⟩
      rw [hg]
      cases n <;> rfl
    | some u =>
      cases n with
      | link t => exact absurd rfl (hn t)
      | _ =>
        simp only [hl]
        exact ⟨get_set_same _ _ _, fun k' hk' => get_set_other _ _ _ _ hk', rfl⟩
  have hch : ∀ p, (chmodNode k p s).fs.get k = some (n.chmod p) ∧
      (∀ k', k' ≠ k → (chmodNode k p s).fs.get k' = s.fs.get k') ∧ (chmodNode k p s).failed = s.failed := by
    intro p
    unfold chmodNode
    cases n with
    | link t => exact absurd rfl (hn t)
    | _ =>
      simp only [hl]
      exact ⟨get_set_same _ _ _, fun k' hk' => get_set_other _ _ _ _ hk', rfl⟩
  unfold setMode modeRule
  simp only [hdry, Bool.false_eq_true, if_false]
  cases mode with
  | none => exact hsan
  | some fm =>
    obtain ⟨perms, chown⟩ := fm
    cases perms with
    | none =>
      cases chown <;> simp only [Option.isNone_none, Bool.not_false, Bool.not_true, Bool.and_true, Bool.and_false,
        hlex, Bool.false_eq_true, if_true, if_false] <;> exact hsan
    | some p =>
      cases chown <;> simp only [Option.isNone_some, Bool.false_and, hlex, Bool.not_true, Bool.and_false,
        Bool.false_eq_true, if_false] <;> exact hch p

/-- a frame relative to an earlier state `s` carries over `set_mode`, since no other key changes -/
theorem setMode_file_frame (cfg : Cfg) (hdry : cfg.dryRun = false) (k : Key) (hk : k ≠ []) (mode : Option FileMode)
    (s s2 : St) (m d t dm : Nat) (hNL : NL s2.fs) (hg : s2.fs.get k = some (.file m d t))
    (hfr : ∀ k', k' ≠ k → s2.fs.get k' = s.fs.get k' ∨
      (s.fs.get k = none ∧ s.fs.get k' = none ∧ s2.fs.get k' = some (.dir dm))) :
    NL (setMode cfg k mode s2).fs ∧
    (setMode cfg k mode s2).fs.get k = some (.file (modeRule cfg mode m) d t) ∧
    ∀ k', k' ≠ k → (setMode cfg k mode s2).fs.get k' = s.fs.get k' ∨
      (s.fs.get k = none ∧ s.fs.get k' = none ∧ (setMode cfg k mode s2).fs.get k' = some (.dir dm)) := by
  obtain ⟨a, b, _⟩ := setMode_spec cfg hdry k hk mode s2 (.file m d t) (fun _ h => Node.noConfusion h) hg
  refine ⟨NL_of_frame hNL k _ (fun _ h => Node.noConfusion h) a b, a, fun k' hkk => ?_⟩
  rw [b k' hkk]
  exact hfr k' hkk

end MesonModel.Install
