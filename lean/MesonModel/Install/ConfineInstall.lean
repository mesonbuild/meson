/-
A predicate on installer states that the building blocks keep (`Kept`) is kept by every installer function; the
confinement invariant `Inv` is one.
-/
import MesonModel.Install.KeyLemmas
import MesonModel.Install.ConfineLemmas

namespace MesonModel.Install

/-- a path the installers may write to: absolute, with its key under `D` -/
def Good (D : Key) (p : Str) : Prop := isAbs p = true ∧ D <+: keyOfAbs p

/-- a path `DirMaker.makedirs` may be given: under `D`, or on the way to it -/
def GoodDir (D : Key) (p : Str) : Prop := isAbs p = true ∧ Cmp D (keyOfAbs p)

/-- a directory entry name -/
def Plain (n : Str) : Prop := n ≠ [] ∧ '/' ∉ n ∧ n ≠ dotdot ∧ n ≠ ['.']

instance (n : Str) : Decidable (Plain n) := by unfold Plain; infer_instance

theorem keyOf_abs (cwd p : Str) (h : isAbs p = true) : keyOf cwd p = keyOfAbs p := by
  unfold keyOf join
  simp [h]

theorem Good.toDir {D : Key} {p : Str} (h : Good D p) : GoodDir D p := ⟨h.1, Or.inl h.2⟩

theorem Good.join_rel {D : Key} {p b : Str} (h : Good D p) (hb : isAbs b = false) (hnd : NoDotDot b) :
    Good D (join p b) :=
  ⟨isAbs_join p b h.1, List.IsPrefix.trans h.2 (prefix_keyOfAbs_join p b hb hnd)⟩

theorem Good.join_name {D : Key} {p n : Str} (h : Good D p) (h1 : '/' ∉ n) (h2 : n ≠ dotdot) :
    Good D (join p n) :=
  h.join_rel (isAbs_false_of_noSep n h1) (noDotDot_single n h1 h2)

/-- a prefix of the key after a step is a prefix of the key before it, unless the step appended and it is the whole key -/
theorem prefix_keyStep {D acc : Key} {c : Str} : D <+: keyStep acc c → D <+: acc ∨ D = keyStep acc c ∧ acc <+: D := by
  unfold keyStep
  split
  · exact Or.inl
  · split
    · exact fun h => Or.inl (h.trans (List.dropLast_prefix _))
    · exact fun h => (List.prefix_concat_iff.mp h).symm.imp_right fun e => ⟨e, e ▸ List.prefix_append _ _⟩

/-- the parent directory of a path under `D` is under `D`, unless the path is `D` itself -/
theorem Good.dirname_or {D : Key} {p : Str} (h : Good D p) :
    Good D (dirname p) ∨ D = keyOfAbs p ∧ keyOfAbs (dirname p) <+: D := by
  have hD := h.2
  rw [keyOfAbs_eq_step_dirname p (headRaw_ne_nil_of_isAbs p h.1)] at hD ⊢
  exact (prefix_keyStep hD).imp_left fun hD => ⟨isAbs_dirname p h.1, hD⟩

theorem Good.dirname {D : Key} {p : Str} (h : Good D p) : GoodDir D (dirname p) :=
  h.dirname_or.elim Good.toDir fun e => ⟨isAbs_dirname p h.1, Or.inr e.2⟩

theorem isAbs_joinWith_false (a : Str) (t : List Str) (ha : a ≠ []) (hs : '/' ∉ a) :
    isAbs (joinWith '/' (a :: t)) = false := by
  cases a with
  | nil => exact absurd rfl ha
  | cons x r =>
    have hx : x ≠ '/' := fun e => hs (by simp [e])
    cases t with
    | nil =>
      simp only [joinWith, isAbs]
      split <;> simp_all
    | cons b t' =>
      simp only [joinWith, isAbs, List.cons_append]
      split <;> simp_all

theorem isComp_of_plain {c : Str} (h : Plain c) : isComp c = true := by
  simp [isComp, h.1, h.2.2.2]

/-- a relative path put together from entry names reads back as these names -/
theorem filepart_ok (rel : List Str) (name : Str) (hrel : ∀ c ∈ rel, Plain c) (hn : Plain name) :
    isAbs (filepart rel name) = false ∧ NoDotDot (filepart rel name) ∧ pureTail (filepart rel name) = rel ++ [name] := by
  have hall : ∀ c ∈ rel ++ [name], Plain c :=
    List.forall_mem_append.mpr ⟨hrel, List.forall_mem_singleton.mpr hn⟩
  have hs : splitOn '/' (filepart rel name) = rel ++ [name] :=
    splitOn_joinWith '/' _ (by simp) fun x hx => (hall x hx).2.1
  refine ⟨?_, ?_, ?_⟩
  · unfold filepart
    cases hl : rel ++ [name] with
    | nil => simp at hl
    | cons a t =>
      have ha : Plain a := hall a (by simp [hl])
      exact isAbs_joinWith_false a t ha.1 ha.2.1
  · unfold NoDotDot
    rw [hs]
    exact fun hm => (hall _ hm).2.2.1 rfl
  · rw [pureTail_eq, hs, List.filter_eq_self]
    exact fun c hc => isComp_of_plain (hall c hc)

theorem dmMakedirs_isDir (cfg : Cfg) (path : Str) (b : Bool) (s : St) (hdry : cfg.dryRun = false)
    (hs : s.failed = false) (h : (dmMakedirs cfg path b s).failed = false) :
    isDirF (dmMakedirs cfg path b s) (keyOf cfg.cwd path) = true :=
  (dmMakedirs_eff cfg path b s).2.2.2 hdry h _ (List.prefix_refl _)

section
variable {D : Key} (cfg : Cfg)

theorem Good.key {p : Str} (h : Good D p) : D <+: keyOf cfg.cwd p := by
  rw [keyOf_abs _ _ h.1]
  exact h.2

theorem GoodDir.key {p : Str} (h : GoodDir D p) : Cmp D (keyOf cfg.cwd p) := by
  rw [keyOf_abs _ _ h.1]
  exact h.2

end

section
variable {D : Key}

theorem Good.filepart {dst : Str} {rel : List Str} {name : Str} (hd : Good D dst)
    (hrel : ∀ c ∈ rel, Plain c) (hn : Plain name) : Good D (join dst (filepart rel name)) :=
  hd.join_rel (filepart_ok rel name hrel hn).1 (filepart_ok rel name hrel hn).2.1

theorem keyOfAbs_filepart (dst : Str) (rel : List Str) (name : Str)
    (hrel : ∀ c ∈ rel, Plain c) (hn : Plain name) :
    keyOfAbs (join dst (filepart rel name)) = keyOfAbs dst ++ (rel ++ [name]) := by
  obtain ⟨h1, h2, h3⟩ := filepart_ok rel name hrel hn
  rw [keyOfAbs_join _ _ h1, foldl_keyStep_noDotDot _ _ h2, ← pureTail_eq, h3]

/-- the entry's key is strictly longer than `D`, so its parent directory lies under `D` as well -/
theorem good_filepart_dirname {dst : Str} {rel : List Str} {name : Str} (hd : Good D dst)
    (hrel : ∀ c ∈ rel, Plain c) (hn : Plain name) : Good D (dirname (join dst (filepart rel name))) :=
  (hd.filepart hrel hn).dirname_or.resolve_right fun e => by
    have := hd.2.length_le
    rw [e.1, keyOfAbs_filepart dst rel name hrel hn] at this
    simp at this
    omega

end

def WalkOK (w : List WalkRec) : Prop :=
  ∀ r ∈ w, (∀ c ∈ r.rel, Plain c) ∧ (∀ e ∈ r.dirs, Plain e.1) ∧ (∀ e ∈ r.files, Plain e.1)

instance (w : List WalkRec) : Decidable (WalkOK w) := by unfold WalkOK; infer_instance

/-- what the confinement proof needs of a plan -/
structure PlanOK (p : Plan) : Prop where
  buildAbs : isAbs p.buildDir = true
  subdirs : ∀ e ∈ p.subdirs, WalkOK e.walk
  targets : ∀ t ∈ p.targets, WalkOK t.walk ∧ basename t.fname ≠ dotdot ∧
    basename (join p.buildDir (rstripSlash t.fname)) ≠ dotdot
  headers : ∀ e ∈ p.headers, basename e.path ≠ dotdot
  man : ∀ e ∈ p.man, basename e.path ≠ dotdot
  data : ∀ e ∈ p.data, basename e.path ≠ dotdot

/-- `get_destdir_path`, when it does not raise, returns a destination under `D` -/
def Dest (cfg : Cfg) (D : Key) : Prop := ∀ path out, destPath cfg path = some out → Good D out

/-- `P` is kept by the blocks the installers are made of, as long as these act on destinations under `D`;
`Q` says which sources `do_copyfile` may be given -/
structure Kept (cfg : Cfg) (D : Key) (Q : Src → Prop) (P : St → Prop) : Prop where
  fail : ∀ {s} e, P s → P (s.fail e)
  didInstall : ∀ {s}, P s → P { s with didInstall := true }
  dmMakedirs : ∀ {s path} b, GoodDir D path → P s → P (dmMakedirs cfg path b s)
  /-- a node is replaced by one of the same kind -/
  write : ∀ {s p} n, Good D p → kind (some n) = kind (s.fs.look (keyOf cfg.cwd p)) → P s →
    P (s.write (keyOf cfg.cwd p) n)
  doCopyfile : ∀ {s to mk src} fp fo, Good D to → (∀ od, mk = some od → GoodDir D od) →
    basename fp ≠ dotdot → Q src → P s → P (doCopyfile cfg fp src to mk fo s).1

section
variable {cfg : Cfg} {D : Key} {Q : Src → Prop} {P : St → Prop} (hP : Kept cfg D Q P) {s : St} {p : Str}
include hP

theorem kept_chmodNode (m : Nat) (hp : Good D p) (h : P s) : P (chmodNode (keyOf cfg.cwd p) m s) := by
  unfold chmodNode
  split
  · exact hP.fail _ h
  · exact h
  · rename_i hl
    exact hP.write _ hp (by rw [hl]; rfl) h
  · rename_i hl
    exact hP.write _ hp (by rw [hl]; rfl) h

theorem kept_sanitize (hp : Good D p) (h : P s) : P (sanitize cfg (keyOf cfg.cwd p) s) := by
  unfold sanitize
  split
  · exact h
  · split
    · exact hP.fail _ h
    · exact h
    · rename_i hl
      exact hP.write _ hp (by rw [hl]; rfl) h
    · rename_i hl
      exact hP.write _ hp (by rw [hl]; rfl) h

theorem kept_setMode (m : Option FileMode) (hp : Good D p) (h : P s) : P (setMode cfg (keyOf cfg.cwd p) m s) := by
  unfold setMode
  refine kept_ite h ?_
  split
  · exact kept_sanitize hP hp h
  · refine kept_ite (kept_sanitize hP hp h) (kept_ite (hP.fail _ h) ?_)
    split
    · exact kept_chmodNode hP _ hp h
    · exact kept_sanitize hP hp h

end

/-- the sources a recorded walk hands to `do_copyfile`: its files, and its symbolic links to directories -/
def WalkSrc (Q : Src → Prop) (w : List WalkRec) : Prop :=
  ∀ r ∈ w, (∀ e ∈ r.dirs, ∀ t, e.2 = .link t → Q (.linkDir t)) ∧ (∀ e ∈ r.files, Q e.2)

theorem copydirDirStep_extra (cfg : Cfg) (dst : Str) (ex : List Str) (rel : List Str) (a : CdAcc) (e : Str × DirEnt) :
    ∀ x ∈ (copydirDirStep cfg dst ex rel a e).extra, x ∈ a.extra ∨ ∃ t, e.2 = .link t ∧ x = (e.1, Src.linkDir t) := by
  unfold copydirDirStep
  refine kept_ite (P := fun b : CdAcc => ∀ x ∈ b.extra, x ∈ a.extra ∨ ∃ t, e.2 = .link t ∧ x = (e.1, Src.linkDir t))
    (fun x hx => Or.inl hx) ?_
  dsimp only
  split
  · rename_i t ht
    intro x hx
    rcases List.mem_append.mp hx with h | h
    · exact Or.inl h
    · exact Or.inr ⟨t, ht, List.mem_singleton.mp h⟩
  · simp only [apply_ite CdAcc.extra, ite_self]
    exact fun x hx => Or.inl hx

section
variable {cfg : Cfg} {D : Key} {Q : Src → Prop} {P : St → Prop} (hP : Kept cfg D Q P)
include hP

theorem kept_copydirDirStep (ex : List Str) {dst : Str} {rel : List Str} {a : CdAcc} {e : Str × DirEnt}
    (hd : Good D dst) (hrel : ∀ c ∈ rel, Plain c) (hn : Plain e.1) (h : P a.s) :
    P (copydirDirStep cfg dst ex rel a e).s := by
  have hg : Good D (join dst (filepart rel e.1)) := hd.filepart hrel hn
  have h1 := hP.dmMakedirs false hg.toDir h
  unfold copydirDirStep
  simp only [apply_ite CdAcc.s]
  refine kept_ite h ?_
  split
  · exact h
  · rename_i m _
    have h2 := kept_ite (c := cfg.dryRun = true) h1 (kept_chmodNode hP m hg h1)
    simp only [apply_ite CdAcc.s]
    exact kept_ite h (kept_ite h (kept_ite (hP.fail _ h) (kept_ite h1 (kept_ite h2 (kept_ite h2 (kept_sanitize hP hg h2))))))

theorem kept_copydirFileStep (sr : Str) (ex : List Str) (rm : Nat) (m : Option FileMode) (fo : Option Bool)
    {dst : Str} {rel : List Str} {s : St} {e : Str × Src}
    (hd : Good D dst) (hrel : ∀ c ∈ rel, Plain c) (hn : Plain e.1) (hq : Q e.2) (h : P s) :
    P (copydirFileStep cfg sr dst ex rel rm m fo s e) := by
  have hg : Good D (join dst (filepart rel e.1)) := hd.filepart hrel hn
  have hp : Good D (dirname (join dst (filepart rel e.1))) := good_filepart_dirname hd hrel hn
  have hb : basename (join sr e.1) ≠ dotdot := by
    rw [basename_join sr e.1 hn.2.1]
    exact hn.2.2.1
  have hmk := hP.dmMakedirs false hp.toDir h
  unfold copydirFileStep
  refine kept_ite h (kept_ite h (kept_ite (hP.fail _ h) (kept_unless_failed ?_ fun h1 => ?_)))
  · -- the state after the optional creation of the parent directory
    exact kept_ite (kept_ite hmk (kept_ite hmk (kept_chmodNode hP rm hp hmk))) h
  · have h2 := hP.doCopyfile (join sr e.1) fo hg (mk := none) (fun _ hod => nomatch hod) hb hq h1
    exact kept_ite h2 (kept_setMode hP m hg h2)

theorem kept_copydirRec (sd : Str) (ef ed : List Str) (m : Option FileMode) (fo : Option Bool)
    {dd : Str} {st : St × List (List Str)} {r : WalkRec} (hd : Good D dd)
    (hr : (∀ c ∈ r.rel, Plain c) ∧ (∀ e ∈ r.dirs, Plain e.1) ∧ (∀ e ∈ r.files, Plain e.1))
    (hq : (∀ e ∈ r.dirs, ∀ t, e.2 = .link t → Q (.linkDir t)) ∧ (∀ e ∈ r.files, Q e.2))
    (h : P st.1) : P (copydirRec cfg sd dd ef ed m fo st r).1 := by
  unfold copydirRec
  simp only [apply_ite Prod.fst]
  refine kept_ite h (kept_ite h ?_)
  -- after the directories: `P`, and what was put aside has entry names and sources that `Q` allows
  have hacc := List.foldlRecOn (motive := fun a : CdAcc => P a.s ∧ ∀ x ∈ a.extra, Plain x.1 ∧ Q x.2) r.dirs
    (copydirDirStep cfg dd ed r.rel) (b := { s := st.1, pruned := st.2, extra := [] }) ⟨h, nofun⟩
    fun a ha e he => ⟨kept_copydirDirStep hP ed hd hr.1 (hr.2.1 e he) ha.1, fun x hx =>
      (copydirDirStep_extra cfg dd ed r.rel a e x hx).elim (ha.2 x) fun ⟨t, ht, hx⟩ => hx ▸ ⟨hr.2.1 e he, hq.1 e he t ht⟩⟩
  refine List.foldlRecOn _ _ hacc.1 fun s hs e he => ?_
  have he' : Plain e.1 ∧ Q e.2 := (List.mem_append.mp he).elim (fun hx => ⟨hr.2.2 e hx, hq.2 e hx⟩) (hacc.2 e)
  exact kept_copydirFileStep hP _ ef r.rootMode m fo hd hr.1 he'.1 he'.2 hs

theorem kept_doCopydir (sd : Str) (ex : Option (List Str × List Str)) (m : Option FileMode) (fo : Option Bool)
    {dd : Str} {w : List WalkRec} {s : St} (hd : Good D dd) (hw : WalkOK w) (hq : WalkSrc Q w) (h : P s) :
    P (doCopydir cfg sd dd ex m fo w s) := by
  unfold doCopydir
  refine kept_ite h (kept_ite (hP.fail _ h) (kept_ite (hP.fail _ h) ?_))
  exact List.foldlRecOn (motive := fun st : St × List (List Str) => P st.1) w _ h
    fun st hs r hr => kept_copydirRec hP sd _ _ m fo hd (hw r hr) (hq r hr) hs

variable (hdest : Dest cfg D)
include hdest

/-- the `get_destdir_path` block of an installer: its exception, or the rest of the method on a destination under `D` -/
theorem kept_onDest {ip : Str} {s : St} {f : Str → St} (h : P s) (hf : ∀ out, Good D out → P (f out)) :
    P (match destPath cfg ip with | none => s.fail .meson | some out => f out) := by
  split
  · exact hP.fail _ h
  · exact hf _ (hdest _ _ ‹_›)

theorem kept_installSubdir {s : St} {e : SubdirEntry} (hw : WalkOK e.walk) (hq : WalkSrc Q e.walk) (h : P s) :
    P (installSubdir cfg s e) := by
  unfold installSubdir
  exact kept_ite h (kept_ite h (kept_onDest hP hdest (hP.didInstall h) fun _ hg =>
    kept_doCopydir hP _ _ _ _ hg hw hq (hP.dmMakedirs true hg.toDir (hP.didInstall h))))

omit hdest in
theorem kept_installFileTo {e : DataEntry} {out outdir : Str} {s : St} (fo : Option Bool)
    (hg : Good D out) (hod : GoodDir D outdir) (hb : basename e.path ≠ dotdot) (hq : Q e.src) (h : P s) :
    P (installFileTo cfg e out outdir fo s) := by
  have h1 := hP.doCopyfile e.path fo hg (mk := some outdir) (fun _ h => Option.some.inj h ▸ hod) hb hq h
  unfold installFileTo
  exact kept_ite h1 (kept_setMode hP _ hg (kept_ite (hP.didInstall h1) h1))

theorem kept_installHeader {s : St} {e : DataEntry} (hb : basename e.path ≠ dotdot) (hq : Q e.src) (h : P s) :
    P (installHeader cfg s e) := by
  unfold installHeader
  exact kept_ite h (kept_ite h (kept_onDest hP hdest h fun _ hg =>
    kept_installFileTo hP _ (hg.join_name (basename_noSep _) hb) hg.toDir hb hq h))

theorem kept_installMan {s : St} {e : DataEntry} (hb : basename e.path ≠ dotdot) (hq : Q e.src) (h : P s) :
    P (installMan cfg s e) := by
  unfold installMan
  exact kept_ite h (kept_ite h (kept_onDest hP hdest h fun _ hg => kept_installFileTo hP _ hg hg.dirname hb hq h))

theorem kept_installDataOne {s : St} {e : DataEntry} (hb : basename e.path ≠ dotdot) (hq : Q e.src) (h : P s) :
    P (installDataOne cfg s e) := by
  unfold installDataOne
  exact kept_ite h (kept_ite h (kept_onDest hP hdest h fun _ hg => kept_installFileTo hP _ hg hg.dirname hb hq h))

theorem kept_installEmptydir {s : St} {e : EmptyDirEntry} (h : P s) : P (installEmptydir cfg s e) := by
  unfold installEmptydir
  exact kept_ite h (kept_ite h (kept_onDest hP hdest (hP.didInstall h) fun _ hg =>
    kept_ite (hP.fail _ (hP.didInstall h))
      (kept_unless_failed (hP.dmMakedirs true hg.toDir (hP.didInstall h)) (kept_setMode hP _ hg))))

theorem kept_installTarget {s : St} {t : TargetEntry}
    (ht : WalkOK t.walk ∧ basename t.fname ≠ dotdot ∧ basename (join cfg.buildDir (rstripSlash t.fname)) ≠ dotdot)
    (hq : Q t.src ∧ WalkSrc Q t.walk) (h : P s) : P (installTarget cfg s t) := by
  unfold installTarget
  refine kept_ite h (kept_ite h ?_)
  split
  iterate 2 exact kept_ite h (hP.fail _ h)
  iterate 2
    refine kept_onDest hP hdest h fun out hg => ?_
    have hgo := hg.join_name (basename_noSep t.fname) ht.2.1
    have h1 := hP.doCopyfile t.fname none hgo (mk := some out) (fun _ h => Option.some.inj h ▸ hg.toDir) ht.2.1 hq.1 h
    exact kept_ite h1 (kept_ite (kept_setMode hP _ hgo (hP.didInstall h1)) h1)
  iterate 2
    exact kept_onDest hP hdest h fun _ hg =>
      kept_doCopydir hP _ _ _ _ (hg.join_name (basename_noSep _) ht.2.2) ht.1 hq.2 (hP.dmMakedirs true hg.toDir h)

/-- the installers in the order of `do_install`; `install_symlink` is left to the caller, who may have none -/
theorem kept_installBody {p : Plan} {s : St} (hbd : cfg.buildDir = p.buildDir) (hp : PlanOK p)
    (hsub : ∀ e ∈ p.subdirs, WalkSrc Q e.walk) (htgt : ∀ t ∈ p.targets, Q t.src ∧ WalkSrc Q t.walk)
    (hhdr : ∀ e ∈ p.headers, Q e.src) (hman : ∀ e ∈ p.man, Q e.src) (hdata : ∀ e ∈ p.data, Q e.src)
    (hsym : ∀ e ∈ p.symlinks, ∀ s, P s → P (installSymlink cfg s e)) (h : P s) : P (installBody cfg p s) := by
  unfold installBody
  refine List.foldlRecOn _ _ ?_ fun s h e he => hsym e he s h
  refine List.foldlRecOn _ _ ?_ fun s h e he => kept_installDataOne hP hdest (hp.data e he) (hdata e he) h
  refine List.foldlRecOn _ _ ?_ fun s h e _ => kept_installEmptydir hP hdest h
  refine List.foldlRecOn _ _ ?_ fun s h e he => kept_installMan hP hdest (hp.man e he) (hman e he) h
  refine List.foldlRecOn _ _ ?_ fun s h e he => kept_installHeader hP hdest (hp.headers e he) (hhdr e he) h
  refine List.foldlRecOn _ _ ?_ fun s h t ht => kept_installTarget hP hdest (hbd ▸ hp.targets t ht) (htgt t ht) h
  exact List.foldlRecOn _ _ h fun s h e he => kept_installSubdir hP hdest (hp.subdirs e he) (hsub e he) h

end

section
variable {D : Key} {fs0 : FS} (cfg : Cfg)

theorem Inv_copyPrepare (src : Src) (to : Str) (mk : Option Str) (s : St) (ht : Good D to)
    (hmk : ∀ od, mk = some od → GoodDir D od) (hI : Inv D fs0 s) :
    Inv D fs0 (copyPrepare cfg src to mk s).1 := by
  unfold copyPrepare
  simp only [apply_ite Prod.fst]
  refine kept_ite (kept_ite (Inv_fail _ hI) (kept_ite (Inv_logLine _ (Inv_of_fs rfl hI)) (Inv_remove cfg _ _ (ht.key cfg) hI))) ?_
  split
  · exact Inv_dmMakedirs cfg _ _ _ ((hmk _ rfl).key cfg) hI
  · exact hI

theorem Inv_copyPayload (fp : Str) (src : Src) (to od : Str) (fo : Option Bool) (s : St) (ht : Good D to)
    (hb : basename fp ≠ dotdot) (hI : Inv D fs0 s) : Inv D fs0 (copyPayload cfg fp src to od fo s) := by
  have hk := ht.key cfg
  unfold copyPayload
  cases src with
  | linkDangling t =>
    -- a directory destination receives the link under the basename of the source
    have hj : Good D (join to (basename fp)) := ht.join_name (basename_noSep fp) hb
    exact Inv_putLink cfg _ _ _ (kept_ite (P := fun k => D <+: k) (hj.key cfg) hk) hI
  | linkFile t m d mt => exact kept_ite (Inv_putFile cfg _ _ _ _ _ hk hI) (Inv_putLink cfg _ _ _ hk hI)
  | linkDir t => exact kept_ite (kept_ite hI (Inv_fail _ hI)) (Inv_putLink cfg _ _ _ hk hI)
  | file m d mt => exact Inv_putFile cfg _ _ _ _ _ hk hI
  | missing => exact hI
  | dir => exact hI

theorem Inv_doCopyfile (fp : Str) (src : Src) (to : Str) (mk : Option Str) (fo : Option Bool) (s : St)
    (ht : Good D to) (hmk : ∀ od, mk = some od → GoodDir D od) (hb : basename fp ≠ dotdot) (hI : Inv D fs0 s) :
    Inv D fs0 (doCopyfile cfg fp src to mk fo s).1 := by
  have h1 := Inv_copyPrepare cfg src to mk s ht hmk hI
  have h2 := Inv_copyPayload cfg fp src to (copyPrepare cfg src to mk s).2.1 fo _ ht hb h1
  unfold doCopyfile
  simp only [apply_ite Prod.fst]
  exact kept_ite (Inv_fail _ hI) (kept_ite h1 (kept_ite h2 (Inv_logLine _ h2)))

theorem Inv_doSymlink (t l : Str) (s : St) (hl : Good D l) (hI : Inv D fs0 s) :
    Inv D fs0 (doSymlink cfg t l s).1 := by
  have hk := hl.key cfg
  -- the state after an existing link has been removed
  have h1 : Inv D fs0 (if lexists s (keyOf cfg.cwd l) then
      (if !isLink s (keyOf cfg.cwd l) then s.fail .meson else remove cfg (keyOf cfg.cwd l) s) else s) :=
    kept_ite (kept_ite (Inv_fail _ hI) (Inv_remove cfg _ _ hk hI)) hI
  unfold doSymlink
  simp only [apply_ite Prod.fst]
  exact kept_ite h1 (kept_ite (Inv_logLine _ h1) (kept_ite (Inv_of_fs rfl h1) (Inv_logLine _ (Inv_write _ _ hk h1))))

theorem Inv_kept : Kept cfg D (fun _ => True) (Inv D fs0) where
  fail e h := Inv_fail e h
  didInstall h := Inv_of_fs rfl h
  dmMakedirs b hp h := Inv_dmMakedirs cfg _ b _ (hp.key cfg) h
  write n hp _ h := Inv_write _ n (hp.key cfg) h
  doCopyfile fp fo ht hmk hb _ h := Inv_doCopyfile cfg fp _ _ _ fo _ ht hmk hb h

theorem Inv_installSymlink (hdest : Dest cfg D) (s : St) (e : SymlinkEntry) (hI : Inv D fs0 s) :
    Inv D fs0 (installSymlink cfg s e) := by
  unfold installSymlink
  refine kept_ite hI (kept_ite hI ?_)
  split
  · rename_i d l hd hl
    have h1 := Inv_dmMakedirs (fs0 := fs0) cfg d true s ((hdest _ _ hd).toDir.key cfg) hI
    have h2 := Inv_doSymlink cfg e.target l _ (hdest _ _ hl) h1
    exact kept_unless_failed h1 fun _ => kept_ite (Inv_of_fs rfl h2) h2
  · exact Inv_fail _ hI

end

theorem isAbs_resolveDestdir (buildDir : Str) (d : Option Str) (hb : isAbs buildDir = true)
    (hne : resolveDestdir buildDir d ≠ []) : isAbs (resolveDestdir buildDir d) = true := by
  unfold resolveDestdir at hne ⊢
  cases d with
  | none => simp at hne
  | some d =>
    simp only at hne ⊢
    split
    · exact isAbs_join _ _ hb
    · rename_i hc
      by_cases hd : d = []
      · subst hd
        simp at hne
      · simpa [hd] using hc

theorem dest_mkCfg (p : Plan) (o : Opts) (hd : isAbs (mkCfg p o).destdir = true) :
    Dest (mkCfg p o) (keyOfAbs (mkCfg p o).destdir) := by
  intro path out h
  unfold destPath at h
  simp only [] at h
  split at h
  · rename_i hok
    simp only [Option.some.injEq] at h
    have ho : isAbs out = true := by
      rw [← h]
      exact isAbs_getDestdirPath (mkCfg p o).destdir p.pfx path hd
    exact ⟨ho, destOk_sound _ _ hd ho (h ▸ hok)⟩
  · simp at h

theorem Inv_installBody (p : Plan) (o : Opts) (fs0 : FS) (s : St) (hp : PlanOK p)
    (hd : isAbs (mkCfg p o).destdir = true) (hI : Inv (keyOfAbs (mkCfg p o).destdir) fs0 s) :
    Inv (keyOfAbs (mkCfg p o).destdir) fs0 (installBody (mkCfg p o) p s) :=
  have hdest := dest_mkCfg p o hd
  kept_installBody (Inv_kept _) hdest rfl hp (fun _ _ _ _ => ⟨fun _ _ _ _ => trivial, fun _ _ => trivial⟩)
    (fun _ _ => ⟨trivial, fun _ _ => ⟨fun _ _ _ _ => trivial, fun _ _ => trivial⟩⟩)
    (fun _ _ => trivial) (fun _ _ => trivial) (fun _ _ => trivial)
    (fun e _ s => Inv_installSymlink _ hdest s e) hI

theorem Inv_install (p : Plan) (o : Opts) (fs : FS) (hp : PlanOK p) (hne : (mkCfg p o).destdir ≠ []) :
    Inv (keyOfAbs (mkCfg p o).destdir) fs (install p o fs) := by
  have hd : isAbs (mkCfg p o).destdir = true := isAbs_resolveDestdir p.buildDir o.destdir hp.buildAbs hne
  unfold install
  dsimp only
  apply Inv_of_fs rfl
  apply Inv_installBody p o fs _ hp hd
  intro k _
  exact Or.inl rfl

end MesonModel.Install
