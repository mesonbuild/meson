/-
The `dirname` chain of a normalised absolute path (what `DirMaker.makedirs` walks).
-/
import MesonModel.Install.ConfineInstall

namespace MesonModel.Install

theorem joinWith_append_single (c : Char) (l : List Str) (x : Str) (hl : l ≠ []) :
    joinWith c (l ++ [x]) = joinWith c l ++ c :: x := by
  fun_induction joinWith c l with
  | case1 => exact absurd rfl hl
  | case2 a => rfl
  | case3 a b t ih =>
    rw [List.append_assoc]
    exact congrArg (a ++ c :: ·) (ih (by simp))

theorem headRaw_append_sep (x c : Str) (h : '/' ∉ c) : headRaw (x ++ '/' :: c) = x ++ ['/'] := by
  have := headRaw_append_basename (x ++ '/' :: c)
  rw [basename_append_sep x c h] at this
  exact List.append_cancel_right (by simpa using this)

theorem rstripSlash_append_slash (y : Str) : rstripSlash (y ++ ['/']) = rstripSlash y := by
  unfold rstripSlash
  simp

theorem rstripSlash_of_last (z : Str) (a : Char) (ha : a ≠ '/') : rstripSlash (z ++ [a]) = z ++ [a] := by
  unfold rstripSlash
  simp [ha]

theorem joinWith_last (K : Key) (hne : K ≠ []) (hK : CleanKey K) :
    ∃ z a, joinWith '/' K = z ++ [a] ∧ a ≠ '/' := by
  fun_induction joinWith '/' K with
  | case1 => exact absurd rfl hne
  | case2 c =>
    have hc := hK c (by simp)
    rcases List.eq_nil_or_concat c with e | ⟨c0, a, rfl⟩
    · exact absurd e hc.1
    · exact ⟨c0, a, by simp, fun e => hc.2.1 (by simp [e])⟩
  | case3 c b t ih =>
    obtain ⟨z, a, hz, ha⟩ := ih (by simp) fun x hx => hK x (List.mem_cons_of_mem _ hx)
    exact ⟨c ++ '/' :: z, a, by rw [hz, List.append_assoc, List.cons_append], ha⟩

theorem dirname_pureFormat {R : Str} (hR : IsRoot R) (K' : Key) (c : Str) (hK : CleanKey (K' ++ [c])) :
    dirname (pureFormat R (K' ++ [c])) = pureFormat R K' := by
  have hc := hK c (by simp)
  rw [pureFormat_root hR, pureFormat_root hR]
  by_cases hK' : K' = []
  · subst hK'
    simp only [List.nil_append, joinWith, List.append_nil]
    have hh : headRaw (R ++ c) = R := by
      rcases hR with rfl | rfl
      · exact headRaw_append_sep [] c hc.2.1
      · exact headRaw_append_sep ['/'] c hc.2.1
    unfold dirname
    simp only [hh]
    rcases hR with rfl | rfl <;> simp
  · rw [joinWith_append_single _ _ _ hK', ← List.append_assoc]
    have hh := headRaw_append_sep (R ++ joinWith '/' K') c hc.2.1
    obtain ⟨z, a, hz, ha⟩ := joinWith_last K' hK' (hK.prefix (List.prefix_append _ _))
    unfold dirname
    simp only [hh]
    have hany : (R ++ joinWith '/' K' ++ ['/']).any (· ≠ '/') = true := by
      rw [hz]
      simp [ha]
    have hne : R ++ joinWith '/' K' ++ ['/'] ≠ [] := by simp
    simp only [hne, hany, ne_eq, not_false_eq_true, decide_true, Bool.and_self, if_true]
    rw [rstripSlash_append_slash, hz, ← List.append_assoc, rstripSlash_of_last _ _ ha]

theorem dirname_root {R : Str} (hR : IsRoot R) : dirname R = R := by
  rcases hR with rfl | rfl <;> decide

theorem length_le_joinWith (K : Key) (hK : ∀ c ∈ K, c ≠ []) : K.length ≤ (joinWith '/' K).length := by
  fun_induction joinWith '/' K with
  | case1 => exact Nat.le_refl _
  | case2 a => exact List.length_pos_iff.mpr (hK a (by simp))
  | case3 a b t ih =>
    have := ih fun c hc => hK c (List.mem_cons_of_mem _ hc)
    simp only [List.length_append, List.length_cons] at this ⊢
    omega

/-- what the `while dirname != os.path.dirname(dirname)` loop of `DirMaker.makedirs` collects, for a normalised
absolute path with key `K`: the strings of the absent prefixes of `K`, longest first.  The loop stops at a name
`DirMaker` has recorded already; that loses nothing when what is recorded exists together with everything above it -/
theorem dmCollect_spec (cfg : Cfg) (s : St) {R : Str} (hR : IsRoot R) :
    ∀ (n : Nat) (K : Key), K.length = n → CleanKey K →
    (∀ q', q' <+: K → s.dirs.contains (pureFormat R q') = true → ∀ q, q <+: q' → q ≠ [] → existsF s q = true) →
    ∀ fuel, n < fuel → ∀ acc,
    ∃ Lk : List Key, dmCollect cfg s fuel (pureFormat R K) acc = acc ++ Lk.map (pureFormat R) ∧
      (∀ q, q ∈ Lk ↔ q <+: K ∧ q ≠ [] ∧ existsF s q = false) ∧
      Lk.Pairwise (fun x y => y.length < x.length) := by
  intro n
  induction n with
  | zero =>
    intro K hK _ _ fuel hf acc
    obtain rfl := List.eq_nil_of_length_eq_zero hK
    cases fuel with
    | zero => omega
    | succ f =>
      refine ⟨[], ?_, fun q => ⟨nofun, fun h => absurd (List.prefix_nil.mp h.1) h.2.1⟩, .nil⟩
      unfold dmCollect
      have : pureFormat R [] = R := by
        rw [pureFormat_root hR]
        simp [joinWith]
      rw [this, dirname_root hR]
      simp
  | succ n ih =>
    intro K hK hclean hrec fuel hf acc
    rcases List.eq_nil_or_concat K with rfl | ⟨K', c, rfl⟩
    · simp at hK
    · have hK'len : K'.length = n := by simpa using hK
      have hcK : CleanKey (K' ++ [c]) := by simpa using hclean
      have hcK' : CleanKey K' := hcK.prefix (List.prefix_append _ _)
      have hdir := dirname_pureFormat hR K' c hcK
      have hkey := keyOfAbs_pureFormat hR (K' ++ [c]) hcK
      have hne : pureFormat R (K' ++ [c]) ≠ pureFormat R K' := by
        intro e
        have := congrArg keyOfAbs e
        rw [hkey, keyOfAbs_pureFormat hR K' hcK'] at this
        have := congrArg List.length this
        simp at this
      cases fuel with
      | zero => omega
      | succ f =>
        simp only [List.concat_eq_append] at hrec ⊢
        unfold dmCollect
        rw [hdir, keyOf_abs _ _ (isAbs_pureFormat hR _), hkey]
        simp only [hne, if_false]
        -- the absent prefixes of `K' ++ [c]`: itself, if absent, and those of `K'`
        have hsplit : ∀ q, (q <+: K' ++ [c] ∧ q ≠ [] ∧ existsF s q = false) ↔
            (q = K' ++ [c] ∧ existsF s (K' ++ [c]) = false) ∨ (q <+: K' ∧ q ≠ [] ∧ existsF s q = false) := by
          intro q
          rw [List.prefix_concat_iff]
          constructor
          · rintro ⟨e | h, hq, hex⟩
            · exact Or.inl ⟨e, e ▸ hex⟩
            · exact Or.inr ⟨h, hq, hex⟩
          · rintro (⟨e, hex⟩ | ⟨h, hq, hex⟩)
            · exact ⟨Or.inl e, e ▸ (by simp), e ▸ hex⟩
            · exact ⟨Or.inr h, hq, hex⟩
        by_cases hcont : s.dirs.contains (pureFormat R (K' ++ [c])) = true
        · simp only [hcont, if_true]
          refine ⟨[], by simp, fun q => ⟨nofun, fun ⟨hq, hq0, hex⟩ => ?_⟩, .nil⟩
          rw [hrec _ (List.prefix_refl _) hcont q hq hq0] at hex
          cases hex
        · simp only [hcont, Bool.false_eq_true, if_false]
          have hrec' := fun q' (h : q' <+: K') => hrec q' (h.trans (List.prefix_append _ _))
          by_cases hex : existsF s (K' ++ [c]) = true
          · simp only [hex, if_true]
            obtain ⟨Lk, h1, h2, h4⟩ := ih K' hK'len hcK' hrec' f (by omega) acc
            refine ⟨Lk, h1, fun q => ?_, h4⟩
            rw [hsplit, ← h2, hex]
            simp
          · have hex' : existsF s (K' ++ [c]) = false := by simpa using hex
            simp only [hex', Bool.false_eq_true, if_false]
            obtain ⟨Lk, h1, h2, h4⟩ := ih K' hK'len hcK' hrec' f (by omega) (acc ++ [pureFormat R (K' ++ [c])])
            refine ⟨(K' ++ [c]) :: Lk, by rw [h1]; simp, fun q => ?_, List.pairwise_cons.mpr ⟨fun y hy => ?_, h4⟩⟩
            · rw [hsplit, ← h2, List.mem_cons, hex']
              simp
            · have := ((h2 y).mp hy).1.length_le
              simp
              omega

end MesonModel.Install
