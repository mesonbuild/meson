/-
The decision of `meson install --only-changed` (`should_preserve_existing_file`) as a function of the metadata it
reads (kind of source, kind of destination, the two time stamps in nanoseconds), and what `do_copyfile` and a file
rule leave at the destination on *any* link-free tree, preserved (`Keeps`) or overwritten.
-/
import MesonModel.Install.ModeLemmas
import MesonModel.Install.Blocks

namespace MesonModel.Install

/-- the source's time stamp as `os.stat(from_file).st_mtime` sees it (a link to a file is followed) -/
def srcMtime : Src → Option Nat
  | .file _ _ t => some t
  | .linkFile _ _ _ t => some t
  | _ => none

/-- the documented rule of `--only-changed`, on stat tuples -/
theorem shouldPreserve_iff (cfg : Cfg) (src : Src) (s : St) (kt : Key) :
    shouldPreserve cfg src s kt = true ↔
      cfg.onlyChanged = true ∧ ∃ mt, srcMtime src = some mt ∧
        ∃ m d tt, s.fs.follow kt = some (.file m d tt) ∧ mt ≤ tt := by
  have hfile : ∀ m0 d0 t0, shouldPreserve cfg (.file m0 d0 t0) s kt = true ↔
      cfg.onlyChanged = true ∧ ∃ mt, srcMtime (.file m0 d0 t0) = some mt ∧
        ∃ m d tt, s.fs.follow kt = some (.file m d tt) ∧ mt ≤ tt := by
    intro m0 d0 t0
    unfold shouldPreserve
    cases ho : cfg.onlyChanged with
    | false => simp
    | true =>
      simp only [srcMtime, Option.some.injEq, exists_eq_left', Bool.not_true, Bool.false_eq_true, if_false, true_and]
      cases s.fs.follow kt with
      | none => simp
      | some n =>
        cases n <;> simp
        exact ⟨fun h => ⟨_, _, _, ⟨rfl, rfl, rfl⟩, h⟩, fun ⟨_, _, _, ⟨_, _, e⟩, h⟩ => by omega⟩
  cases src with
  | file m0 d0 t0 => exact hfile m0 d0 t0
  -- a link to a file is followed: same branch of the code, same time stamp
  | linkFile tg m0 d0 t0 => exact hfile m0 d0 t0
  | missing => simp [shouldPreserve, srcMtime]
  | dir => simp [shouldPreserve, srcMtime]
  | linkDangling _ => simp [shouldPreserve, srcMtime]
  | linkDir _ => simp [shouldPreserve, srcMtime]

theorem shouldPreserve_dangling (cfg : Cfg) (s : St) (kt : Key) (t : Str) :
    shouldPreserve cfg (.linkDangling t) s kt = false ∧ shouldPreserve cfg (.linkDir t) s kt = false := by
  constructor <;> (unfold shouldPreserve; split <;> rfl)

/-- `--only-changed` is on and the destination `prev` is a regular file at least as new as a source stamped `t` -/
def Keeps (cfg : Cfg) (t : Nat) (prev : Option Node) : Prop :=
  cfg.onlyChanged = true ∧ ∃ m' d' t', prev = some (.file m' d' t') ∧ t ≤ t'

instance (cfg : Cfg) (t : Nat) (prev : Option Node) : Decidable (Keeps cfg t prev) := by
  unfold Keeps
  cases prev with
  | none => exact isFalse (by simp)
  | some n =>
    cases n with
    | dir _ => exact isFalse (by simp)
    | link _ => exact isFalse (by simp)
    | file m' d' t' =>
      exact decidable_of_iff (cfg.onlyChanged = true ∧ t ≤ t')
        ⟨fun ⟨a, b⟩ => ⟨a, m', d', t', rfl, b⟩, fun ⟨a, _, _, _, e, b⟩ => by cases e; exact ⟨a, b⟩⟩

theorem not_keeps_of_lt (cfg : Cfg) {t t' : Nat} (m' d' : Nat) (h : t' < t) : ¬ Keeps cfg t (some (.file m' d' t')) := by
  rintro ⟨_, _, _, t2, e, hle⟩
  cases e
  omega

theorem shouldPreserve_eq_keeps (cfg : Cfg) (m d t : Nat) (s : St) (kt : Key) (hNL : NL s.fs) (hk : kt ≠ []) :
    shouldPreserve cfg (.file m d t) s kt = true ↔ Keeps cfg t (s.fs.get kt) := by
  rw [shouldPreserve_iff, follow_eq_look hNL, look_of_ne_nil _ _ hk]
  unfold Keeps
  simp only [srcMtime, Option.some.injEq, exists_eq_left']

/-- `oc`: with or without `--only-changed` -/
theorem doCopyfile_file_spec_oc (cfg : Cfg) (hdry : cfg.dryRun = false)
    (fp to : Str) (m d t : Nat) (mk : Option Str) (fo : Option Bool) (s : St) (hNL : NL s.fs)
    (hk : keyOf cfg.cwd to ≠ [])
    (hf : (doCopyfile cfg fp (.file m d t) to mk fo s).1.failed = false) :
    (Keeps cfg t (s.fs.get (keyOf cfg.cwd to)) ∧
      (doCopyfile cfg fp (.file m d t) to mk fo s).2 = false ∧
      (doCopyfile cfg fp (.file m d t) to mk fo s).1.fs = s.fs) ∨
    (¬ Keeps cfg t (s.fs.get (keyOf cfg.cwd to)) ∧
      (doCopyfile cfg fp (.file m d t) to mk fo s).2 = true ∧
      NL (doCopyfile cfg fp (.file m d t) to mk fo s).1.fs ∧
      (doCopyfile cfg fp (.file m d t) to mk fo s).1.fs.get (keyOf cfg.cwd to) = some (.file m d t) ∧
      ∀ k, k ≠ keyOf cfg.cwd to →
        (doCopyfile cfg fp (.file m d t) to mk fo s).1.fs.get k = s.fs.get k ∨
        (s.fs.get (keyOf cfg.cwd to) = none ∧ s.fs.get k = none ∧
          (doCopyfile cfg fp (.file m d t) to mk fo s).1.fs.get k = some (.dir (andNot 0o777 cfg.procUmask)))) := by
  rcases doCopyfile_file_ok cfg hdry fp to m d t mk fo s hNL hk hf with ⟨hp, e⟩ | ⟨s1, hprep, hf1, hNL1, _, _, e⟩ <;> rw [e]
  · exact Or.inl ⟨(shouldPreserve_eq_keeps cfg m d t s _ hNL hk).mp hp, rfl, rfl⟩
  · right
    -- the state the file is put into: not kept, and a frame of `s`
    have hs1 : ¬ Keeps cfg t (s.fs.get (keyOf cfg.cwd to)) ∧ ∀ k, k ≠ keyOf cfg.cwd to →
        s1.fs.get k = s.fs.get k ∨ (s.fs.get (keyOf cfg.cwd to) = none ∧ s.fs.get k = none ∧
          s1.fs.get k = some (.dir (andNot 0o777 cfg.procUmask))) := by
      rcases hprep with ⟨hnp, _, rfl⟩ | ⟨hnone, hs1⟩
      · refine ⟨fun hkp => ?_, fun k hkk => Or.inl (get_del_other _ _ _ hkk)⟩
        rw [(shouldPreserve_eq_keeps cfg m d t s _ hNL hk).mpr hkp] at hnp
        cases hnp
      · refine ⟨fun ⟨_, _, _, _, e', _⟩ => (nomatch hnone.symm.trans e'), ?_⟩
        rcases hs1 with rfl | ⟨od, _, rfl⟩
        · exact fun _ _ => Or.inl rfl
        · exact fun k _ => ((dmMakedirs_fs_spec cfg hdry od true s hNL hf1).2.1 k).imp id fun h => ⟨hnone, h.2.2⟩
    refine ⟨hs1.1, rfl, NL_set hNL1 _ _ (by simp), get_set_same _ _ _, fun k hkk => ?_⟩
    simp only [St.logLine, St.write, get_set_other _ _ _ _ hkk]
    exact hs1.2 k hkk

/-- data / header / man rule: a kept destination gets the permission rule re-applied (`set_mode` runs whether or not
the file was copied).  Only a regular-file source has a node to specify (on a link-free plan any other source raises,
`installFileTo_nonfile_fails`); `.dir 0` fills the other cases, here and in the three definitions below. -/
def ocNode (cfg : Cfg) (mode : Option FileMode) (src : Src) (prev : Option Node) : Node :=
  match src with
  | .file m d t =>
    match prev with
    | some (.file m' d' t') =>
      if cfg.onlyChanged && decide (t ≤ t') then .file (modeRule cfg mode m') d' t' else .file (modeRule cfg mode m) d t
    | _ => .file (modeRule cfg mode m) d t
  | _ => .dir 0

/-- target rule: `set_mode` only runs when the file was copied -/
def ocTargetNode (cfg : Cfg) (mode : Option FileMode) (src : Src) (prev : Option Node) : Node :=
  match src with
  | .file m d t =>
    match prev with
    | some (.file m' d' t') =>
      if cfg.onlyChanged && decide (t ≤ t') then .file m' d' t' else .file (modeRule cfg mode m) d t
    | _ => .file (modeRule cfg mode m) d t
  | _ => .dir 0

/-- the node a file rule is planned to leave -/
def fileNode (cfg : Cfg) (e : DataEntry) : Node :=
  match e.src with
  | .file m d t => .file (modeRule cfg e.mode m) d t
  | _ => .dir 0

def targetNode (cfg : Cfg) (t : TargetEntry) : Node :=
  match t.src with
  | .file m d tt => .file (modeRule cfg t.mode m) d tt
  | _ => .dir 0

theorem ocNode_not_keeps (cfg : Cfg) (mode : Option FileMode) (m d t : Nat) (prev : Option Node)
    (h : ¬ Keeps cfg t prev) : ocNode cfg mode (.file m d t) prev = .file (modeRule cfg mode m) d t ∧
      ocTargetNode cfg mode (.file m d t) prev = .file (modeRule cfg mode m) d t := by
  unfold ocNode ocTargetNode
  cases prev with
  | none => exact ⟨rfl, rfl⟩
  | some n =>
    cases n with
    | dir _ => exact ⟨rfl, rfl⟩
    | link _ => exact ⟨rfl, rfl⟩
    | file m' d' t' =>
      have : ¬ (cfg.onlyChanged = true ∧ t ≤ t') := fun hc => h ⟨hc.1, m', d', t', rfl, hc.2⟩
      simp [this]

theorem ocNode_keeps (cfg : Cfg) (mode : Option FileMode) (m d t m' d' t' : Nat)
    (ho : cfg.onlyChanged = true) (hle : t ≤ t') :
    ocNode cfg mode (.file m d t) (some (.file m' d' t')) = .file (modeRule cfg mode m') d' t' ∧
    ocTargetNode cfg mode (.file m d t) (some (.file m' d' t')) = .file m' d' t' := by
  unfold ocNode ocTargetNode
  simp [ho, hle]

theorem ocNode_plain (cfg : Cfg) (honly : cfg.onlyChanged = false) (e : DataEntry) (prev : Option Node) :
    ocNode cfg e.mode e.src prev = fileNode cfg e := by
  unfold ocNode fileNode
  cases e.src <;> try rfl
  cases prev with
  | none => rfl
  | some n => cases n <;> simp [honly]

theorem ocTargetNode_plain (cfg : Cfg) (honly : cfg.onlyChanged = false) (t : TargetEntry) (prev : Option Node) :
    ocTargetNode cfg t.mode t.src prev = targetNode cfg t := by
  unfold ocTargetNode targetNode
  cases t.src <;> try rfl
  cases prev with
  | none => rfl
  | some n => cases n <;> simp [honly]

theorem ocNode_absent (cfg : Cfg) (mode : Option FileMode) (src : Src) (dm : Nat) :
    ocNode cfg mode src none = ocNode cfg mode src (some (.dir dm)) ∧
    ocTargetNode cfg mode src none = ocTargetNode cfg mode src (some (.dir dm)) := by
  unfold ocNode ocTargetNode
  cases src <;> exact ⟨rfl, rfl⟩

theorem fileNode_eq_ocNode (cfg : Cfg) (e : DataEntry) : fileNode cfg e = ocNode cfg e.mode e.src none := by
  unfold fileNode ocNode
  cases e.src <;> rfl

theorem targetNode_eq_ocNode (cfg : Cfg) (t : TargetEntry) : targetNode cfg t = ocTargetNode cfg t.mode t.src none := by
  unfold targetNode ocTargetNode
  cases t.src <;> rfl

theorem ocNode_idem (cfg : Cfg) (mode : Option FileMode) (src : Src) (x : Option Node) :
    ocNode cfg mode src (some (ocNode cfg mode src x)) = ocNode cfg mode src x ∧
    ocTargetNode cfg mode src (some (ocTargetNode cfg mode src x)) = ocTargetNode cfg mode src x := by
  cases src with
  | file m d t =>
    by_cases hk : Keeps cfg t x
    · obtain ⟨ho, m', d', t', rfl, hle⟩ := hk
      rw [(ocNode_keeps cfg mode m d t m' d' t' ho hle).1, (ocNode_keeps cfg mode m d t m' d' t' ho hle).2,
        (ocNode_keeps cfg mode m d t _ d' t' ho hle).1, (ocNode_keeps cfg mode m d t m' d' t' ho hle).2, modeRule_idem]
      exact ⟨rfl, rfl⟩
    · rw [(ocNode_not_keeps cfg mode m d t x hk).1, (ocNode_not_keeps cfg mode m d t x hk).2]
      by_cases ho : cfg.onlyChanged = true
      · rw [(ocNode_keeps cfg mode m d t _ d t ho (Nat.le_refl t)).1, (ocNode_keeps cfg mode m d t _ d t ho (Nat.le_refl t)).2,
          modeRule_idem]
        exact ⟨rfl, rfl⟩
      · exact ocNode_not_keeps cfg mode m d t _ (fun h => ho h.1)
  | _ => exact ⟨rfl, rfl⟩

theorem installFileTo_nonfile_fails (cfg : Cfg) (e : DataEntry) (out od : Str) (fo : Option Bool) (s : St)
    (h : noLinkSrc e.src = true) (hnf : ∀ m d t, e.src ≠ .file m d t) :
    (installFileTo cfg e out od fo s).failed = true := by
  unfold installFileTo doCopyfile
  cases hs : e.src with
  | file m d t => exact absurd hs (hnf m d t)
  | missing => simp [srcCopyable, St.failed, St.fail]
  | dir => simp [srcCopyable, St.failed, St.fail]
  | linkDangling _ =>
    rw [hs] at h
    cases h
  | linkFile _ _ _ _ =>
    rw [hs] at h
    cases h
  | linkDir _ =>
    rw [hs] at h
    cases h

/-- one file rule (data, header, man) on any link-free tree -/
theorem installFileTo_oc (cfg : Cfg) (hdry : cfg.dryRun = false)
    (e : DataEntry) (out outdir : Str) (fo : Option Bool) (s : St) (m d t : Nat) (hsrc : e.src = .file m d t)
    (hNL : NL s.fs) (hk : keyOf cfg.cwd out ≠ [])
    (hf : (installFileTo cfg e out outdir fo s).failed = false) :
    NL (installFileTo cfg e out outdir fo s).fs ∧
    (installFileTo cfg e out outdir fo s).fs.get (keyOf cfg.cwd out) =
      some (ocNode cfg e.mode e.src (s.fs.get (keyOf cfg.cwd out))) ∧
    ∀ k, k ≠ keyOf cfg.cwd out →
      (installFileTo cfg e out outdir fo s).fs.get k = s.fs.get k ∨
      (s.fs.get (keyOf cfg.cwd out) = none ∧ s.fs.get k = none ∧
        (installFileTo cfg e out outdir fo s).fs.get k = some (.dir (andNot 0o777 cfg.procUmask))) := by
  unfold installFileTo at hf ⊢
  dsimp only at hf ⊢
  rw [hsrc] at hf ⊢
  have hc := ok_unless_failed id hf
  simp only [hc, Bool.false_eq_true, if_false]
  rcases doCopyfile_file_spec_oc cfg hdry e.path out m d t (some outdir) fo s hNL hk hc with
    ⟨⟨ho, m', d', t', hg, hle⟩, h2, hfs⟩ | ⟨hnk, h2, hNL1, hget, hfr⟩
  · -- kept: `set_mode` still runs, on the old file
    simp only [h2, Bool.false_eq_true, if_false]
    have hnode := (ocNode_keeps cfg e.mode m d t m' d' t' ho hle).1
    rw [← hg] at hnode
    rw [hnode]
    exact setMode_file_frame cfg hdry _ hk e.mode s _ m' d' t' _ (by rw [hfs]; exact hNL) (by rw [hfs]; exact hg)
      (fun k _ => Or.inl (by rw [hfs]))
  · simp only [h2, if_true]
    rw [(ocNode_not_keeps cfg e.mode m d t _ hnk).1]
    exact setMode_file_frame cfg hdry _ hk e.mode s _ m d t _ hNL1 hget hfr

theorem installFileTo_idempotent (cfg : Cfg) (hdry : cfg.dryRun = false) (honly : cfg.onlyChanged = false)
    (e : DataEntry) (out outdir : Str) (fo : Option Bool) (s : St) (m d t : Nat) (hsrc : e.src = .file m d t)
    (hNL : NL s.fs) (hk : keyOf cfg.cwd out ≠ [])
    (hf1 : (installFileTo cfg e out outdir fo s).failed = false)
    (hf2 : (installFileTo cfg e out outdir fo (installFileTo cfg e out outdir fo s)).failed = false) :
    ∀ k, (installFileTo cfg e out outdir fo (installFileTo cfg e out outdir fo s)).fs.get k =
      (installFileTo cfg e out outdir fo s).fs.get k := by
  obtain ⟨n1, a1, _⟩ := installFileTo_oc cfg hdry e out outdir fo s m d t hsrc hNL hk hf1
  obtain ⟨_, a2, b2⟩ := installFileTo_oc cfg hdry e out outdir fo _ m d t hsrc n1 hk hf2
  intro k
  by_cases hkk : k = keyOf cfg.cwd out
  · rw [hkk, a2, a1, (ocNode_idem cfg e.mode e.src _).1]
  · rcases b2 k hkk with h | ⟨h0, _, _⟩
    · exact h
    · rw [a1] at h0
      cases h0

end MesonModel.Install
