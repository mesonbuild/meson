/-
Installer-level confinement.  `Inv D fs0 s` says that every key that is not under
DESTDIR's key `D` is bound as in the initial tree `fs0`, or is a strict ancestor of `D` that was absent and is a
directory now.  Here the primitives that keep it (a write or an erase under `D`, `DirMaker.makedirs` on a path comparable
with `D`, `remove`, `putFile`, `putLink`); the installers are walked in `ConfineInstall`.
-/
import MesonModel.Install.PathLemmas
import MesonModel.Install.Blocks

namespace MesonModel.Install

def Cmp (D k : Key) : Prop := D <+: k ∨ k <+: D

def Inv (D : Key) (fs0 : FS) (s : St) : Prop :=
  ∀ k, ¬ D <+: k →
    s.fs.get k = fs0.get k ∨
    (k <+: D ∧ fs0.look k = none ∧ ∃ m, s.fs.get k = some (.dir m))

theorem Inv_of_fs {D : Key} {fs0 : FS} {s s' : St} (h : s'.fs = s.fs) (hI : Inv D fs0 s) : Inv D fs0 s' := by
  intro k hk
  rw [h]
  exact hI k hk

theorem Inv_write {D : Key} {fs0 : FS} {s : St} (k0 : Key) (n : Node) (h : D <+: k0) (hI : Inv D fs0 s) :
    Inv D fs0 (s.write k0 n) := by
  intro k hk
  have hne : k ≠ k0 := fun e => hk (e ▸ h)
  simp only [St.write, get_set_other _ _ _ _ hne]
  exact hI k hk

theorem Inv_erase {D : Key} {fs0 : FS} {s : St} (k0 : Key) (h : D <+: k0) (hI : Inv D fs0 s) :
    Inv D fs0 (s.erase k0) := by
  intro k hk
  have hne : k ≠ k0 := fun e => hk (e ▸ h)
  simp only [St.erase, get_del_other _ _ _ hne]
  exact hI k hk

theorem Inv_fail {D : Key} {fs0 : FS} {s : St} (e : Err) (hI : Inv D fs0 s) : Inv D fs0 (s.fail e) :=
  Inv_of_fs rfl hI

theorem Inv_logLine {D : Key} {fs0 : FS} {s : St} (l : Str) (hI : Inv D fs0 s) : Inv D fs0 (s.logLine l) :=
  Inv_of_fs rfl hI

/-- a step whose changed bindings outside `D` are absent ancestors of `D` that become directories -/
theorem Inv_step {D : Key} {fs0 : FS} {s s' : St} (hI : Inv D fs0 s)
    (h : ∀ k, ¬ D <+: k → s'.fs.get k = s.fs.get k ∨
      (k <+: D ∧ s.fs.look k = none ∧ ∃ m, s'.fs.get k = some (.dir m))) : Inv D fs0 s' := by
  intro k hk
  rcases h k hk with e | ⟨hpre, hcur, hm⟩
  · rw [e]
    exact hI k hk
  · refine Or.inr ⟨hpre, ?_, hm⟩
    rcases hI k hk with h1 | ⟨_, h2, _⟩
    · unfold FS.look at hcur ⊢
      rwa [h1] at hcur
    · exact h2

theorem prefix_cmp {D k X : Key} (hk : k <+: X) (hX : Cmp D X) : Cmp D k := by
  rcases hX with h | h
  · exact (List.prefix_or_prefix_of_prefix h hk)
  · exact Or.inr (List.IsPrefix.trans hk h)

section
variable {D : Key} {fs0 : FS} (cfg : Cfg)

theorem Inv_dmMakedirs (path : Str) (b : Bool) (s : St) (hc : Cmp D (keyOf cfg.cwd path)) (hI : Inv D fs0 s) :
    Inv D fs0 (dmMakedirs cfg path b s) :=
  Inv_step hI fun k hk => ((dmMakedirs_eff cfg path b s).2.2.1 k).imp id fun ⟨hpre, hk0, hn, hd⟩ =>
    ⟨(prefix_cmp hpre hc).resolve_left hk, by rw [look_of_ne_nil _ _ hk0, hn], _, hd⟩

theorem Inv_remove (k : Key) (s : St) (h : D <+: k) (hI : Inv D fs0 s) : Inv D fs0 (remove cfg k s) := by
  unfold remove
  exact kept_ite hI (Inv_erase _ h hI)

theorem Inv_putFile (k : Key) (m d t : Nat) (s : St) (h : D <+: k) (hI : Inv D fs0 s) :
    Inv D fs0 (putFile cfg k m d t s) := by
  unfold putFile
  refine kept_ite hI ?_
  split
  · exact Inv_fail _ hI
  · exact Inv_fail _ hI
  · exact kept_ite (Inv_write _ _ h hI) (Inv_fail _ hI)

theorem Inv_putLink (k : Key) (t : Str) (s : St) (h : D <+: k) (hI : Inv D fs0 s) :
    Inv D fs0 (putLink cfg k t s) := by
  unfold putLink
  exact kept_ite hI (kept_ite (Inv_fail _ hI) (kept_ite (Inv_write _ _ h hI) (Inv_fail _ hI)))

end

end MesonModel.Install
