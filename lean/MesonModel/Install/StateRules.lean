/-
The file-installing rules (`install_data`, `install_man`, `install_headers`, file targets) as
`RuleStep`s, with or without `--only-changed`.
-/
import MesonModel.Install.RuleLemmas
import MesonModel.Install.InstallLog

namespace MesonModel.Install

def dataKey (cfg : Cfg) (e : DataEntry) : Key :=
  match destPath cfg e.installPath with
  | some out => keyOf cfg.cwd out
  | none => []

def headerKey (cfg : Cfg) (e : DataEntry) : Key :=
  match destPath cfg e.installPath with
  | some od => keyOf cfg.cwd (join od (basename e.path))
  | none => []

def selData (cfg : Cfg) (e : DataEntry) : Bool := shouldInstall cfg e.subproject e.tag

def okData (e : DataEntry) : Prop := basename e.path ≠ dotdot ∧ noLinkSrc e.src = true

def targetKey (cfg : Cfg) (t : TargetEntry) : Key :=
  match destPath cfg t.outdir with
  | some od => keyOf cfg.cwd (join od (basename t.fname))
  | none => []

def selTarget (cfg : Cfg) (t : TargetEntry) : Bool := shouldInstall cfg t.subproject t.tag

def okTarget (t : TargetEntry) : Prop := basename t.fname ≠ dotdot ∧ ∃ m d tt, t.src = .file m d tt

section
variable {D : Key} (cfg : Cfg) (hdry : cfg.dryRun = false) (hD : D ≠ []) (hdest : Dest cfg D)

include hdry hD hdest in
/-- `install_data`, `install_man` and `install_headers` have one shape: resolve the install path with
`get_destdir_path`, make the destination's name from it, run `installFileTo` -/
theorem ruleStep_file (f : St → DataEntry → St) (key : DataEntry → Key) (name od : DataEntry → Str → Str)
    (fo : DataEntry → Option Bool)
    (hf : ∀ s e, f s e = if s.failed then s else if !shouldInstall cfg e.subproject e.tag then s else
      match destPath cfg e.installPath with
      | none => s.fail .meson
      | some out => installFileTo cfg e (name e out) (od e out) (fo e) s)
    (hkey : ∀ e out, destPath cfg e.installPath = some out → key e = keyOf cfg.cwd (name e out))
    (hname : ∀ e out, okData e → Good D out → Good D (name e out)) :
    RuleStep (andNot 0o777 cfg.procUmask) f okData (selData cfg) key (fun e prev => ocNode cfg e.mode e.src prev) where
  skip := by
    intro s e h
    simp only [selData] at h
    simp [hf, h]
  failed := by
    intro s e h
    simp [hf, h]
  spec := by
    intro s e hok hsel hNL hfail
    rw [hf] at hfail ⊢
    simp only [selData] at hsel
    have hx := selected_ok hsel hfail
    rw [hx] at hfail ⊢
    cases hdp : destPath cfg e.installPath with
    | none =>
      rw [hdp] at hfail
      cases hfail
    | some out =>
      rw [hdp] at hfail
      rw [hkey e out hdp]
      dsimp only at hfail ⊢
      have hk := (hname e out hok (hdest _ _ hdp)).key_ne_nil cfg hD
      by_cases hfile : ∃ m d t, e.src = .file m d t
      · obtain ⟨m, d, t, hsrc⟩ := hfile
        exact installFileTo_oc cfg hdry e _ _ _ s m d t hsrc hNL hk hfail
      · have := installFileTo_nonfile_fails cfg e (name e out) (od e out) (fo e) s hok.2
          (fun m d t h => hfile ⟨m, d, t, h⟩)
        rw [this] at hfail
        cases hfail

include hdry hD hdest in
theorem ruleStep_data : RuleStep (andNot 0o777 cfg.procUmask) (installDataOne cfg) okData (selData cfg) (dataKey cfg)
    (fun e prev => ocNode cfg e.mode e.src prev) :=
  ruleStep_file cfg hdry hD hdest _ _ (fun _ out => out) (fun _ out => dirname out) (·.follow) (fun _ _ => rfl)
    (fun e out h => by simp [dataKey, h]) (fun _ _ _ h => h)

include hdry hD hdest in
theorem ruleStep_man : RuleStep (andNot 0o777 cfg.procUmask) (installMan cfg) okData (selData cfg) (dataKey cfg)
    (fun e prev => ocNode cfg e.mode e.src prev) :=
  ruleStep_file cfg hdry hD hdest _ _ (fun _ out => out) (fun _ out => dirname out) (fun _ => none) (fun _ _ => rfl)
    (fun e out h => by simp [dataKey, h]) (fun _ _ _ h => h)

include hdry hD hdest in
theorem ruleStep_header : RuleStep (andNot 0o777 cfg.procUmask) (installHeader cfg) okData (selData cfg) (headerKey cfg)
    (fun e prev => ocNode cfg e.mode e.src prev) :=
  ruleStep_file cfg hdry hD hdest _ _ (fun e out => join out (basename e.path)) (fun _ out => out) (·.follow)
    (fun _ _ => rfl) (fun e out h => by simp [headerKey, h])
    (fun e _ hok h => h.join_name (basename_noSep _) hok.1)

include hdry hD hdest in
theorem ruleStep_target : RuleStep (andNot 0o777 cfg.procUmask) (installTarget cfg) okTarget (selTarget cfg)
    (targetKey cfg) (fun t prev => ocTargetNode cfg t.mode t.src prev) where
  skip := by
    intro s e h
    unfold installTarget
    exact unselected_skip _ h
  failed := by
    intro s e h
    unfold installTarget
    simp [h]
  spec := by
    intro s t hok hsel hNL hf
    obtain ⟨hb, m, d, tt, hsrc⟩ := hok
    unfold installTarget at hf ⊢
    unfold targetKey
    simp only [selTarget] at hsel
    have hx := selected_ok hsel hf
    rw [hx] at hf ⊢
    simp only [hsrc] at hf ⊢
    cases hdp : destPath cfg t.outdir with
    | none =>
      rw [hdp] at hf
      cases hf
    | some od =>
      rw [hdp] at hf
      dsimp only at hf ⊢
      have hg : Good D (join od (basename t.fname)) := (hdest _ _ hdp).join_name (basename_noSep _) hb
      have hk := hg.key_ne_nil cfg hD
      have hc := ok_unless_failed id hf
      rcases doCopyfile_file_spec_oc cfg hdry t.fname (join od (basename t.fname)) m d tt (some od) none s hNL hk hc with
        ⟨⟨ho, m', d', t', hg', hle⟩, h2, hfs⟩ | ⟨hnk, h22, n1, h2, h3⟩
      · simp only [hc, h2, Bool.false_eq_true, if_false]
        rw [hfs]
        refine ⟨hNL, ?_, fun k _ => Or.inl rfl⟩
        rw [hg', (ocNode_keeps cfg t.mode m d tt m' d' t' ho hle).2]
      · simp only [hc, h22, Bool.false_eq_true, if_false, if_true]
        rw [(ocNode_not_keeps cfg t.mode m d tt _ hnk).2]
        exact setMode_file_frame cfg hdry _ hk t.mode s _ m d tt _ n1 h2 h3

end

end MesonModel.Install
