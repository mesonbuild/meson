/-
The invariant `LG` tying the installer's log and `DirMaker.dirs` to the tree, on link-free trees, for successful
real (non dry-run) installations; together with confinement it is kept by the building blocks (`B_kept`), hence by the
whole installation (`install_LG`); what that says of the log, and uninstall after install.
-/
import MesonModel.Install.ChainLemmas
import MesonModel.Install.UninstallLemmas

namespace MesonModel.Install

structure LG (cwd : Str) (fs0 : FS) (s : St) : Prop where
  nl : NL s.fs
  wf : WF s.fs
  /-- every created path is named by the log or recorded by `DirMaker` -/
  cl : ∀ k, k ≠ [] → fs0.get k = none → s.fs.get k ≠ none → k ∈ logKeys cwd s.log ∨ k ∈ logKeys cwd s.dirs
  /-- what the log names is a file that did not exist before -/
  nf : ∀ k ∈ logKeys cwd s.log, (∃ m d t, s.fs.get k = some (.file m d t)) ∧ fs0.get k = none
  /-- what `DirMaker` recorded is a directory that did not exist before -/
  dk : ∀ d ∈ logKeys cwd s.dirs, (∃ m, s.fs.get d = some (.dir m)) ∧ fs0.get d = none
  /-- parents are recorded before their children -/
  dord : (logKeys cwd s.dirs).Pairwise (fun a b => a.dropLast ≠ b)

/-- `LG` as long as the run has not raised; of a state after an exception nothing is claimed -/
def LGc (cwd : Str) (fs0 : FS) (s : St) : Prop := s.failed = false → LG cwd fs0 s

theorem logKeys_append (cwd : Str) (a b : List Str) : logKeys cwd (a ++ b) = logKeys cwd a ++ logKeys cwd b := by
  simp [logKeys, List.filterMap_append]

theorem lineKey_abs (cwd p : Str) (h : isAbs p = true) (hk : keyOfAbs p ≠ []) : lineKey cwd p = some (keyOfAbs p) := by
  obtain ⟨t, rfl⟩ := isAbs_elim p h
  unfold lineKey
  rw [keyOf_abs _ _ h]
  simp [hk]

theorem mem_logKeys_of_abs (cwd : Str) (l : List Str) (p : Str) (hp : p ∈ l) (h : isAbs p = true)
    (hk : keyOfAbs p ≠ []) : keyOfAbs p ∈ logKeys cwd l := by
  unfold logKeys
  rw [List.mem_filterMap]
  exact ⟨p, hp, lineKey_abs cwd p h hk⟩

theorem mem_logKeys_ne_nil (cwd : Str) (l : List Str) (k : Key) (h : k ∈ logKeys cwd l) : k ≠ [] := by
  obtain ⟨p, _, hp⟩ := List.mem_filterMap.mp h
  simp only [lineKey, Option.ite_none_left_eq_some, Option.some.injEq] at hp
  exact hp.2.2.2 ▸ hp.2.2.1

theorem filterMap_eq_map' {α β} (f : α → Option β) (g : α → β) :
    ∀ (l : List α), (∀ x ∈ l, f x = some (g x)) → l.filterMap f = l.map g
  | [], _ => rfl
  | a :: t, h => by
    rw [List.filterMap_cons, h a (by simp), List.map_cons,
        filterMap_eq_map' f g t (fun x hx => h x (by simp [hx]))]

theorem LGc_dmMakedirs {D : Key} {fs0 : FS} (cfg : Cfg) (hdry : cfg.dryRun = false) (path : Str) (b : Bool) (s : St)
    (hp : GoodDir D path) (hfresh : ∀ k, D <+: k → fs0.get k = none) (hInv : Inv D fs0 s)
    (h : LGc cfg.cwd fs0 s) : LGc cfg.cwd fs0 (dmMakedirs cfg path b s) := by
  intro hf
  have hR := isRoot_replicate path hp.1
  have hnorm := normpath_abs path hp.1
  have hKc := keyOfAbs_cleanKey path
  obtain ⟨m1, hd, m4, m5'⟩ := dmMakedirs_eff cfg path b s
  obtain ⟨hs, m2⟩ := hd hf
  rw [keyOf_abs _ _ hp.1] at m4 m5'
  have hg := h hs
  have m3 : NL (dmMakedirs cfg path b s).fs := NL_of_dirs hg.nl fun k => (m4 k).imp id fun h => ⟨_, h.2.2.2⟩
  have m5 : ∀ q, q <+: keyOfAbs path → q ≠ [] → ∃ m, (dmMakedirs cfg path b s).fs.get q = some (.dir m) :=
    fun q hq hq0 => isDirF_get hq0 (m3 q) (m5' hdry hf q hq)
  obtain ⟨Lk, hL, hLk, hpair⟩ := dmCollect_spec cfg s hR (keyOfAbs path).length (keyOfAbs path) rfl hKc
    (fun q' hq' hc q hq hq0 => by
      -- what `DirMaker` has recorded is a directory, and on a well-formed tree everything above it exists
      have hk := keyOfAbs_pureFormat hR q' (hKc.prefix hq')
      have hmem := mem_logKeys_of_abs cfg.cwd s.dirs _ (by simpa using hc) (isAbs_pureFormat hR q')
        (by rw [hk]; exact fun e => hq0 (List.prefix_nil.mp (e ▸ hq)))
      obtain ⟨⟨m, hm⟩, _⟩ := hg.dk q' (hk ▸ hmem)
      cases hex : existsF s q with
      | true => rfl
      | false =>
        exact absurd ((existsF_false_iff hg.nl q hq0).mp hex) (WF_present_of_prefix hg.wf hq hq0 (by rw [hm]; simp)))
    ((normpath path).length + 1) (by
      rw [hnorm, pureFormat_root hR]
      have := length_le_joinWith (keyOfAbs path) (fun c hc => (hKc c hc).1)
      simp
      omega) []
  have hsound := fun q hq => (hLk q).mp hq
  rw [← hnorm] at hL
  rw [hL, List.nil_append] at m2
  -- the collected strings are logged under the keys they were formatted from
  have hLmap : logKeys cfg.cwd (Lk.map (pureFormat (List.replicate (initialSlashes path) '/'))).reverse = Lk.reverse := by
    unfold logKeys
    rw [← List.map_reverse, List.filterMap_map, filterMap_eq_map' _ id, List.map_id]
    intro q hq
    have hq' := hsound q (List.mem_reverse.mp hq)
    have hk := keyOfAbs_pureFormat hR q (hKc.prefix hq'.1)
    simpa [hk] using lineKey_abs cfg.cwd _ (isAbs_pureFormat hR q) (by rw [hk]; exact hq'.2.1)
  have hkeep : ∀ k n, s.fs.get k = some n → (dmMakedirs cfg path b s).fs.get k = some n := by
    intro k n hk
    rcases m4 k with e | ⟨_, _, hn, _⟩
    · exact e.trans hk
    · rw [hk] at hn
      cases hn
  have habs : ∀ q ∈ Lk, s.fs.get q = none :=
    fun q hq => (existsF_false_iff hg.nl q (hsound q hq).2.1).mp (hsound q hq).2.2
  refine ⟨m3, ?_, ?_, ?_, ?_, ?_⟩
  · -- WF
    intro c hc hget
    rcases m4 c with e | ⟨hr1, _, _, _⟩
    · exact (hg.wf c hc (e ▸ hget)).imp id fun ⟨m, hm⟩ => ⟨m, hkeep _ _ hm⟩
    · by_cases hd : c.dropLast = []
      · exact Or.inl hd
      · exact Or.inr (m5 c.dropLast ((List.dropLast_prefix _).trans hr1) hd)
  · -- created paths are named
    intro k hk hk0 hget
    rw [m1, m2, logKeys_append, hLmap]
    rcases m4 k with e | ⟨hr1, _, hr4, _⟩
    · rw [e] at hget
      rcases hg.cl k hk hk0 hget with h1 | h1
      · exact Or.inl h1
      · exact Or.inr (List.mem_append.mpr (Or.inl h1))
    · right
      exact List.mem_append.mpr (Or.inr (List.mem_reverse.mpr
        ((hLk k).mpr ⟨hr1, hk, (existsF_false_iff hg.nl k hk).mpr hr4⟩)))
  · -- logged files
    intro k hk
    rw [m1] at hk
    obtain ⟨⟨m, d, t, hm⟩, h0⟩ := hg.nf k hk
    exact ⟨⟨m, d, t, hkeep _ _ hm⟩, h0⟩
  · -- recorded directories
    intro d hd
    rw [m2, logKeys_append, hLmap] at hd
    rcases List.mem_append.mp hd with hd | hd
    · obtain ⟨⟨m, hm⟩, h0⟩ := hg.dk d hd
      exact ⟨⟨m, hkeep _ _ hm⟩, h0⟩
    · have hd := List.mem_reverse.mp hd
      obtain ⟨hd1, hd2, _⟩ := hsound d hd
      refine ⟨m5 _ hd1 hd2, ?_⟩
      by_cases hDk : D <+: d
      · exact hfresh _ hDk
      · rcases hInv _ hDk with e | ⟨_, hl, _⟩
        · rw [← e]
          exact habs d hd
        · simpa [look_of_ne_nil _ _ hd2] using hl
  · -- order
    rw [m2, logKeys_append, hLmap, List.pairwise_append]
    refine ⟨hg.dord, ?_, ?_⟩
    · rw [List.pairwise_reverse]
      apply hpair.imp
      intro x y hxy e
      have := congrArg List.length e
      simp at this
      omega
    · intro e he d hd heq
      have hd := List.mem_reverse.mp hd
      obtain ⟨⟨m, hm⟩, _⟩ := hg.dk e he
      rcases hg.wf e (mem_logKeys_ne_nil _ _ _ he) (by rw [hm]; simp) with e' | ⟨m', hm'⟩
      · rw [e'] at heq
        exact (hsound d hd).2.1 heq.symm
      · rw [heq, habs d hd] at hm'
        cases hm'

/-- a step that logs the files `N`, records no directory and changes the kind of no other node: each of `N` is a
regular file afterwards, was no directory, sits in a directory and is new against `fs0` -/
theorem LG_step {cwd : Str} {fs0 : FS} {s s' : St} (N : List Key) (h : LG cwd fs0 s)
    (hlog : logKeys cwd s'.log = logKeys cwd s.log ++ N) (hdirs : s'.dirs = s.dirs)
    (hk : ∀ k, k ∉ N → kind (s'.fs.get k) = kind (s.fs.get k))
    (hN : ∀ k ∈ N, kind (s'.fs.get k) = 2 ∧ (∀ m, s.fs.get k ≠ some (.dir m)) ∧
      (k.dropLast = [] ∨ ∃ m, s.fs.get k.dropLast = some (.dir m)) ∧ fs0.get k = none) : LG cwd fs0 s' := by
  -- a directory is none of `N`, so it stays one
  have hdir : ∀ k, (∃ m, s.fs.get k = some (.dir m)) → ∃ m, s'.fs.get k = some (.dir m) := by
    intro k ⟨m, hm⟩
    rw [← kind_dir, hk k fun hn => (hN k hn).2.1 m hm, hm]
    rfl
  refine ⟨fun k t e => ?_, fun c hc hget => ?_, fun k hk' h0 hget => ?_, fun k hk' => ?_, fun d hd => ?_, hdirs ▸ h.dord⟩
  · have e3 : kind (s'.fs.get k) = 3 := kind_link.mpr ⟨t, e⟩
    by_cases hn : k ∈ N
    · rw [(hN k hn).1] at e3
      cases e3
    · obtain ⟨t', ht'⟩ := kind_link.mp (hk k hn ▸ e3)
      exact h.nl k t' ht'
  · have hpar : c.dropLast = [] ∨ ∃ m, s.fs.get c.dropLast = some (.dir m) := by
      by_cases hn : c ∈ N
      · exact (hN c hn).2.2.1
      · exact h.wf c hc fun e => hget (kind_none.mp (by rw [hk c hn, e]; rfl))
    exact hpar.imp id (hdir _)
  · rw [hlog, hdirs]
    by_cases hn : k ∈ N
    · exact Or.inl (List.mem_append_right _ hn)
    · exact (h.cl k hk' h0 fun e => hget (kind_none.mp (by rw [hk k hn, e]; rfl))).imp (List.mem_append_left _) id
  · by_cases hn : k ∈ N
    · exact ⟨kind_file.mp (hN k hn).1, (hN k hn).2.2.2⟩
    · have hold := h.nf k ((List.mem_append.mp (hlog ▸ hk')).resolve_right hn)
      exact ⟨kind_file.mp (by rw [hk k hn]; exact kind_file.mpr hold.1), hold.2⟩
  · rw [hdirs] at hd
    exact ⟨hdir d (h.dk d hd).1, (h.dk d hd).2⟩

theorem LG_of_shape {cwd : Str} {fs0 : FS} {s s' : St} (hlog : logKeys cwd s'.log = logKeys cwd s.log)
    (hdirs : s'.dirs = s.dirs) (hk : ∀ k, kind (s'.fs.get k) = kind (s.fs.get k)) (h : LG cwd fs0 s) :
    LG cwd fs0 s' :=
  LG_step [] h (by rw [hlog, List.append_nil]) hdirs (fun k _ => hk k) nofun

theorem LGc_of_shape {cwd : Str} {fs0 : FS} {s s' : St} (hlog : logKeys cwd s'.log = logKeys cwd s.log)
    (hdirs : s'.dirs = s.dirs) (hk : ∀ k, kind (s'.fs.get k) = kind (s.fs.get k))
    (hst : s'.failed = false → s.failed = false) (h : LGc cwd fs0 s) : LGc cwd fs0 s' :=
  fun hf => LG_of_shape hlog hdirs hk (h (hst hf))

theorem LGc_of_failed {cwd : Str} {fs0 : FS} {s : St} (h : s.failed = true) : LGc cwd fs0 s :=
  fun hf => by rw [h] at hf; cases hf

theorem LGc_write_same_kind {cwd : Str} {fs0 : FS} (k : Key) (n : Node) (s : St)
    (hn : kind (some n) = kind (s.fs.get k)) (h : LGc cwd fs0 s) : LGc cwd fs0 (s.write k n) :=
  LGc_of_shape (s := s) (s' := s.write k n) rfl rfl (fun k' => kind_set_same_kind _ _ _ hn k')
    (fun hf => by simpa [St.write, St.failed] using hf) h

/-- A string literal is `String.ofList` of its characters, so its first character is read off without decoding it;
evaluating `toList` on the literal decodes the whole string and is slow to check. -/
theorem head?_toList_ofList (c : Char) (t : List Char) : (String.ofList (c :: t)).toList.head? = some c :=
  congrArg List.head? String.toList_ofList

theorem lineKey_comment (cwd l : Str) : lineKey cwd (preservingPrefix ++ l) = none := by
  have h : preservingPrefix.head? = some '#' := head?_toList_ofList _ _
  exact if_pos (by rw [List.head?_append, h]; rfl)

theorem logKeys_snoc_abs (cwd : Str) (l : List Str) (p : Str) (h : isAbs p = true) (hk : keyOfAbs p ≠ []) :
    logKeys cwd (l ++ [p]) = logKeys cwd l ++ [keyOfAbs p] := by
  rw [logKeys_append]
  simp [logKeys, lineKey_abs cwd p h hk]

theorem LGc_doCopyfile {D : Key} {fs0 : FS} (cfg : Cfg) (hdry : cfg.dryRun = false) (fp : Str) (src : Src)
    (to : Str) (mk : Option Str) (fo : Option Bool) (s : St)
    (ht : Good D to) (hmk : ∀ od, mk = some od → GoodDir D od) (hD : D ≠ []) (hsrc : noLinkSrc src = true)
    (hfresh : ∀ k, D <+: k → fs0.get k = none) (hInv : Inv D fs0 s) (h : LGc cfg.cwd fs0 s) :
    LGc cfg.cwd fs0 (doCopyfile cfg fp src to mk fo s).1 := by
  intro hf
  have hkt : keyOf cfg.cwd to = keyOfAbs to := keyOf_abs _ _ ht.1
  have hktne : keyOf cfg.cwd to ≠ [] := fun e => hD (List.prefix_nil.mp (e ▸ ht.key cfg))
  have h0 : fs0.get (keyOf cfg.cwd to) = none := hfresh _ (ht.key cfg)
  cases src with
  | missing =>
    unfold doCopyfile at hf
    simp [srcCopyable, St.failed, St.fail] at hf
  | dir =>
    unfold doCopyfile at hf
    simp [srcCopyable, St.failed, St.fail] at hf
  | linkDangling _ => cases hsrc
  | linkFile _ _ _ _ => cases hsrc
  | linkDir _ => cases hsrc
  | file m d t =>
    -- the state `sA` has the invariant, and the file is put into `s1`, which differs from it at most at the destination
    have put : ∀ sA s1 : St, LG cfg.cwd fs0 sA → s1.log = sA.log → s1.dirs = sA.dirs →
        (∀ k, k ≠ keyOf cfg.cwd to → s1.fs.get k = sA.fs.get k) →
        (∀ m', sA.fs.get (keyOf cfg.cwd to) ≠ some (.dir m')) →
        ((keyOf cfg.cwd to).dropLast = [] ∨ ∃ m', s1.fs.get (keyOf cfg.cwd to).dropLast = some (.dir m')) →
        LG cfg.cwd fs0 ((s1.write (keyOf cfg.cwd to) (.file m d t)).logLine to) := by
      intro sA s1 hg hlog hdirs hother hold hpar
      refine LG_step [keyOf cfg.cwd to] hg ?_ hdirs (fun k hk => ?_) fun k hk => ?_
      · simp only [St.logLine, St.write, hlog]
        rw [hkt]
        exact logKeys_snoc_abs _ _ _ ht.1 (hkt ▸ hktne)
      · have hk' : k ≠ keyOf cfg.cwd to := fun e => hk (e ▸ List.mem_singleton_self _)
        exact congrArg kind ((get_set_other _ _ _ _ hk').trans (hother k hk'))
      · rw [List.mem_singleton.mp hk]
        exact ⟨kind_file.mpr ⟨m, d, t, get_set_same _ _ _⟩, hold,
          hpar.imp id fun ⟨m', hm'⟩ => ⟨m', (hother _ (dropLast_ne_self _ hktne)).symm.trans hm'⟩, h0⟩
    have hg := h (doCopyfile_failed_sticky cfg fp m d t to mk fo s hf).2
    rcases doCopyfile_file_ok cfg hdry fp to m d t mk fo s hg.nl hktne hf with
      ⟨_, e⟩ | ⟨s1, hprep, hf1, _, hold, hpar, e⟩ <;> rw [e]
    · exact LG_of_shape (s := s) (by simp [St.logLine, logKeys, lineKey_comment]) rfl (fun _ => rfl) hg
    · rcases hprep with ⟨_, hfile, rfl⟩ | ⟨_, rfl | ⟨od, hmk', rfl⟩⟩
      · obtain ⟨_, _, _, hfile⟩ := hfile
        exact put s _ hg rfl rfl (fun k hk => get_del_other _ _ _ hk) (fun _ e => nomatch hfile.symm.trans e) hpar
      · exact put s1 s1 hg rfl rfl (fun _ _ => rfl) hold hpar
      · exact put _ _ (LGc_dmMakedirs cfg hdry od true s (hmk od hmk') hfresh hInv h hf1) rfl rfl (fun _ _ => rfl) hold hpar

/-- both invariants -/
def B (D : Key) (cwd : Str) (fs0 : FS) (s : St) : Prop := Inv D fs0 s ∧ LGc cwd fs0 s

theorem Good.key_ne_nil {D : Key} (cfg : Cfg) {p : Str} (hD : D ≠ []) (h : Good D p) : keyOf cfg.cwd p ≠ [] := by
  intro e
  have := h.key cfg
  rw [e] at this
  exact hD (List.prefix_nil.mp this)

theorem B_kept {D : Key} {fs0 : FS} (cfg : Cfg) (hdry : cfg.dryRun = false) (hD : D ≠ [])
    (hfresh : ∀ k, D <+: k → fs0.get k = none) :
    Kept cfg D (fun src => noLinkSrc src = true) (B D cfg.cwd fs0) where
  fail e h := ⟨Inv_fail e h.1, LGc_of_failed rfl⟩
  didInstall {s} h := ⟨Inv_of_fs rfl h.1, LGc_of_shape (s := s) rfl rfl (fun _ => rfl) id h.2⟩
  dmMakedirs b hp h := ⟨(Inv_kept cfg).dmMakedirs b hp h.1, LGc_dmMakedirs cfg hdry _ b _ hp hfresh h.1 h.2⟩
  write n hp hk h := ⟨Inv_write _ n (hp.key cfg) h.1,
    LGc_write_same_kind _ n _ (look_of_ne_nil _ _ (hp.key_ne_nil cfg hD) ▸ hk) h.2⟩
  doCopyfile fp fo ht hmk hb hsrc h := ⟨(Inv_kept cfg).doCopyfile fp fo ht hmk hb trivial h.1,
    LGc_doCopyfile cfg hdry fp _ _ _ fo _ ht hmk hD hsrc hfresh h.1 h.2⟩

def isRealDir : DirEnt → Bool
  | .real _ => true
  | .link _ => false

def WalkNoLinks (w : List WalkRec) : Prop :=
  ∀ r ∈ w, (∀ e ∈ r.dirs, isRealDir e.2 = true) ∧ (∀ e ∈ r.files, noLinkSrc e.2 = true)

instance (w : List WalkRec) : Decidable (WalkNoLinks w) := by unfold WalkNoLinks; infer_instance

theorem WalkNoLinks.walkSrc {w : List WalkRec} (h : WalkNoLinks w) : WalkSrc (fun src => noLinkSrc src = true) w :=
  fun r hr => ⟨fun e he t ht => absurd (ht ▸ (h r hr).1 e he : isRealDir (.link t) = true) nofun, (h r hr).2⟩

/-- a plan that neither reads nor creates symbolic links -/
structure LinkFree (p : Plan) : Prop where
  subdirs : ∀ e ∈ p.subdirs, WalkNoLinks e.walk
  targets : ∀ t ∈ p.targets, noLinkSrc t.src = true ∧ WalkNoLinks t.walk
  headers : ∀ e ∈ p.headers, noLinkSrc e.src = true
  man : ∀ e ∈ p.man, noLinkSrc e.src = true
  data : ∀ e ∈ p.data, noLinkSrc e.src = true
  symlinks : p.symlinks = []

theorem B_installBody (p : Plan) (o : Opts) (fs0 : FS) (s : St) (hp : PlanOK p) (hl : LinkFree p)
    (hdry : o.dryRun = false) (hd : isAbs (mkCfg p o).destdir = true) (hD : keyOfAbs (mkCfg p o).destdir ≠ [])
    (hfresh : ∀ k, keyOfAbs (mkCfg p o).destdir <+: k → fs0.get k = none)
    (h : B (keyOfAbs (mkCfg p o).destdir) (mkCfg p o).cwd fs0 s) :
    B (keyOfAbs (mkCfg p o).destdir) (mkCfg p o).cwd fs0 (installBody (mkCfg p o) p s) :=
  kept_installBody (B_kept _ (by simp [mkCfg, hdry]) hD hfresh) (dest_mkCfg p o hd) rfl hp
    (fun e he => (hl.subdirs e he).walkSrc) (fun t ht => ⟨(hl.targets t ht).1, (hl.targets t ht).2.walkSrc⟩)
    hl.headers hl.man hl.data (fun e he => nomatch hl.symlinks ▸ he) h

theorem logKeys_reverse (cwd : Str) (l : List Str) : logKeys cwd l.reverse = (logKeys cwd l).reverse :=
  List.filterMap_reverse

theorem pairwise_of_left {α} (R : α → α → Prop) (l : List α) (h : ∀ a ∈ l, ∀ b, R a b) : l.Pairwise R := by
  induction l with
  | nil => exact List.Pairwise.nil
  | cons a t ih =>
    exact List.Pairwise.cons (fun b _ => h a (by simp) b) (ih (fun x hx => h x (by simp [hx])))

theorem logHeader_comment : ∀ l ∈ logHeader, l.head? = some '#' := by
  simp only [logHeader, List.forall_mem_cons]
  exact ⟨head?_toList_ofList _ _, head?_toList_ofList _ _, nofun⟩

/-- the state at the end of the installer body, with both invariants, for a successful real run -/
theorem install_LG (p : Plan) (o : Opts) (fs : FS) (hp : PlanOK p) (hl : LinkFree p)
    (hdry : o.dryRun = false) (hne : (mkCfg p o).destdir ≠ []) (hD : keyOfAbs (mkCfg p o).destdir ≠ [])
    (hfresh : ∀ k, keyOfAbs (mkCfg p o).destdir <+: k → fs.get k = none)
    (hNL : NL fs) (hWF : WF fs) (hok : (install p o fs).err = none) :
    ∃ s, (install p o fs).log = s.log ++ s.dirs.reverse ∧ (install p o fs).fs = s.fs ∧
      Inv (keyOfAbs (mkCfg p o).destdir) fs s ∧ LG p.buildDir fs s := by
  have hd : isAbs (mkCfg p o).destdir = true := isAbs_resolveDestdir p.buildDir o.destdir hp.buildAbs hne
  -- at the start only the header is logged, and its lines are comments
  have hlog : logKeys (mkCfg p o).cwd logHeader = [] :=
    List.filterMap_eq_nil_iff.mpr fun l hl => if_pos (logHeader_comment l hl)
  have h0 : B (keyOfAbs (mkCfg p o).destdir) (mkCfg p o).cwd fs ({ fs := fs, log := logHeader } : St) :=
    ⟨fun k _ => Or.inl rfl, fun _ => ⟨hNL, hWF, fun k _ h1 h2 => absurd h1 h2, fun k hk => absurd (hlog ▸ hk) List.not_mem_nil,
      nofun, List.Pairwise.nil⟩⟩
  have hB := B_installBody p o fs _ hp hl hdry hd hD hfresh h0
  exact ⟨_, rfl, rfl, hB.1, hB.2 (by simp [St.failed, show (installBody _ p _).err = none from hok])⟩

/-- the log of a successful real run into a fresh DESTDIR names every created path, names only paths that did not exist
before, and lists no directory before one of its own children -/
theorem install_log_complete (p : Plan) (o : Opts) (fs : FS) (hp : PlanOK p) (hl : LinkFree p)
    (hdry : o.dryRun = false) (hne : (mkCfg p o).destdir ≠ []) (hD : keyOfAbs (mkCfg p o).destdir ≠ [])
    (hfresh : ∀ k, keyOfAbs (mkCfg p o).destdir <+: k → fs.get k = none)
    (hNL : NL fs) (hWF : WF fs) (hok : (install p o fs).err = none) :
    (∀ k, k ≠ [] → fs.get k = none → (install p o fs).fs.get k ≠ none →
      k ∈ logKeys p.buildDir (install p o fs).log) ∧
    (∀ k ∈ logKeys p.buildDir (install p o fs).log, fs.get k = none) ∧
    ChildrenFirst (install p o fs).fs (logKeys p.buildDir (install p o fs).log) := by
  obtain ⟨s, hlog, hfs, _, hg⟩ := install_LG p o fs hp hl hdry hne hD hfresh hNL hWF hok
  rw [hlog, hfs, logKeys_append, logKeys_reverse]
  refine ⟨?_, ?_, ?_⟩
  · intro k hk h0 hget
    rcases hg.cl k hk h0 hget with h | h
    · exact List.mem_append.mpr (Or.inl h)
    · exact List.mem_append.mpr (Or.inr (List.mem_reverse.mpr h))
  · intro k hk
    rcases List.mem_append.mp hk with h | h
    · exact (hg.nf k h).2
    · exact (hg.dk k (List.mem_reverse.mp h)).2
  · unfold ChildrenFirst
    -- a logged file is not a directory, so nothing after it can be its child
    have hfile : ∀ a ∈ logKeys p.buildDir s.log, ∀ b : Key,
        isDirNode (s.fs.get a) = false ∨ b = [] ∨ b.dropLast ≠ a := by
      intro a ha b
      obtain ⟨⟨m, d, t, hm⟩, _⟩ := hg.nf a ha
      left
      rw [hm]
      rfl
    rw [List.pairwise_append]
    refine ⟨pairwise_of_left _ _ hfile, ?_, fun a ha b _ => hfile a ha b⟩
    rw [List.pairwise_reverse]
    exact hg.dord.imp (fun hab => Or.inr (Or.inr hab))

theorem uninstall_install (p : Plan) (o : Opts) (fs : FS) (hp : PlanOK p) (hl : LinkFree p)
    (hdry : o.dryRun = false) (hne : (mkCfg p o).destdir ≠ []) (hD : keyOfAbs (mkCfg p o).destdir ≠ [])
    (hfresh : ∀ k, keyOfAbs (mkCfg p o).destdir <+: k → fs.get k = none)
    (hNL : NL fs) (hWF : WF fs) (hok : (install p o fs).err = none) :
    ∀ k, (uninstall p.buildDir (install p o fs).log (install p o fs).fs).get k = fs.get k := by
  obtain ⟨hcl, hfr, hord⟩ := install_log_complete p o fs hp hl hdry hne hD hfresh hNL hWF hok
  rw [uninstall_eq]
  refine removeKeys_restores fs _ _ hfr (fun k hk => ?_) (fun c hc hget hmem => ?_) hord
  · -- a key the log does not name is bound as before
    by_cases h0 : fs.look k = none
    · -- absent before: had it been created, the log would name it
      have hkn : k ≠ [] := fun e => by simp [FS.look, e] at h0
      rw [look_of_ne_nil _ _ hkn] at h0
      rw [h0]
      exact Decidable.by_contra fun hget => hk (hcl k hkn h0 hget)
    · -- present before, so outside the fresh DESTDIR, where confinement leaves what is there
      refine (Inv_install p o fs hp hne k fun h => h0 ?_).resolve_right fun h' => h0 h'.2.1
      rw [look_of_ne_nil _ _ fun e => hD (List.prefix_nil.mp (e ▸ h)), hfresh k h]
  · -- nothing old sits inside a logged path
    rcases hWF c hc hget with e | ⟨m, hm⟩
    · exact mem_logKeys_ne_nil _ _ _ hmem e
    · rw [hfr _ hmem] at hm
      cases hm

end MesonModel.Install
