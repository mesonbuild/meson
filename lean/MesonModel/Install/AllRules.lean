/-
`install_emptydir` as a rule whose result depends on what was at the destination, and the plan without
subdirectories and symlinks as ONE list of rules (targets, headers, man pages, empty directories, data — the order of
`Installer.do_install`), so that exactness of the whole installation is one application of `fold_rules_exact_S`.
-/
import MesonModel.Install.StateRules

namespace MesonModel.Install

def emptyKey (cfg : Cfg) (e : EmptyDirEntry) : Key :=
  match destPath cfg e.path with
  | some out => keyOf cfg.cwd out
  | none => []

def selEmpty (cfg : Cfg) (e : EmptyDirEntry) : Bool := shouldInstall cfg e.subproject e.tag

/-- what `install_emptydir` leaves: the permission rule is applied to the permissions an existing directory had, or to
`0o777 & ~umask` for a directory the installer creates -/
def emptyNode (cfg : Cfg) (e : EmptyDirEntry) (prev : Option Node) : Node :=
  match prev with
  | some (.dir m) => .dir (modeRule cfg e.mode m)
  | _ => .dir (modeRule cfg e.mode (andNot 0o777 cfg.procUmask))

section
variable {D : Key} (cfg : Cfg) (hdry : cfg.dryRun = false) (hD : D ≠ []) (hdest : Dest cfg D)

include hdry hD hdest in
/-- the only other keys that change are absent ancestors of the destination, which `os.makedirs` creates -/
theorem installEmptydir_spec (s : St) (e : EmptyDirEntry) (hsel : selEmpty cfg e = true) (hNL : NL s.fs)
    (hf : (installEmptydir cfg s e).failed = false) :
    NL (installEmptydir cfg s e).fs ∧
    (installEmptydir cfg s e).fs.get (emptyKey cfg e) = some (emptyNode cfg e (s.fs.get (emptyKey cfg e))) ∧
    ∀ k, k ≠ emptyKey cfg e → (installEmptydir cfg s e).fs.get k = s.fs.get k ∨
      (k <+: emptyKey cfg e ∧ k ≠ [] ∧ s.fs.get k = none ∧
        (installEmptydir cfg s e).fs.get k = some (.dir (andNot 0o777 cfg.procUmask))) := by
  unfold installEmptydir at hf ⊢
  unfold emptyKey
  simp only [selEmpty] at hsel
  have hx := selected_ok hsel hf
  rw [hx] at hf ⊢
  cases hdp : destPath cfg e.path with
  | none =>
    rw [hdp] at hf
    cases hf
  | some full =>
    rw [hdp] at hf
    dsimp only at hf ⊢
    have hk := (hdest _ _ hdp).key_ne_nil cfg hD
    have hNL0 : NL ({ s with didInstall := true } : St).fs := hNL
    by_cases hisf : isFileF { s with didInstall := true } (keyOf cfg.cwd full) = true
    · simp [hisf, St.failed, St.fail] at hf
    · simp only [hisf, Bool.false_eq_true, if_false] at hf ⊢
      have hm' := ok_unless_failed id hf
      simp only [hm', Bool.false_eq_true, if_false] at hf ⊢
      obtain ⟨hNL1, hspec, hisdir⟩ := dmMakedirs_fs_spec cfg hdry full true _ hNL0 hm'
      obtain ⟨m1, hdir⟩ := hisdir hk
      obtain ⟨a, b, _⟩ := setMode_spec cfg hdry _ hk e.mode _ (.dir m1) (fun _ h => Node.noConfusion h) hdir
      change _ = some (Node.dir (modeRule cfg e.mode m1)) at a
      -- the directory `set_mode` finds is the one that was there, or the one `makedirs` just made
      have hprev : emptyNode cfg e (s.fs.get (keyOf cfg.cwd full)) = .dir (modeRule cfg e.mode m1) := by
        rcases hspec (keyOf cfg.cwd full) with h | ⟨_, _, h0, h1⟩
        · rw [hdir] at h
          have : s.fs.get (keyOf cfg.cwd full) = some (.dir m1) := h.symm
          rw [this]
          rfl
        · rw [hdir] at h1
          have h0' : s.fs.get (keyOf cfg.cwd full) = none := h0
          rw [h0']
          cases h1
          rfl
      exact ⟨NL_of_frame hNL1 _ _ (fun _ h => Node.noConfusion h) a b, by rw [a, hprev],
        fun k hkk => by rw [b k hkk]; exact hspec k⟩

include hdry hD hdest in
theorem ruleSpecS_emptydir : RuleSpecS NL (andNot 0o777 cfg.procUmask) (installEmptydir cfg) (fun _ => True)
    (selEmpty cfg) (emptyKey cfg) (emptyNode cfg) where
  skip := by
    intro s e h
    unfold installEmptydir
    exact unselected_skip _ h
  failed := by
    intro s e h
    unfold installEmptydir
    simp [h]
  absent := fun _ => rfl
  spec := fun s e _ hsel hNL hf =>
    have ⟨n, g, fr⟩ := installEmptydir_spec cfg hdry hD hdest s e hsel hNL hf
    ⟨n, g, fun k hk => (fr k hk).imp id (fun h => ⟨h.2.2.1, h.2.2.2⟩)⟩

end

/-- a file target, a header, a man page, an empty directory, a data file -/
inductive Rule
  | T (t : TargetEntry)
  | H (e : DataEntry)
  | M (e : DataEntry)
  | E (e : EmptyDirEntry)
  | D (e : DataEntry)

def stepRule (cfg : Cfg) (s : St) : Rule → St
  | .T t => installTarget cfg s t
  | .H e => installHeader cfg s e
  | .M e => installMan cfg s e
  | .E e => installEmptydir cfg s e
  | .D e => installDataOne cfg s e

/-- in the order `Installer.do_install` runs them -/
def rulesOf (p : Plan) : List Rule :=
  p.targets.map .T ++ (p.headers.map .H ++ (p.man.map .M ++ (p.emptydirs.map .E ++ p.data.map .D)))

def ruleSel (cfg : Cfg) : Rule → Bool
  | .T t => selTarget cfg t
  | .H e => selData cfg e
  | .M e => selData cfg e
  | .E e => selEmpty cfg e
  | .D e => selData cfg e

def ruleKey (cfg : Cfg) : Rule → Key
  | .T t => targetKey cfg t
  | .H e => headerKey cfg e
  | .M e => dataKey cfg e
  | .E e => emptyKey cfg e
  | .D e => dataKey cfg e

def ruleNode (cfg : Cfg) : Rule → Option Node → Node
  | .T t => ocTargetNode cfg t.mode t.src
  | .H e => ocNode cfg e.mode e.src
  | .M e => ocNode cfg e.mode e.src
  | .E e => emptyNode cfg e
  | .D e => ocNode cfg e.mode e.src

def ruleOk : Rule → Prop
  | .T t => okTarget t
  | .H e => okData e
  | .M e => okData e
  | .E _ => True
  | .D e => okData e

theorem ruleNode_idem (cfg : Cfg) (r : Rule) (x : Option Node) :
    ruleNode cfg r (some (ruleNode cfg r x)) = ruleNode cfg r x := by
  cases r with
  | T t => exact (ocNode_idem cfg t.mode t.src x).2
  | H e => exact (ocNode_idem cfg e.mode e.src x).1
  | M e => exact (ocNode_idem cfg e.mode e.src x).1
  | D e => exact (ocNode_idem cfg e.mode e.src x).1
  | E e =>
    show emptyNode cfg e (some (emptyNode cfg e x)) = emptyNode cfg e x
    unfold emptyNode
    cases x with
    | none => simp [modeRule_idem]
    | some n => cases n <;> simp [modeRule_idem]

theorem installBody_eq_rules (cfg : Cfg) (p : Plan) (s : St) (h1 : p.subdirs = []) (h2 : p.symlinks = []) :
    installBody cfg p s = (rulesOf p).foldl (stepRule cfg) s := by
  unfold installBody rulesOf
  simp only [h1, h2, List.foldl_nil, List.foldl_append, List.foldl_map]
  rfl

section
variable {D : Key} (cfg : Cfg) (hdry : cfg.dryRun = false) (hD : D ≠ []) (hdest : Dest cfg D)

include hdry hD hdest in
theorem ruleSpecS_all : RuleSpecS NL (andNot 0o777 cfg.procUmask) (stepRule cfg) ruleOk (ruleSel cfg) (ruleKey cfg)
    (ruleNode cfg) := by
  have RT := (ruleStep_target cfg hdry hD hdest).toSpecS (fun t => (ocNode_absent cfg t.mode t.src _).2)
  have RH := (ruleStep_header cfg hdry hD hdest).toSpecS (fun e => (ocNode_absent cfg e.mode e.src _).1)
  have RM := (ruleStep_man cfg hdry hD hdest).toSpecS (fun e => (ocNode_absent cfg e.mode e.src _).1)
  have RE := ruleSpecS_emptydir cfg hdry hD hdest
  have RD := (ruleStep_data cfg hdry hD hdest).toSpecS (fun e => (ocNode_absent cfg e.mode e.src _).1)
  exact
    { skip := fun s r h => by
        cases r with
        | T t => exact RT.skip s t h
        | H e => exact RH.skip s e h
        | M e => exact RM.skip s e h
        | E e => exact RE.skip s e h
        | D e => exact RD.skip s e h
      failed := fun s r h => by
        cases r with
        | T t => exact RT.failed s t h
        | H e => exact RH.failed s e h
        | M e => exact RM.failed s e h
        | E e => exact RE.failed s e h
        | D e => exact RD.failed s e h
      absent := fun r => by
        cases r with
        | T t => exact RT.absent t
        | H e => exact RH.absent e
        | M e => exact RM.absent e
        | E e => exact RE.absent e
        | D e => exact RD.absent e
      spec := fun s r hok hsel hNL hf => by
        cases r with
        | T t => exact RT.spec s t hok hsel hNL hf
        | H e => exact RH.spec s e hok hsel hNL hf
        | M e => exact RM.spec s e hok hsel hNL hf
        | E e => exact RE.spec s e hok hsel hNL hf
        | D e => exact RD.spec s e hok hsel hNL hf }

def ruleKeys (cfg : Cfg) (p : Plan) : List Key := ((rulesOf p).filter (ruleSel cfg)).map (ruleKey cfg)

include hdry hD hdest in
theorem rulesBody_exact (p : Plan) (h1 : p.subdirs = []) (h2 : p.symlinks = [])
    (hok : ∀ r ∈ rulesOf p, ruleOk r) (hnd : (ruleKeys cfg p).Nodup)
    (s : St) (hNL : NL s.fs) (hf : (installBody cfg p s).failed = false) :
    NL (installBody cfg p s).fs ∧
    (∀ r ∈ rulesOf p, ruleSel cfg r = true →
      (installBody cfg p s).fs.get (ruleKey cfg r) = some (ruleNode cfg r (s.fs.get (ruleKey cfg r)))) ∧
    (∀ k, k ∉ ruleKeys cfg p → (installBody cfg p s).fs.get k = s.fs.get k ∨
      (s.fs.get k = none ∧ (installBody cfg p s).fs.get k = some (.dir (andNot 0o777 cfg.procUmask)))) := by
  rw [installBody_eq_rules cfg p s h1 h2] at hf ⊢
  obtain ⟨n, g, fr⟩ := fold_rules_exact_S (ruleSpecS_all cfg hdry hD hdest) (rulesOf p) hok
    (pairwise_of_nodup _ _ _ hnd) s hNL hf
  exact ⟨n, g, fun k hk => fr k (not_mem_selKeys hk)⟩

end

end MesonModel.Install
