/-
Plans made of file rules only (file targets, headers, man pages, data) as the plans of `AllRules` without empty
directories — exactness with or without `--only-changed`, and the later rule winning when destinations overlap.
-/
import MesonModel.Install.AllRules

namespace MesonModel.Install

def FilesOnly (p : Plan) : Prop := p.subdirs = [] ∧ p.emptydirs = [] ∧ p.symlinks = []

/-- in installation order -/
def plannedKeys (cfg : Cfg) (p : Plan) : List Key :=
  (p.targets.filter (selTarget cfg)).map (targetKey cfg) ++
  ((p.headers.filter (selData cfg)).map (headerKey cfg) ++
  ((p.man.filter (selData cfg)).map (dataKey cfg) ++ (p.data.filter (selData cfg)).map (dataKey cfg)))

theorem ruleKeys_eq_plannedKeys (cfg : Cfg) (p : Plan) (h : p.emptydirs = []) : ruleKeys cfg p = plannedKeys cfg p := by
  simp only [ruleKeys, rulesOf, plannedKeys, h, List.map_nil, List.nil_append, List.filter_append, List.filter_map,
    List.map_append, List.map_map]
  rfl

theorem ruleOk_of_lists (p : Plan) (hokT : ∀ t ∈ p.targets, okTarget t)
    (hokH : ∀ e ∈ p.headers, okData e) (hokM : ∀ e ∈ p.man, okData e) (hokD : ∀ e ∈ p.data, okData e) :
    ∀ r ∈ rulesOf p, ruleOk r := by
  intro r hr
  simp only [rulesOf, List.mem_append, List.mem_map] at hr
  rcases hr with ⟨t, ht, rfl⟩ | ⟨e, he, rfl⟩ | ⟨e, he, rfl⟩ | ⟨e, _, rfl⟩ | ⟨e, he, rfl⟩
  · exact hokT t ht
  · exact hokH e he
  · exact hokM e he
  · trivial
  · exact hokD e he

section
variable {D : Key} (cfg : Cfg) (hdry : cfg.dryRun = false) (hD : D ≠ []) (hdest : Dest cfg D)

include hdry hD hdest in
theorem filesBody_exact_oc (p : Plan) (hfo : FilesOnly p)
    (hokT : ∀ t ∈ p.targets, okTarget t)
    (hokH : ∀ e ∈ p.headers, okData e) (hokM : ∀ e ∈ p.man, okData e) (hokD : ∀ e ∈ p.data, okData e)
    (hnd : (plannedKeys cfg p).Nodup) (s : St) (hNL : NL s.fs) (hf : (installBody cfg p s).failed = false) :
    NL (installBody cfg p s).fs ∧
    (∀ t ∈ p.targets, selTarget cfg t = true →
      (installBody cfg p s).fs.get (targetKey cfg t) = some (ocTargetNode cfg t.mode t.src (s.fs.get (targetKey cfg t)))) ∧
    (∀ e ∈ p.headers, selData cfg e = true →
      (installBody cfg p s).fs.get (headerKey cfg e) = some (ocNode cfg e.mode e.src (s.fs.get (headerKey cfg e)))) ∧
    (∀ e ∈ p.man, selData cfg e = true →
      (installBody cfg p s).fs.get (dataKey cfg e) = some (ocNode cfg e.mode e.src (s.fs.get (dataKey cfg e)))) ∧
    (∀ e ∈ p.data, selData cfg e = true →
      (installBody cfg p s).fs.get (dataKey cfg e) = some (ocNode cfg e.mode e.src (s.fs.get (dataKey cfg e)))) ∧
    (∀ k, k ∉ plannedKeys cfg p → (installBody cfg p s).fs.get k = s.fs.get k ∨
      (s.fs.get k = none ∧ (installBody cfg p s).fs.get k = some (.dir (andNot 0o777 cfg.procUmask)))) := by
  obtain ⟨h1, h3, h4⟩ := hfo
  rw [← ruleKeys_eq_plannedKeys cfg p h3] at hnd ⊢
  obtain ⟨n, g, fr⟩ := rulesBody_exact cfg hdry hD hdest p h1 h4 (ruleOk_of_lists p hokT hokH hokM hokD) hnd s hNL hf
  exact ⟨n, fun t ht hs => g (.T t) (by simp [rulesOf, ht]) hs, fun e he hs => g (.H e) (by simp [rulesOf, he]) hs,
    fun e he hs => g (.M e) (by simp [rulesOf, he]) hs, fun e he hs => g (.D e) (by simp [rulesOf, he]) hs, fr⟩

end

section
variable {D : Key} (cfg : Cfg) (hdry : cfg.dryRun = false) (honly : cfg.onlyChanged = false) (hD : D ≠ [])
  (hdest : Dest cfg D)

include hdry honly hD hdest in
theorem filesBody_last_wins (p : Plan) (hfo : FilesOnly p)
    (hokT : ∀ t ∈ p.targets, okTarget t)
    (hokH : ∀ e ∈ p.headers, okData e) (hokM : ∀ e ∈ p.man, okData e) (hokD : ∀ e ∈ p.data, okData e)
    (s : St) (hNL : NL s.fs) (hf : (installBody cfg p s).failed = false) :
    NL (installBody cfg p s).fs ∧
    (∀ pre t post, p.targets = pre ++ t :: post → selTarget cfg t = true →
      (∀ t' ∈ post, selTarget cfg t' = true → targetKey cfg t' ≠ targetKey cfg t) →
      (∀ e ∈ p.headers, selData cfg e = true → headerKey cfg e ≠ targetKey cfg t) →
      (∀ e ∈ p.man, selData cfg e = true → dataKey cfg e ≠ targetKey cfg t) →
      (∀ e ∈ p.data, selData cfg e = true → dataKey cfg e ≠ targetKey cfg t) →
      (installBody cfg p s).fs.get (targetKey cfg t) = some (targetNode cfg t)) ∧
    (∀ pre e post, p.headers = pre ++ e :: post → selData cfg e = true →
      (∀ e' ∈ post, selData cfg e' = true → headerKey cfg e' ≠ headerKey cfg e) →
      (∀ e' ∈ p.man, selData cfg e' = true → dataKey cfg e' ≠ headerKey cfg e) →
      (∀ e' ∈ p.data, selData cfg e' = true → dataKey cfg e' ≠ headerKey cfg e) →
      (installBody cfg p s).fs.get (headerKey cfg e) = some (fileNode cfg e)) ∧
    (∀ pre e post, p.man = pre ++ e :: post → selData cfg e = true →
      (∀ e' ∈ post, selData cfg e' = true → dataKey cfg e' ≠ dataKey cfg e) →
      (∀ e' ∈ p.data, selData cfg e' = true → dataKey cfg e' ≠ dataKey cfg e) →
      (installBody cfg p s).fs.get (dataKey cfg e) = some (fileNode cfg e)) ∧
    (∀ pre e post, p.data = pre ++ e :: post → selData cfg e = true →
      (∀ e' ∈ post, selData cfg e' = true → dataKey cfg e' ≠ dataKey cfg e) →
      (installBody cfg p s).fs.get (dataKey cfg e) = some (fileNode cfg e)) ∧
    (∀ k, k ∉ plannedKeys cfg p → (installBody cfg p s).fs.get k = s.fs.get k ∨
      (s.fs.get k = none ∧ (installBody cfg p s).fs.get k = some (.dir (andNot 0o777 cfg.procUmask)))) := by
  obtain ⟨h1, h3, h4⟩ := hfo
  have hbody : installBody cfg p s = p.data.foldl (installDataOne cfg) (p.man.foldl (installMan cfg)
      (p.headers.foldl (installHeader cfg) (p.targets.foldl (installTarget cfg) s))) := by
    unfold installBody
    simp only [h1, h3, h4, List.foldl_nil]
  rw [hbody] at hf ⊢
  -- without `--only-changed` the node a rule leaves does not depend on what was there
  have RT := (ruleStep_target cfg hdry hD hdest).toSpec _ (ocTargetNode_plain cfg honly) |>.toSpecS
  have RH := (ruleStep_header cfg hdry hD hdest).toSpec _ (ocNode_plain cfg honly) |>.toSpecS
  have RM := (ruleStep_man cfg hdry hD hdest).toSpec _ (ocNode_plain cfg honly) |>.toSpecS
  have RD := (ruleStep_data cfg hdry hD hdest).toSpec _ (ocNode_plain cfg honly) |>.toSpecS
  have hf3 := foldl_ok_of_ok RD.failed _ _ hf
  have hf2 := foldl_ok_of_ok RM.failed _ _ hf3
  have hf1 := foldl_ok_of_ok RH.failed _ _ hf2
  obtain ⟨n1, g1, fr1⟩ := fold_rules RT p.targets hokT s hNL hf1
  obtain ⟨n2, g2, fr2⟩ := fold_rules RH p.headers hokH _ n1 hf2
  obtain ⟨n3, g3, fr3⟩ := fold_rules RM p.man hokM _ n2 hf3
  obtain ⟨n4, g4, fr4⟩ := fold_rules RD p.data hokD _ n3 hf
  refine ⟨n4, ?_, ?_, ?_, g4, ?_⟩
  · intro pre t post hl hs hlater hH hM hDd
    exact keep_node (keep_node (keep_node (g1 pre t post hl hs hlater) (fr2 _ hH)) (fr3 _ hM)) (fr4 _ hDd)
  · intro pre e post hl hs hlater hM hDd
    exact keep_node (keep_node (g2 pre e post hl hs hlater) (fr3 _ hM)) (fr4 _ hDd)
  · intro pre e post hl hs hlater hDd
    exact keep_node (g3 pre e post hl hs hlater) (fr4 _ hDd)
  · intro k hk
    simp only [plannedKeys, List.mem_append, not_or] at hk
    exact frame_trans (frame_trans (frame_trans (fr1 k (not_mem_selKeys hk.1)) (fr2 k (not_mem_selKeys hk.2.1)))
      (fr3 k (not_mem_selKeys hk.2.2.1))) (fr4 k (not_mem_selKeys hk.2.2.2))

end

end MesonModel.Install
