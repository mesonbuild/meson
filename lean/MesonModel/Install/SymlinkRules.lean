/-
`install_symlink`.  The link-free hypothesis `NL` of the other rules is weakened to what the
code needs: *no link on the path prefixes that `os.makedirs` traverses* (`LinksIn L`: links occur only at the keys `L`,
the plan's own link destinations; `SymOK`: no install directory of a symlink rule passes through one of them).
-/
import MesonModel.Install.AllRules

namespace MesonModel.Install

def LinksIn (L : List Key) (fs : FS) : Prop := ∀ k t, fs.get k = some (.link t) → k ∈ L

theorem LinksIn_of_NL {fs : FS} (h : NL fs) (L : List Key) : LinksIn L fs := fun k t e => absurd e (h k t)

def symKey (cfg : Cfg) (e : SymlinkEntry) : Key :=
  match destPath cfg e.name with
  | some l => keyOf cfg.cwd l
  | none => []

def selSym (cfg : Cfg) (e : SymlinkEntry) : Bool := shouldInstall cfg e.subproject e.tag

/-- what the proofs need of one `install_symlink` rule, given the plan's link destinations `L`: the link lies directly
in its install directory (the backend builds `name` as `install_dir / <name without separators>`), is one of `L`, and
the install directory does not pass through (or end at) a link destination -/
def SymOK (cfg : Cfg) (L : List Key) (e : SymlinkEntry) : Prop :=
  match destPath cfg e.installPath, destPath cfg e.name with
  | some fullDst, some fullLink =>
    keyOf cfg.cwd fullLink ≠ [] ∧ (keyOf cfg.cwd fullLink).dropLast = keyOf cfg.cwd fullDst ∧
    keyOf cfg.cwd fullDst ≠ [] ∧ keyOf cfg.cwd fullLink ∈ L ∧ ∀ q ∈ L, ¬ q <+: keyOf cfg.cwd fullDst
  | _, _ => True

instance (cfg : Cfg) (L : List Key) (e : SymlinkEntry) : Decidable (SymOK cfg L e) := by
  unfold SymOK
  split <;> infer_instance

section
variable (cfg : Cfg) (hdry : cfg.dryRun = false) (L : List Key)

include hdry in
theorem ruleSpecS_symlink : RuleSpecS (LinksIn L) (andNot 0o777 cfg.procUmask) (installSymlink cfg) (SymOK cfg L)
    (selSym cfg) (symKey cfg) (fun e _ => .link e.target) where
  skip := by
    intro s e h
    unfold installSymlink
    exact unselected_skip _ h
  failed := by
    intro s e h
    unfold installSymlink
    simp [h]
  absent := fun _ => rfl
  spec := by
    intro s e hok hsel hI hf
    unfold installSymlink at hf ⊢
    unfold symKey
    simp only [selSym] at hsel
    have hx := selected_ok hsel hf
    rw [hx] at hf ⊢
    unfold SymOK at hok
    cases hd1 : destPath cfg e.installPath with
    | none =>
      rw [hd1] at hf
      cases hf
    | some fullDst =>
      cases hd2 : destPath cfg e.name with
      | none =>
        rw [hd1, hd2] at hf
        cases hf
      | some fullLink =>
        rw [hd1, hd2] at hf hok
        dsimp only at hf ⊢
        obtain ⟨hkl, hparent, hkd, hinL, hoff⟩ := hok
        have hm' := ok_unless_failed id hf
        simp only [hm', Bool.false_eq_true, if_false] at hf ⊢
        obtain ⟨hfr, hisdir⟩ := dmMakedirs_path_spec cfg hdry fullDst true s
          (fun q hq _ t e' => hoff q (hI q t e') hq) hm'
        obtain ⟨md, hdir⟩ := hisdir hkd
        -- `didInstall` apart, the result is `do_symlink`'s
        have hr : ∀ r : St × Bool, (if r.2 then { r.1 with didInstall := true } else r.1).failed = r.1.failed ∧
            (if r.2 then { r.1 with didInstall := true } else r.1).fs = r.1.fs :=
          fun r => by split <;> exact ⟨rfl, rfl⟩
        rw [(hr _).1] at hf
        rw [(hr _).2]
        obtain ⟨hl, ho⟩ := doSymlink_spec cfg hdry e.target fullLink _ hkl (hparent ▸ hkd) ⟨md, hparent ▸ hdir⟩ hf
        refine ⟨fun k t e' => ?_, hl, fun k hkk => ho k hkk ▸ (hfr k).imp id fun h => ⟨h.2.2.1, h.2.2.2⟩⟩
        by_cases hkk : k = keyOf cfg.cwd fullLink
        · exact hkk ▸ hinL
        · rw [ho k hkk] at e'
          rcases hfr k with h | ⟨_, _, _, h⟩
          · exact hI k t (h ▸ e')
          · rw [h] at e'
            cases e'

end

theorem installBody_eq_rules_sym (cfg : Cfg) (p : Plan) (s : St) (h1 : p.subdirs = []) :
    installBody cfg p s = p.symlinks.foldl (installSymlink cfg) ((rulesOf p).foldl (stepRule cfg) s) := by
  unfold installBody rulesOf
  simp only [h1, List.foldl_nil, List.foldl_append, List.foldl_map]
  rfl

def symKeys (cfg : Cfg) (p : Plan) : List Key := (p.symlinks.filter (selSym cfg)).map (symKey cfg)

section
variable {D : Key} (cfg : Cfg) (hdry : cfg.dryRun = false) (hD : D ≠ []) (hdest : Dest cfg D)

include hdry hD hdest in
theorem body_exact_sym (p : Plan) (h1 : p.subdirs = []) (hokR : ∀ r ∈ rulesOf p, ruleOk r)
    (hokS : ∀ e ∈ p.symlinks, SymOK cfg (symKeys cfg p) e)
    (hnd : (ruleKeys cfg p ++ symKeys cfg p).Nodup) (s : St) (hNL : NL s.fs)
    (hf : (installBody cfg p s).failed = false) :
    LinksIn (symKeys cfg p) (installBody cfg p s).fs ∧
    (∀ r ∈ rulesOf p, ruleSel cfg r = true →
      (installBody cfg p s).fs.get (ruleKey cfg r) = some (ruleNode cfg r (s.fs.get (ruleKey cfg r)))) ∧
    (∀ e ∈ p.symlinks, selSym cfg e = true → (installBody cfg p s).fs.get (symKey cfg e) = some (.link e.target)) ∧
    (∀ k, k ∉ ruleKeys cfg p ++ symKeys cfg p → (installBody cfg p s).fs.get k = s.fs.get k ∨
      (s.fs.get k = none ∧ (installBody cfg p s).fs.get k = some (.dir (andNot 0o777 cfg.procUmask)))) := by
  rw [installBody_eq_rules_sym cfg p s h1] at hf ⊢
  have RS := ruleSpecS_symlink cfg hdry (symKeys cfg p)
  have hf1 := foldl_ok_of_ok RS.failed _ _ hf
  have hndR := (List.nodup_append.mp hnd).1
  have hndS := (List.nodup_append.mp hnd).2.1
  have hdisj := (List.nodup_append.mp hnd).2.2
  obtain ⟨n1, g1, fr1⟩ := fold_rules_exact_S (ruleSpecS_all cfg hdry hD hdest) (rulesOf p) hokR
    (pairwise_of_nodup _ _ _ hndR) s hNL hf1
  obtain ⟨n2, g2, fr2⟩ := fold_rules_exact_S RS p.symlinks hokS (pairwise_of_nodup _ _ _ hndS) _
    (LinksIn_of_NL n1 _) hf
  refine ⟨n2, ?_, g2, ?_⟩
  · intro r hr hs
    -- no link is made at a rule's destination
    exact keep_node (g1 r hr hs) (fr2 _ (not_mem_selKeys fun hm =>
      hdisj _ (List.mem_map.mpr ⟨r, List.mem_filter.mpr ⟨hr, hs⟩, rfl⟩) _ hm rfl))
  · intro k hk
    simp only [List.mem_append, not_or] at hk
    exact frame_trans (fr1 k (not_mem_selKeys hk.1)) (fr2 k (not_mem_selKeys hk.2))

end

end MesonModel.Install
