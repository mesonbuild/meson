/-
The rules by which a predicate on installer states is carried through the installer code (a conditional, the
"stop at the first failure" sequencing); a fold over the plan is walked with core's `List.foldlRecOn`.
A term `kept_ite h₁ (kept_ite h₂ …)` follows the `if … then … else` cascade of the function being walked, one rule
per `if`, in the order of the source; `split` on the unfolded functions is an order of magnitude slower to check.
-/
import MesonModel.Install.Model

namespace MesonModel.Install

theorem kept_ite_cond {α : Sort _} {P : α → Prop} {c : Prop} [Decidable c] {a b : α} (ha : c → P a) (hb : ¬ c → P b) :
    P (if c then a else b) := by
  split
  · exact ha ‹_›
  · exact hb ‹_›

theorem kept_ite {α : Sort _} {P : α → Prop} {c : Prop} [Decidable c] {a b : α} (ha : P a) (hb : P b) :
    P (if c then a else b) :=
  kept_ite_cond (fun _ => ha) (fun _ => hb)

/-- `s1` is the state after a first block; the rest runs only if that block did not raise -/
theorem kept_unless_failed {P : St → Prop} {s1 t : St} (h1 : P s1) (ht : P s1 → P t) :
    P (if s1.failed then s1 else t) :=
  kept_ite h1 (ht h1)

/-- the same sequencing read backwards: a result that has not raised did not stop at `s1`; `g` picks the state out of a
result that may carry a return value -/
theorem ok_unless_failed {α : Type} (g : α → St) {s1 : St} {a b : α}
    (h : (g (if s1.failed then a else b)).failed = false) (ha : g a = s1 := by rfl) : s1.failed = false := by
  cases hs : s1.failed with
  | false => rfl
  | true =>
    rw [hs, if_pos rfl, ha, hs] at h
    exact h

/-- an installer method (nothing on a state that has raised, nothing for an entry that is not selected) that has
not raised on a selected entry ran its body `x` -/
theorem selected_ok {s x : St} {b : Bool} (hb : b = true)
    (h : (if s.failed then s else if !b then s else x).failed = false) :
    (if s.failed then s else if !b then s else x) = x := by
  simp [ok_unless_failed id h, hb]

/-! a state that has not raised comes from one that had not: the conditional rule for this predicate, and `fail` -/

theorem sticky_ite {s : St} {c : Prop} [Decidable c] {x y : St} (hx : x.failed = false → s.failed = false)
    (hy : y.failed = false → s.failed = false) : (if c then x else y).failed = false → s.failed = false :=
  kept_ite (P := fun t : St => t.failed = false → s.failed = false) hx hy

theorem sticky_fail {s : St} (e : Err) : (s.fail e).failed = false → s.failed = false :=
  fun h => Bool.noConfusion h

end MesonModel.Install
