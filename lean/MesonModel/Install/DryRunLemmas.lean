/-
In dry-run mode no installer function changes the file system: `.fs` is pushed into the branches of each function
(`apply_ite`), where the lemmas for the functions it calls make every branch the initial tree (`ite_self`).
-/
import MesonModel.Install.Model

namespace MesonModel.Install

@[simp] theorem St.fail_fs (s : St) (e : Err) : (s.fail e).fs = s.fs := rfl
@[simp] theorem St.logLine_fs (s : St) (l : Str) : (s.logLine l).fs = s.fs := rfl

section
variable (cfg : Cfg) (h : cfg.dryRun = true)
include h

theorem mkdirs_dry (p : Str) (b : Bool) (s : St) : (mkdirs cfg p b s).fs = s.fs := by
  simp [mkdirs, h]

theorem dmMakedirs_dry (p : Str) (b : Bool) (s : St) : (dmMakedirs cfg p b s).fs = s.fs := by
  simp only [dmMakedirs, apply_ite St.fs, mkdirs_dry cfg h, ite_self]

theorem setMode_dry (k : Key) (m : Option FileMode) (s : St) : (setMode cfg k m s).fs = s.fs := by
  simp [setMode, h]

theorem remove_dry (k : Key) (s : St) : (remove cfg k s).fs = s.fs := by
  simp [remove, h]

theorem putFile_dry (k : Key) (m d t : Nat) (s : St) : (putFile cfg k m d t s).fs = s.fs := by
  simp [putFile, h]

theorem putLink_dry (k : Key) (t : Str) (s : St) : (putLink cfg k t s).fs = s.fs := by
  simp [putLink, h]

theorem copyPrepare_dry (src : Src) (to : Str) (mk : Option Str) (s : St) :
    (copyPrepare cfg src to mk s).1.fs = s.fs := by
  unfold copyPrepare
  cases mk <;> simp only [apply_ite Prod.fst, apply_ite St.fs, remove_dry cfg h, dmMakedirs_dry cfg h, St.fail_fs,
    St.logLine_fs, ite_self]

theorem copyPayload_dry (fp : Str) (src : Src) (to od : Str) (fo : Option Bool) (s : St) :
    (copyPayload cfg fp src to od fo s).fs = s.fs := by
  unfold copyPayload
  cases src <;> simp only [apply_ite St.fs, putLink_dry cfg h, putFile_dry cfg h, St.fail_fs, ite_self]

theorem doCopyfile_dry (fp : Str) (src : Src) (to : Str) (mk : Option Str) (fo : Option Bool) (s : St) :
    (doCopyfile cfg fp src to mk fo s).1.fs = s.fs := by
  simp only [doCopyfile, apply_ite Prod.fst, apply_ite St.fs, copyPayload_dry cfg h, copyPrepare_dry cfg h,
    St.fail_fs, St.logLine_fs, ite_self]

theorem doSymlink_dry (t l : Str) (s : St) : (doSymlink cfg t l s).1.fs = s.fs := by
  simp only [doSymlink, h, if_true, apply_ite Prod.fst, apply_ite St.fs, remove_dry cfg h, St.fail_fs, St.logLine_fs,
    ite_self]

theorem copydirDirStep_dry (dst : Str) (ex : List Str) (rel : List Str) (a : CdAcc) (e : Str × DirEnt) :
    (copydirDirStep cfg dst ex rel a e).s.fs = a.s.fs := by
  unfold copydirDirStep
  cases e.2 <;> simp only [h, if_true, apply_ite CdAcc.s, apply_ite St.fs, dmMakedirs_dry cfg h, St.fail_fs, ite_self]

theorem copydirFileStep_dry (sr dst : Str) (ex : List Str) (rel : List Str) (rm : Nat) (m : Option FileMode)
    (fo : Option Bool) (s : St) (e : Str × Src) :
    (copydirFileStep cfg sr dst ex rel rm m fo s e).fs = s.fs := by
  simp only [copydirFileStep, h, if_true, apply_ite St.fs, setMode_dry cfg h, doCopyfile_dry cfg h,
    dmMakedirs_dry cfg h, St.fail_fs, ite_self]

end

theorem foldl_fs_inv {α σ : Type} (proj : σ → FS) (f : σ → α → σ) (hf : ∀ s a, proj (f s a) = proj s)
    (l : List α) (s : σ) : proj (l.foldl f s) = proj s :=
  List.foldlRecOn (motive := fun t => proj t = proj s) l f rfl fun t ht a _ => (hf t a).trans ht

section
variable (cfg : Cfg) (h : cfg.dryRun = true)
include h

theorem copydirRec_dry (sd dd : Str) (ef ed : List Str) (m : Option FileMode) (fo : Option Bool)
    (st : St × List (List Str)) (r : WalkRec) :
    (copydirRec cfg sd dd ef ed m fo st r).1.fs = st.1.fs := by
  simp only [copydirRec, apply_ite Prod.fst, apply_ite St.fs,
    foldl_fs_inv St.fs _ (copydirFileStep_dry cfg h _ _ _ _ _ _ _),
    foldl_fs_inv (fun a : CdAcc => a.s.fs) _ (copydirDirStep_dry cfg h _ _ _), ite_self]

theorem doCopydir_dry (sd dd : Str) (ex : Option (List Str × List Str)) (m : Option FileMode) (fo : Option Bool)
    (w : List WalkRec) (s : St) : (doCopydir cfg sd dd ex m fo w s).fs = s.fs := by
  simp only [doCopydir, apply_ite St.fs,
    foldl_fs_inv (fun st : St × List (List Str) => st.1.fs) _ (copydirRec_dry cfg h _ _ _ _ _ _), St.fail_fs, ite_self]

theorem installSubdir_dry (s : St) (e : SubdirEntry) : (installSubdir cfg s e).fs = s.fs := by
  unfold installSubdir
  cases destPath cfg e.installPath <;>
    simp only [apply_ite St.fs, doCopydir_dry cfg h, dmMakedirs_dry cfg h, St.fail_fs, ite_self]

theorem installTarget_dry (s : St) (e : TargetEntry) : (installTarget cfg s e).fs = s.fs := by
  unfold installTarget
  cases e.src <;> cases destPath cfg e.outdir <;> simp only [apply_ite St.fs, doCopydir_dry cfg h,
    dmMakedirs_dry cfg h, doCopyfile_dry cfg h, setMode_dry cfg h, St.fail_fs, ite_self]

theorem installFileTo_dry (e : DataEntry) (o od : Str) (fo : Option Bool) (s : St) :
    (installFileTo cfg e o od fo s).fs = s.fs := by
  simp only [installFileTo, apply_ite St.fs, setMode_dry cfg h, doCopyfile_dry cfg h, ite_self]

theorem installHeader_dry (s : St) (e : DataEntry) : (installHeader cfg s e).fs = s.fs := by
  unfold installHeader
  cases destPath cfg e.installPath <;> simp only [apply_ite St.fs, installFileTo_dry cfg h, St.fail_fs, ite_self]

theorem installMan_dry (s : St) (e : DataEntry) : (installMan cfg s e).fs = s.fs := by
  unfold installMan
  cases destPath cfg e.installPath <;> simp only [apply_ite St.fs, installFileTo_dry cfg h, St.fail_fs, ite_self]

theorem installDataOne_dry (s : St) (e : DataEntry) : (installDataOne cfg s e).fs = s.fs := by
  unfold installDataOne
  cases destPath cfg e.installPath <;> simp only [apply_ite St.fs, installFileTo_dry cfg h, St.fail_fs, ite_self]

theorem installEmptydir_dry (s : St) (e : EmptyDirEntry) : (installEmptydir cfg s e).fs = s.fs := by
  unfold installEmptydir
  cases destPath cfg e.path <;>
    simp only [apply_ite St.fs, dmMakedirs_dry cfg h, setMode_dry cfg h, St.fail_fs, ite_self]

theorem installSymlink_dry (s : St) (e : SymlinkEntry) : (installSymlink cfg s e).fs = s.fs := by
  unfold installSymlink
  cases destPath cfg e.installPath <;> cases destPath cfg e.name <;>
    simp only [apply_ite St.fs, dmMakedirs_dry cfg h, doSymlink_dry cfg h, St.fail_fs, ite_self]

theorem installBody_dry (p : Plan) (s : St) : (installBody cfg p s).fs = s.fs := by
  simp only [installBody, foldl_fs_inv St.fs _ (installSymlink_dry cfg h),
    foldl_fs_inv St.fs _ (installDataOne_dry cfg h),
    foldl_fs_inv St.fs _ (installEmptydir_dry cfg h),
    foldl_fs_inv St.fs _ (installMan_dry cfg h),
    foldl_fs_inv St.fs _ (installHeader_dry cfg h),
    foldl_fs_inv St.fs _ (installTarget_dry cfg h),
    foldl_fs_inv St.fs _ (installSubdir_dry cfg h)]

end

end MesonModel.Install
