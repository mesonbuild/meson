/-
What the building blocks of the installers do to a state, each said once: `os.makedirs` and `DirMaker.makedirs` on
any tree and whether or not they raise (`mkdirsGo_eff`, `dmMakedirs_eff`), `do_copyfile` of a regular file on a link-free
tree when it does not raise (`doCopyfile_file_ok`).  Confinement, the log invariant and the exactness theorems each read
what they need from these.
-/
import MesonModel.Install.Tree

namespace MesonModel.Install

/-- `os.makedirs` below `pre`: log and `DirMaker` untouched, an error is never cleared, the bindings that change are
absent non-empty prefixes of the path, which become directories; and if it does not raise, every prefix is a directory -/
theorem mkdirsGo_eff (mode : Nat) (ok : Bool) (rest : List Str) (pre : Key) (s : St) :
    (mkdirsGo mode ok pre rest s).log = s.log ∧ (mkdirsGo mode ok pre rest s).dirs = s.dirs ∧
    ((mkdirsGo mode ok pre rest s).failed = false → s.failed = false) ∧
    (∀ k, (mkdirsGo mode ok pre rest s).fs.get k = s.fs.get k ∨
      (∃ r1, r1 <+: rest ∧ r1 ≠ [] ∧ k = pre ++ r1 ∧ s.fs.get k = none ∧
        (mkdirsGo mode ok pre rest s).fs.get k = some (.dir mode))) ∧
    ((mkdirsGo mode ok pre rest s).failed = false → ∀ r1, r1 <+: rest → r1 ≠ [] →
      isDirF (mkdirsGo mode ok pre rest s) (pre ++ r1) = true) := by
  induction rest generalizing pre s with
  | nil => exact ⟨rfl, rfl, id, fun _ => Or.inl rfl, fun _ r1 h1 h2 => absurd (List.prefix_nil.mp h1) h2⟩
  | cons c t ih =>
    -- the statement as a predicate of the resulting state
    let P : St → Prop := fun x => x.log = s.log ∧ x.dirs = s.dirs ∧ (x.failed = false → s.failed = false) ∧
      (∀ k, x.fs.get k = s.fs.get k ∨
        (∃ r1, r1 <+: c :: t ∧ r1 ≠ [] ∧ k = pre ++ r1 ∧ s.fs.get k = none ∧ x.fs.get k = some (.dir mode))) ∧
      (x.failed = false → ∀ r1, r1 <+: c :: t → r1 ≠ [] → isDirF x (pre ++ r1) = true)
    show P _
    have hfail : ∀ e, P (s.fail e) := by
      intro e
      exact ⟨rfl, rfl, fun h => Bool.noConfusion h, fun _ => Or.inl rfl, fun h => Bool.noConfusion h⟩
    -- the rest of the walk, from a state `s'` that differs from `s` at most by a new directory at `pre ++ [c]`
    have next : ∀ s' : St, s'.log = s.log → s'.dirs = s.dirs → s'.failed = s.failed →
        (∀ k, s'.fs.get k = s.fs.get k ∨ (k = pre ++ [c] ∧ s.fs.get k = none ∧ s'.fs.get k = some (.dir mode))) →
        isDirF s' (pre ++ [c]) = true → P (mkdirsGo mode ok (pre ++ [c]) t s') := by
      intro s' hlog hdirs hfl hhead hdir
      obtain ⟨l, d, st, fr, dr⟩ := ih (pre ++ [c]) s'
      refine ⟨l.trans hlog, d.trans hdirs, fun h => hfl ▸ st h, fun k => ?_, fun hf r1 hr1 hr2 => ?_⟩
      · rcases fr k with e | ⟨r1, hr1, hr2, hr3, hr4, hr5⟩
        · rcases hhead k with e0 | ⟨ek, e1, e2⟩
          · exact Or.inl (e.trans e0)
          · exact Or.inr ⟨[c], by simp, by simp, ek, e1, e.trans e2⟩
        · rcases hhead k with e0 | ⟨_, _, e2⟩
          · exact Or.inr ⟨c :: r1, List.cons_prefix_cons.mpr ⟨rfl, hr1⟩, by simp, by rw [hr3]; simp, e0 ▸ hr4, hr5⟩
          · rw [e2] at hr4
            cases hr4
      · cases r1 with
        | nil => exact absurd rfl hr2
        | cons a r' =>
          obtain ⟨rfl, hr'⟩ := List.cons_prefix_cons.mp hr1
          by_cases hr0 : r' = []
          · subst hr0
            refine isDirF_mono (fun k n hk => ?_) _ hdir
            rcases fr k with e | ⟨_, _, _, _, hn, _⟩
            · exact e.trans hk
            · rw [hk] at hn
              cases hn
          · simpa using dr hf r' hr' hr0
    unfold mkdirsGo
    dsimp only
    split
    · refine kept_ite_cond (fun _ => hfail _) fun hl => ?_
      have hk0 : pre ++ [c] ≠ [] := by simp
      have hn : s.fs.get (pre ++ [c]) = none := by
        rw [← look_of_ne_nil _ _ hk0]
        simpa using hl
      refine next _ rfl rfl rfl (fun k => ?_) (isDirF_write_dir s _ mode hk0)
      by_cases hk : k = pre ++ [c]
      · exact Or.inr ⟨hk, hk ▸ hn, hk ▸ get_set_same _ _ _⟩
      · exact Or.inl (get_set_other _ _ _ _ hk)
    · rename_i m hf
      exact kept_ite (hfail _) (next s rfl rfl rfl (fun _ => Or.inl rfl) (by simp [isDirF, hf]))
    · exact hfail _

/-- `DirMaker.makedirs(path)`, on any tree and whether or not it raises: `os.makedirs` on the path's key, and the
collected names are recorded if it does not raise -/
theorem dmMakedirs_eff (cfg : Cfg) (path : Str) (b : Bool) (s : St) :
    (dmMakedirs cfg path b s).log = s.log ∧
    ((dmMakedirs cfg path b s).failed = false → s.failed = false ∧ (dmMakedirs cfg path b s).dirs =
      s.dirs ++ (dmCollect cfg s ((normpath path).length + 1) (normpath path) []).reverse) ∧
    (∀ k, (dmMakedirs cfg path b s).fs.get k = s.fs.get k ∨
      (k <+: keyOf cfg.cwd path ∧ k ≠ [] ∧ s.fs.get k = none ∧
        (dmMakedirs cfg path b s).fs.get k = some (.dir (andNot 0o777 cfg.procUmask)))) ∧
    (cfg.dryRun = false → (dmMakedirs cfg path b s).failed = false → ∀ q, q <+: keyOf cfg.cwd path →
      isDirF (dmMakedirs cfg path b s) q = true) := by
  let P : St → Prop := fun x => x.log = s.log ∧ x.dirs = s.dirs ∧ (x.failed = false → s.failed = false) ∧
    (∀ k, x.fs.get k = s.fs.get k ∨ (k <+: keyOf cfg.cwd path ∧ k ≠ [] ∧ s.fs.get k = none ∧
      x.fs.get k = some (.dir (andNot 0o777 cfg.procUmask)))) ∧
    (cfg.dryRun = false → x.failed = false → ∀ q, q <+: keyOf cfg.cwd path → isDirF x q = true)
  have hm : P (mkdirs cfg path b s) := by
    unfold mkdirs
    refine kept_ite_cond (fun hd => ⟨rfl, rfl, id, fun _ => Or.inl rfl, fun h => absurd hd (by simp [h])⟩) fun _ => ?_
    refine kept_ite_cond (fun hk => ?_) fun hk => ?_
    · have h0 : P s := ⟨rfl, rfl, id, fun _ => Or.inl rfl, fun _ _ q hq => by
        rw [hk] at hq
        exact List.prefix_nil.mp hq ▸ isDirF_root s⟩
      exact kept_ite h0 ⟨rfl, rfl, fun h => Bool.noConfusion h, fun _ => Or.inl rfl, fun _ h => Bool.noConfusion h⟩
    · obtain ⟨l, d, st, fr, dr⟩ := mkdirsGo_eff (andNot 0o777 cfg.procUmask) b (keyOf cfg.cwd path) [] s
      refine ⟨l, d, st, fun k => ?_, fun _ hf q hq => ?_⟩
      · rcases fr k with e | ⟨r1, hr1, hr2, hk', hn, hd⟩
        · exact Or.inl e
        · rw [List.nil_append] at hk'
          exact Or.inr ⟨hk' ▸ hr1, hk' ▸ hr2, hn, hd⟩
      · by_cases hq0 : q = []
        · subst hq0
          exact isDirF_root _
        · exact dr hf q hq hq0
  obtain ⟨l, d, st, fr, dr⟩ := hm
  unfold dmMakedirs
  dsimp only
  split
  · rename_i hf
    exact ⟨l, fun h => absurd hf (by simp [h]), fr, dr⟩
  · rename_i hf
    exact ⟨l, fun _ => ⟨st (by simpa using hf), by rw [d]⟩, fr, dr⟩

/-- `os.makedirs` on a tree that may contain links, none of them on the path -/
theorem mkdirsGo_spec_path (mode : Nat) (ok : Bool) (rest : List Str) (pre : Key) (s : St)
    (hpath : ∀ r1, r1 <+: rest → r1 ≠ [] → ∀ t, s.fs.get (pre ++ r1) ≠ some (.link t))
    (h : (mkdirsGo mode ok pre rest s).failed = false) :
    (∀ k, (mkdirsGo mode ok pre rest s).fs.get k = s.fs.get k ∨
      (∃ r1, r1 <+: rest ∧ r1 ≠ [] ∧ k = pre ++ r1 ∧ s.fs.get k = none ∧
        (mkdirsGo mode ok pre rest s).fs.get k = some (.dir mode))) ∧
    (∀ r1, r1 <+: rest → r1 ≠ [] → ∃ m, (mkdirsGo mode ok pre rest s).fs.get (pre ++ r1) = some (.dir m)) := by
  obtain ⟨_, _, _, fr, dr⟩ := mkdirsGo_eff mode ok rest pre s
  refine ⟨fr, fun r1 hr1 hr2 => isDirF_get (by simp [hr2]) (fun t e => ?_) (dr h r1 hr1 hr2)⟩
  -- the binding is an old one or a new directory
  rcases fr (pre ++ r1) with e' | ⟨_, _, _, _, _, e'⟩
  · exact hpath r1 hr1 hr2 t (e' ▸ e)
  · rw [e'] at e
    cases e

/-- `DirMaker.makedirs(path)` with no link on the path -/
theorem dmMakedirs_path_spec (cfg : Cfg) (hdry : cfg.dryRun = false) (path : Str) (b : Bool) (s : St)
    (hpath : ∀ q, q <+: keyOf cfg.cwd path → q ≠ [] → ∀ t, s.fs.get q ≠ some (.link t))
    (hf : (dmMakedirs cfg path b s).failed = false) :
    (∀ k, (dmMakedirs cfg path b s).fs.get k = s.fs.get k ∨
      (k <+: keyOf cfg.cwd path ∧ k ≠ [] ∧ s.fs.get k = none ∧
        (dmMakedirs cfg path b s).fs.get k = some (.dir (andNot 0o777 cfg.procUmask)))) ∧
    (keyOf cfg.cwd path ≠ [] → ∃ m, (dmMakedirs cfg path b s).fs.get (keyOf cfg.cwd path) = some (.dir m)) := by
  obtain ⟨_, _, fr, dr⟩ := dmMakedirs_eff cfg path b s
  refine ⟨fr, fun hk => isDirF_get hk (fun t e => ?_) (dr hdry hf _ (List.prefix_refl _))⟩
  rcases fr (keyOf cfg.cwd path) with e' | ⟨_, _, _, e'⟩
  · exact hpath _ (List.prefix_refl _) hk t (e' ▸ e)
  · rw [e'] at e
    cases e

/-- the same on a link-free tree, which stays link-free -/
theorem dmMakedirs_fs_spec (cfg : Cfg) (hdry : cfg.dryRun = false) (path : Str) (b : Bool) (s : St) (hNL : NL s.fs)
    (hf : (dmMakedirs cfg path b s).failed = false) :
    NL (dmMakedirs cfg path b s).fs ∧
    (∀ k, (dmMakedirs cfg path b s).fs.get k = s.fs.get k ∨
      (k <+: keyOf cfg.cwd path ∧ k ≠ [] ∧ s.fs.get k = none ∧
        (dmMakedirs cfg path b s).fs.get k = some (.dir (andNot 0o777 cfg.procUmask)))) ∧
    (keyOf cfg.cwd path ≠ [] → ∃ m, (dmMakedirs cfg path b s).fs.get (keyOf cfg.cwd path) = some (.dir m)) := by
  obtain ⟨h1, h2⟩ := dmMakedirs_path_spec cfg hdry path b s (fun q _ _ t => hNL q t) hf
  exact ⟨NL_of_dirs hNL fun k => (h1 k).imp id fun h => ⟨_, h.2.2.2⟩, h1, h2⟩

theorem dmMakedirs_noop (cfg : Cfg) (hdry : cfg.dryRun = false) (path : Str) (b : Bool) (s : St) (hNL : NL s.fs)
    (hWF : WF s.fs) (hb : s.fs.get (keyOf cfg.cwd path) ≠ none) (hf : (dmMakedirs cfg path b s).failed = false) :
    ∀ k, (dmMakedirs cfg path b s).fs.get k = s.fs.get k := by
  intro k
  rcases (dmMakedirs_path_spec cfg hdry path b s (fun q _ _ t => hNL q t) hf).1 k with e | ⟨hpre, hk, hn, _⟩
  · exact e
  · exact absurd hn (WF_present_of_prefix hWF hpre hk hb)

theorem putFile_success (cfg : Cfg) (hdry : cfg.dryRun = false) (kt : Key) (m d t : Nat) (s1 : St)
    (hk : kt ≠ []) (hNL : NL s1.fs) (hf : (putFile cfg kt m d t s1).failed = false) :
    s1.failed = false ∧ (∀ m', s1.fs.get kt ≠ some (.dir m')) ∧
    (kt.dropLast = [] ∨ ∃ m', s1.fs.get kt.dropLast = some (.dir m')) ∧
    putFile cfg kt m d t s1 = s1.write kt (.file m d t) := by
  generalize hr : putFile cfg kt m d t s1 = r at hf ⊢
  unfold putFile at hr
  simp only [hdry, Bool.false_eq_true, if_false, look_of_ne_nil _ _ hk] at hr
  -- no directory is at `kt`, and whatever else is, the outcome hangs on the parent directory alone
  have hold : (∀ m', s1.fs.get kt ≠ some (.dir m')) ∧
      (if isDirF s1 kt.dropLast then s1.write kt (.file m d t) else s1.fail .os) = r := by
    cases hg : s1.fs.get kt with
    | none =>
      rw [hg] at hr
      exact ⟨nofun, hr⟩
    | some n =>
      rw [hg] at hr
      cases n with
      | link t' => exact absurd hg (hNL kt t')
      | dir m' =>
        subst hr
        cases hf
      | file m' d' t' => exact ⟨nofun, hr⟩
  by_cases hp : isDirF s1 kt.dropLast = true
  · rw [if_pos hp] at hold
    obtain ⟨ho, rfl⟩ := hold
    exact ⟨hf, ho, (isDirF_iff hNL _).mp hp, rfl⟩
  · rw [if_neg hp] at hold
    obtain ⟨_, rfl⟩ := hold
    cases hf

def noLinkSrc : Src → Bool
  | .file .. | .missing | .dir => true
  | _ => false

theorem copyPrepare_failed_sticky (cfg : Cfg) (src : Src) (to : Str) (mk : Option Str)
    (s : St) : (copyPrepare cfg src to mk s).1.failed = false → s.failed = false := by
  unfold copyPrepare remove
  simp only [apply_ite Prod.fst]
  refine sticky_ite (sticky_ite (sticky_fail _) (sticky_ite id (sticky_ite id id))) ?_
  split
  · exact fun h => ((dmMakedirs_eff cfg _ _ s).2.1 h).1
  · exact id

/-- the four ways `copyPrepare` can end without raising, on a link-free tree -/
theorem copyPrepare_cases (cfg : Cfg) (hdry : cfg.dryRun = false) (src : Src) (to : Str) (mk : Option Str) (s : St)
    (hNL : NL s.fs) (hk : keyOf cfg.cwd to ≠ [])
    (hf : (copyPrepare cfg src to mk s).1.failed = false) :
    (shouldPreserve cfg src s (keyOf cfg.cwd to) = true ∧ (copyPrepare cfg src to mk s).2.2 = true ∧
      (copyPrepare cfg src to mk s).1 = ({ s with preserved := s.preserved + 1 }).logLine (preservingPrefix ++ to)) ∨
    ((copyPrepare cfg src to mk s).2.2 = false ∧
      ((shouldPreserve cfg src s (keyOf cfg.cwd to) = false ∧
          (∃ m d t, s.fs.get (keyOf cfg.cwd to) = some (.file m d t)) ∧
          (copyPrepare cfg src to mk s).1 = s.erase (keyOf cfg.cwd to)) ∨
        (s.fs.get (keyOf cfg.cwd to) = none ∧ ((copyPrepare cfg src to mk s).1 = s ∨
          ∃ od, mk = some od ∧ (copyPrepare cfg src to mk s).1 = dmMakedirs cfg od true s)))) := by
  have hlook := look_of_ne_nil s.fs _ hk
  have hfol := (follow_eq_look hNL (keyOf cfg.cwd to)).trans hlook
  -- the result gets a name, so that `copyPrepare` is unfolded once and not at each of its occurrences
  generalize hr : copyPrepare cfg src to mk s = r at hf ⊢
  unfold copyPrepare at hr
  simp only [lexists, isFileF, isLink, hlook, hfol] at hr
  cases hg : s.fs.get (keyOf cfg.cwd to) with
  | none =>
    simp only [hg, Option.isSome_none, Bool.false_eq_true, if_false] at hr
    cases mk with
    | none => exact Or.inr ⟨hr ▸ rfl, Or.inr ⟨rfl, Or.inl (hr ▸ rfl)⟩⟩
    | some od => exact Or.inr ⟨hr ▸ rfl, Or.inr ⟨rfl, Or.inr ⟨od, rfl, hr ▸ rfl⟩⟩⟩
  | some n =>
    cases n with
    | link t => exact absurd hg (hNL _ t)
    | dir m =>
      simp only [hg, Option.isSome_some, if_true, Bool.not_false, Bool.and_self] at hr
      subst hr
      cases hf
    | file m d t =>
      simp only [hg, Option.isSome_some, if_true, Bool.not_true, Bool.false_and, Bool.false_eq_true, if_false, Bool.true_and] at hr
      by_cases hp : shouldPreserve cfg src s (keyOf cfg.cwd to) = true
      · rw [if_pos hp] at hr
        subst hr
        exact Or.inl ⟨hp, rfl, rfl⟩
      · rw [if_neg hp] at hr
        subst hr
        exact Or.inr ⟨rfl, Or.inl ⟨by simpa using hp, ⟨m, d, t, rfl⟩, by simp [remove, hdry]⟩⟩

theorem doCopyfile_failed_sticky (cfg : Cfg) (fp : Str) (m d t : Nat) (to : Str) (mk : Option Str) (fo : Option Bool)
    (s : St) (hf : (doCopyfile cfg fp (.file m d t) to mk fo s).1.failed = false) :
    (copyPrepare cfg (.file m d t) to mk s).1.failed = false ∧ s.failed = false := by
  unfold doCopyfile at hf
  simp only [srcCopyable, Bool.not_true, Bool.false_eq_true, if_false] at hf
  have hP : (copyPrepare cfg (.file m d t) to mk s).1.failed = false := by
    by_cases e : (copyPrepare cfg (.file m d t) to mk s).1.failed = true
    · simp [e] at hf
    · simpa using e
  exact ⟨hP, copyPrepare_failed_sticky cfg _ to mk s hP⟩

/-- `do_copyfile` of a regular file on a link-free tree, when it does not raise: the destination is kept
(`--only-changed`), or the file is written into `s1` and logged, where `s1` is `s` with the old file removed, or with the
directory made, or `s` itself -/
theorem doCopyfile_file_ok (cfg : Cfg) (hdry : cfg.dryRun = false) (fp to : Str) (m d t : Nat) (mk : Option Str)
    (fo : Option Bool) (s : St) (hNL : NL s.fs) (hk : keyOf cfg.cwd to ≠ [])
    (hf : (doCopyfile cfg fp (.file m d t) to mk fo s).1.failed = false) :
    (shouldPreserve cfg (.file m d t) s (keyOf cfg.cwd to) = true ∧ doCopyfile cfg fp (.file m d t) to mk fo s =
        (({ s with preserved := s.preserved + 1 }).logLine (preservingPrefix ++ to), false)) ∨
      ∃ s1, ((shouldPreserve cfg (.file m d t) s (keyOf cfg.cwd to) = false ∧
            (∃ m' d' t', s.fs.get (keyOf cfg.cwd to) = some (.file m' d' t')) ∧ s1 = s.erase (keyOf cfg.cwd to)) ∨
          (s.fs.get (keyOf cfg.cwd to) = none ∧ (s1 = s ∨ ∃ od, mk = some od ∧ s1 = dmMakedirs cfg od true s))) ∧
        s1.failed = false ∧ NL s1.fs ∧ (∀ m', s1.fs.get (keyOf cfg.cwd to) ≠ some (.dir m')) ∧
        ((keyOf cfg.cwd to).dropLast = [] ∨ ∃ m', s1.fs.get (keyOf cfg.cwd to).dropLast = some (.dir m')) ∧
        doCopyfile cfg fp (.file m d t) to mk fo s = ((s1.write (keyOf cfg.cwd to) (.file m d t)).logLine to, true) := by
  have hP := (doCopyfile_failed_sticky cfg fp m d t to mk fo s hf).1
  have hpay : ∀ od s1, copyPayload cfg fp (.file m d t) to od fo s1 = putFile cfg (keyOf cfg.cwd to) m d t s1 :=
    fun _ _ => rfl
  rcases copyPrepare_cases cfg hdry (.file m d t) to mk s hNL hk hP with ⟨hp, h2, h1⟩ | ⟨h2, hcase⟩
  · unfold doCopyfile
    simp only [srcCopyable, Bool.not_true, Bool.false_eq_true, if_false, h2, Bool.true_or, if_true, h1]
    exact Or.inl ⟨hp, trivial⟩
  · right
    -- `copy2` into the prepared state `s1`, then the log line
    generalize hs1 : (copyPrepare cfg (.file m d t) to mk s).1 = s1 at hP hcase
    have hNL1 : NL s1.fs := by
      rcases hcase with ⟨_, _, rfl⟩ | ⟨_, rfl | ⟨od, _, rfl⟩⟩
      · exact NL_del hNL _
      · exact hNL
      · exact (dmMakedirs_fs_spec cfg hdry od true s hNL hP).1
    unfold doCopyfile at hf ⊢
    simp only [srcCopyable, Bool.not_true, h2, hs1, hP, Bool.or_self, Bool.false_eq_true, if_false, hpay] at hf ⊢
    have hpf := ok_unless_failed Prod.fst hf
    obtain ⟨_, hold, hpar, hput⟩ := putFile_success cfg hdry _ m d t _ hk hNL1 hpf
    simp only [hpf, Bool.false_eq_true, if_false]
    exact ⟨s1, hcase, hP, hNL1, hold, hpar, by rw [hput]⟩

/-- `do_symlink` into an existing directory, when it does not raise: the destination holds the link (an older link
there is replaced, anything else there raises) and no other key changes.  The caught `OSError` cannot occur: after
the removal nothing is at the destination, and its directory exists -/
theorem doSymlink_spec (cfg : Cfg) (hdry : cfg.dryRun = false) (target link : Str) (s : St)
    (hk : keyOf cfg.cwd link ≠ []) (hp : (keyOf cfg.cwd link).dropLast ≠ [])
    (hdir : ∃ m, s.fs.get (keyOf cfg.cwd link).dropLast = some (.dir m))
    (hf : (doSymlink cfg target link s).1.failed = false) :
    (doSymlink cfg target link s).1.fs.get (keyOf cfg.cwd link) = some (.link target) ∧
    ∀ k, k ≠ keyOf cfg.cwd link → (doSymlink cfg target link s).1.fs.get k = s.fs.get k := by
  obtain ⟨m, hm⟩ := hdir
  unfold doSymlink at hf ⊢
  dsimp only at hf ⊢
  -- `s1`: the state after an existing link has been removed
  generalize hs1 : (if lexists s (keyOf cfg.cwd link) then
    (if !isLink s (keyOf cfg.cwd link) then s.fail .meson else remove cfg (keyOf cfg.cwd link) s) else s) = s1 at hf ⊢
  have hf1 : s1.failed = false := ok_unless_failed Prod.fst hf
  let P : St → Prop := fun x => x.failed = false → x.fs.get (keyOf cfg.cwd link) = none ∧
    ∀ k, k ≠ keyOf cfg.cwd link → x.fs.get k = s.fs.get k
  have h1 : P s1 := by
    subst hs1
    refine kept_ite_cond (P := P) (fun _ => kept_ite (P := P) (fun h => nomatch h) fun _ => ?_)
      fun hl _ => ⟨?_, fun _ _ => rfl⟩
    · rw [remove, if_neg (by simp [hdry])]
      exact ⟨get_del_same _ _, fun k hkk => get_del_other _ _ _ hkk⟩
    · simpa [lexists, look_of_ne_nil _ _ hk] using hl
  replace h1 := h1 hf1
  have hlex : lexists s1 (keyOf cfg.cwd link) = false := by simp [lexists, look_of_ne_nil _ _ hk, h1.1]
  have hpar : isDirF s1 (keyOf cfg.cwd link).dropLast = true := by
    simp [isDirF, FS.follow, FS.look, hp, h1.2 _ (dropLast_ne_self _ hk), hm]
  simp only [hf1, hdry, hlex, hpar, Bool.false_eq_true, if_false, Bool.not_true, Bool.or_self]
  exact ⟨get_set_same _ _ _, fun k hkk => (get_set_other _ _ _ _ hkk).trans (h1.2 k hkk)⟩

end MesonModel.Install
