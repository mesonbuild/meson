/-
`uninstall` as a fold over the keys the log names, and the restoration theorem for whole logs.
-/
import MesonModel.Install.Tree

namespace MesonModel.Install

/-- the key a log line makes `do_uninstall` act on (`none`: comment line, empty line, the root) -/
def lineKey (cwd : Str) (line : Str) : Option Key :=
  if line.head? = some '#' then none
  else if line = [] then none
  else if keyOf cwd line = [] then none else some (keyOf cwd line)

/-- what `do_uninstall` does for one key: `rmdir` an empty directory, `unlink` anything else -/
def removeKey (fs : FS) (k : Key) : FS :=
  match fs.get k with
  | some (.dir _) => if fs.hasChildren k then fs else fs.del k
  | some _ => fs.del k
  | none => fs

def logKeys (cwd : Str) (log : List Str) : List Key := log.filterMap (lineKey cwd)

theorem uninstallLine_eq (cwd : Str) (fs : FS) (l : Str) :
    uninstallLine cwd fs l = match lineKey cwd l with | none => fs | some k => removeKey fs k := by
  unfold uninstallLine lineKey
  -- with the `match` pushed into the branches of `lineKey`, both sides are the same cascade
  simp only [apply_ite (fun o : Option Key => match o with | none => fs | some k => removeKey fs k)]
  rfl

theorem uninstall_eq (cwd : Str) (log : List Str) (fs : FS) :
    uninstall cwd log fs = (logKeys cwd log).foldl removeKey fs := by
  unfold uninstall logKeys
  induction log generalizing fs with
  | nil => rfl
  | cons l t ih =>
    rw [List.foldl_cons, List.filterMap_cons, ih, uninstallLine_eq]
    cases lineKey cwd l <;> rfl

theorem hasChildren_elim (fs : FS) (k : Key) (h : fs.hasChildren k = true) :
    ∃ c, c ≠ [] ∧ c.dropLast = k ∧ fs.get c ≠ none := by
  unfold FS.hasChildren at h
  rw [List.any_eq_true] at h
  obtain ⟨e, he, hc⟩ := h
  simp only [Bool.and_eq_true, decide_eq_true_eq] at hc
  exact ⟨e.1, hc.1, hc.2, fun hn => (isLookup_get.eq_none_iff e.1 fs).mp hn (List.mem_map_of_mem he)⟩

theorem removeKey_cases (fs : FS) (k : Key) : removeKey fs k = fs ∨ removeKey fs k = fs.del k := by
  unfold removeKey
  split
  · split
    · exact Or.inl rfl
    · exact Or.inr rfl
  · exact Or.inr rfl
  · exact Or.inl rfl

theorem removeKey_other (fs : FS) (k x : Key) (h : x ≠ k) : (removeKey fs k).get x = fs.get x := by
  rcases removeKey_cases fs k with e | e <;> rw [e]
  exact get_del_other fs k x h

def isDirNode : Option Node → Bool
  | some (.dir _) => true
  | _ => false

/-- children first, as far as `rmdir` needs it -/
def ChildrenFirst (fs' : FS) (ks : List Key) : Prop :=
  ks.Pairwise (fun k c => isDirNode (fs'.get k) = false ∨ c = [] ∨ c.dropLast ≠ k)

theorem removeKey_get (fs : FS) (k x : Key) : (removeKey fs k).get x = none ∨ (removeKey fs k).get x = fs.get x := by
  rcases removeKey_cases fs k with e | e <;> rw [e]
  · exact Or.inr rfl
  · rw [get_del]
    exact kept_ite (P := fun o => o = none ∨ o = fs.get x) (Or.inl rfl) (Or.inr rfl)

theorem removeKeys_restores_aux (fs fs' : FS) (ks : List Key) (cur : FS)
    (hcur : ∀ x, cur.get x = none ∨ cur.get x = fs'.get x)
    (hfresh : ∀ k ∈ ks, fs.get k = none)
    (hsame : ∀ k, k ∉ ks → cur.get k = fs.get k)
    (hwf : ∀ c, c ≠ [] → fs.get c ≠ none → c.dropLast ∉ ks)
    (hord : ChildrenFirst fs' ks) :
    ∀ k, (ks.foldl removeKey cur).get k = fs.get k := by
  induction ks generalizing cur with
  | nil =>
    intro k
    exact hsame k (by simp)
  | cons k rest ih =>
    simp only [List.foldl_cons]
    have hord' := List.pairwise_cons.mp hord
    apply ih
    · intro x
      rcases removeKey_get cur k x with h | h
      · exact Or.inl h
      · rw [h]
        exact hcur x
    · exact fun x hx => hfresh x (by simp [hx])
    · intro x hx
      by_cases hxk : x = k
      · subst hxk
        rw [hfresh x (by simp)]
        unfold removeKey
        split
        · rename_i m hdir
          split
          · rename_i hch
            -- a logged directory cannot still have a child `c`: a logged `c` comes later, against `hord`; one that
            -- is not logged is old, against `hwf`
            exfalso
            have hdir' : isDirNode (fs'.get x) = true := by
              rcases hcur x with h | h
              · rw [h] at hdir
                cases hdir
              · rw [← h, hdir]
                rfl
            obtain ⟨c, hc1, hc2, hc3⟩ := hasChildren_elim cur x hch
            by_cases hcm : c ∈ x :: rest
            · rcases List.mem_cons.mp hcm with e | e
              · exact dropLast_ne_self c hc1 (hc2.trans e.symm)
              · rcases hord'.1 c e with h | h | h
                · rw [hdir'] at h
                  cases h
                · exact hc1 h
                · exact h hc2
            · rw [hsame c hcm] at hc3
              exact hwf c hc1 hc3 (by rw [hc2]; simp)
          · exact get_del_same cur x
        · exact get_del_same cur x
        · rename_i hnone
          exact hnone
      · rw [removeKey_other cur k x hxk]
        exact hsame x (by simp [hxk, hx])
    · exact fun c hc1 hc3 hm => hwf c hc1 hc3 (by simp [hm])
    · exact hord'.2

theorem removeKeys_restores (fs : FS) (ks : List Key) (fs' : FS)
    (hfresh : ∀ k ∈ ks, fs.get k = none)
    (hsame : ∀ k, k ∉ ks → fs'.get k = fs.get k)
    (hwf : ∀ c, c ≠ [] → fs.get c ≠ none → c.dropLast ∉ ks)
    (hord : ChildrenFirst fs' ks) :
    ∀ k, (ks.foldl removeKey fs').get k = fs.get k :=
  removeKeys_restores_aux fs fs' ks fs' (fun _ => Or.inr rfl) hfresh hsame hwf hord

end MesonModel.Install
