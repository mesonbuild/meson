/-
The destination strings computed by the backend glue follow the documented rules.
-/
import MesonModel.Install.Glue
import MesonModel.Install.KeyLemmas

namespace MesonModel.Install

theorem lastField_ext (b num : Str) (h : '.' ∉ num) : lastField '.' (b ++ '.' :: num) = num := by
  unfold lastField
  rw [splitOn_append_sep, splitOn_noSep '.' num h]
  simp

theorem replaceGo_none (p0 : Char) (pt rep : Str) (fuel : Nat) (s : Str) (h : p0 ∉ s) :
    replaceGo p0 pt rep fuel s = s := by
  fun_induction replaceGo p0 pt rep fuel s
  case case3 f c t hp _ =>
    -- the pattern would start here, with `p0`
    simp only [List.isPrefixOf, Bool.and_eq_true, beq_iff_eq] at hp
    exact absurd (hp.1 ▸ List.mem_cons_self ..) h
  case case4 f c t _ ih => rw [ih fun e => h (List.mem_cons_of_mem _ e)]
  all_goals rfl

theorem replaceAll_prefix (p0 : Char) (pt rep rest : Str) (h : p0 ∉ rest) :
    replaceAll p0 pt rep ((p0 :: pt) ++ rest) = rep ++ rest := by
  unfold replaceAll
  simp only [List.cons_append, List.length_cons]
  unfold replaceGo
  have hp : (p0 :: pt).isPrefixOf (p0 :: (pt ++ rest)) = true := by
    simp [List.isPrefixOf]
  simp only [hp, if_true, List.drop_left]
  rw [replaceGo_none _ _ _ _ _ h]

theorem endsWithSlash_append_noslash (x num : Str) (hx : endsWithSlash x = false) (hn : '/' ∉ num) :
    endsWithSlash (x ++ num) = false := by
  rcases List.eq_nil_or_concat num with rfl | ⟨n', a, rfl⟩
  · simpa using hx
  · have ha : a ≠ '/' := fun e => hn (by simp [e])
    unfold endsWithSlash
    simp [ha]

theorem isAbs_join_rel (a b : Str) (ha : isAbs a = false) (hb : isAbs b = false) : isAbs (join a b) = false := by
  unfold join
  simp only [hb, Bool.false_eq_true, if_false]
  cases a with
  | nil => simpa using hb
  | cons c t =>
    have hc : c ≠ '/' := by
      intro e
      subst e
      simp [isAbs] at ha
    split <;> simp [isAbs, hc]

theorem join_rel_noslash (a b : Str) (ha : a ≠ []) (he : endsWithSlash a = false) (hb : isAbs b = false) :
    join a b = a ++ '/' :: b := by
  unfold join
  simp [hb, ha, he]

theorem man_rule (manroot fname : Str) (hslash : '/' ∉ lastField '.' fname) (hnum : '{' ∉ lastField '.' fname)
    (hbn : '{' ∉ basename fname) :
    manInstallPath manroot none none fname =
      manroot ++ (('/' :: manStr) ++ lastField '.' fname ++ '/' :: basename fname) := by
  unfold manInstallPath
  simp only []
  have hb : isAbs (basename fname) = false := isAbs_false_of_noSep _ (basename_noSep fname)
  have hm : isAbs (manStr ++ lastField '.' fname) = false := rfl
  have hj1 : join mandirVar (manStr ++ lastField '.' fname) =
      mandirVar ++ '/' :: (manStr ++ lastField '.' fname) :=
    join_rel_noslash _ _ (by decide) (by decide) hm
  have he : endsWithSlash (mandirVar ++ '/' :: (manStr ++ lastField '.' fname)) = false := by
    have := endsWithSlash_append_noslash (mandirVar ++ ('/' :: manStr)) (lastField '.' fname) (by decide) hslash
    simpa [List.append_assoc] using this
  rw [hj1, join_rel_noslash _ _ (by simp) he hb]
  have hshape : mandirVar ++ '/' :: (manStr ++ lastField '.' fname) ++ '/' :: basename fname =
      ('{' :: ['m', 'a', 'n', 'd', 'i', 'r', '}']) ++ (('/' :: manStr) ++ lastField '.' fname ++ '/' :: basename fname) := by
    simp [mandirVar]
  rw [hshape, replaceAll_prefix]
  intro hm'
  simp only [List.mem_append, List.mem_cons] at hm'
  rcases hm' with (h | h) | h | h
  · revert h
    decide
  · exact hnum h
  · cases h
  · exact hbn h

theorem pureTail_join_dirname (a fname : Str) (pres : Bool) (hdn : isAbs (dirname fname) = false) :
    pureTail (join a (if pres then dirname fname else [])) =
      pureTail a ++ if pres then pureTail (dirname fname) else [] := by
  cases pres
  · simp only [Bool.false_eq_true, if_false]
    rw [pureTail_join _ _ rfl]
    simp [pureTail, splitOn]
  · simp only [if_true]
    exact pureTail_join _ _ hdn

theorem header_rule (incroot : Str) (sd : Option Str) (pres : Bool) (fname : Str)
    (hsd : isAbs (sd.getD []) = false) (hdn : isAbs (dirname fname) = false) :
    pureTail (hdrInstallPath incroot none sd pres fname) =
      pureTail incroot ++ (pureTail (sd.getD []) ++ if pres then pureTail (dirname fname) else []) := by
  unfold hdrInstallPath
  simp only []
  have hrel : isAbs (join (sd.getD []) (if pres then dirname fname else [])) = false := by
    apply isAbs_join_rel _ _ hsd
    cases pres
    · rfl
    · exact hdn
  rw [pureTail_join _ _ hrel]
  congr 1
  exact pureTail_join_dirname _ fname pres hdn

theorem data_rule (installDir : Str) (rename : Option Str) (pres : Bool) (fname : Str)
    (hdn : isAbs (dirname fname) = false) (hren : isAbs (rename.getD (basename fname)) = false) :
    pureTail (dataInstallPath installDir rename pres fname) =
      pureTail installDir ++ (if pres then pureTail (dirname fname) else []) ++
        pureTail (rename.getD (basename fname)) := by
  unfold dataInstallPath
  simp only []
  rw [pureTail_join _ _ hren]
  congr 1
  exact pureTail_join_dirname _ fname pres hdn

theorem subdir_rule (pfx installDir srcDir : Str) (strip : Bool) (hd : isAbs installDir = false) :
    pureTail (subdirInstallPath pfx installDir srcDir strip) =
      pureTail pfx ++ pureTail installDir ++ (if strip then [] else pureTail (basename srcDir)) := by
  unfold subdirInstallPath
  simp only []
  cases strip
  · simp only [Bool.false_eq_true, if_false]
    rw [pureTail_join _ _ (isAbs_false_of_noSep _ (basename_noSep srcDir)), pureTail_join _ _ hd]
  · simp only [if_true]
    rw [pureTail_join _ _ hd]
    simp

/-- an absolute `install_dir` of `install_subdir` replaces the prefix (stated with `strip_directory`) -/
theorem subdir_rule_abs (pfx installDir srcDir : Str) (hd : isAbs installDir = true) :
    subdirInstallPath pfx installDir srcDir true = installDir := by
  unfold subdirInstallPath join
  simp [hd]

theorem symlink_rule (installDir name : Str) (hn : isAbs name = false) :
    pureTail (symlinkName installDir name) = pureTail installDir ++ pureTail name :=
  pureTail_join _ _ hn

end MesonModel.Install
