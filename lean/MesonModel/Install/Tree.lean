/-
The abstract file system: bindings after `set`/`del`, the kind of a node, `lstat` against `stat`, and the two tree
invariants the theorems speak of, `NL` (no symbolic link) and `WF` (every entry sits in a directory).
-/
import MesonModel.Install.StepLemmas
import MesonModel.Util.Assoc

namespace MesonModel.Install

theorem isLookup_get : IsLookup fun k (fs : FS) => fs.get k := ⟨fun _ => rfl, fun _ _ _ _ => rfl⟩

theorem get_del (fs : FS) (k k' : Key) : (fs.del k).get k' = if k' = k then none else fs.get k' := by
  rw [FS.del, isLookup_get.filter_key (fun x => decide (x ≠ k)) k' fs]
  by_cases h : k' = k <;> simp [h]

theorem get_del_other (fs : FS) (k k' : Key) (h : k' ≠ k) : (fs.del k).get k' = fs.get k' := by
  rw [get_del, if_neg h]

theorem get_del_same (fs : FS) (k : Key) : (fs.del k).get k = none := by
  rw [get_del, if_pos rfl]

theorem get_set_other (fs : FS) (k k' : Key) (n : Node) (h : k' ≠ k) : (fs.set k n).get k' = fs.get k' := by
  unfold FS.set
  have : k ≠ k' := fun e => h e.symm
  simp [FS.get, this, get_del_other fs k k' h]

theorem get_set_same (fs : FS) (k : Key) (n : Node) : (fs.set k n).get k = some n := by
  simp [FS.set, FS.get]

theorem get_singleton {k0 k : Key} {n : Node} (h : FS.get [(k0, n)] k ≠ none) : k = k0 := by
  by_cases e : k0 = k
  · exact e.symm
  · simp [FS.get, e] at h

/-- what kind of node, if any: `chmod` and `sanitize_permissions` keep it -/
def kind : Option Node → Nat
  | none => 0
  | some (.dir _) => 1
  | some (.file _ _ _) => 2
  | some (.link _) => 3

theorem kind_none {x : Option Node} : kind x = 0 ↔ x = none := by
  rcases x with _ | _ | _ | _ <;> simp [kind]

theorem kind_dir {x : Option Node} : kind x = 1 ↔ ∃ m, x = some (.dir m) := by
  rcases x with _ | _ | _ | _ <;> simp [kind]

theorem kind_file {x : Option Node} : kind x = 2 ↔ ∃ m d t, x = some (.file m d t) := by
  rcases x with _ | _ | _ | _ <;> simp [kind]

theorem kind_link {x : Option Node} : kind x = 3 ↔ ∃ t, x = some (.link t) := by
  rcases x with _ | _ | _ | _ <;> simp [kind]

theorem kind_set_same_kind (fs : FS) (k : Key) (n : Node) (hn : kind (some n) = kind (fs.get k)) (k' : Key) :
    kind ((fs.set k n).get k') = kind (fs.get k') := by
  by_cases e : k' = k
  · subst e
    rw [get_set_same]
    exact hn
  · rw [get_set_other _ _ _ _ e]

theorem dropLast_ne_self (k : Key) (h : k ≠ []) : k.dropLast ≠ k := by
  intro e
  have := congrArg List.length e
  cases k with
  | nil => exact h rfl
  | cons a t => simp at this

theorem look_of_ne_nil (fs : FS) (k : Key) (h : k ≠ []) : fs.look k = fs.get k := by simp [FS.look, h]

theorem follow_eq_look_of {fs : FS} {k : Key} (h : ∀ t, fs.look k ≠ some (.link t)) : fs.follow k = fs.look k := by
  unfold FS.follow
  cases hl : fs.look k with
  | none => rfl
  | some n =>
    cases n with
    | link t => exact absurd hl (h t)
    | dir m => rfl
    | file m d t => rfl

theorem follow_none_of_look_none {fs : FS} {k : Key} (h : fs.look k = none) : fs.follow k = none :=
  (follow_eq_look_of fun _ e => nomatch h.symm.trans e).trans h

/-- no symbolic link anywhere in the tree -/
def NL (fs : FS) : Prop := ∀ k t, fs.get k ≠ some (.link t)

/-- every entry sits in a directory -/
def WF (fs : FS) : Prop := ∀ c, c ≠ [] → fs.get c ≠ none → c.dropLast = [] ∨ ∃ m, fs.get c.dropLast = some (.dir m)

theorem follow_eq_look {fs : FS} (h : NL fs) (k : Key) : fs.follow k = fs.look k := by
  refine follow_eq_look_of fun t hl => ?_
  unfold FS.look at hl
  split at hl
  · cases hl
  · exact h k t hl

theorem NL_del {fs : FS} (h : NL fs) (k : Key) : NL (fs.del k) := by
  intro k' t
  by_cases e : k' = k
  · subst e
    rw [get_del_same]
    simp
  · rw [get_del_other _ _ _ e]
    exact h k' t

theorem NL_of_frame {fs fs' : FS} (h : NL fs) (k : Key) (n : Node) (hn : ∀ t, n ≠ .link t) (hk : fs'.get k = some n)
    (ho : ∀ k', k' ≠ k → fs'.get k' = fs.get k') : NL fs' := by
  intro k' t e
  by_cases hkk : k' = k
  · rw [hkk, hk] at e
    exact hn t (Option.some.inj e)
  · rw [ho k' hkk] at e
    exact h k' t e

theorem NL_set {fs : FS} (h : NL fs) (k : Key) (n : Node) (hn : ∀ t, n ≠ .link t) : NL (fs.set k n) :=
  NL_of_frame h k n hn (get_set_same _ _ _) (fun _ hk => get_set_other _ _ _ _ hk)

theorem NL_of_dirs {fs fs' : FS} (h : NL fs) (hfr : ∀ k, fs'.get k = fs.get k ∨ ∃ m, fs'.get k = some (.dir m)) :
    NL fs' := by
  intro k t e
  rcases hfr k with e' | ⟨_, e'⟩
  · exact h k t (e' ▸ e)
  · rw [e'] at e
    cases e

theorem WF_present_of_prefix {fs : FS} (h : WF fs) {q k : Key} (hpre : k <+: q) (hk : k ≠ []) (hq : fs.get q ≠ none) :
    fs.get k ≠ none := by
  obtain ⟨t, rfl⟩ := hpre
  induction t generalizing k with
  | nil => rwa [List.append_nil] at hq
  | cons a t ih =>
    -- `k ++ [a]` is there by induction, and it sits in `k`
    have hka := ih (k := k ++ [a]) (by simp) (by simpa using hq)
    have hw := h _ (by simp) hka
    rw [List.dropLast_concat] at hw
    rcases hw with e | ⟨m, hm⟩
    · exact absurd e hk
    · simp [hm]

theorem existsF_false_iff {s : St} (h : NL s.fs) (k : Key) (hk : k ≠ []) :
    existsF s k = false ↔ s.fs.get k = none := by
  unfold existsF
  rw [follow_eq_look h, look_of_ne_nil _ _ hk]
  cases s.fs.get k <;> simp

theorem isDirF_root (s : St) : isDirF s [] = true := rfl

theorem isDirF_write_dir (s : St) (k : Key) (m : Nat) (hk : k ≠ []) : isDirF (s.write k (.dir m)) k = true := by
  simp [isDirF, FS.follow, FS.look, hk, St.write, get_set_same]

/-- a state in which every old binding is still there sees the directories the old one saw -/
theorem isDirF_mono {s s' : St} (h : ∀ k n, s.fs.get k = some n → s'.fs.get k = some n) (q : Key)
    (hq : isDirF s q = true) : isDirF s' q = true := by
  have hl : ∀ k n, s.fs.look k = some n → s'.fs.look k = some n := by
    intro k n
    unfold FS.look
    split
    · exact id
    · exact h k n
  unfold isDirF FS.follow at hq ⊢
  cases h1 : s.fs.look q with
  | none => simp [h1] at hq
  | some n =>
    rw [hl q n h1]
    rw [h1] at hq
    cases n with
    | dir m => rfl
    | file m d t => simp at hq
    | link t =>
      dsimp only at hq ⊢
      cases h2 : s.fs.look (keyOfAbs (join (keyToStr q.dropLast) t)) with
      | none => simp [h2] at hq
      | some n2 =>
        rw [hl _ n2 h2]
        rw [h2] at hq
        exact hq

theorem isDirF_get {s : St} {q : Key} (hq : q ≠ []) (hl : ∀ t, s.fs.get q ≠ some (.link t)) (h : isDirF s q = true) :
    ∃ m, s.fs.get q = some (.dir m) := by
  unfold isDirF at h
  rw [follow_eq_look_of (by rw [look_of_ne_nil _ _ hq]; exact hl), look_of_ne_nil _ _ hq] at h
  cases hg : s.fs.get q with
  | none => simp [hg] at h
  | some n =>
    cases n with
    | dir m => exact ⟨m, rfl⟩
    | file _ _ _ => simp [hg] at h
    | link t => exact absurd hg (hl t)

theorem isDirF_iff {s : St} (h : NL s.fs) (p : Key) :
    isDirF s p = true ↔ (p = [] ∨ ∃ m, s.fs.get p = some (.dir m)) := by
  unfold isDirF
  rw [follow_eq_look h]
  by_cases hp : p = []
  · subst hp
    simp [FS.look]
  · rw [look_of_ne_nil _ _ hp]
    cases hg : s.fs.get p with
    | none => simp [hp]
    | some n => cases n <;> simp [hp]

end MesonModel.Install
