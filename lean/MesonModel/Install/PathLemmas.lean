/-
Path algebra.  Under the hypothesis that no component is `..`, the key of a destination computed by
`get_destdir_path` is the key of DESTDIR followed by the components of the (prefix and) install path (`dest_key`).
With `..` allowed: `normpath` of an absolute path resolves the components as `keyOfAbs` does (`normpath_abs`), so a
destination that passes the staging check has a key that extends DESTDIR's (`destOk_sound`).
-/
import MesonModel.Install.Model

namespace MesonModel.Install

def isComp (c : Str) : Bool := c ≠ [] && c ≠ ['.']

def NoDotDot (p : Str) : Prop := dotdot ∉ splitOn '/' p

instance (p : Str) : Decidable (NoDotDot p) := by unfold NoDotDot; infer_instance

theorem pureTail_eq (p : Str) : pureTail p = (splitOn '/' p).filter isComp := rfl

/-- `..` is a component, so it is looked for among the components that count -/
theorem noDotDot_iff (p : Str) : NoDotDot p ↔ dotdot ∉ pureTail p := by
  simp [NoDotDot, pureTail_eq, List.mem_filter, isComp, dotdot]

theorem splitOn_ne_nil (c : Char) (s : Str) : splitOn c s ≠ [] := by
  fun_cases splitOn c s <;> exact List.cons_ne_nil _ _

theorem splitOn_append_sep (c : Char) (a b : Str) :
    splitOn c (a ++ c :: b) = splitOn c a ++ splitOn c b := by
  fun_induction splitOn c a with
  | case1 => simp [splitOn]
  | case2 xs ih => rw [List.cons_append, splitOn, if_pos rfl, ih, List.cons_append]
  | case3 x xs hx hs ih => exact absurd hs (splitOn_ne_nil c xs)
  | case4 x xs hx h t hs ih => rw [List.cons_append, splitOn, if_neg hx, ih, hs, List.cons_append, List.cons_append]

theorem mem_splitOn_noSep (c : Char) (s : Str) : ∀ x ∈ splitOn c s, c ∉ x := by
  fun_induction splitOn c s with
  | case1 => simp
  | case2 xs ih => exact List.forall_mem_cons.mpr ⟨List.not_mem_nil, ih⟩
  | case3 x xs hx hs ih => exact absurd hs (splitOn_ne_nil c xs)
  | case4 x xs hx h t hs ih =>
    rw [hs, List.forall_mem_cons] at ih
    exact List.forall_mem_cons.mpr ⟨fun hc => (List.mem_cons.mp hc).elim (Ne.symm hx) ih.1, ih.2⟩

theorem splitOn_noSep (c : Char) (s : Str) (h : c ∉ s) : splitOn c s = [s] := by
  induction s with
  | nil => rfl
  | cons y ys ih =>
    have hy : y ≠ c := fun e => h (by simp [e])
    have hys : c ∉ ys := fun e => h (by simp [e])
    rw [splitOn]
    simp [hy, ih hys]

theorem splitOn_joinWith (c : Char) (l : List Str) (hne : l ≠ []) (h : ∀ x ∈ l, c ∉ x) :
    splitOn c (joinWith c l) = l := by
  fun_induction joinWith c l with
  | case1 => exact absurd rfl hne
  | case2 a => exact splitOn_noSep c a (h a (by simp))
  | case3 a b t ih =>
    rw [splitOn_append_sep, splitOn_noSep c a (h a (by simp)), ih (by simp) fun x hx => h x (List.mem_cons_of_mem _ hx)]
    rfl

/-- a component other than `..` is appended if it counts and dropped if not -/
theorem keyStep_of_ne_dotdot (acc : Key) {c : Str} (h : c ≠ dotdot) :
    keyStep acc c = acc ++ [c].filter isComp := by
  have hc : (c = [] || c = ['.']) = !isComp c := by simp [isComp]
  rw [keyStep, if_neg h, hc, List.filter_cons]
  cases isComp c <;> simp

theorem foldl_keyStep_noDotDot (cs : List Str) (acc : Key) (h : dotdot ∉ cs) :
    cs.foldl keyStep acc = acc ++ cs.filter isComp := by
  induction cs generalizing acc with
  | nil => simp
  | cons c t ih =>
    rw [List.foldl_cons, keyStep_of_ne_dotdot acc fun e => h (by simp [e]), ih _ fun e => h (by simp [e]),
      List.append_assoc, ← List.filter_append]
    rfl

theorem keyOfAbs_noDotDot (p : Str) (h : NoDotDot p) : keyOfAbs p = pureTail p := by
  unfold keyOfAbs
  rw [foldl_keyStep_noDotDot _ _ h]
  simp [pureTail_eq]

theorem endsWithSlash_elim (a : Str) (h : endsWithSlash a = true) : ∃ a', a = a' ++ ['/'] := by
  unfold endsWithSlash at h
  rcases List.eq_nil_or_concat a with rfl | ⟨l, x, rfl⟩
  · simp at h
  · simp at h
    subst h
    exact ⟨l, by simp⟩

/-- a relative `b` goes behind one slash: the one `a` ends in, or a new one -/
theorem join_rel (a b : Str) (hb : isAbs b = false) :
    (a = [] ∧ join a b = b) ∨ ∃ a', join a b = a' ++ '/' :: b ∧ (a = a' ∨ a = a' ++ ['/']) := by
  unfold join
  simp only [hb, Bool.false_eq_true, if_false]
  by_cases ha : a = []
  · exact Or.inl ⟨ha, by simp [ha]⟩
  · by_cases he : endsWithSlash a = true
    · obtain ⟨a', rfl⟩ := endsWithSlash_elim a he
      exact Or.inr ⟨a', by simp [he], Or.inr rfl⟩
    · exact Or.inr ⟨a, by simp [ha, he], Or.inl rfl⟩

theorem pureTail_append_sep (a b : Str) : pureTail (a ++ '/' :: b) = pureTail a ++ pureTail b := by
  simp only [pureTail_eq, splitOn_append_sep, List.filter_append]

theorem pureTail_join (a b : Str) (hb : isAbs b = false) :
    pureTail (join a b) = pureTail a ++ pureTail b := by
  rcases join_rel a b hb with ⟨rfl, h⟩ | ⟨a', h, rfl | rfl⟩
  · rw [h]
    rfl
  · rw [h, pureTail_append_sep]
  · rw [h, pureTail_append_sep, pureTail_append_sep a' [], List.append_assoc]
    rfl

theorem noDotDot_join (a b : Str) (hb : isAbs b = false) (ha : NoDotDot a) (hb' : NoDotDot b) :
    NoDotDot (join a b) := by
  rw [noDotDot_iff] at *
  rw [pureTail_join a b hb, List.mem_append]
  exact fun h => h.elim ha hb'

theorem pureRoot_cases (p : Str) : pureRoot p = [] ∨ pureRoot p = ['/'] ∨ pureRoot p = ['/', '/'] := by
  unfold pureRoot
  split <;> simp

theorem pureRoot_ne_nil_of_isAbs (p : Str) (h : isAbs p = true) : pureRoot p ≠ [] := by
  unfold isAbs at h
  split at h
  · unfold pureRoot
    split <;> simp_all
  · simp at h

theorem pureParts_tail_of_isAbs (p : Str) (h : isAbs p = true) : (pureParts p).tail = pureTail p := by
  unfold pureParts
  simp [pureRoot_ne_nil_of_isAbs p h]

theorem joinWith_ne_nil (a : Str) (t : List Str) (ha : a ≠ []) : joinWith '/' (a :: t) ≠ [] := by
  cases t with
  | nil => simpa [joinWith] using ha
  | cons b t' => simp [joinWith, ha]

theorem pureTail_cons_slash (p : Str) : pureTail ('/' :: p) = pureTail p := by
  simp [pureTail, splitOn]

theorem mem_pureTail {p c : Str} (h : c ∈ pureTail p) : isComp c = true ∧ '/' ∉ c := by
  rw [pureTail_eq, List.mem_filter] at h
  exact ⟨h.2, mem_splitOn_noSep '/' p c h.1⟩

/-- parsing what `pureFormat` prints gives the components back -/
theorem pureTail_pureFormat_comps (root : Str) (comps : List Str)
    (hr : root = [] ∨ root = ['/'] ∨ root = ['/', '/'])
    (hc : ∀ c ∈ comps, isComp c = true ∧ '/' ∉ c) : pureTail (pureFormat root comps) = comps := by
  cases comps with
  | nil => rcases hr with rfl | rfl | rfl <;> decide
  | cons a t =>
    have ha : a ≠ [] := fun e => by simpa [e, isComp] using (hc a (by simp)).1
    have hf : pureFormat root (a :: t) = root ++ joinWith '/' (a :: t) := by
      simp [pureFormat, joinWith_ne_nil a t ha]
    have hj : pureTail (joinWith '/' (a :: t)) = a :: t := by
      rw [pureTail_eq, splitOn_joinWith '/' _ (by simp) fun x hx => (hc x hx).2, List.filter_eq_self]
      exact fun x hx => (hc x hx).1
    rw [hf]
    -- the root's slashes only add empty components
    rcases hr with rfl | rfl | rfl <;> simpa only [List.nil_append, List.cons_append, pureTail_cons_slash] using hj

theorem pureTail_destdirJoin (d p : Str) (hd : d ≠ []) (hp : isAbs p = true) :
    pureTail (destdirJoin d p) = pureTail d ++ pureTail p := by
  unfold destdirJoin
  simp only [hd, if_false, pureParts_tail_of_isAbs p hp]
  exact pureTail_pureFormat_comps _ _ (pureRoot_cases d) fun c hc =>
    (List.mem_append.mp hc).elim mem_pureTail mem_pureTail

theorem noDotDot_destdirJoin (d p : Str) (hd : d ≠ []) (hp : isAbs p = true)
    (h1 : NoDotDot d) (h2 : NoDotDot p) : NoDotDot (destdirJoin d p) := by
  rw [noDotDot_iff] at *
  rw [pureTail_destdirJoin d p hd hp, List.mem_append]
  exact fun h => h.elim h1 h2

theorem dest_key (destdir pfx ip : Str) (hd : destdir ≠ []) (hpfx : isAbs pfx = true)
    (h1 : NoDotDot destdir) (h2 : NoDotDot pfx) (h3 : NoDotDot ip) :
    keyOfAbs (getDestdirPath destdir (destdirJoin destdir pfx) ip) =
      keyOfAbs destdir ++ (if isAbs ip then keyOfAbs ip else keyOfAbs pfx ++ keyOfAbs ip) := by
  unfold getDestdirPath
  by_cases hip : isAbs ip = true
  · simp only [hip, if_true]
    rw [keyOfAbs_noDotDot _ (noDotDot_destdirJoin _ _ hd hip h1 h3), pureTail_destdirJoin _ _ hd hip,
        keyOfAbs_noDotDot _ h1, keyOfAbs_noDotDot _ h3]
  · have hip' : isAbs ip = false := by simpa using hip
    simp only [hip', Bool.false_eq_true, if_false]
    have hn := noDotDot_destdirJoin _ _ hd hpfx h1 h2
    rw [keyOfAbs_noDotDot _ (noDotDot_join _ _ hip' hn h3), pureTail_join _ _ hip',
        pureTail_destdirJoin _ _ hd hpfx, keyOfAbs_noDotDot _ h1, keyOfAbs_noDotDot _ h2, keyOfAbs_noDotDot _ h3,
        List.append_assoc]

theorem foldl_keyStep_all {Q : Str → Prop} (cs : List Str) (acc : Key)
    (hcs : ∀ c ∈ cs, c ≠ [] → c ≠ ['.'] → c ≠ dotdot → Q c) (hacc : ∀ c ∈ acc, Q c) :
    ∀ c ∈ cs.foldl keyStep acc, Q c := by
  induction cs generalizing acc with
  | nil => exact hacc
  | cons c t ih =>
    apply ih _ (fun x hx => hcs x (List.mem_cons_of_mem _ hx))
    fun_cases keyStep acc c with
    | case1 => exact hacc
    | case2 => exact fun x hx => hacc x (List.dropLast_subset _ hx)
    | case3 h1 h2 =>
      have ⟨h3, h4⟩ : c ≠ [] ∧ c ≠ ['.'] := by simpa using h1
      exact List.forall_mem_append.mpr ⟨hacc, List.forall_mem_singleton.mpr (hcs c List.mem_cons_self h3 h4 h2)⟩

/-- components as they occur in keys -/
def CleanKey (K : Key) : Prop := ∀ c ∈ K, c ≠ [] ∧ '/' ∉ c ∧ c ≠ ['.'] ∧ c ≠ dotdot

theorem CleanKey.prefix {K q : Key} (h : CleanKey K) (hq : q <+: K) : CleanKey q :=
  fun c hc => h c (hq.subset hc)

theorem keyOfAbs_cleanKey (p : Str) : CleanKey (keyOfAbs p) :=
  foldl_keyStep_all _ [] (fun c hc h1 h2 h3 => ⟨h1, mem_splitOn_noSep '/' p c hc, h2, h3⟩) nofun

/-- on an absolute path `normpath` resolves the components as `keyOfAbs` does -/
theorem foldl_normStep_abs (init : Nat) (hi : init ≠ 0) (cs : List Str) (acc : List Str) (hacc : dotdot ∉ acc) :
    cs.foldl (normStep init) acc = cs.foldl keyStep acc := by
  induction cs generalizing acc with
  | nil => rfl
  | cons c t ih =>
    simp only [List.foldl_cons]
    have hl : acc.getLast? ≠ some dotdot := fun hl => hacc (List.mem_of_getLast? hl)
    have hstep : normStep init acc c = keyStep acc c := by
      unfold normStep keyStep
      split
      · rfl
      · by_cases h2 : c = dotdot <;> simp [hi, hl, h2]
    rw [hstep]
    exact ih _ fun hm => foldl_keyStep_all (Q := (· ≠ dotdot)) [c] acc (fun _ _ _ _ h => h)
      (fun x hx e => hacc (e ▸ hx)) _ hm rfl

theorem initialSlashes_of_isAbs (p : Str) (h : isAbs p = true) :
    initialSlashes p = 1 ∨ initialSlashes p = 2 := by
  unfold isAbs at h
  unfold initialSlashes
  split at h
  · split <;> simp_all
  · simp at h

theorem normpath_abs (p : Str) (h : isAbs p = true) :
    normpath p = pureFormat (List.replicate (initialSlashes p) '/') (keyOfAbs p) := by
  have hne : p ≠ [] := by
    intro e
    subst e
    simp [isAbs] at h
  have hi : initialSlashes p ≠ 0 := by rcases initialSlashes_of_isAbs p h with e | e <;> omega
  unfold normpath
  simp only [hne, if_false]
  rw [foldl_normStep_abs _ hi _ [] (by simp)]
  rfl

def IsRoot (R : Str) : Prop := R = ['/'] ∨ R = ['/', '/']

theorem isRoot_replicate (p : Str) (h : isAbs p = true) : IsRoot (List.replicate (initialSlashes p) '/') := by
  rcases initialSlashes_of_isAbs p h with e | e <;> simp [e, IsRoot, List.replicate]

theorem pureFormat_root {R : Str} (hR : IsRoot R) (K : Key) : pureFormat R K = R ++ joinWith '/' K := by
  unfold pureFormat
  rcases hR with rfl | rfl <;> simp

theorem isAbs_pureFormat {R : Str} (hR : IsRoot R) (K : Key) : isAbs (pureFormat R K) = true := by
  rw [pureFormat_root hR]
  rcases hR with rfl | rfl <;> rfl

theorem pureTail_pureFormat {R : Str} (hR : IsRoot R) {K : Key} (hK : CleanKey K) :
    pureTail (pureFormat R K) = K :=
  pureTail_pureFormat_comps R K (Or.inr hR) fun c hc =>
    ⟨by simp [isComp, (hK c hc).1, (hK c hc).2.2.1], (hK c hc).2.1⟩

theorem keyOfAbs_pureFormat {R : Str} (hR : IsRoot R) (K : Key) (hK : CleanKey K) :
    keyOfAbs (pureFormat R K) = K := by
  rw [keyOfAbs_noDotDot _ _, pureTail_pureFormat hR hK]
  rw [noDotDot_iff, pureTail_pureFormat hR hK]
  exact fun h => (hK _ h).2.2.2 rfl

theorem pureParts_normpath_abs (p : Str) (h : isAbs p = true) :
    ∃ r, normParts p = r :: keyOfAbs p := by
  have hR := isRoot_replicate p h
  have htail : pureTail (normpath p) = keyOfAbs p := by
    rw [normpath_abs p h]
    exact pureTail_pureFormat hR (keyOfAbs_cleanKey p)
  have habs : isAbs (normpath p) = true := by
    rw [normpath_abs p h]
    exact isAbs_pureFormat hR _
  exact ⟨pureRoot (normpath p), by simp [normParts, pureParts, pureRoot_ne_nil_of_isAbs _ habs, htail]⟩

theorem destOk_sound (d out : Str) (hd : isAbs d = true) (ho : isAbs out = true) (h : destOk d out = true) :
    keyOfAbs d <+: keyOfAbs out := by
  have hne : d ≠ [] := by
    intro e
    subst e
    simp [isAbs] at hd
  obtain ⟨rd, h1⟩ := pureParts_normpath_abs d hd
  obtain ⟨ro, h2⟩ := pureParts_normpath_abs out ho
  unfold destOk at h
  simp only [hne, decide_false, Bool.false_or, h1, h2] at h
  have := List.isPrefixOf_iff_prefix.mp h
  exact (List.cons_prefix_cons.mp this).2

theorem isAbs_cons (p : Str) : isAbs ('/' :: p) = true := rfl

theorem isAbs_elim (p : Str) (h : isAbs p = true) : ∃ t, p = '/' :: t := by
  unfold isAbs at h
  split at h
  · exact ⟨_, rfl⟩
  · simp at h

theorem isAbs_destdirJoin (d p : Str) (hd : isAbs d = true) : isAbs (destdirJoin d p) = true := by
  have hne : d ≠ [] := by
    intro e
    subst e
    simp [isAbs] at hd
  unfold destdirJoin pureFormat
  simp only [hne, if_false]
  rcases pureRoot_cases d with h | h | h
  · exact absurd h (pureRoot_ne_nil_of_isAbs d hd)
  · simp [h, isAbs]
  · simp [h, isAbs]

theorem isAbs_join (a b : Str) (ha : isAbs a = true) : isAbs (join a b) = true := by
  obtain ⟨t, rfl⟩ := isAbs_elim a ha
  unfold join
  by_cases hb : isAbs b = true
  · simp [hb]
  · have hb' : isAbs b = false := by simpa using hb
    simp only [hb', Bool.false_eq_true, if_false]
    split <;> simp [isAbs]

theorem isAbs_getDestdirPath (d pfx path : Str) (hd : isAbs d = true) :
    isAbs (getDestdirPath d (destdirJoin d pfx) path) = true := by
  unfold getDestdirPath
  split
  · exact isAbs_destdirJoin d path hd
  · exact isAbs_join _ _ (isAbs_destdirJoin d pfx hd)

end MesonModel.Install
