/-
The history `install; sources are rewritten; install --only-changed`.
-/
import MesonModel.Install.FilesLemmas

namespace MesonModel.Install

/-- rewritten (any content and permissions, a strictly later time stamp by any amount) or left alone -/
def Rewritten (a b : Src) : Prop :=
  b = a ∨ ∃ m d t m' d' t', a = .file m d t ∧ b = .file m' d' t' ∧ t < t'

def touchData (g : Str → Src → Src) (e : DataEntry) : DataEntry := { e with src := g e.path e.src }

def touchTarget (g : Str → Src → Src) (t : TargetEntry) : TargetEntry := { t with src := g t.fname t.src }

/-- the same install rules over rewritten sources -/
def touchPlan (g : Str → Src → Src) (p : Plan) : Plan :=
  { p with targets := p.targets.map (touchTarget g), headers := p.headers.map (touchData g),
           man := p.man.map (touchData g), data := p.data.map (touchData g) }

theorem okData_touch (g : Str → Src → Src) (hg : ∀ path src, Rewritten src (g path src)) (e : DataEntry)
    (h : okData e) : okData (touchData g e) := by
  refine ⟨h.1, ?_⟩
  show noLinkSrc (g e.path e.src) = true
  rcases hg e.path e.src with h1 | ⟨_, _, _, _, _, _, _, h1, _⟩
  · rw [h1]
    exact h.2
  · rw [h1]
    rfl

theorem okTarget_touch (g : Str → Src → Src) (hg : ∀ path src, Rewritten src (g path src)) (t : TargetEntry)
    (h : okTarget t) : okTarget (touchTarget g t) := by
  refine ⟨h.1, ?_⟩
  show ∃ m d tt, g t.fname t.src = .file m d tt
  rcases hg t.fname t.src with h1 | ⟨_, _, _, m', d', t', _, h1, _⟩
  · rw [h1]
    exact h.2
  · exact ⟨m', d', t', h1⟩

theorem plannedKeys_touch (cfg : Cfg) (g : Str → Src → Src) (p : Plan) :
    plannedKeys cfg (touchPlan g p) = plannedKeys cfg p := by
  unfold plannedKeys touchPlan
  -- selection and destination key do not look at the source
  simp only [List.filter_map, List.map_map]
  rfl

/-- kept when the source was left alone, overwritten when it is newer -/
theorem ocNode_rewritten (cfg : Cfg) (mode : Option FileMode) (a b : Src) (h : Rewritten a b) :
    ocNode cfg mode b (some (ocNode cfg mode a none)) = ocNode cfg mode b none ∧
    ocTargetNode cfg mode b (some (ocTargetNode cfg mode a none)) = ocTargetNode cfg mode b none := by
  rcases h with rfl | ⟨m, d, t, m', d', t', rfl, rfl, hlt⟩
  · exact ocNode_idem cfg mode _ none
  · exact ocNode_not_keeps cfg mode m' d' t' _ (not_keeps_of_lt cfg _ d hlt)

theorem ocNode_after_install (cfg : Cfg) (g : Str → Src → Src) (e : DataEntry)
    (hg : Rewritten e.src (g e.path e.src)) :
    ocNode cfg e.mode (g e.path e.src) (some (fileNode cfg e)) = fileNode cfg (touchData g e) := by
  rw [fileNode_eq_ocNode cfg (touchData g e), fileNode_eq_ocNode cfg e]
  exact (ocNode_rewritten cfg e.mode _ _ hg).1

theorem ocTargetNode_after_install (cfg : Cfg) (g : Str → Src → Src) (t : TargetEntry)
    (hg : Rewritten t.src (g t.fname t.src)) :
    ocTargetNode cfg t.mode (g t.fname t.src) (some (targetNode cfg t)) = targetNode cfg (touchTarget g t) := by
  rw [targetNode_eq_ocNode cfg (touchTarget g t), targetNode_eq_ocNode cfg t]
  exact (ocNode_rewritten cfg t.mode _ _ hg).2

section
variable {D : Key} (cfg : Cfg) (hdry : cfg.dryRun = false) (hD : D ≠ []) (hdest : Dest cfg D)

include hdry hD hdest in
theorem filesBody_touch_only_changed (p : Plan) (g : Str → Src → Src)
    (hg : ∀ path src, Rewritten src (g path src)) (hfo : FilesOnly p)
    (hokT : ∀ t ∈ p.targets, okTarget t)
    (hokH : ∀ e ∈ p.headers, okData e) (hokM : ∀ e ∈ p.man, okData e) (hokD : ∀ e ∈ p.data, okData e)
    (hnd : (plannedKeys cfg p).Nodup) (s : St) (hNL : NL s.fs)
    (hT : ∀ t ∈ p.targets, selTarget cfg t = true → s.fs.get (targetKey cfg t) = some (targetNode cfg t))
    (hH : ∀ e ∈ p.headers, selData cfg e = true → s.fs.get (headerKey cfg e) = some (fileNode cfg e))
    (hM : ∀ e ∈ p.man, selData cfg e = true → s.fs.get (dataKey cfg e) = some (fileNode cfg e))
    (hDd : ∀ e ∈ p.data, selData cfg e = true → s.fs.get (dataKey cfg e) = some (fileNode cfg e))
    (hf : (installBody cfg (touchPlan g p) s).failed = false) :
    (∀ t ∈ p.targets, selTarget cfg t = true →
      (installBody cfg (touchPlan g p) s).fs.get (targetKey cfg t) = some (targetNode cfg (touchTarget g t))) ∧
    (∀ e ∈ p.headers, selData cfg e = true →
      (installBody cfg (touchPlan g p) s).fs.get (headerKey cfg e) = some (fileNode cfg (touchData g e))) ∧
    (∀ e ∈ p.man, selData cfg e = true →
      (installBody cfg (touchPlan g p) s).fs.get (dataKey cfg e) = some (fileNode cfg (touchData g e))) ∧
    (∀ e ∈ p.data, selData cfg e = true →
      (installBody cfg (touchPlan g p) s).fs.get (dataKey cfg e) = some (fileNode cfg (touchData g e))) ∧
    (∀ k, k ∉ plannedKeys cfg p → (installBody cfg (touchPlan g p) s).fs.get k = s.fs.get k ∨
      (s.fs.get k = none ∧
        (installBody cfg (touchPlan g p) s).fs.get k = some (.dir (andNot 0o777 cfg.procUmask)))) := by
  have okl : ∀ (l : List DataEntry), (∀ e ∈ l, okData e) → ∀ e ∈ l.map (touchData g), okData e :=
    fun l hl => List.forall_mem_map.mpr (fun e he => okData_touch g hg e (hl e he))
  obtain ⟨_, gT, gH, gM, gD, fr⟩ := filesBody_exact_oc cfg hdry hD hdest (touchPlan g p) hfo
    (List.forall_mem_map.mpr (fun t ht => okTarget_touch g hg t (hokT t ht)))
    (okl p.headers hokH) (okl p.man hokM) (okl p.data hokD) (by rw [plannedKeys_touch]; exact hnd) s hNL hf
  refine ⟨?_, ?_, ?_, ?_, ?_⟩
  · intro t ht hs
    rw [← ocTargetNode_after_install cfg g t (hg _ _), ← hT t ht hs]
    exact gT (touchTarget g t) (List.mem_map.mpr ⟨t, ht, rfl⟩) hs
  · intro e he hs
    rw [← ocNode_after_install cfg g e (hg _ _), ← hH e he hs]
    exact gH (touchData g e) (List.mem_map.mpr ⟨e, he, rfl⟩) hs
  · intro e he hs
    rw [← ocNode_after_install cfg g e (hg _ _), ← hM e he hs]
    exact gM (touchData g e) (List.mem_map.mpr ⟨e, he, rfl⟩) hs
  · intro e he hs
    rw [← ocNode_after_install cfg g e (hg _ _), ← hDd e he hs]
    exact gD (touchData g e) (List.mem_map.mpr ⟨e, he, rfl⟩) hs
  · intro k hk
    exact fr k (by rw [plannedKeys_touch]; exact hk)

end

end MesonModel.Install
