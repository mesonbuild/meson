/-
Keys of `join`, `dirname`, `basename` (string level).
-/
import MesonModel.Install.PathLemmas

namespace MesonModel.Install

theorem keyStep_nil (acc : Key) : keyStep acc [] = acc := by simp [keyStep]

theorem keyOfAbs_append_sep (a b : Str) :
    keyOfAbs (a ++ '/' :: b) = (splitOn '/' b).foldl keyStep (keyOfAbs a) := by
  unfold keyOfAbs
  rw [splitOn_append_sep, List.foldl_append]

theorem keyOfAbs_append_slash (y : Str) : keyOfAbs (y ++ ['/']) = keyOfAbs y :=
  keyOfAbs_append_sep y []

theorem keyOfAbs_join (a b : Str) (hb : isAbs b = false) :
    keyOfAbs (join a b) = (splitOn '/' b).foldl keyStep (keyOfAbs a) := by
  rcases join_rel a b hb with ⟨rfl, h⟩ | ⟨a', h, rfl | rfl⟩
  · rw [h]
    rfl
  · rw [h, keyOfAbs_append_sep]
  · rw [h, keyOfAbs_append_sep, keyOfAbs_append_slash]

theorem prefix_keyOfAbs_join (a b : Str) (hb : isAbs b = false) (hnd : NoDotDot b) :
    keyOfAbs a <+: keyOfAbs (join a b) := by
  rw [keyOfAbs_join a b hb, foldl_keyStep_noDotDot _ _ hnd]
  exact List.prefix_append _ _

theorem noDotDot_single (n : Str) (h1 : '/' ∉ n) (h2 : n ≠ dotdot) : NoDotDot n := by
  unfold NoDotDot
  rw [splitOn_noSep '/' n h1]
  simpa using fun e => h2 e.symm

theorem isAbs_false_of_noSep (n : Str) (h : '/' ∉ n) : isAbs n = false := by
  unfold isAbs
  split
  · simp at h
  · rfl

theorem dropWhile_eq_nil' {α} (q : α → Bool) (l : List α) (h : l.dropWhile q = []) : ∀ x ∈ l, q x = true := by
  simpa [h] using (List.any_dropWhile (l := l) (p := q))

theorem takeWhile_all {α} (q : α → Bool) (l : List α) (h : ∀ y ∈ l, q y = true) : l.takeWhile q = l := by
  simpa using List.takeWhile_append_of_pos (l₂ := []) h

theorem headRaw_append_basename (p : Str) : headRaw p ++ basename p = p := by
  unfold headRaw basename
  rw [← List.reverse_append, List.takeWhile_append_dropWhile, List.reverse_reverse]

theorem basename_noSep (p : Str) : '/' ∉ basename p := by
  unfold basename
  intro h
  have := List.all_eq_true.mp List.all_takeWhile _ (List.mem_reverse.mp h)
  simp at this

theorem headRaw_cases (p : Str) : headRaw p = [] ∨ ∃ h, headRaw p = h ++ ['/'] := by
  unfold headRaw
  cases hl : p.reverse.dropWhile (· ≠ '/') with
  | nil =>
    left
    rfl
  | cons x t =>
    right
    have := List.head_dropWhile_not (· ≠ '/') (l := p.reverse) (hl ▸ List.cons_ne_nil x t)
    simp only [hl, List.head_cons] at this
    simp at this
    subst this
    exact ⟨t.reverse, by simp⟩

theorem keyOfAbs_append_slashes (y : Str) (n : Nat) : keyOfAbs (y ++ List.replicate n '/') = keyOfAbs y := by
  induction n with
  | zero => simp
  | succ n ih =>
    rw [List.replicate_succ', ← List.append_assoc, keyOfAbs_append_slash, ih]

theorem rstripSlash_spec (x : Str) : ∃ n, x = rstripSlash x ++ List.replicate n '/' := by
  -- the slashes taken off the reversed string
  have h1 := List.eq_replicate_of_mem (a := '/') (l := x.reverse.takeWhile (· = '/')) fun c hc => by
    simpa using List.all_eq_true.mp List.all_takeWhile c hc
  refine ⟨(x.reverse.takeWhile (· = '/')).length, ?_⟩
  rw [rstripSlash, ← List.reverse_replicate, ← h1, ← List.reverse_append, List.takeWhile_append_dropWhile,
    List.reverse_reverse]

theorem keyOfAbs_rstripSlash (x : Str) : keyOfAbs (rstripSlash x) = keyOfAbs x := by
  obtain ⟨n, h⟩ := rstripSlash_spec x
  conv => rhs; rw [h]
  rw [keyOfAbs_append_slashes]

theorem keyOfAbs_dirname_eq (p : Str) : keyOfAbs (dirname p) = keyOfAbs (headRaw p) := by
  unfold dirname
  simp only []
  split
  · exact keyOfAbs_rstripSlash _
  · rfl

theorem keyOfAbs_eq_step_dirname (p : Str) (h : headRaw p ≠ []) :
    keyOfAbs p = keyStep (keyOfAbs (dirname p)) (basename p) := by
  rcases headRaw_cases p with h0 | ⟨hd, hh⟩
  · exact absurd h0 h
  · rw [keyOfAbs_dirname_eq, hh, keyOfAbs_append_slash]
    have hp : p = hd ++ '/' :: basename p := by
      have := headRaw_append_basename p
      rw [hh] at this
      simpa using this.symm
    conv => lhs; rw [hp]
    rw [keyOfAbs_append_sep, splitOn_noSep '/' _ (basename_noSep p)]
    rfl

theorem headRaw_ne_nil_of_isAbs (p : Str) (h : isAbs p = true) : headRaw p ≠ [] := by
  obtain ⟨t, rfl⟩ := isAbs_elim p h
  unfold headRaw
  intro e
  have e' := List.reverse_eq_nil_iff.mp e
  have := dropWhile_eq_nil' _ _ e' '/' (by simp)
  simp at this

theorem isAbs_of_prefix {q p : Str} (hq : q <+: p) (hne : q ≠ []) (hp : isAbs p = true) : isAbs q = true := by
  obtain ⟨t, rfl⟩ := isAbs_elim p hp
  cases q with
  | nil => exact absurd rfl hne
  | cons x r =>
    rw [(List.cons_prefix_cons.mp hq).1]
    rfl

/-- `dirname p` is a prefix of `p`, and not empty when `p` is absolute -/
theorem isAbs_dirname (p : Str) (h : isAbs p = true) : isAbs (dirname p) = true := by
  have hh : isAbs (headRaw p) = true :=
    isAbs_of_prefix ⟨_, headRaw_append_basename p⟩ (headRaw_ne_nil_of_isAbs p h) h
  unfold dirname
  simp only []
  split
  · rename_i hc
    obtain ⟨n, hn⟩ := rstripSlash_spec (headRaw p)
    refine isAbs_of_prefix ⟨_, hn.symm⟩ (fun e => ?_) hh
    -- nothing but slashes otherwise
    rw [e, List.nil_append] at hn
    simp [hn] at hc
  · exact hh

theorem takeWhile_append_stop {α} (q : α → Bool) (l : List α) (x : α) (r : List α)
    (hl : ∀ y ∈ l, q y = true) (hx : q x = false) : (l ++ x :: r).takeWhile q = l := by
  rw [List.takeWhile_append_of_pos hl, List.takeWhile_cons_of_neg (by simp [hx]), List.append_nil]

theorem basename_append_sep (x n : Str) (h : '/' ∉ n) : basename (x ++ '/' :: n) = n := by
  unfold basename
  have : (x ++ '/' :: n).reverse = n.reverse ++ '/' :: x.reverse := by simp
  rw [this, takeWhile_append_stop _ _ _ _ (by
    intro y hy
    have : y ≠ '/' := fun e => h (e ▸ List.mem_reverse.mp hy)
    simpa using this) (by simp)]
  simp

theorem basename_noSep_self (n : Str) (h : '/' ∉ n) : basename n = n := by
  unfold basename
  rw [takeWhile_all]
  · simp
  · intro y hy
    have : y ≠ '/' := fun e => h (e ▸ List.mem_reverse.mp hy)
    simpa using this

theorem basename_join (a n : Str) (h : '/' ∉ n) : basename (join a n) = n := by
  rcases join_rel a n (isAbs_false_of_noSep n h) with ⟨-, e⟩ | ⟨a', e, -⟩ <;> rw [e]
  · exact basename_noSep_self n h
  · exact basename_append_sep a' n h

end MesonModel.Install
