/-
A second installation changes NO key (destinations and everything else) for plans of file rules and empty
directories.  A file rule that finds its node at the destination makes no directory and leaves the node
(`RuleStep.toFixed`); `install_emptydir` always calls `os.makedirs`, which over an existing path is a no-op on a
well-formed tree (`WF`: every entry sits in a directory); that the first installation leaves a well-formed tree is
for the caller to show (the log invariant gives it, `install_LG`).
-/
import MesonModel.Install.AllRules

namespace MesonModel.Install

section
variable {D : Key} (cfg : Cfg) (hdry : cfg.dryRun = false) (hD : D ≠ []) (hdest : Dest cfg D)

include hdry hD hdest in
theorem emptydir_fixed (s : St) (e : EmptyDirEntry) (hsel : selEmpty cfg e = true) (hNL : NL s.fs) (hWF : WF s.fs)
    (x : Option Node) (hthere : s.fs.get (emptyKey cfg e) = some (emptyNode cfg e x))
    (hf : (installEmptydir cfg s e).failed = false) :
    ∀ k, (installEmptydir cfg s e).fs.get k = s.fs.get k := by
  obtain ⟨_, g, fr⟩ := installEmptydir_spec cfg hdry hD hdest s e hsel hNL hf
  intro k
  by_cases hk : k = emptyKey cfg e
  · rw [hk, g, hthere]
    exact congrArg some (ruleNode_idem cfg (.E e) x)
  · rcases fr k hk with h | ⟨hpre, hk0, hn, _⟩
    · exact h
    · -- the destination exists, so on a well-formed tree all its ancestors do: `os.makedirs` makes none
      exact absurd hn (WF_present_of_prefix hWF hpre hk0 (by rw [hthere]; simp))

include hdry hD hdest in
/-- only an empty-directory rule needs the tree well-formed -/
theorem stepRule_fixed (r : Rule) (hok : ruleOk r) (hsel : ruleSel cfg r = true) (s : St) (hNL : NL s.fs)
    (hWF : WF s.fs ∨ ∀ e, r ≠ .E e) (x : Option Node) (hthere : s.fs.get (ruleKey cfg r) = some (ruleNode cfg r x))
    (hf : (stepRule cfg s r).failed = false) : ∀ k, (stepRule cfg s r).fs.get k = s.fs.get k := by
  cases r with
  | T t =>
    exact ((ruleStep_target cfg hdry hD hdest).toFixed (fun t => ocTargetNode cfg t.mode t.src x)
      (fun t => (ocNode_idem cfg t.mode t.src x).2)).fixed s t hok hsel hNL hthere hf
  | H e =>
    exact ((ruleStep_header cfg hdry hD hdest).toFixed (fun e => ocNode cfg e.mode e.src x)
      (fun e => (ocNode_idem cfg e.mode e.src x).1)).fixed s e hok hsel hNL hthere hf
  | M e =>
    exact ((ruleStep_man cfg hdry hD hdest).toFixed (fun e => ocNode cfg e.mode e.src x)
      (fun e => (ocNode_idem cfg e.mode e.src x).1)).fixed s e hok hsel hNL hthere hf
  | D e =>
    exact ((ruleStep_data cfg hdry hD hdest).toFixed (fun e => ocNode cfg e.mode e.src x)
      (fun e => (ocNode_idem cfg e.mode e.src x).1)).fixed s e hok hsel hNL hthere hf
  | E e => exact emptydir_fixed cfg hdry hD hdest s e hsel hNL (hWF.resolve_right (fun h => h e rfl)) x hthere hf

include hdry hD hdest in
theorem rules_fold_fixed (l : List Rule) (hok : ∀ r ∈ l, ruleOk r) (s : St) (hNL : NL s.fs)
    (hWF : WF s.fs ∨ ∀ e, Rule.E e ∉ l)
    (hthere : ∀ r ∈ l, ruleSel cfg r = true → ∃ x, s.fs.get (ruleKey cfg r) = some (ruleNode cfg r x))
    (hf : (l.foldl (stepRule cfg) s).failed = false) : ∀ k, (l.foldl (stepRule cfg) s).fs.get k = s.fs.get k := by
  induction l generalizing s with
  | nil => exact fun _ => rfl
  | cons a t ih =>
    simp only [List.foldl_cons] at hf ⊢
    have R := ruleSpecS_all cfg hdry hD hdest
    have hs1 : (stepRule cfg s a).failed = false := foldl_ok_of_ok R.failed t _ hf
    have hsame : ∀ k, (stepRule cfg s a).fs.get k = s.fs.get k := by
      by_cases hsel : ruleSel cfg a = true
      · obtain ⟨x, hx⟩ := hthere a (by simp) hsel
        exact stepRule_fixed cfg hdry hD hdest a (hok a (by simp)) hsel s hNL
          (hWF.imp id (fun h e he => h e (he ▸ List.mem_cons_self))) x hx hs1
      · have : ruleSel cfg a = false := by simpa using hsel
        rw [R.skip s a this]
        exact fun _ => rfl
    -- link-freeness and well-formedness only look at bindings, which did not change
    have hNL1 : NL (stepRule cfg s a).fs := fun k t' e' => hNL k t' (by rw [← hsame k]; exact e')
    have hWF1 : WF (stepRule cfg s a).fs ∨ ∀ e, Rule.E e ∉ t := by
      refine hWF.imp (fun hWF c hc hg => ?_) (fun h e he => h e (List.mem_cons_of_mem _ he))
      rw [hsame] at hg
      rcases hWF c hc hg with e | ⟨m, hm⟩
      · exact Or.inl e
      · exact Or.inr ⟨m, by rw [hsame]; exact hm⟩
    have := ih (fun r hr => hok r (by simp [hr])) (stepRule cfg s a) hNL1 hWF1
      (fun r hr hs => by
        obtain ⟨x, hx⟩ := hthere r (by simp [hr]) hs
        exact ⟨x, by rw [hsame]; exact hx⟩) hf
    exact fun k => by rw [this k, hsame k]

end

end MesonModel.Install
