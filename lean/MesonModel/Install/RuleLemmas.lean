/-
Install rules as steps `f : St → α → St` of a fold, each with a selection, a destination key and the node it
leaves there.  `RuleStep` says what a step leaves given what was at the destination, and that it
makes directories only for an absent destination; from it come the three views the theorems use: `RuleSpecS` (any
tree invariant, weaker frame: also `install_emptydir` and `install_symlink` fit), `RuleSpec` (a node that does not
depend on what was there) and `RuleFixed` (a tree that has the node is left alone).  `fold_rules` is the one walk over a
list of `RuleSpecS` steps: the later rule wins; with pairwise different destinations every rule sees the initial node.
-/
import MesonModel.Install.OnlyChangedSpec

namespace MesonModel.Install

structure RuleStep {α : Type} (dirMode : Nat) (f : St → α → St) (ok : α → Prop) (sel : α → Bool) (key : α → Key)
    (node : α → Option Node → Node) : Prop where
  skip : ∀ s e, sel e = false → f s e = s
  failed : ∀ s e, s.failed = true → f s e = s
  spec : ∀ s e, ok e → sel e = true → NL s.fs → (f s e).failed = false →
    NL (f s e).fs ∧ (f s e).fs.get (key e) = some (node e (s.fs.get (key e))) ∧
    ∀ k, k ≠ key e → (f s e).fs.get k = s.fs.get k ∨
      (s.fs.get (key e) = none ∧ s.fs.get k = none ∧ (f s e).fs.get k = some (.dir dirMode))

structure RuleSpec {α : Type} (dirMode : Nat) (f : St → α → St) (ok : α → Prop) (sel : α → Bool) (key : α → Key)
    (node : α → Node) : Prop where
  skip : ∀ s e, sel e = false → f s e = s
  failed : ∀ s e, s.failed = true → f s e = s
  spec : ∀ s e, ok e → sel e = true → NL s.fs → (f s e).failed = false →
    NL (f s e).fs ∧ (f s e).fs.get (key e) = some (node e) ∧
    ∀ k, k ≠ key e → (f s e).fs.get k = s.fs.get k ∨
      (s.fs.get (key e) = none ∧ s.fs.get k = none ∧ (f s e).fs.get k = some (.dir dirMode))

structure RuleFixed {α : Type} (f : St → α → St) (ok : α → Prop) (sel : α → Bool) (key : α → Key) (node : α → Node) :
    Prop where
  skip : ∀ s e, sel e = false → f s e = s
  failed : ∀ s e, s.failed = true → f s e = s
  fixed : ∀ s e, ok e → sel e = true → NL s.fs → s.fs.get (key e) = some (node e) → (f s e).failed = false →
    ∀ k, (f s e).fs.get k = s.fs.get k

/-- the node depends on what was there (`--only-changed` keeps a newer destination, an empty directory keeps an existing
directory's permissions base); `I` is the tree invariant the rule needs and maintains -/
structure RuleSpecS {α : Type} (I : FS → Prop) (dirMode : Nat) (f : St → α → St) (ok : α → Prop) (sel : α → Bool)
    (key : α → Key) (node : α → Option Node → Node) : Prop where
  skip : ∀ s e, sel e = false → f s e = s
  failed : ∀ s e, s.failed = true → f s e = s
  /-- an absent destination and one that an earlier rule's `makedirs` created as a directory give the same result -/
  absent : ∀ e, node e none = node e (some (.dir dirMode))
  spec : ∀ s e, ok e → sel e = true → I s.fs → (f s e).failed = false →
    I (f s e).fs ∧ (f s e).fs.get (key e) = some (node e (s.fs.get (key e))) ∧
    ∀ k, k ≠ key e → (f s e).fs.get k = s.fs.get k ∨
      (s.fs.get k = none ∧ (f s e).fs.get k = some (.dir dirMode))

theorem unselected_skip {s : St} {b : Bool} (x : St) (h : b = false) :
    (if s.failed then s else if !b then s else x) = s := by
  simp [h]

theorem frame_trans {a b c : Option Node} {m : Nat} (h1 : b = a ∨ (a = none ∧ b = some (.dir m)))
    (h2 : c = b ∨ (b = none ∧ c = some (.dir m))) : c = a ∨ (a = none ∧ c = some (.dir m)) := by
  rcases h2 with e2 | ⟨e2, e2'⟩
  · rcases h1 with e1 | ⟨e1, e1'⟩
    · exact Or.inl (by rw [e2, e1])
    · exact Or.inr ⟨e1, by rw [e2, e1']⟩
  · rcases h1 with e1 | ⟨_, e1'⟩
    · exact Or.inr ⟨by rw [← e1, e2], e2'⟩
    · rw [e1'] at e2
      cases e2

theorem keep_node {a b : Option Node} {n : Node} {m : Nat} (ha : a = some n)
    (hb : b = a ∨ (a = none ∧ b = some (.dir m))) : b = some n := by
  rcases hb with e | ⟨e, _⟩
  · rw [e, ha]
  · rw [ha] at e
    cases e

section
variable {α : Type} {I : FS → Prop} {dirMode : Nat} {f : St → α → St} {ok : α → Prop} {sel : α → Bool}
  {key : α → Key}

theorem RuleStep.toSpecS {node : α → Option Node → Node} (R : RuleStep dirMode f ok sel key node)
    (habs : ∀ e, node e none = node e (some (.dir dirMode))) : RuleSpecS NL dirMode f ok sel key node where
  skip := R.skip
  failed := R.failed
  absent := habs
  spec := fun s e hok hsel hNL hf =>
    have ⟨n, g, fr⟩ := R.spec s e hok hsel hNL hf
    ⟨n, g, fun k hk => (fr k hk).imp id And.right⟩

theorem RuleStep.toSpec {node : α → Option Node → Node} (R : RuleStep dirMode f ok sel key node) (node' : α → Node)
    (h : ∀ e x, node e x = node' e) : RuleSpec dirMode f ok sel key node' where
  skip := R.skip
  failed := R.failed
  spec := fun s e hok hsel hNL hf => by
    rw [← h e (s.fs.get (key e))]
    exact R.spec s e hok hsel hNL hf

/-- the step makes no directory, because the destination is there -/
theorem RuleStep.toFixed {node : α → Option Node → Node} (R : RuleStep dirMode f ok sel key node) (node' : α → Node)
    (h : ∀ e, node e (some (node' e)) = node' e) : RuleFixed f ok sel key node' where
  skip := R.skip
  failed := R.failed
  fixed := fun s e hok hsel hNL hthere hf k => by
    obtain ⟨_, g, fr⟩ := R.spec s e hok hsel hNL hf
    by_cases hk : k = key e
    · rw [hk, g, hthere, h]
    · rcases fr k hk with e' | ⟨h0, _⟩
      · exact e'
      · rw [hthere] at h0
        cases h0

theorem RuleSpec.toSpecS {node : α → Node} (R : RuleSpec dirMode f ok sel key node) :
    RuleSpecS NL dirMode f ok sel key (fun e _ => node e) where
  skip := R.skip
  failed := R.failed
  absent := fun _ => rfl
  spec := fun s e hok hsel hNL hf =>
    have ⟨n, g, fr⟩ := R.spec s e hok hsel hNL hf
    ⟨n, g, fun k hk => (fr k hk).imp id And.right⟩

theorem foldl_failed_sticky (hfail : ∀ s e, s.failed = true → f s e = s) (l : List α) (s : St)
    (h : s.failed = true) : l.foldl f s = s := by
  induction l generalizing s with
  | nil => rfl
  | cons a t ih =>
    simp only [List.foldl_cons]
    rw [hfail s a h]
    exact ih s h

theorem foldl_ok_of_ok (hfail : ∀ s e, s.failed = true → f s e = s) (l : List α) (s : St)
    (h : (l.foldl f s).failed = false) : s.failed = false := by
  by_cases e : s.failed = true
  · rw [foldl_failed_sticky hfail l s e] at h
    rw [h] at e
    cases e
  · simpa using e

variable {node : α → Option Node → Node}

/-- destinations may overlap: the later rule wins -/
theorem fold_rules (R : RuleSpecS I dirMode f ok sel key node) (l : List α) (hok : ∀ e ∈ l, ok e)
    (s : St) (hI : I s.fs) (hf : (l.foldl f s).failed = false) :
    I (l.foldl f s).fs ∧
    (∀ pre e post, l = pre ++ e :: post → sel e = true → (∀ e' ∈ post, sel e' = true → key e' ≠ key e) →
      (l.foldl f s).fs.get (key e) = some (node e ((pre.foldl f s).fs.get (key e)))) ∧
    (∀ k, (∀ e ∈ l, sel e = true → key e ≠ k) →
      (l.foldl f s).fs.get k = s.fs.get k ∨ (s.fs.get k = none ∧ (l.foldl f s).fs.get k = some (.dir dirMode))) := by
  induction l generalizing s with
  | nil =>
    refine ⟨hI, ?_, fun k _ => Or.inl rfl⟩
    intro pre e post h
    cases pre <;> simp at h
  | cons a t ih =>
    simp only [List.foldl_cons] at hf ⊢
    have hs1 : (f s a).failed = false := foldl_ok_of_ok R.failed t _ hf
    -- one step, selected or not
    have step : I (f s a).fs ∧ (sel a = true → (f s a).fs.get (key a) = some (node a (s.fs.get (key a)))) ∧
        ∀ k, (sel a = true → key a ≠ k) →
          (f s a).fs.get k = s.fs.get k ∨ (s.fs.get k = none ∧ (f s a).fs.get k = some (.dir dirMode)) := by
      by_cases hsel : sel a = true
      · obtain ⟨n1, g1, fr1⟩ := R.spec s a (hok a (by simp)) hsel hI hs1
        exact ⟨n1, fun _ => g1, fun k hk => fr1 k fun e => hk hsel e.symm⟩
      · rw [R.skip s a (by simpa using hsel)]
        exact ⟨hI, fun h => absurd h hsel, fun _ _ => Or.inl rfl⟩
    obtain ⟨n1, g1, fr1⟩ := step
    obtain ⟨n2, g2, fr2⟩ := ih (fun e he => hok e (by simp [he])) (f s a) n1 hf
    refine ⟨n2, ?_, fun k hk => frame_trans (fr1 k (hk a (by simp))) (fr2 k fun e he => hk e (by simp [he]))⟩
    intro pre e post hl hse hlater
    cases pre with
    | nil =>
      simp only [List.nil_append, List.cons.injEq] at hl
      obtain ⟨rfl, rfl⟩ := hl
      exact keep_node (g1 hse) (fr2 (key a) hlater)
    | cons b pre' =>
      simp only [List.cons_append, List.cons.injEq] at hl
      obtain ⟨rfl, hl⟩ := hl
      exact g2 pre' e post hl hse hlater

theorem fold_rules_exact_S (R : RuleSpecS I dirMode f ok sel key node) (l : List α)
    (hok : ∀ e ∈ l, ok e)
    (hdist : l.Pairwise (fun a b => sel a = true → sel b = true → key a ≠ key b))
    (s : St) (hI : I s.fs) (hf : (l.foldl f s).failed = false) :
    I (l.foldl f s).fs ∧
    (∀ e ∈ l, sel e = true → (l.foldl f s).fs.get (key e) = some (node e (s.fs.get (key e)))) ∧
    (∀ k, (∀ e ∈ l, sel e = true → key e ≠ k) →
      (l.foldl f s).fs.get k = s.fs.get k ∨ (s.fs.get k = none ∧ (l.foldl f s).fs.get k = some (.dir dirMode))) := by
  obtain ⟨n, g, fr⟩ := fold_rules R l hok s hI hf
  refine ⟨n, fun e he hse => ?_, fr⟩
  obtain ⟨pre, post, rfl⟩ := List.append_of_mem he
  obtain ⟨_, hd2, hd3⟩ := List.pairwise_append.mp hdist
  rw [g pre e post rfl hse (fun e' he' hse' => ((List.pairwise_cons.mp hd2).1 e' he' hse hse').symm)]
  -- the rules before `e` left its destination as it was, or made it a directory
  rw [List.foldl_append] at hf
  obtain ⟨_, _, frp⟩ := fold_rules R pre (fun a ha => hok a (by simp [ha])) s hI (foldl_ok_of_ok R.failed _ _ hf)
  rcases frp (key e) (fun a ha hsa => hd3 a ha e (by simp) hsa hse) with h | ⟨h0, h1⟩
  · rw [h]
  · rw [h0, h1, R.absent e]

end

theorem pairwise_of_nodup {α} (sel : α → Bool) (key : α → Key) (l : List α)
    (h : ((l.filter sel).map key).Nodup) : l.Pairwise (fun a b => sel a = true → sel b = true → key a ≠ key b) := by
  rwa [List.Nodup, List.pairwise_map, List.pairwise_filter] at h

/-- a key that is no selected entry's destination, as the frame conjuncts of `fold_rules` take it -/
theorem not_mem_selKeys {α} {sel : α → Bool} {key : α → Key} {l : List α} {k : Key}
    (h : k ∉ (l.filter sel).map key) : ∀ e ∈ l, sel e = true → key e ≠ k :=
  fun e he hs eq => h (eq ▸ List.mem_map.mpr ⟨e, List.mem_filter.mpr ⟨he, hs⟩, rfl⟩)

end MesonModel.Install
