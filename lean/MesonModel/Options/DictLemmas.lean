import MesonModel.Options.Model
import MesonModel.Util.Assoc
/-
The dicts of the option store: `alookup`/`ainsert` are a lookup and an update in the sense of `Util/Assoc.lean`, `aerase`
is a filter on keys, and `alast` — the last binding of a key in a list of entries, which is what a loop of assignments
leaves — is the lookup in the reversed list.
-/
namespace MesonModel.Options

variable {κ α : Type} [DecidableEq κ]

theorem isLookup_alookup : IsLookup (alookup (κ := κ) (α := α)) := ⟨fun _ => rfl, fun _ _ _ _ => rfl⟩

theorem isUpdate_ainsert : IsUpdate (ainsert (κ := κ) (α := α)) := ⟨fun _ _ => rfl, fun _ _ _ _ _ => rfl⟩

theorem alookup_ainsert (k k' : κ) (v : α) (d : List (κ × α)) :
    alookup k (ainsert k' v d) = if k' = k then some v else alookup k d :=
  isLookup_alookup.update isUpdate_ainsert k k' v d

theorem aerase_eq_filter (k : κ) (d : List (κ × α)) : aerase k d = d.filter fun p => p.1 ≠ k := by
  induction d with
  | nil => rfl
  | cons p r ih =>
    rw [aerase, ih, List.filter_cons]
    split <;> simp [*]

theorem alookup_aerase (k k' : κ) (d : List (κ × α)) :
    alookup k (aerase k' d) = if k' = k then none else alookup k d := by
  rw [aerase_eq_filter, isLookup_alookup.filter_key (fun x => decide (x ≠ k')) k d]
  by_cases h : k' = k <;> simp [h, Ne.symm]

theorem mem_of_alookup (k : κ) (v : α) : ∀ (l : List (κ × α)), alookup k l = some v → (k, v) ∈ l :=
  isLookup_alookup.mem k v

theorem not_mem_of_alookup_none {k : κ} {d : List (κ × α)} (h : alookup k d = none) : ∀ kv ∈ d, kv.1 ≠ k :=
  fun kv hkv e => (isLookup_alookup.eq_none_iff k d).mp h (e ▸ List.mem_map_of_mem hkv)

def ofirst (a b : Option α) : Option α :=
  match a with
  | some x => some x
  | none => b

theorem ofirst_eq_or (a b : Option α) : ofirst a b = a.or b := by
  cases a <;> rfl

theorem ofirst_assoc (a b c : Option α) : ofirst (ofirst a b) c = ofirst a (ofirst b c) := by
  cases a <;> rfl

theorem ofirst_none (a : Option α) : ofirst a none = a := by
  cases a <;> rfl

theorem ofirst_ite (c : Prop) [Decidable c] (v : α) (x : Option α) :
    ofirst (if c then some v else none) x = if c then some v else x := by
  split <;> rfl

theorem isSome_ofirst (a b : Option α) : (ofirst a b).isSome = (a.isSome || b.isSome) := by
  cases a <;> rfl

/-- the *last* binding of `k` in a list of entries (for a Python dict, whose keys are unique, this is the
binding, see `alast_eq_alookup`) -/
def alast (k : κ) : List (κ × α) → Option α
  | [] => none
  | (k', v) :: r => ofirst (alast k r) (if k' = k then some v else none)

theorem alast_eq_reverse (k : κ) (d : List (κ × α)) : alast k d = alookup k d.reverse := by
  induction d with
  | nil => rfl
  | cons p r ih =>
    rw [alast, ih, List.reverse_cons, isLookup_alookup.append, ofirst_eq_or]
    rfl

theorem alast_none_of_not_mem (k : κ) (d : List (κ × α)) (h : k ∉ d.map Prod.fst) : alast k d = none := by
  rw [alast_eq_reverse, isLookup_alookup.eq_none_iff]
  simpa using h

theorem alast_eq_alookup (k : κ) (d : List (κ × α)) (h : (d.map Prod.fst).Nodup) : alast k d = alookup k d := by
  rw [alast_eq_reverse]
  cases hd : alookup k d with
  | none =>
    rw [isLookup_alookup.eq_none_iff] at hd ⊢
    simpa using hd
  | some v =>
    exact isLookup_alookup.of_mem_nodup (by rw [List.map_reverse]; exact List.pairwise_reverse.mpr (h.imp Ne.symm))
      (List.mem_reverse.mpr (mem_of_alookup k v d hd))

theorem alast_append (k : κ) (a b : List (κ × α)) : alast k (a ++ b) = ofirst (alast k b) (alast k a) := by
  rw [alast_eq_reverse, alast_eq_reverse, alast_eq_reverse, List.reverse_append, isLookup_alookup.append, ofirst_eq_or]

theorem alast_filter_key (k : κ) (q : κ → Bool) (d : List (κ × α)) :
    alast k (d.filter (fun p => q p.1)) = if q k then alast k d else none := by
  rw [alast_eq_reverse, alast_eq_reverse, ← List.filter_reverse, isLookup_alookup.filter_key]

theorem any_key_iff_alast (k : κ) (d : List (κ × α)) : (d.any (fun p => p.1 == k)) = (alast k d).isSome := by
  induction d with
  | nil => rfl
  | cons p r ih =>
    obtain ⟨x, y⟩ := p
    simp only [List.any_cons, alast, ih]
    cases alast k r <;> by_cases e : x = k <;> simp [ofirst, e]

end MesonModel.Options

namespace MesonModel.Life
open MesonModel.Options

theorem ainsert_of_mem {κ α : Type} [DecidableEq κ] (k : κ) (v : α) :
    ∀ (l : List (κ × α)), (k, v) ∈ l → (l.map Prod.fst).Nodup → ainsert k v l = l
  | [], h, _ => by cases h
  | (k', v') :: r, h, hn => by
    simp only [List.map_cons, List.nodup_cons] at hn
    by_cases hk : k' = k
    · subst hk
      rcases List.mem_cons.mp h with h | h
      · cases h
        simp [ainsert]
      · exact absurd (List.mem_map_of_mem (f := Prod.fst) h) hn.1
    · rcases List.mem_cons.mp h with h | h
      · cases h
        exact absurd rfl hk
      · simp [ainsert, hk, ainsert_of_mem k v r h hn.2]

end MesonModel.Life
