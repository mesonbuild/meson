import MesonModel.Options.SubLemmas
/-
`set_option` on a per-project `buildtype` (`:buildtype`, `sub:buildtype`) of which, like its dependents `debug` and
`optimization`, only the global object exists: the three values the project sees afterwards are a row of
`DEFAULT_DEPENDENTS`, from whatever row it saw before.  Builtins are admitted (`GoodSub` excludes them): what is asked
of a key and a value is that sanitising and validating leave the value as it is (`settable`).
-/
namespace MesonModel.Options
open M

theorem bind_pure_snd {α β : Type} (m : M α) (g : α → β) (s : Store) :
    (M.bind m (fun a => M.pure (g a)) s).2 = (m s).2 := by
  rcases h : m s with ⟨_ | _, _⟩ <;> simp [M.bind, M.pure, h]

theorem eq_ok_of_toOption {ε α : Type} {e : Except ε α} {a : α} (h : e.toOption = some a) : e = .ok a := by
  cases e with
  | ok b => exact congrArg Except.ok (Option.some.inj h)
  | error _ => cases h

/-- `set_option(k, v)` on the per-project key `k` writes the override `v` as it stands: the project has no object of its
own under `k`, sanitising and validating leave `v` alone, and the option `k` resolves to is writable and does not yield -/
def settable (s : Store) (k : Key) (v : Val) : Bool :=
  k.machine == .host && k.sub.isSome && !(k.name == sPrefix) &&
  alookup k s.options == none && (sanitizeForSet s k v).toOption == some v &&
  (resolveId s k).toOption.any fun id => s.heap[id]?.any fun o =>
    (validate o.kind v).toOption == some v && !o.readonly && !o.yielding

theorem settable_spec {s : Store} {k : Key} {v : Val} (h : settable s k v = true) :
    k.machine = .host ∧ k.sub.isSome = true ∧ (k.name == sPrefix) = false ∧ alookup k s.options = none ∧
    sanitizeForSet s k v = .ok v ∧
    ∃ id o, resolveId s k = .ok id ∧ s.heap[id]? = some o ∧ validate o.kind v = .ok v ∧
      o.readonly = false ∧ o.yielding = false := by
  unfold settable at h
  simp only [Bool.and_eq_true, beq_iff_eq, Option.any_eq_true, Bool.not_eq_eq_eq_not, Bool.not_true] at h
  obtain ⟨⟨⟨⟨⟨h1, h2⟩, h3⟩, h4⟩, h5⟩, id, hid, o, ho, ⟨h6, h7⟩, h8⟩ := h
  exact ⟨h1, h2, h3, h4, eq_ok_of_toOption h5, id, o, eq_ok_of_toOption hid, ho, eq_ok_of_toOption h6, h7, h8⟩

/-- the overrides are read under the key asked for only -/
theorem getValueFor_setAug (s : Store) (a : Dict) (k : Key)
    (h : alookup (ensureKey s k) a = alookup (ensureKey s k) s.augments) :
    getValueFor { s with augments := a } k = getValueFor s k := by
  unfold getValueFor getIdAndValue
  simp only [show ensureKey { s with augments := a } k = ensureKey s k from rfl,
    show ∀ k', resolveId { s with augments := a } k' = resolveId s k' from fun _ => rfl, h]

theorem settable_setAug (s : Store) (a : Dict) (k : Key) (v : Val)
    (h : alookup prefixKey a = alookup prefixKey s.augments) :
    settable { s with augments := a } k v = settable s k v := by
  have hp := getValueFor_setAug s a prefixKey (by rw [ensureKey_host s prefixKey rfl]; exact h)
  unfold settable sanitizeForSet
  rw [hp]
  rfl

/-- **`set_option` on a settable key** writes the override and nothing else: the key reads `v` afterwards, keys of other
names read what they read before, and whatever was settable stays settable; `changed` says whether the key read another
value before -/
theorem setOptionCore_settable {s : Store} {n : Str} {sb : Option Str} {m : Machine} {v : Val} (first : Bool)
    (h : settable s ⟨n, sb, m⟩ v = true) :
    ∃ s', setOptionCore ⟨n, sb, m⟩ v first s = (.ok ((getValueFor s ⟨n, sb, m⟩).toOption != some v, v), s') ∧
      getValueFor s' ⟨n, sb, m⟩ = .ok v ∧
      (∀ n' sb' m', n' ≠ n → getValueFor s' ⟨n', sb', m'⟩ = getValueFor s ⟨n', sb', m'⟩) ∧
      ∀ k' v', settable s' k' v' = settable s k' v' := by
  obtain ⟨hm, hs, hn, hno, hsan, id, o, hres, ho, hv, hro, hny⟩ := settable_spec h
  have hah : ahas (⟨n, sb, m⟩ : Key) s.options = false := by simp [ahas, hno]
  have hval : getValueFor s ⟨n, sb, m⟩ = .ok ((alookup ⟨n, sb, m⟩ s.augments).getD o.value) := by
    cases hx : alookup (⟨n, sb, m⟩ : Key) s.augments with
    | some v => exact getValueFor_override hm hres ho hx hs
    | none => exact getValueFor_own hm hres ho hx hny
  refine ⟨{ s with augments := ainsert ⟨n, sb, m⟩ v s.augments }, ?_,
    getValueFor_override (s := { s with augments := ainsert ⟨n, sb, m⟩ v s.augments }) hm hres ho
      (by rw [alookup_ainsert, if_pos rfl]) hs,
    fun n' sb' m' hn' => getValueFor_setAug s _ _ ?_, fun k' v' => settable_setAug s _ k' v' ?_⟩
  · rw [hval]
    simp [setOptionCore, setOptionTail, Bind.bind, M.bind, M.get, hsan, resolveForSet, hres, getObj, ho, hv, M.ofExcept,
      M.pure, hah, M.assert, hs, M.modify, hro, hn, Except.toOption, bne]
  · rw [alookup_ainsert, if_neg fun e => hn' ((ensureKey_name s _).symm.trans (congrArg Key.name e).symm)]
  · rw [alookup_ainsert, if_neg fun e => by rw [e] at hs; cases hs]

theorem setUserOption_settable {s : Store} {k : Key} {v : Val} (first : Bool) (h : settable s k v = true) :
    setUserOption k v first s = setOption k v first s := by
  obtain ⟨hm, hs, -, hno, -, id, o, hres, -⟩ := settable_spec h
  -- not registered itself, `k` resolves through its global form
  have hag : ahas k.global s.options = true := by
    simp only [resolveId, ensureKey_host s k hm, hno] at hres
    split at hres
    · cases hres
    · split at hres <;> simp_all [ahas]
  exact setUserOption_eq_setOption s k v first hm (.inr ⟨hs, hag⟩)

theorem run_configure_one (s : Store) (k : Key) (v : Val) :
    run s [.configure [(k, some v)]] = (setUserOption k v false s).2 := by
  have hb : buildtypeFirst [(k, some v)] = [(k, some v)] := by
    cases h : k.name == sBuildtype <;> simp [buildtypeFirst, h]
  simp only [run, applyOp, hb, setFromConfigure, configureOne, Bind.bind]
  rw [bind_pure_snd, bind_pure_snd]

def buildtypeView (s : Store) (sub : Str) : Option Val × Option Val × Option Val :=
  ((getValueFor s ⟨sBuildtype, some sub, .host⟩).toOption, (getValueFor s ⟨sDebug, some sub, .host⟩).toOption,
   (getValueFor s ⟨sOptimization, some sub, .host⟩).toOption)

/-- the view a row `(buildtype, optimization, debug)` of `DEFAULT_DEPENDENTS` stands for -/
def rowView (r : Str × Str × Bool) : Option Val × Option Val × Option Val :=
  (some (.str r.1), some (.bool r.2.2), some (.str r.2.1))

/-- **`set_option` on a per-project `buildtype`**: if the project sees row `r` of the table and the values of row `r'` can
be written, it sees row `r'` afterwards — when the buildtype is the one it saw before nothing is expanded, and the
dependents it sees are already those of `r'`.  Only overrides are written, so whatever was settable stays settable. -/
theorem setOption_buildtype_view (s : Store) (sub : Str) (first : Bool) (r r' : Str × Str × Bool)
    (hr : alookup r.1 Tables.defaultDependents = some r.2)
    (hr' : alookup r'.1 Tables.defaultDependents = some r'.2) (hc : r'.1 ≠ sCustom)
    (hview : buildtypeView s sub = rowView r)
    (hb : settable s ⟨sBuildtype, some sub, .host⟩ (.str r'.1) = true)
    (hd : settable s ⟨sDebug, some sub, .host⟩ (.bool r'.2.2) = true)
    (ho : settable s ⟨sOptimization, some sub, .host⟩ (.str r'.2.1) = true) :
    buildtypeView (setOption ⟨sBuildtype, some sub, .host⟩ (.str r'.1) first s).2 sub = rowView r' ∧
    ∀ k v, settable (setOption ⟨sBuildtype, some sub, .host⟩ (.str r'.1) first s).2 k v = settable s k v := by
  obtain ⟨r1, r2, r3⟩ := r
  obtain ⟨b, o, d⟩ := r'
  dsimp only at hr hr' hc hb hd ho ⊢
  simp only [buildtypeView, rowView, Prod.mk.injEq] at hview ⊢
  obtain ⟨v1, v2, v3⟩ := hview
  have nbd : sBuildtype ≠ sDebug := by decide
  have nbo : sBuildtype ≠ sOptimization := by decide
  have ndo : sDebug ≠ sOptimization := by decide
  obtain ⟨s1, e1, g1, f1, t1⟩ := setOptionCore_settable first hb
  rw [v1] at e1
  by_cases hsame : r1 = b
  · subst hsame
    obtain ⟨rfl, rfl⟩ := Prod.mk.inj (Option.some.inj (hr.symm.trans hr'))
    simp only [setOption, Bind.bind, M.bind, e1, bne_self_eq_false, Bool.false_and, Bool.false_eq_true, if_false, M.pure]
    exact ⟨⟨by rw [g1]; rfl, by rw [f1 sDebug _ _ nbd.symm, v2], by rw [f1 sOptimization _ _ nbo.symm, v3]⟩, t1⟩
  · obtain ⟨s2, e2, g2, f2, t2⟩ := setOptionCore_settable first ((t1 _ _).trans hd)
    obtain ⟨s3, e3, g3, f3, t3⟩ := setOptionCore_settable first ((t2 _ _).trans ((t1 _ _).trans ho))
    have hch : (some (Val.str r1) != some (Val.str b)) = true := by simp [bne, hsame]
    have hcustom : (Val.str b != Val.str sCustom) = true := by simp [bne, hc]
    simp only [setOption, Bind.bind, M.bind, e1, hch, Bool.true_and, beq_self_eq_true, hcustom, if_true, hr',
      Key.withName, e2, e3, M.pure]
    exact ⟨⟨by rw [f3 sBuildtype _ _ nbo, f2 sBuildtype _ _ nbd, g1]; rfl, by rw [f3 sDebug _ _ ndo, g2]; rfl, by rw [g3]; rfl⟩,
      fun k v => (t3 k v).trans ((t2 k v).trans (t1 k v))⟩

end MesonModel.Options
