import MesonModel.Options.ValidateLemmas
import MesonModel.Options.KeepsOps
/-
The validity invariant of the store: every object of the heap (reachable or stale) holds a value that satisfies its class.
-/
namespace MesonModel.Options
open M MesonModel.Life

def HeapValid (s : Store) : Prop := ∀ o ∈ s.heap, conforms o.kind o.value = true

/-- `m` preserves `HeapValid`, whether it returns or raises -/
structure Pres {α : Type} (m : M α) : Prop where
  run : ∀ s, HeapValid s → HeapValid (m s).2

namespace Pres
variable {α β : Type}

theorem pure (a : α) : Pres (Pure.pure a : M α) := ⟨fun _ h => h⟩
theorem assert (b : Bool) : Pres (M.assert b) := by
  cases b <;> constructor <;> intro s h <;> exact h
theorem ite {c : Prop} [Decidable c] {a b : M α} (ha : Pres a) (hb : Pres b) : Pres (if c then a else b) := by
  split <;> assumption
theorem of_keeps {m : M α} (h : Keeps HeapValid m) : Pres m := ⟨h.run⟩
end Pres

theorem heapValid_updObj {s : Store} {id : Nat} {f : Obj → Obj}
    (hf : ∀ o, s.heap[id]? = some o → conforms (f o).kind (f o).value = true)
    (h : HeapValid s) : HeapValid (s.updObj id f) := by
  unfold Store.updObj
  cases ho : s.heap[id]? with
  | none => exact h
  | some o =>
    intro x hx
    rcases List.mem_or_eq_of_mem_set hx with hx | hx
    · exact h x hx
    · subst hx
      exact hf o ho

/-- kind and value of an object are all that `HeapValid` looks at -/
theorem heapValid_map {s : Store} (f : Obj → Obj) (hf : ∀ c, (f c).kind = c.kind ∧ (f c).value = c.value)
    (h : HeapValid s) : HeapValid { s with heap := s.heap.map f } := by
  intro o ho
  obtain ⟨c, hc, rfl⟩ := List.mem_map.mp ho
  rw [(hf c).1, (hf c).2]
  exact h c hc

theorem heapValid_append {s : Store} {o : Obj} (ho : conforms o.kind o.value = true) (h : HeapValid s) :
    HeapValid { s with heap := s.heap ++ [o] } := by
  intro x hx
  rcases List.mem_append.mp hx with hx | hx
  · exact h x hx
  · cases List.mem_singleton.mp hx
    exact ho

/-- `UserOption.__post_init__`: a constructed object is valid -/
theorem mkObj_valid {sp : ObjSpec} {o : Obj} (h : mkObj sp = .ok o) : conforms o.kind o.value = true := by
  revert h
  fun_cases mkObj sp
  · next v hv =>
    rintro ⟨⟩
    exact validate_sound hv
  · nofun

/-- the heap stays valid because `opt.set_value(v)` stores what `validate` returned, new objects come validated from
their constructor, and everything else leaves kinds and values alone -/
theorem heapValid_opInv : OpInv HeapValid (fun o => conforms o.kind o.value = true) where
  own _ _ _ _ _ _ := trivial
  setValue id v _ := by
    refine ⟨fun s hs => Keeps.run_bind_getObj hs fun o ho => ?_⟩
    cases hv : validate o.kind v with
    | error e => exact hs
    | ok w => exact heapValid_updObj (fun o' ho' => by cases ho.symm.trans ho'; exact validate_sound hv) hs
  setYielding id _ _ := Keeps.modify fun s hs => heapValid_updObj (fun o ho => hs o (List.mem_of_getElem? ho)) hs
  augments _ _ _ _ _ hs := hs
  pending _ _ hs := hs
  pendingSub _ _ hs := hs
  subprojects _ _ hs := hs
  moduleOptions _ _ hs := hs
  insert _ _ _ ho _ hs := heapValid_append ho hs
  insertLinked _ _ _ _ _ ho _ hs := heapValid_append ho hs
  replace s k o y oid ho _ hs :=
    heapValid_map (s := { s with heap := s.heap ++ [{ o with parent := linkParent s k o, yielding := y }] })
      _ (repointFn_kind_value _ oid s.heap.length) (heapValid_append ho hs)
  prune s gone hs := heapValid_map _ (unlinkFn_kind_value _) hs
  ofMkObj _ _ h := mkObj_valid h
  revalued _ _ _ _ hv := validate_sound hv

theorem Pres.resetPrefixedOptions (a b : Str) : Pres (resetPrefixedOptions a b) :=
  .of_keeps (Keeps.resetPrefixedOptions heapValid_opInv.toSetInv a b fun _ _ => trivial)

theorem Pres.setOption (k : Key) (v : Val) (f : Bool) : Pres (setOption k v f) :=
  .of_keeps (Keeps.setOption heapValid_opInv.toSetInv k v f (.all _))

theorem Pres.setUserOption (k : Key) (v : Val) (f : Bool) : Pres (setUserOption k v f) :=
  .of_keeps (Keeps.setUserOption heapValid_opInv.toSetInv k v f (.all _))

theorem Pres.addSystemOption (k : Key) (o : Obj) (ho : conforms o.kind o.value = true) :
    Pres (addSystemOption k o) :=
  .of_keeps (Keeps.addSystemOption heapValid_opInv k o ho)

theorem Pres.addProjectOption (k : Key) (o : Obj) (ho : conforms o.kind o.value = true) :
    Pres (addProjectOption k o) :=
  .of_keeps (Keeps.addProjectOption (heapValid_opInv.toUpdInv []) k o ho)

theorem Pres.coreDataInit : Pres coreDataInit :=
  .of_keeps (Keeps.coreDataInit heapValid_opInv)

theorem Pres.hardResetFromPrefix (p : Str) : Pres (hardResetFromPrefix p) :=
  .of_keeps (Keeps.hardResetFromPrefix heapValid_opInv.toInitInv p)

theorem Pres.firstHandlePrefix (a b c : Dict) : Pres (firstHandlePrefix a b c) :=
  .of_keeps (Keeps.firstHandlePrefix heapValid_opInv.toInitInv a b c)

theorem Pres.initTop (a b c : Dict) : Pres (initTop a b c) :=
  .of_keeps (Keeps.initTop heapValid_opInv.toInitInv a b c)

theorem Pres.updateProjectOptions (sub : Str) (objs : List (Key × Obj))
    (ho : ∀ kv ∈ objs, conforms kv.2.kind kv.2.value = true) : Pres (updateProjectOptions sub objs) :=
  .of_keeps (Keeps.updateProjectOptions (heapValid_opInv.toUpdInv sub) objs ho)

theorem Pres.applyOp (op : Op) : Pres (applyOp op) :=
  .of_keeps (Keeps.applyOp heapValid_opInv op)

end MesonModel.Options
