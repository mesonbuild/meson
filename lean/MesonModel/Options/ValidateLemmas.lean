import MesonModel.Options.Model
/-
`conforms k v`: the typed value `v` satisfies type, choices and range of an option of class `k`
(the specification side of "a stored value always satisfies them"), and its relation to `validate`.
-/
namespace MesonModel.Options

def conforms : Kind → Val → Bool
  | .string, .str _ => true
  | .boolean, .bool _ => true
  | .integer mn mx, .int n => checkRange mn mx n
  | .umask, .int n => checkRange (some 0) (some 511) n
  | .umask, .str s => s == sPreserve
  | .combo cs, .str s => cs.contains s
  | .feature, .str s => featureChoices.contains s
  | .array (some (c :: cs)), .arr l => l.all (fun x => (c :: cs).contains x)
  | .array _, .arr _ => true
  | _, _ => false

/-- the Python type an option class stores -/
def nativeType : Kind → Val → Bool
  | .string, .str _ => true
  | .boolean, .bool _ => true
  | .integer _ _, .int _ => true
  | .umask, .int _ => true
  | .combo _, .str _ => true
  | .feature, .str _ => true
  | .array _, .arr _ => true
  | _, _ => false

theorem validateInt_sound {f : Str → Option Int} {mn mx : Option Int} {v : Val} {n : Int}
    (h : validateInt f mn mx v = .ok n) : checkRange mn mx n = true := by
  revert h
  fun_cases validateInt f mn mx v <;> intro h <;> cases h
  all_goals assumption

/-- what the two integer classes return -/
theorem validateInt_map_sound {f : Str → Option Int} {mn mx : Option Int} {v v' : Val}
    (h : (validateInt f mn mx v).map Val.int = .ok v') : ∃ n, v' = .int n ∧ checkRange mn mx n = true := by
  cases hv : validateInt f mn mx v with
  | error e => simp [hv, Except.map] at h
  | ok n => exact ⟨n, by simpa [hv, Except.map] using h.symm, validateInt_sound hv⟩

/-- by the equations of `validate`: every accepting one returns a value it has just tested (`integer`, and `umask` on
anything but `preserve`, inside `validateInt`) -/
theorem validate_sound {k : Kind} {v v' : Val} (h : validate k v = .ok v') : conforms k v' = true := by
  revert h
  fun_cases validate k v <;> intro h
  case case8 | case10 =>
    obtain ⟨n, rfl, hn⟩ := validateInt_map_sound h
    simpa [conforms] using hn
  all_goals cases h
  all_goals simp_all [conforms]

/-- a typed value that satisfies the option is accepted unchanged (so `validate` is idempotent): by the equations of
`conforms`, each of which asks what `validate` tests on a value of that shape; the last one accepts nothing -/
theorem validate_of_conforms {k : Kind} {v : Val} (h : conforms k v = true) : validate k v = .ok v := by
  revert h
  fun_cases conforms k v <;> intro h
  case case10 => cases h
  all_goals simp_all [validate, validateInt, listifyArray, Except.map]

theorem validate_idempotent {k : Kind} {v v' : Val} (h : validate k v = .ok v') : validate k v' = .ok v' :=
  validate_of_conforms (validate_sound h)

/-- by the equations of `nativeType`: a value of the class's own type is tested as it stands (an array against the
choices only when there are any) -/
theorem validate_rejects_nonconforming {k : Kind} {v : Val} (ht : nativeType k v = true)
    (hc : conforms k v = false) : validate k v = .error .meson := by
  revert ht hc
  fun_cases nativeType k v <;> intro ht hc
  case case7 ch l =>
    match ch with
    | some (c :: cs) => simp_all [conforms, validate, listifyArray]
    | some [] | none => simp [conforms] at hc
  case case8 => cases ht
  all_goals simp_all [conforms, validate, validateInt, Except.map]

/-- acceptance is exactly "stands for a conforming value": nothing that `validate` accepts is invalid, and
`validate` never turns a rejected input into a stored value -/
theorem validate_ok_iff {k : Kind} {v : Val} :
    (∃ v', validate k v = .ok v') ↔ ∃ v', validate k v = .ok v' ∧ conforms k v' = true :=
  ⟨fun ⟨v', h⟩ => ⟨v', h, validate_sound h⟩, fun ⟨v', h, _⟩ => ⟨v', h⟩⟩

end MesonModel.Options
