import MesonModel.Options.ValidateLemmas
import MesonModel.Options.KeepsOps
/-
What `set_user_option` does to an option that exists, as equations on the store, and what it leaves alone: the frame
`Fr k id m`, which is the walk of `KeepsOps` for the option names other than `k`'s.
-/
namespace MesonModel.Options
open M

@[simp] theorem updObj_options (s : Store) (id : Nat) (f : Obj → Obj) : (s.updObj id f).options = s.options := by
  unfold Store.updObj
  split <;> rfl
@[simp] theorem updObj_projectOptions (s : Store) (id : Nat) (f : Obj → Obj) :
    (s.updObj id f).projectOptions = s.projectOptions := by
  unfold Store.updObj
  split <;> rfl
@[simp] theorem updObj_moduleOptions (s : Store) (id : Nat) (f : Obj → Obj) :
    (s.updObj id f).moduleOptions = s.moduleOptions := by
  unfold Store.updObj
  split <;> rfl
@[simp] theorem updObj_isCross (s : Store) (id : Nat) (f : Obj → Obj) : (s.updObj id f).isCross = s.isCross := by
  unfold Store.updObj
  split <;> rfl
@[simp] theorem updObj_augments (s : Store) (id : Nat) (f : Obj → Obj) : (s.updObj id f).augments = s.augments := by
  unfold Store.updObj
  split <;> rfl
@[simp] theorem updObj_pending (s : Store) (id : Nat) (f : Obj → Obj) : (s.updObj id f).pending = s.pending := by
  unfold Store.updObj
  split <;> rfl
@[simp] theorem updObj_pendingSub (s : Store) (id : Nat) (f : Obj → Obj) : (s.updObj id f).pendingSub = s.pendingSub := by
  unfold Store.updObj
  split <;> rfl
@[simp] theorem updObj_subprojects (s : Store) (id : Nat) (f : Obj → Obj) :
    (s.updObj id f).subprojects = s.subprojects := by
  unfold Store.updObj
  split <;> rfl

@[simp] theorem updObj_length (s : Store) (id : Nat) (f : Obj → Obj) : (s.updObj id f).heap.length = s.heap.length := by
  unfold Store.updObj
  split <;> simp

theorem updObj_heap_same (s : Store) (id : Nat) (f : Obj → Obj) (o : Obj) (h : s.heap[id]? = some o) :
    (s.updObj id f).heap[id]? = some (f o) := by
  unfold Store.updObj
  simp [h]
  have := List.getElem?_eq_some_iff.mp h
  obtain ⟨hl, _⟩ := this
  simp [hl]

theorem updObj_heap_other (s : Store) (id id' : Nat) (f : Obj → Obj) (h : id ≠ id') :
    (s.updObj id f).heap[id']? = s.heap[id']? := by
  unfold Store.updObj
  split
  · simp [List.getElem?_set, h]
  · rfl

/-- **`set_option` on an option without side effects** (not `prefix`, not `buildtype`, not builtin) that resolves to
the object `o`: a value the class rejects raises and changes nothing; an accepted one is written to the object when
`key` is registered, and as the per-project override otherwise; `changed` compares with what was seen before; a
read-only option that would change raises *after* the write (as in Python) -/
theorem setOption_plain (s : Store) (key : Key) (v : Val) (first : Bool) (id : Nat) (o : Obj)
    (hn : (key.name == sPrefix) = false) (hbt : (key.name == sBuildtype) = false) (hb : s.isBuiltin key = false)
    (hres : resolveId s key = .ok id) (ho : s.heap[id]? = some o) :
    setOption key v first s =
      match validate o.kind v with
      | .error e => (.error e, s)
      | .ok w =>
        if ahas key s.options then
          (if o.readonly && (o.value != w || o.yielding) && !first then .error .meson
            else .ok (o.value != w || o.yielding),
           (s.updObj id (fun o => { o with value := w })).updObj id (fun o => { o with yielding := false }))
        else if key.sub.isSome then
          (if o.readonly && ((alookup key s.augments).getD o.value != w) && !first then .error .meson
            else .ok ((alookup key s.augments).getD o.value != w),
           { s with augments := ainsert key w s.augments })
        else (.error .assertion, s) := by
  cases hv : validate o.kind v with
  | error e =>
    simp [setOption, setOptionCore, setOptionTail, sanitizeForSet, resolveForSet, Bind.bind, M.bind, M.get, hn, hb, hres,
      M.pure, getObj, ho, hv, M.ofExcept, M.fail]
  | ok w =>
    -- `opt.set_value` validates once more
    have hw : validate o.kind w = .ok w := validate_idempotent hv
    by_cases hah : ahas key s.options = true
    · simp [setOption, setOptionCore, setOptionTail, sanitizeForSet, resolveForSet, Bind.bind, M.bind, M.get, hah, hn, hbt,
        hb, hres, M.pure, getObj, ho, hv, hw, M.ofExcept, objSetValue, objSetYielding, M.modify]
      by_cases hc : (o.readonly = true ∧ (¬o.value = w ∨ o.yielding = true)) ∧ first = false
      · simp [hc, M.fail]
      · simp [hc, M.pure]
    · by_cases hsub : key.sub.isSome = true
      · simp [setOption, setOptionCore, setOptionTail, sanitizeForSet, resolveForSet, Bind.bind, M.bind, M.get, hah, hn, hbt,
          hb, hres, M.pure, getObj, ho, hv, M.ofExcept, M.assert, M.modify, hsub]
        by_cases hc : (o.readonly = true ∧ ¬(alookup key s.augments).getD o.value = w) ∧ first = false
        · simp [hc, M.fail]
        · simp [hc, M.pure]
      · simp [setOption, setOptionCore, setOptionTail, sanitizeForSet, resolveForSet, Bind.bind, M.bind, M.get, hah, hn,
          hb, hres, M.pure, getObj, ho, hv, M.ofExcept, M.assert, M.fail, hsub]

/-- for a host-machine key that is registered, or that names a subproject's view of a registered global option,
`set_user_option` is `set_option` -/
theorem setUserOption_eq_setOption (s : Store) (k : Key) (v : Val) (first : Bool) (hm : k.machine = .host)
    (h : ahas k s.options = true ∨ (k.sub.isSome = true ∧ ahas k.global s.options = true)) :
    setUserOption k v first s = setOption k v first s := by
  have hfb : k.isForBuild = false := by simp [Key.isForBuild, hm]
  rcases h with h | ⟨h1, h2⟩
  · simp [setUserOption, Bind.bind, M.bind, M.get, hfb, h]
  · simp [setUserOption, Bind.bind, M.bind, M.get, hfb, h1, h2]

/-- **set-get**: `set_user_option(k, v, first_invocation=True)` on an existing, non-special option: a value its class
rejects raises and changes nothing; one it accepts as `w` is stored, `yielding` is cleared, nothing else is touched -/
theorem setUserOption_existing (s : Store) (k : Key) (v : Val) (id : Nat) (o : Obj)
    (hm : k.machine = .host)
    (hn : (k.name == sPrefix) = false) (hbt : (k.name == sBuildtype) = false) (hb : s.isBuiltin k = false)
    (hk : alookup k s.options = some id) (ho : s.heap[id]? = some o) :
    setUserOption k v true s =
      match validate o.kind v with
      | .error e => (.error e, s)
      | .ok w => (.ok (o.value != w || o.yielding),
          (s.updObj id (fun o => { o with value := w })).updObj id (fun o => { o with yielding := false })) := by
  have hah : ahas k s.options = true := by simp [ahas, hk]
  have hres : resolveId s k = .ok id := by simp [resolveId, ensureKey_host s k hm, hk]
  rw [setUserOption_eq_setOption s k v true hm (Or.inl hah), setOption_plain s k v true id o hn hbt hb hres ho]
  cases validate o.kind v <;> simp [hah]


/-! ## frame: what a call addressing a *different* option name leaves alone -/

/-- what `get_value_for k` (object `id`) depends on is the same in `s` and `s'` -/
def SameObs (k : Key) (id : Nat) (s s' : Store) : Prop :=
  s'.isCross = s.isCross ∧ s'.options = s.options ∧ s'.projectOptions = s.projectOptions ∧
  s'.moduleOptions = s.moduleOptions ∧ s'.heap[id]? = s.heap[id]? ∧ alookup k s'.augments = alookup k s.augments

theorem SameObs.refl (k : Key) (id : Nat) (s : Store) : SameObs k id s s := ⟨rfl, rfl, rfl, rfl, rfl, rfl⟩

theorem SameObs.trans {k : Key} {id : Nat} {a b c : Store} (h1 : SameObs k id a b) (h2 : SameObs k id b c) :
    SameObs k id a c := by
  obtain ⟨a1, a2, a3, a4, a5, a6⟩ := h1
  obtain ⟨b1, b2, b3, b4, b5, b6⟩ := h2
  exact ⟨b1.trans a1, b2.trans a2, b3.trans a3, b4.trans a4, b5.trans a5, b6.trans a6⟩

/-- no option of another name shares the object `id` (a consequence of: every key has its own object) -/
def OwnObject (n : Str) (id : Nat) (s : Store) : Prop :=
  ∀ key id', alookup key s.options = some id' → key.name ≠ n → id' ≠ id

theorem sameObs_updObj (k : Key) (id id' : Nat) (s : Store) (f : Obj → Obj) (h : id' ≠ id) :
    SameObs k id s (s.updObj id' f) :=
  ⟨by simp, by simp, by simp, by simp, updObj_heap_other s id' id f h, by simp⟩

theorem objSetValue_cases (id : Nat) (v : Val) (s : Store) :
    (objSetValue id v s).2 = s ∨ ∃ w, (objSetValue id v s).2 = s.updObj id (fun o => { o with value := w }) := by
  unfold objSetValue
  simp only [Bind.bind, M.bind, getObj]
  cases s.heap[id]? with
  | none => exact Or.inl rfl
  | some o =>
    simp only
    cases validate o.kind v with
    | error e => exact Or.inl rfl
    | ok w => exact Or.inr ⟨w, rfl⟩

theorem objSetValue_frame (k : Key) (id id' : Nat) (v : Val) (s : Store) (h : id' ≠ id) :
    SameObs k id s (objSetValue id' v s).2 := by
  rcases objSetValue_cases id' v s with e | ⟨w, e⟩ <;> rw [e]
  · exact SameObs.refl k id s
  · exact sameObs_updObj k id id' s _ h

theorem OwnObject.transfer {n : Str} {id : Nat} {k : Key} {s s' : Store} (h : OwnObject n id s)
    (hs : SameObs k id s s') : OwnObject n id s' := by
  intro key i hk hkn
  rw [hs.2.1] at hk
  exact h key i hk hkn

/-- `m` leaves what `get_value_for k` depends on alone, from every store in which `k`'s object is its own -/
structure Fr {α : Type} (k : Key) (id : Nat) (m : M α) : Prop where
  run : ∀ s, OwnObject k.name id s → SameObs k id s (m s).2

theorem sameObs_pending (k : Key) (id : Nat) (s : Store) (p : Dict) : SameObs k id s { s with pending := p } :=
  ⟨rfl, rfl, rfl, rfl, rfl, rfl⟩
theorem sameObs_pendingSub (k : Key) (id : Nat) (s : Store) (p : Dict) : SameObs k id s { s with pendingSub := p } :=
  ⟨rfl, rfl, rfl, rfl, rfl, rfl⟩

/-- the frame as an invariant of the steps that follow `s0`: `k`'s object is still its own, and what `get_value_for k`
depends on is as in `s0` -/
def Framed (k : Key) (id : Nat) (s0 s : Store) : Prop := OwnObject k.name id s ∧ SameObs k id s0 s

theorem Framed.step {k : Key} {id : Nat} {s0 s s' : Store} (h : Framed k id s0 s) (h1 : SameObs k id s s') :
    Framed k id s0 s' := ⟨h.1.transfer h1, h.2.trans h1⟩

/-- calls on options of other names write neither `k`'s object nor its override: the walk of `KeepsOps` applies with
the names other than `k`'s and the ids other than `id` -/
theorem framed_initInv (k : Key) (id : Nat) (s0 : Store) : Life.InitInv (· ≠ k.name) (· ≠ id) (Framed k id s0) where
  own _ key i hn hl hs := hs.1 key i hl hn
  setValue i v hi := ⟨fun s hs => hs.step (objSetValue_frame k id i v s hi)⟩
  setYielding i _ hi := ⟨fun s hs => hs.step (sameObs_updObj k id i s _ hi)⟩
  augments _ key _ hn ha hs := hs.step ⟨rfl, rfl, rfl, rfl, rfl, ha k fun e => hn (by rw [e])⟩
  pending s p hs := hs.step (sameObs_pending k id s p)
  pendingSub s p hs := hs.step (sameObs_pendingSub k id s p)
  subprojects _ _ hs := hs.step ⟨rfl, rfl, rfl, rfl, rfl, rfl⟩

theorem nopfx_ne {n : Str} (hnp : (Tables.nopfxTable.map (·.1)).contains n = false) :
    ∀ row ∈ Tables.nopfxTable, row.1 ≠ n := by
  intro row hrow e
  have : (Tables.nopfxTable.map (·.1)).contains n = true := by
    simp only [List.contains_iff_mem, List.mem_map]
    exact ⟨row, hrow, e⟩
  rw [this] at hnp
  cases hnp

/-- a call on `key` addresses names other than `n` when `key` has another name, `n` is not a directory option that
follows `prefix` and, for `buildtype`, not one of its dependents -/
theorem _root_.MesonModel.Life.Addr.other {n : Str} {key : Key} (hname : key.name ≠ n)
    (hnp : (Tables.nopfxTable.map (·.1)).contains n = false)
    (hd : key.name = sBuildtype → n ≠ sDebug ∧ n ≠ sOptimization) : Life.Addr (· ≠ n) key :=
  ⟨hname, fun _ => nopfx_ne hnp, fun hb => ⟨(hd hb).1.symm, (hd hb).2.symm⟩⟩

namespace Fr
variable {α β : Type} {k : Key} {id : Nat}

theorem of_keeps {m : M α} (h : ∀ s0, Life.Keeps (Framed k id s0) m) : Fr k id m :=
  ⟨fun s hown => ((h s).run s ⟨hown, SameObs.refl k id s⟩).2⟩

theorem keeps {m : M α} (h : Fr k id m) (s0 : Store) : Life.Keeps (Framed k id s0) m :=
  ⟨fun s hs => hs.step (h.run s hs.1)⟩

theorem pure (a : α) : Fr k id (Pure.pure a : M α) := .of_keeps fun _ => .pure a
theorem assert (b : Bool) : Fr k id (M.assert b) := .of_keeps fun _ => .assert b
theorem forEach {γ : Type} {f : γ → M Unit} (hf : ∀ x, Fr k id (f x)) : ∀ l, Fr k id (M.forEach f l) :=
  fun l => .of_keeps fun s0 => .forEach (fun x => (hf x).keeps s0) l
end Fr

/-- `reset_prefixed_options` only writes the objects of the prefix-dependent directory options -/
theorem Fr.resetPrefixedOptions (k : Key) (id : Nat) (a b : Str)
    (hn : (Tables.nopfxTable.map (·.1)).contains k.name = false) : Fr k id (resetPrefixedOptions a b) :=
  .of_keeps fun s0 => .resetPrefixedOptions (framed_initInv k id s0).toSetInv a b (nopfx_ne hn)

/-- `set_option` for an option of another name (with the `buildtype` expansion: `k` is not one of the
dependents) leaves `k` alone -/
theorem Fr.setOption (k : Key) (id : Nat) (key : Key) (v : Val) (first : Bool)
    (hname : key.name ≠ k.name) (hnp : (Tables.nopfxTable.map (·.1)).contains k.name = false)
    (hd : key.name = sBuildtype → k.name ≠ sDebug ∧ k.name ≠ sOptimization) :
    Fr k id (setOption key v first) :=
  .of_keeps fun s0 => .setOption (framed_initInv k id s0).toSetInv key v first (.other hname hnp hd)

/-- **frame**: `set_user_option` for an option of another name leaves `k` alone, whatever it does (set an
object, set an override, park the value as pending, raise) -/
theorem Fr.setUserOption (k : Key) (id : Nat) (key : Key) (v : Val) (first : Bool)
    (hname : key.name ≠ k.name) (hnp : (Tables.nopfxTable.map (·.1)).contains k.name = false)
    (hd : key.name = sBuildtype → k.name ≠ sDebug ∧ k.name ≠ sOptimization) :
    Fr k id (setUserOption key v first) :=
  .of_keeps fun s0 => .setUserOption (framed_initInv k id s0).toSetInv key v first (.other hname hnp hd)

end MesonModel.Options
