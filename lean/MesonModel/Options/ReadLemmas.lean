import MesonModel.Options.Model
/-
What `get_value_for` reads: the key it looks up (`ensureKey`), the object it resolves to (`resolveId`), and the
effective value in terms of that object — override, else the parent's value when yielding, else its own.
-/
namespace MesonModel.Options

/-- whether a key is a builtin, or a project option, depends on the store through one table -/
theorem isBuiltin_congr {s s' : Store} (h : s'.moduleOptions = s.moduleOptions) (k : Key) : s'.isBuiltin k = s.isBuiltin k := by
  unfold Store.isBuiltin
  rw [h]

theorem isProjectOption_congr {s s' : Store} (h : s'.projectOptions = s.projectOptions) (k : Key) :
    s'.isProjectOption k = s.isProjectOption k := by
  unfold Store.isProjectOption
  rw [h]

theorem ensureKey_host (s : Store) (k : Key) (h : k.machine = .host) : ensureKey s k = k := by
  obtain ⟨n, sb, m⟩ := k
  simp at h
  subst h
  unfold ensureKey Key.asHost
  split <;> rfl

theorem ensureKey_name (s : Store) (k : Key) : (ensureKey s k).name = k.name := by
  unfold ensureKey Key.asHost
  split <;> rfl

/-- the machine of a key is settled by its name and the store, so settling it twice changes nothing -/
theorem ensureKey_idem (s : Store) (k : Key) : ensureKey s (ensureKey s k) = ensureKey s k := by
  unfold ensureKey
  by_cases hc : (!(s.isCross && isPerMachine k)) = true
  · simp [hc, Key.asHost]
  · simp [hc]

/-- the object a key resolves to is registered under a key of the same name -/
theorem resolveId_name {s : Store} {key : Key} {id' : Nat} (h : resolveId s key = .ok id') :
    ∃ key', key'.name = key.name ∧ alookup key' s.options = some id' := by
  have hn := ensureKey_name s key
  revert h
  fun_cases resolveId s key
  -- registered under the key itself, or under its global form; the other two exits raise
  case case1 k id h1 =>
    rintro ⟨⟩
    exact ⟨_, hn, h1⟩
  case case3 k _ _ id h2 =>
    rintro ⟨⟩
    exact ⟨_, by simpa [Key.global] using hn, h2⟩
  all_goals nofun

/-- the object `set_option` writes is registered under a key of the name asked for -/
theorem resolveForSet_name {s : Store} {key : Key} {id : Nat} (h : resolveForSet s key = .ok id) :
    ∃ key', key'.name = key.name ∧ alookup key' s.options = some id := by
  refine resolveId_name (key := key) ?_
  unfold resolveForSet at h
  split at h
  · cases h
    assumption
  · cases h
  · cases h

theorem resolveId_registered {s : Store} {k : Key} {id : Nat} (hm : k.machine = .host)
    (hk : alookup k s.options = some id) : resolveId s k = .ok id := by
  simp [resolveId, ensureKey_host s k hm, hk]

theorem resolveId_global {s : Store} {k : Key} {id : Nat} (hm : k.machine = .host) (hno : alookup k s.options = none)
    (hnp : s.isProjectOption k = false) (hg : alookup k.global s.options = some id) : resolveId s k = .ok id := by
  simp [resolveId, ensureKey_host s k hm, hno, hnp, hg]

/-- **effective value**: override > yielding parent > own value (options.py:855-864) -/
theorem getValueFor_eq (s : Store) (k : Key) (id : Nat) (o : Obj)
    (hr : resolveId s (ensureKey s k) = .ok id) (ho : s.heap[id]? = some o) :
    getValueFor s k =
      match alookup (ensureKey s k) s.augments with
      | some v => if (ensureKey s k).sub.isNone then .error .assertion else .ok v
      | none =>
        if o.yielding then
          match o.parent with
          | none => .error .attribute
          | some pid => (match s.heap[pid]? with | some p => .ok p.value | none => .error .unsupported)
        else .ok o.value := by
  simp only [getValueFor, getIdAndValue, hr, ho]
  cases alookup (ensureKey s k) s.augments with
  | some v => by_cases hs : (ensureKey s k).sub.isNone <;> simp [hs, Except.map]
  | none =>
    by_cases hy : o.yielding
    · cases o.parent with
      | none => simp [hy, Except.map]
      | some pid => cases hh : s.heap[pid]? <;> simp [hy, hh, Except.map]
    · simp [hy, Except.map]

section host
variable {s : Store} {k : Key} {id : Nat} {o : Obj} (hm : k.machine = .host) (hr : resolveId s k = .ok id)
  (ho : s.heap[id]? = some o)
include hm hr ho

theorem getValueFor_override {v : Val} (ha : alookup k s.augments = some v) (hs : k.sub.isSome = true) :
    getValueFor s k = .ok v := by
  have he := ensureKey_host s k hm
  rw [getValueFor_eq s k id o (by rw [he]; exact hr) ho, he, ha]
  cases hk : k.sub <;> simp_all

theorem getValueFor_own (ha : alookup k s.augments = none) (hy : o.yielding = false) : getValueFor s k = .ok o.value := by
  have he := ensureKey_host s k hm
  rw [getValueFor_eq s k id o (by rw [he]; exact hr) ho, he, ha]
  simp [hy]

end host

theorem getValueFor_inheriting (s : Store) (k : Key) (id pid : Nat) (o p : Obj) (hm : k.machine = .host)
    (hk : alookup k s.options = some id) (ho : s.heap[id]? = some o) (ha : alookup k s.augments = none)
    (hy : o.yielding = true) (hp : o.parent = some pid) (hpo : s.heap[pid]? = some p) :
    getValueFor s k = .ok p.value := by
  have he := ensureKey_host s k hm
  rw [getValueFor_eq s k id o (by rw [he]; exact resolveId_registered hm hk) ho, he, ha]
  simp [hy, hp, hpo]

end MesonModel.Options
