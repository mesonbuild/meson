import MesonModel.Options.ReadLemmas
/-
A program logic for the monad `M` with the invariant as a parameter: `Keeps P m` says that running `m`, to
completion or to an exception, leads from a store with `P` to a store with `P`.  The rules follow the constructs the
model is written in (`pure`, `>>=`, `get`, `modify`, `ofExcept`, `assert`, `catchMeson`, `forEach`).

What an invariant has to survive is collected in records, by what the calls of the model do to the store:
`SetInv` for `set_option` / `set_user_option` (values and `yielding` flags of existing objects, overrides, pending
values), `InitInv` for the `initialize_from_*` calls and `meson configure` (they set values and touch the other dicts),
`UpdInv` for `update_project_options`, `OpInv` for all calls, those that register, replace and remove option objects
included.  `SetInv` and `InitInv` are scoped: `P` need only survive writes to the options whose names are in `N` (their
objects: the ids in `I`), and the walk asks of each call that the names it addresses (`Addr`) are in `N`.  With
everything for `N` and `I` this is an invariant of all stores (`Wf`, `HeapValid`, `ParentOk`, `ParentCurrent`, what
`pending_subproject_options` holds); with the names other than `k`'s it is the frame of option `k`
(`framed_initInv`, Options/PrecLemmas); `UpdInv` with the ids allocated during the call is the frame of
`update_project_options` over object identities (`keptFrom_updInv`, Life/Frame).  The loop bodies of the
`initialize_from_*` calls come first, and the two compound updates of `update_project_options` that the records speak
of, as functions on stores.

`Keeps` and the records are in namespace `MesonModel.Life`, where the invariant of a build directory
(`Life/Invariant.lean`) is stated with them.
-/
namespace MesonModel.Options
open M

/-- body of the `project(default_options)` loop of `initialize_from_top_level_project_call` -/
def stepPdo (kv : Key × Val) : M Unit := do
  let s ← get
  if !s.isCross && kv.1.isForBuild then M.pure ()
  else if kv.1.subTruthy then
    modify (fun s => { s with pendingSub := ainsert kv.1 kv.2 s.pendingSub })
  else do let _ ← setUserOption kv.1 kv.2 true; M.pure ()

/-- body of its machine-file / command-line loop -/
def stepMC (kv : Key × Val) : M Unit := do
  let s ← get
  if !s.isCross && kv.1.isForBuild then M.pure ()
  else if !kv.1.subTruthy then do let _ ← setUserOption kv.1 kv.2 true; M.pure ()
  else M.pure ()

/-- body of the final loop of `initialize_from_subproject_call` (`existing` = the overrides present before the loop) -/
def stepSub (existing : Dict) (sub : Str) (kv : Key × Val) : M Unit := do
  let (key, v) := kv
  let s ← get
  if key.sub != some sub then do
    let skip ← (match key.sub with
      | some x =>
        if s.subprojects.contains x then
          match optionHasValue s key v with
          | .ok hv => M.pure (!hv)
          | .error e => fail e
        else M.pure false
      | none => M.pure false)
    if skip then M.pure ()
    else modify (fun s => { s with pendingSub := ainsert key v s.pendingSub })
  else do
    modify (fun s => { s with pendingSub := aerase key s.pendingSub, pending := aerase key s.pending })
    if ahas key existing then M.pure ()
    else do let _ ← setUserOption key v true; M.pure ()

/-- what `repointChildren oid nid` does to one object when `n` is the replacement: an option that yielded to `oid`
yields to the replacement, or stops yielding when that has another class -/
def repointFn (n : Obj) (oid nid : Nat) (c : Obj) : Obj :=
  if c.parent = some oid then
    (if n.kind.sameClass c.kind then { c with parent := some nid } else { c with parent := none, yielding := false })
  else c

/-- the store after `alloc n; options[key] := nid; repointChildren oid nid` -/
def replacedStore (s : Store) (key : Key) (n : Obj) (oid : Nat) : Store :=
  { s with heap := (s.heap ++ [n]).map (fun c => repointFn n oid s.heap.length c), options := ainsert key s.heap.length s.options }

/-- what `unlinkChildren ids` does to one object: an option that yielded to one of `ids` stops yielding -/
def unlinkFn (ids : List Nat) (c : Obj) : Obj :=
  match c.parent with
  | some pid => if ids.contains pid then { c with parent := none, yielding := false } else c
  | none => c

/-- the store after the removal pass of `update_project_options`: the keys `gone` are unregistered and the options
that yielded to their objects are unlinked -/
def prunedStore (s : Store) (gone : Key → Bool) : Store :=
  { s with heap := s.heap.map (unlinkFn ((s.options.filter (fun p => gone p.1)).map (·.2))),
           options := s.options.filter (fun p => !(gone p.1)),
           projectOptions := s.projectOptions.filter (fun k => !(gone k)) }

/-! Re-pointing and unlinking rewrite the link of an object (`parent`, `yielding`) and nothing else, and only of the
children of the objects named. -/

theorem repointFn_kind_value (n : Obj) (oid nid : Nat) (c : Obj) :
    (repointFn n oid nid c).kind = c.kind ∧ (repointFn n oid nid c).value = c.value := by
  unfold repointFn
  split
  · split <;> exact ⟨rfl, rfl⟩
  · exact ⟨rfl, rfl⟩

/-- a parent pointer found after re-pointing is the one found before, or it is the replacement, which has the child's
class -/
theorem repointFn_parent {n : Obj} {oid nid pid : Nat} {c : Obj} (h : (repointFn n oid nid c).parent = some pid) :
    c.parent = some pid ∧ pid ≠ oid ∨ c.parent = some oid ∧ pid = nid ∧ n.kind.sameClass c.kind = true := by
  unfold repointFn at h
  split at h
  · next hc =>
    split at h
    · next hk => exact .inr ⟨hc, (Option.some.inj h).symm, hk⟩
    · cases h
  · next hc => exact .inl ⟨h, fun e => hc (e ▸ h)⟩

theorem unlinkFn_kind_value (ids : List Nat) (c : Obj) :
    (unlinkFn ids c).kind = c.kind ∧ (unlinkFn ids c).value = c.value := by
  unfold unlinkFn
  split
  · split <;> exact ⟨rfl, rfl⟩
  · exact ⟨rfl, rfl⟩

/-- a parent pointer found after unlinking was there before, and is none of the removed objects -/
theorem unlinkFn_parent {ids : List Nat} {c : Obj} {pid : Nat} (h : (unlinkFn ids c).parent = some pid) :
    c.parent = some pid ∧ ids.contains pid = false := by
  unfold unlinkFn at h
  split at h
  · next p hp =>
    split at h
    · cases h
    · next hc =>
      cases hp.symm.trans h
      exact ⟨hp, Bool.eq_false_iff.mpr hc⟩
  · next hn => cases hn.symm.trans h

theorem getElem?_append_old {α : Type} (l : List α) (x : α) (i : Nat) (c : α) (h : l[i]? = some c) :
    (l ++ [x])[i]? = some c := by
  rw [List.getElem?_append_left (List.getElem?_eq_some_iff.mp h).1]
  exact h

theorem replacedStore_new (s : Store) (key : Key) (n : Obj) (oid : Nat) :
    (replacedStore s key n oid).heap[s.heap.length]? = some (repointFn n oid s.heap.length n) := by
  simp [replacedStore]

theorem replacedStore_old (s : Store) (key : Key) (n : Obj) (oid : Nat) {i : Nat} {c : Obj} (h : s.heap[i]? = some c) :
    (replacedStore s key n oid).heap[i]? = some (repointFn n oid s.heap.length c) := by
  rw [replacedStore, List.getElem?_map, getElem?_append_old s.heap n i c h]
  rfl

theorem replaceObj_eq (key : Key) (nobj old : Obj) (oid : Nat) (b : Bool) (s : Store) :
    replaceObj key nobj old oid b s =
      (if b then M.pure () else catchMeson (objSetValue s.heap.length old.value) (M.pure ()))
        (replacedStore s key { nobj with parent := linkParent s key nobj,
                                         yielding := (linkParent s key nobj).isSome && (b || old.parent.isNone || old.yielding) } oid) := by
  simp [replaceObj, bind, M.bind, M.get, alloc, M.modify, repointChildren, replacedStore, repointFn]

end MesonModel.Options

namespace MesonModel.Life
open MesonModel.Options MesonModel.Options.M

structure Keeps (P : Store → Prop) {α : Type} (m : M α) : Prop where
  run : ∀ s, P s → P (m s).2

namespace Keeps
variable {P : Store → Prop} {α β : Type}
/- `pure'` and `bind'` are `pure` and `bind` for `M.pure` and `M.bind` written out, as the recursive functions of the
model (`forEach`, `setFromConfigure`) have them. -/
theorem pure' (a : α) : Keeps P (M.pure a) := ⟨fun _ h => h⟩
theorem pure (a : α) : Keeps P (Pure.pure a : M α) := ⟨fun _ h => h⟩
theorem fail (e : Err) : Keeps P (M.fail e : M α) := ⟨fun _ h => h⟩
theorem get : Keeps P M.get := ⟨fun _ h => h⟩
theorem ofExcept (e : Except Err α) : Keeps P (M.ofExcept e) := by
  cases e <;> exact ⟨fun _ h => h⟩
theorem assert (b : Bool) : Keeps P (M.assert b) := by
  cases b <;> exact ⟨fun _ h => h⟩
theorem modify {f : Store → Store} (hf : ∀ s, P s → P (f s)) : Keeps P (M.modify f) := ⟨fun s h => hf s h⟩
theorem bind' {m : M α} {f : α → M β} (hm : Keeps P m) (hf : ∀ a, Keeps P (f a)) : Keeps P (M.bind m f) := by
  constructor
  intro s h
  have h1 := hm.run s h
  unfold M.bind
  cases hr : m s with
  | mk r s' =>
    rw [hr] at h1
    cases r with
    | ok a => exact (hf a).run s' h1
    | error e => exact h1
theorem bind {m : M α} {f : α → M β} (hm : Keeps P m) (hf : ∀ a, Keeps P (f a)) : Keeps P (m >>= f) := bind' hm hf
theorem catchMeson {m h : M α} (hm : Keeps P m) (hh : Keeps P h) : Keeps P (M.catchMeson m h) := by
  constructor
  intro s hs
  have h1 := hm.run s hs
  unfold M.catchMeson
  cases hr : m s with
  | mk r s' =>
    rw [hr] at h1
    cases r with
    | ok a => exact h1
    | error e => cases e <;> first | exact hh.run s' h1 | exact h1
theorem forEach {γ : Type} {f : γ → M Unit} (hf : ∀ x, Keeps P (f x)) : ∀ l, Keeps P (M.forEach f l)
  | [] => pure' ()
  | x :: r => bind' (hf x) (fun _ => forEach hf r)
theorem getObj (id : Nat) : Keeps P (getObj id) := by
  constructor
  intro s h
  unfold MesonModel.Options.getObj
  split <;> exact h

theorem forEachMem {γ : Type} {f : γ → M Unit} : ∀ (l : List γ), (∀ x ∈ l, Keeps P (f x)) → Keeps P (M.forEach f l)
  | [], _ => pure' ()
  | x :: r, h => bind' (h x (by simp)) (fun _ => forEachMem r (fun y hy => h y (by simp [hy])))

theorem ite {c : Prop} [Decidable c] {a b : M α} (ha : Keeps P a) (hb : Keeps P b) : Keeps P (if c then a else b) := by
  split <;> assumption

/-- the shape `do` gives to an `if` that is followed by further steps `k` -/
theorem ite_bind {c : Prop} [Decidable c] {a b : M α} {k : α → M β} (ha : Keeps P a) (hb : Keeps P b)
    (hk : ∀ x, Keeps P (k x)) : Keeps P (if c then a >>= k else b >>= k) := by
  split
  · exact bind ha hk
  · exact bind hb hk

/-- what follows `ofExcept e` may use that `e` was a value -/
theorem bind_ofExcept {e : Except Err α} {f : α → M β} (h : ∀ a, e = .ok a → Keeps P (f a)) :
    Keeps P (M.ofExcept e >>= f) := by
  cases e with
  | error x => exact ⟨fun _ hs => hs⟩
  | ok a => exact h a rfl

/-! Where a step depends on the store it starts from (a key just looked up is still absent, an id just read is
still registered), the run from that store is followed: `P ((m >>= f) s).2` step by step. -/

theorem bind_get {f : Store → M β} (h : ∀ s, P s → P (f s s).2) : Keeps P (M.get >>= f) := ⟨h⟩

theorem run_bind_get {f : Store → M β} {s : Store} (h : P (f s s).2) : P ((M.get >>= f) s).2 := h

theorem run_bind_modify {g : Store → Store} {f : Unit → M β} {s : Store} (h : P (f () (g s)).2) :
    P ((M.modify g >>= f) s).2 := h

theorem run_bind_alloc {o : Obj} {f : Nat → M β} {s : Store} (h : P (f s.heap.length { s with heap := s.heap ++ [o] }).2) :
    P ((alloc o >>= f) s).2 := h

theorem run_bind_assert {b : Bool} {f : Unit → M β} {s : Store} (hs : P s) (h : b = true → P (f () s).2) :
    P ((M.assert b >>= f) s).2 := by
  cases b
  · exact hs
  · exact h rfl

theorem run_bind_getObj {id : Nat} {f : Obj → M β} {s : Store} (hs : P s) (h : ∀ o, s.heap[id]? = some o → P (f o s).2) :
    P ((MesonModel.Options.getObj id >>= f) s).2 := by
  show P (M.bind (MesonModel.Options.getObj id) f s).2
  unfold M.bind MesonModel.Options.getObj
  cases ho : s.heap[id]? with
  | none => exact hs
  | some o => exact h o ho
end Keeps

/-- what a call on `key` may write when the option names in `N` are the ones it may touch: `key`'s own name, the
directory options that follow `prefix`, the dependents of `buildtype` -/
def Addr (N : Str → Prop) (key : Key) : Prop :=
  N key.name ∧ (key.name = sPrefix → ∀ row ∈ Tables.nopfxTable, N row.1) ∧
    (key.name = sBuildtype → N sDebug ∧ N sOptimization)

theorem Addr.all (key : Key) : Addr (fun _ => True) key := ⟨trivial, fun _ _ _ => trivial, fun _ => ⟨trivial, trivial⟩⟩

/-- `P` survives what `set_option` and `set_user_option` do to the options named in `N`: the objects they write
(ids with `I`) are those registered under such names, the overrides they write are under such keys.  An invariant of
all stores takes everything for `N` and `I`; a frame takes the names other than the observed one. -/
structure SetInv (N : Str → Prop) (I : Nat → Prop) (P : Store → Prop) : Prop where
  own : ∀ s key id, N key.name → alookup key s.options = some id → P s → I id
  setValue : ∀ id v, I id → Keeps P (objSetValue id v)
  setYielding : ∀ id b, I id → Keeps P (objSetYielding id b)
  augments : ∀ s key a, N key.name → (∀ k', k' ≠ key → alookup k' a = alookup k' s.augments) → P s →
    P { s with augments := a }
  pending : ∀ s p, P s → P { s with pending := p }

/-- … and what the `initialize_from_*` calls and `set_from_configure_command` do besides -/
structure InitInv (N : Str → Prop) (I : Nat → Prop) (P : Store → Prop) : Prop extends SetInv N I P where
  pendingSub : ∀ s p, P s → P { s with pendingSub := p }
  subprojects : ∀ s l, P s → P { s with subprojects := l }

theorem InitInv.and {N : Str → Prop} {I : Nat → Prop} {P Q : Store → Prop} (hp : InitInv N I P) (hq : InitInv N I Q) :
    InitInv N I (fun s => P s ∧ Q s) where
  own s key id hn hk h := hp.own s key id hn hk h.1
  setValue id v hi := ⟨fun s h => ⟨(hp.setValue id v hi).run s h.1, (hq.setValue id v hi).run s h.2⟩⟩
  setYielding id b hi := ⟨fun s h => ⟨(hp.setYielding id b hi).run s h.1, (hq.setYielding id b hi).run s h.2⟩⟩
  augments s key a hn ha h := ⟨hp.augments s key a hn ha h.1, hq.augments s key a hn ha h.2⟩
  pending s p h := ⟨hp.pending s p h.1, hq.pending s p h.2⟩
  pendingSub s p h := ⟨hp.pendingSub s p h.1, hq.pendingSub s p h.2⟩
  subprojects s l h := ⟨hp.subprojects s l h.1, hq.subprojects s l h.2⟩

/-- what `update_project_options(…, sub)` does, for option objects with `A`: a new key with a fresh object linked to its
parent; the object under a key of `sub` replaced, its children re-pointed, and the old value tried on the replacement (a
fresh id, which has `I`); keys of `sub` removed and their children unlinked -/
structure UpdInv (sub : Str) (I : Nat → Prop) (P : Store → Prop) (A : Obj → Prop) : Prop where
  fresh : ∀ s, P s → I s.heap.length
  setFresh : ∀ id v, I id → Keeps P (objSetValue id v)
  insertLinked : ∀ s k o y po, A o → alookup k s.options = none → P s →
    P { s with heap := s.heap ++ [{ o with parent := linkParent s k o, yielding := y }],
               options := ainsert k s.heap.length s.options, projectOptions := po }
  replace : ∀ s k o y oid, k.sub = some sub → A o → alookup k s.options = some oid → P s →
    P (replacedStore s k { o with parent := linkParent s k o, yielding := y } oid)
  prune : ∀ s gone, (∀ k, gone k = true → k.sub = some sub) → P s → P (prunedStore s gone)

/-- what all the calls do, for an invariant of all stores: besides the above, `add_system_option` / `add_module_option`
register a new key with a fresh object as it is; `A` is what `mkObj` delivers -/
structure OpInv (P : Store → Prop) (A : Obj → Prop) : Prop extends InitInv (fun _ => True) (fun _ => True) P where
  moduleOptions : ∀ s l, P s → P { s with moduleOptions := l }
  insert : ∀ s k o, A o → alookup k s.options = none → P s →
    P { s with heap := s.heap ++ [o], options := ainsert k s.heap.length s.options }
  insertLinked : ∀ s k o y po, A o → alookup k s.options = none → P s →
    P { s with heap := s.heap ++ [{ o with parent := linkParent s k o, yielding := y }],
               options := ainsert k s.heap.length s.options, projectOptions := po }
  replace : ∀ s k o y oid, A o → alookup k s.options = some oid → P s →
    P (replacedStore s k { o with parent := linkParent s k o, yielding := y } oid)
  prune : ∀ s gone, P s → P (prunedStore s gone)
  ofMkObj : ∀ sp o, mkObj sp = .ok o → A o
  revalued : ∀ o v w, A o → validate o.kind v = .ok w → A { o with value := w }

theorem OpInv.toUpdInv {P : Store → Prop} {A : Obj → Prop} (h : OpInv P A) (sub : Str) : UpdInv sub (fun _ => True) P A where
  fresh _ _ := trivial
  setFresh := h.setValue
  insertLinked := h.insertLinked
  replace s k o y oid _ := h.replace s k o y oid
  prune s gone _ := h.prune s gone

end MesonModel.Life
