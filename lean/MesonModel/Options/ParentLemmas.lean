import MesonModel.Options.KeepsOps
/-
`add_project_option` links a yielding option only to a parent of the *same class* (`type(parent) is type(valobj)`,
options.py:921; `Kind.sameClass` = same constructor).  As an invariant of every call sequence: a linked parent
always has the child's class.  Consequence: what a yielding option reports has the type its own class stores;
it satisfies the child's own choices/range when the two options are declared alike.
-/
namespace MesonModel.Options
open M MesonModel.Life

def ParentOk (s : Store) : Prop :=
  ∀ (i : Nat) (o : Obj) (pid : Nat), s.heap[i]? = some o → o.parent = some pid →
    ∃ p : Obj, s.heap[pid]? = some p ∧ p.kind.sameClass o.kind = true

structure PresPar {α : Type} (m : M α) : Prop where
  run : ∀ s, ParentOk s → ParentOk (m s).2

namespace PresPar
variable {α β : Type}
theorem pure (a : α) : PresPar (Pure.pure a : M α) := ⟨fun _ h => h⟩
theorem assert (b : Bool) : PresPar (M.assert b) := by
  cases b <;> exact ⟨fun _ h => h⟩
theorem of_keeps {m : M α} (h : Keeps ParentOk m) : PresPar m := ⟨h.run⟩
end PresPar

theorem parentOk_updObj {s : Store} (id : Nat) (f : Obj → Obj)
    (hk : ∀ o, (f o).kind = o.kind) (hp : ∀ o, (f o).parent = o.parent) (h : ParentOk s) :
    ParentOk (s.updObj id f) := by
  unfold Store.updObj
  cases hid : s.heap[id]? with
  | none => exact h
  | some oid =>
    show ParentOk { s with heap := s.heap.set id (f oid) }
    intro i o pid hi hpar
    simp only [List.getElem?_set] at hi ⊢
    have hlen : id < s.heap.length := (List.getElem?_eq_some_iff.mp hid).1
    -- the object at i before the update
    have hob : ∃ o0, s.heap[i]? = some o0 ∧ o.kind = o0.kind ∧ o.parent = o0.parent := by
      by_cases e : id = i
      · subst e
        simp [hlen] at hi
        subst hi
        exact ⟨oid, hid, hk oid, hp oid⟩
      · simp [e] at hi
        exact ⟨o, hi, rfl, rfl⟩
    obtain ⟨o0, h0, hk0, hp0⟩ := hob
    obtain ⟨p, hpp, hs⟩ := h i o0 pid h0 (by rw [← hp0]; exact hpar)
    by_cases e : id = pid
    · subst e
      rw [hid] at hpp
      cases hpp
      exact ⟨f oid, by simp [hlen], by rw [hk oid, hk0]; exact hs⟩
    · exact ⟨p, by simp [e, hpp], by rw [hk0]; exact hs⟩

theorem parentOk_alloc {s : Store} {o : Obj} (h : ParentOk s)
    (ho : ∀ pid, o.parent = some pid → ∃ p, s.heap[pid]? = some p ∧ p.kind.sameClass o.kind = true) :
    ParentOk { s with heap := s.heap ++ [o] } := by
  intro i x pid hi hpar
  -- an old object or the new one: either way its parent is an old object, which is still there
  have : ∃ p, s.heap[pid]? = some p ∧ p.kind.sameClass x.kind = true := by
    rw [List.getElem?_append] at hi
    split at hi
    · exact h i x pid hi hpar
    · cases List.mem_singleton.mp (List.mem_of_getElem? hi)
      exact ho pid hpar
  obtain ⟨p, hp, hs⟩ := this
  exact ⟨p, getElem?_append_old _ _ _ _ hp, hs⟩

theorem parentOk_map {s : Store} (f : Obj → Obj) (fk : ∀ c, (f c).kind = c.kind)
    (fp : ∀ c pid, (f c).parent = some pid →
      c.parent = some pid ∨ ∃ p, s.heap[pid]? = some p ∧ p.kind.sameClass c.kind = true)
    (h : ParentOk s) : ParentOk { s with heap := s.heap.map f } := by
  intro i o pid hi hpar
  simp only [List.getElem?_map, Option.map_eq_some_iff] at hi
  obtain ⟨c, hc, rfl⟩ := hi
  have hp : ∃ p, s.heap[pid]? = some p ∧ p.kind.sameClass c.kind = true := by
    rcases fp c pid hpar with h1 | h1
    · exact h i c pid hc h1
    · exact h1
  obtain ⟨p, hp, hs⟩ := hp
  exact ⟨f p, by simp [hp], by rw [fk, fk]; exact hs⟩

theorem asRoot_ne_of_subTruthy {k : Key} (h : k.subTruthy = true) : k.asRoot ≠ k := by
  intro e
  cases k with
  | mk n sb m =>
    simp only [Key.asRoot, Key.mk.injEq] at e
    simp only [Key.subTruthy] at h
    rw [← e.2.1] at h
    simp at h

/-- a link that `link_to_parent` assigns leads to the object registered under the top-level key, which is another key,
and that object has the option's class -/
theorem linkParent_some {s : Store} {k : Key} {o : Obj} {pid : Nat} (ho : o.parent = none)
    (h : linkParent s k o = some pid) : (alookup k.asRoot s.options = some pid ∧ k.asRoot ≠ k) ∧
      ∃ p : Obj, s.heap[pid]? = some p ∧ p.kind.sameClass o.kind = true := by
  revert h
  fun_cases linkParent s k o
  case case1 hc pid hroot p hh hsame =>
    rintro ⟨⟩
    simp only [Bool.and_eq_true] at hc
    exact ⟨⟨hroot, asRoot_ne_of_subTruthy hc.2⟩, p, hh, hsame⟩
  -- the other exits hand on `o.parent`
  all_goals exact fun h => nomatch ho.symm.trans h

theorem mkObj_parent {sp : ObjSpec} {o : Obj} (h : mkObj sp = .ok o) : o.parent = none := by
  revert h
  fun_cases mkObj sp
  · rintro ⟨⟩
    rfl
  · nofun

/-- the two places where a parent pointer is written (`add_project_option` and the replacement of an object by
`update_project_options`) write it only to an object of the same class, and children are re-pointed only at a
replacement of their own class -/
theorem parentOk_opInv : OpInv ParentOk (fun o => o.parent = none) where
  own _ _ _ _ _ _ := trivial
  setValue id v _ := Keeps.bind (Keeps.getObj id) fun _ => Keeps.bind (Keeps.ofExcept _) fun _ =>
    Keeps.modify fun _ hs => parentOk_updObj id _ (fun _ => rfl) (fun _ => rfl) hs
  setYielding id _ _ := Keeps.modify fun _ hs => parentOk_updObj id _ (fun _ => rfl) (fun _ => rfl) hs
  augments _ _ _ _ _ hs := hs
  pending _ _ hs := hs
  pendingSub _ _ hs := hs
  subprojects _ _ hs := hs
  moduleOptions _ _ hs := hs
  insert _ _ _ ho _ hs := parentOk_alloc hs fun pid hp => by rw [ho] at hp; cases hp
  insertLinked s k o _ _ ho _ hs := parentOk_alloc hs fun _ hp => (linkParent_some ho hp).2
  replace s k o y oid ho _ hs := by
    have h1 : ParentOk { s with heap := s.heap ++ [{ o with parent := linkParent s k o, yielding := y }] } :=
      parentOk_alloc hs fun _ hp => (linkParent_some ho hp).2
    refine parentOk_map _ (fun c => (repointFn_kind_value _ oid _ c).1) (fun c pid hp => ?_) h1
    rcases repointFn_parent hp with ⟨h, -⟩ | ⟨-, rfl, hc⟩
    · exact .inl h
    · exact .inr ⟨_, by simp, hc⟩
  prune s gone hs :=
    parentOk_map _ (fun c => (unlinkFn_kind_value _ c).1) (fun c pid hp => .inl (unlinkFn_parent hp).1) hs
  ofMkObj _ _ h := mkObj_parent h
  revalued _ _ _ ho _ := ho

theorem PresPar.resetPrefixedOptions (a b : Str) : PresPar (resetPrefixedOptions a b) :=
  .of_keeps (Keeps.resetPrefixedOptions parentOk_opInv.toSetInv a b fun _ _ => trivial)
theorem PresPar.setOption (k : Key) (v : Val) (f : Bool) : PresPar (setOption k v f) :=
  .of_keeps (Keeps.setOption parentOk_opInv.toSetInv k v f (.all _))
theorem PresPar.setUserOption (k : Key) (v : Val) (f : Bool) : PresPar (setUserOption k v f) :=
  .of_keeps (Keeps.setUserOption parentOk_opInv.toSetInv k v f (.all _))
theorem PresPar.addSystemOption (k : Key) (o : Obj) (ho : o.parent = none) : PresPar (addSystemOption k o) :=
  .of_keeps (Keeps.addSystemOption parentOk_opInv k o ho)

theorem PresPar.addProjectOption (k0 : Key) (o : Obj) (ho : o.parent = none) : PresPar (addProjectOption k0 o) :=
  .of_keeps (Keeps.addProjectOption (parentOk_opInv.toUpdInv []) k0 o ho)

theorem PresPar.hardResetFromPrefix (p : Str) : PresPar (hardResetFromPrefix p) :=
  .of_keeps (Keeps.hardResetFromPrefix parentOk_opInv.toInitInv p)
theorem PresPar.firstHandlePrefix (a b c : Dict) : PresPar (firstHandlePrefix a b c) :=
  .of_keeps (Keeps.firstHandlePrefix parentOk_opInv.toInitInv a b c)
theorem PresPar.initTop (a b c : Dict) : PresPar (initTop a b c) :=
  .of_keeps (Keeps.initTop parentOk_opInv.toInitInv a b c)

theorem PresPar.updateProjectOptions (sub : Str) (objs : List (Key × Obj)) (ho : ∀ kv ∈ objs, kv.2.parent = none) :
    PresPar (updateProjectOptions sub objs) :=
  .of_keeps (Keeps.updateProjectOptions (parentOk_opInv.toUpdInv sub) objs ho)

theorem parentOk_new (c : Bool) : ParentOk (Store.new c) := by
  intro i o pid h
  simp [Store.new] at h

theorem parentOk_run (ops : List Op) (s : Store) (h : ParentOk s) : ParentOk (run s ops) :=
  Keeps.run_ops parentOk_opInv ops s h

end MesonModel.Options
