import MesonModel.Options.SubLemmas
import MesonModel.Options.KeepsOps
/-
`initialize_from_top_level_project_call` followed by `initialize_from_subproject_call`: what the top-level call
leaves behind for a global option `n` *and* for the subproject's view of it (`sub:n`): the global value (steps 1, 3, 4),
the recorded `sub:n` of the parent's `default_options` (step 5, `pending_subproject_options`), no override yet.
-/
namespace MesonModel.Options
open M MesonModel.Life

/-! ## `pending_subproject_options` is written by nobody but the top-level `default_options` loop -/

/-- `m` never writes `pending_subproject_options` -/
structure KP {α : Type} (m : M α) : Prop where
  run : ∀ s, (m s).2.pendingSub = s.pendingSub

namespace KP
variable {α β : Type}
theorem pure (a : α) : KP (Pure.pure a : M α) := ⟨fun _ => rfl⟩
theorem assert (b : Bool) : KP (M.assert b) := by cases b <;> exact ⟨fun _ => rfl⟩
theorem of_keeps {m : M α} (h : ∀ ps, Keeps (fun s => s.pendingSub = ps) m) : KP m :=
  ⟨fun s => (h s.pendingSub).run s rfl⟩
end KP

theorem pendingSub_setInv (ps : Dict) : SetInv (fun _ => True) (fun _ => True) (fun s => s.pendingSub = ps) where
  own _ _ _ _ _ _ := trivial
  setValue id v _ := Keeps.bind (Keeps.getObj id) fun _ => Keeps.bind (Keeps.ofExcept _) fun _ =>
    Keeps.modify fun s hs => (updObj_pendingSub s id _).trans hs
  setYielding id _ _ := Keeps.modify fun s hs => (updObj_pendingSub s id _).trans hs
  augments _ _ _ _ _ hs := hs
  pending _ _ hs := hs

theorem KP.resetPrefixedOptions (a b : Str) : KP (resetPrefixedOptions a b) :=
  .of_keeps fun ps => Keeps.resetPrefixedOptions (pendingSub_setInv ps) a b fun _ _ => trivial

theorem KP.setOption (key : Key) (v : Val) (first : Bool) : KP (setOption key v first) :=
  .of_keeps fun ps => Keeps.setOption (pendingSub_setInv ps) key v first (.all _)

theorem KP.setUserOption (key : Key) (v : Val) (first : Bool) : KP (setUserOption key v first) :=
  .of_keeps fun ps => Keeps.setUserOption (pendingSub_setInv ps) key v first (.all _)

/-- facts about a global option `n` (object `id` = `o`) and a subproject's view `sub:n` of it: no object, no project
option, no override under `sub:n`; `q` is what `pending_subproject_options` records for `sub:n`; `po` is the set of
project options -/
structure Pair (n sub : Str) (id : Nat) (po : List Key) (s : Store) (o : Obj) (q : Option Val) : Prop where
  good : Good ⟨n, none, .host⟩ id s o
  nosub : alookup (⟨n, some sub, .host⟩ : Key) s.options = none
  proj : s.projectOptions = po
  noproj : po.contains (⟨n, some sub, .host⟩ : Key) = false
  nb : s.isBuiltin ⟨n, some sub, .host⟩ = false
  aug : alookup (⟨n, some sub, .host⟩ : Key) s.augments = none
  psnd : NodupKeys s.pendingSub
  ps : alookup (⟨n, some sub, .host⟩ : Key) s.pendingSub = q
  pshost : ∀ key ∈ s.pendingSub.map Prod.fst, key.name = n → key.machine = .host

section
variable {n sub : Str} {id : Nat} {po : List Key}

theorem Pair.transfer {s s' : Store} {o : Obj} {q : Option Val} (p : Pair n sub id po s o q)
    (h1 : SameObs ⟨n, none, .host⟩ id s s') (h2 : SameObs ⟨n, some sub, .host⟩ id s s')
    (h3 : s'.pendingSub = s.pendingSub) : Pair n sub id po s' o q := by
  refine ⟨p.good.ofSame h1, ?_, ?_, p.noproj, ?_, ?_, ?_, ?_, ?_⟩
  · rw [h1.2.1]
    exact p.nosub
  · rw [h1.2.2.1]
    exact p.proj
  · rw [isBuiltin_congr h1.2.2.2.1]
    exact p.nb
  · rw [h2.2.2.2.2.2]
    exact p.aug
  · rw [h3]
    exact p.psnd
  · rw [h3]
    exact p.ps
  · rw [h3]
    exact p.pshost

/-- the subproject's view as `GoodSub` (what `subproject_precedence` needs): no override yet -/
theorem Pair.goodSub {s : Store} {o : Obj} {q : Option Val} (p : Pair n sub id po s o q) :
    GoodSub ⟨n, some sub, .host⟩ id s o none :=
  ⟨p.good.opt, p.good.obj, p.good.own, p.nosub, by simp only [Store.isProjectOption]; rw [p.proj]; exact p.noproj,
    p.nb, p.aug, p.good.ny⟩

theorem subTruthy_sub (hsub : sub ≠ []) : (⟨n, some sub, .host⟩ : Key).subTruthy = true := by
  cases sub with
  | nil => exact absurd rfl hsub
  | cons a r => rfl

/-- what `pending_subproject_options` (`d`) holds for the pair: unique keys, `q` recorded for `sub:n`, the keys named `n`
are host-machine keys -/
def Recorded (n sub : Str) (d : Dict) (q : Option Val) : Prop :=
  NodupKeys d ∧ alookup (⟨n, some sub, .host⟩ : Key) d = q ∧ ∀ key ∈ d.map Prod.fst, key.name = n → key.machine = .host

/-- an entry parked under a key of another name, or under `sub:n` itself -/
theorem Recorded.park {d : Dict} {q : Option Val} (h : Recorded n sub d q) (key : Key) (v : Val)
    (hk : key = ⟨n, some sub, .host⟩ ∨ key.name ≠ n) :
    Recorded n sub (ainsert key v d) (if key = ⟨n, some sub, .host⟩ then some v else q) := by
  refine ⟨nodupKeys_ainsert key v _ h.1, ?_, fun k hkm hkn => ?_⟩
  · rw [alookup_ainsert]
    split
    · rfl
    · exact h.2.1
  · rcases isUpdate_ainsert.mem_keys hkm with e | hm
    · subst e
      rcases hk with hk | hk
      · rw [hk]
      · exact absurd hkn hk
    · exact h.2.2 k hm hkn

theorem stepPdo_pendingSub (kv : Key × Val) (s : Store) :
    (stepPdo kv s).2.pendingSub =
      if !s.isCross && kv.1.isForBuild then s.pendingSub
      else if kv.1.subTruthy then ainsert kv.1 kv.2 s.pendingSub else s.pendingSub := by
  unfold stepPdo
  simp only [Bind.bind, M.bind, M.get]
  by_cases h1 : (!s.isCross && kv.1.isForBuild) = true
  · simp [h1, M.pure]
  · by_cases h2 : kv.1.subTruthy = true
    · simp [h1, h2, M.modify]
    · simp only [h1, h2, Bool.false_eq_true, ↓reduceIte]
      exact (Keeps.bind (Keeps.setUserOption (pendingSub_setInv _) kv.1 kv.2 true (.all _)) fun _ => Keeps.pure' ()).run s rfl

/-- the `default_options` loop records the last `sub:n` entry -/
theorem recorded_loop (hsub : sub ≠ []) (l : Dict) (s s' : Store) (q : Option Val) (h : Recorded n sub s.pendingSub q)
    (hl : ∀ kv ∈ l, kv.1 = ⟨n, none, .host⟩ ∨ kv.1 = ⟨n, some sub, .host⟩ ∨ kv.1.name ≠ n)
    (hr : M.forEach stepPdo l s = (.ok (), s')) :
    Recorded n sub s'.pendingSub (ofirst (alast ⟨n, some sub, .host⟩ l) q) := by
  have hst := subTruthy_sub (n := n) hsub
  have hf := forEach_last (fun s x => Recorded n sub s.pendingSub x) ⟨n, some sub, .host⟩ some stepPdo
    (fun kv => kv.1 = ⟨n, none, .host⟩ ∨ kv.1.name ≠ n)
    (fun v s s1 x hx hr => by
      have e := stepPdo_pendingSub (⟨n, some sub, .host⟩, v) s
      rw [hr] at e
      simp only [Key.isForBuild, hst] at e
      simpa [e] using hx.park ⟨n, some sub, .host⟩ v (.inl rfl))
    (fun kv hne hq s s1 x hx hr => by
      have e := stepPdo_pendingSub kv s
      rw [hr] at e
      rw [e]
      split
      · exact hx
      · split
        · next c2 => simpa [hne] using hx.park kv.1 kv.2 (.inr (hq.resolve_left fun e' => by simp [e', Key.subTruthy] at c2))
        · exact hx)
    l s s' q h (fun kv hkv => (hl kv hkv).elim (fun e => .inr (.inl e)) (Or.imp_right .inr)) hr
  generalize alast (⟨n, some sub, .host⟩ : Key) l = a at hf ⊢
  cases a <;> exact hf

/-- **what `initialize_from_top_level_project_call` leaves behind for `n` and for `sub:n`**: the global object holds
the first of command line, machine file, `default_options` (else what it held); `pending_subproject_options` records
the parent's `default_options` entry `sub:n` (else what it recorded before); there is still no override, object or
project option under `sub:n`. -/
theorem initTop_pair (s s' : Store) (o : Obj) (q : Option Val) (pdo cmd mf : Dict) (hsub : sub ≠ [])
    (hn : (n == sPrefix) = false) (hbt : (n == sBuildtype) = false)
    (hd : n ≠ sDebug ∧ n ≠ sOptimization) (hnp : (Tables.nopfxTable.map (·.1)).contains n = false)
    (p : Pair n sub id po s o q)
    (h1 : NoPrefix pdo) (h2 : NoPrefix cmd) (h3 : NoPrefix mf)
    (hp : ∀ kv ∈ pdo, kv.1 = ⟨n, none, .host⟩ ∨ kv.1 = ⟨n, some sub, .host⟩ ∨ kv.1.name ≠ n)
    (hc : ∀ kv ∈ cmd, kv.1 = ⟨n, none, .host⟩ ∨ kv.1 = ⟨n, some sub, .host⟩ ∨ kv.1.name ≠ n)
    (hf : ∀ kv ∈ mf, kv.1 = ⟨n, none, .host⟩ ∨ kv.1 = ⟨n, some sub, .host⟩ ∨ kv.1.name ≠ n)
    (hrun : initTop pdo cmd mf s = (.ok (), s')) :
    ∃ o', Pair n sub id po s' o' (ofirst (alast ⟨n, some sub, .host⟩ pdo) q) ∧ o'.kind = o.kind ∧
      o'.value = (match ofirst (alast ⟨n, none, .host⟩ cmd) (ofirst (alast ⟨n, none, .host⟩ mf) (alast ⟨n, none, .host⟩ pdo)) with
        | some v => cleaned o.kind v
        | none => o.value) := by
  -- a `sub:n` entry is one for a subproject
  have sub_entry : ∀ d : Dict, (∀ kv ∈ d, kv.1 = ⟨n, none, .host⟩ ∨ kv.1 = ⟨n, some sub, .host⟩ ∨ kv.1.name ≠ n) →
      ∀ kv ∈ d, kv.1 = (⟨n, none, .host⟩ : Key) ∨ kv.1.subTruthy = true ∨ kv.1.name ≠ n := fun d h kv hkv =>
    (h kv hkv).imp_right (Or.imp_left fun e => by rw [e]; exact subTruthy_sub hsub)
  -- the global option, the key tables and the overrides of name `n`: top-level precedence
  obtain ⟨o', g', hk, hkind, hv⟩ := initTop_good ⟨n, none, .host⟩ ⟨n, none, .host⟩ id s s' o pdo cmd mf rfl rfl rfl rfl
    (fun _ _ _ => rfl) hn hbt hd hnp p.good h1 h2 h3 (sub_entry pdo hp) (sub_entry cmd hc) (sub_entry mf hf) hrun
  -- `pending_subproject_options`: written by the first loop only
  obtain ⟨s1, hr1, hr2⟩ := initTop_loops pdo cmd mf h1 h2 h3 s s' hrun
  have hrec := recorded_loop hsub (buildtypeFirst pdo) s s1 q ⟨p.psnd, p.ps, p.pshost⟩
    (fun kv hkv => hp kv (mem_buildtypeFirst hkv)) hr1
  have hps : s'.pendingSub = s1.pendingSub := by
    have := (Keeps.forEach (fun kv => Keeps.stepMC (pendingSub_setInv s1.pendingSub) kv fun _ => .all _)
      (buildtypeFirst mf ++ buildtypeFirst cmd)).run s1 rfl
    rwa [hr2] at this
  rw [alast_buildtypeFirst (⟨n, some sub, .host⟩ : Key) pdo hbt, ← hps] at hrec
  exact ⟨o', ⟨g', by rw [hk.1]; exact p.nosub, hk.2.1.trans p.proj, p.noproj, by rw [isBuiltin_congr hk.2.2.1]; exact p.nb,
    by rw [hk.2.2.2 ⟨n, some sub, .host⟩ rfl]; exact p.aug, hrec.1, hrec.2.1, hrec.2.2⟩, hkind, hv⟩

end

end MesonModel.Options
