import MesonModel.Options.KeepsLemmas
import MesonModel.Options.DictLemmas
/-
One walk through the operations of the model for an arbitrary invariant `P`: each call keeps `P` when `P` survives
the primitive store updates the call is made of (`SetInv`, `InitInv`, `UpdInv`, `OpInv`).  For the setters the statement
is scoped: a call keeps `P` when `P` survives writes to the option names the call addresses.
-/
namespace MesonModel.Life
open MesonModel.Options MesonModel.Options.M

namespace Keeps
variable {N : Str → Prop} {I : Nat → Prop} {P : Store → Prop} {A : Obj → Prop}

/-! ### `set_option`, `set_user_option`, `set_from_configure_command`, the bodies of the `initialize_from_*` loops:
for the options named in `N` -/

theorem resetPrefixedOptions (h : SetInv N I P) (a b : Str) (hN : ∀ row ∈ Tables.nopfxTable, N row.1) :
    Keeps P (resetPrefixedOptions a b) := by
  refine forEachMem _ fun row hrow => bind_get fun s hs => ?_
  cases hl : alookup ({ name := row.1, sub := none, machine := .host } : Key) s.options with
  | none => exact hs
  | some id => exact (bind (getObj _) fun o => h.setValue _ _ (h.own s _ id (hN row hrow) hl hs)).run s hs

theorem setOptionTail (h : SetInv N I P) (s : Store) (key : Key) (first : Bool) (id : Nat) (v : Val) (hi : I id)
    (hk : Addr N key) : Keeps P (setOptionTail s key first id v) := by
  refine bind (getObj id) fun o => bind (ofExcept _) fun nv => bind ?_ fun old => ?_
  · split
    · exact bind (h.setValue _ _ hi) fun _ => bind (h.setYielding _ _ hi) fun _ => pure' _
    · refine bind (assert _) fun _ => bind (modify fun s hs => h.augments s key _ hk.1 (fun k' hk' => ?_) hs) fun _ => pure' _
      rw [alookup_ainsert, if_neg (Ne.symm hk')]
  · dsimp only
    split
    · exact fail _
    · split
      · next hc =>
        simp only [Bool.and_eq_true, beq_iff_eq] at hc
        split
        · exact bind (resetPrefixedOptions h _ _ (hk.2.1 hc.1.1)) fun _ => pure' _
        · exact fail _
      · exact pure' _

theorem setOptionCore (h : SetInv N I P) (key : Key) (v : Val) (first : Bool) (hk : Addr N key) :
    Keeps P (setOptionCore key v first) :=
  bind_get fun s hs => (bind (ofExcept _) fun nv1 => bind_ofExcept fun id hid =>
    have ⟨key', hn, hl⟩ := resolveForSet_name hid
    setOptionTail h s key first id nv1 (h.own s key' id (by rw [hn]; exact hk.1) hl hs) hk).run s hs

theorem setOption (h : SetInv N I P) (key : Key) (v : Val) (first : Bool) (hk : Addr N key) :
    Keeps P (setOption key v first) := by
  refine bind (setOptionCore h key v first hk) fun r => ?_
  dsimp only
  split
  · next hc =>
    simp only [Bool.and_eq_true, beq_iff_eq] at hc
    obtain ⟨hd, ho⟩ := hk.2.2 hc.1.2
    -- the dependents are neither `prefix` nor `buildtype`
    have dep : ∀ m : Str, N m → m ≠ sPrefix → m ≠ sBuildtype → Addr N (key.withName m) :=
      fun m hm h1 h2 => ⟨hm, fun e => absurd e h1, fun e => absurd e h2⟩
    split
    · split
      · exact fail _
      · exact bind (setOptionCore h _ _ _ (dep _ hd (by decide) (by decide))) fun _ =>
          bind (setOptionCore h _ _ _ (dep _ ho (by decide) (by decide))) fun _ => pure' _
    · exact fail _
  · exact pure' _

theorem setUserOption (h : SetInv N I P) (key : Key) (v : Val) (first : Bool) (hk : Addr N key) :
    Keeps P (setUserOption key v first) := by
  refine bind get fun s => ite (pure' _) (ite (setOption h key v first hk) (ite (setOption h key v first hk)
    (ite (bind (modify fun s hs => h.pending s _ hs) fun _ => ?_) (ite (setOption h key.asRoot v first hk) (fail _)))))
  split <;> exact pure' _

/-- only the entries without subproject are applied -/
theorem stepPdo (h : InitInv N I P) (kv : Key × Val) (hk : kv.1.subTruthy = false → Addr N kv.1) : Keeps P (stepPdo kv) := by
  refine bind get fun s => ?_
  split
  · exact pure' _
  · split
    · exact modify fun s hs => h.pendingSub s _ hs
    · next hst => exact bind (setUserOption h.toSetInv _ _ _ (hk (by simpa using hst))) fun _ => pure' _

theorem stepMC (h : SetInv N I P) (kv : Key × Val) (hk : kv.1.subTruthy = false → Addr N kv.1) : Keeps P (stepMC kv) := by
  refine bind get fun s => ?_
  split
  · exact pure' _
  · split
    · next hst => exact bind (setUserOption h _ _ _ (hk (by simpa using hst))) fun _ => pure' _
    · exact pure' _

/-- only the entries for subproject `sub` itself are applied -/
theorem stepSub (h : InitInv N I P) (ex : Dict) (sub : Str) (kv : Key × Val) (hk : kv.1.sub = some sub → Addr N kv.1) :
    Keeps P (stepSub ex sub kv) := by
  obtain ⟨key, v⟩ := kv
  refine bind get fun s => ?_
  split
  · refine bind ?_ fun skip => ?_
    · split
      · split
        · split
          · exact pure' _
          · exact fail _
        · exact pure' _
      · exact pure' _
    · split
      · exact pure' _
      · exact modify fun s hs => h.pendingSub s _ hs
  · next hsub =>
    refine bind (modify fun s hs => h.pending _ (aerase key s.pending) (h.pendingSub s (aerase key s.pendingSub) hs)) fun _ => ?_
    split
    · exact pure' _
    · exact bind (setUserOption h.toSetInv _ _ _ (hk (by simpa using hsub))) fun _ => pure' _

theorem configureOne (h : InitInv N I P) (kv : Key × Option Val) (hk : Addr N kv.1) : Keeps P (configureOne kv) := by
  unfold MesonModel.Options.configureOne
  dsimp only
  split
  · exact setUserOption h.toSetInv _ _ _ hk
  · refine bind_get fun s hs => ?_
    split
    · exact h.augments s kv.1 _ hk.1 (fun k' hk' => by rw [alookup_aerase, if_neg (Ne.symm hk')]) hs
    · split
      · exact hs
      · cases hl : alookup (ensureKey s kv.1) s.options with
        | none => exact hs
        | some id =>
          have hi := h.own s _ id (by rw [ensureKey_name]; exact hk.1) hl hs
          exact (bind (getObj _) fun o => bind (h.setYielding _ _ hi) fun _ => pure' _).run s hs

theorem setFromConfigure (h : InitInv N I P) : ∀ (l : List (Key × Option Val)) (d : Bool), (∀ a ∈ l, Addr N a.1) →
    Keeps P (setFromConfigure l d)
  | [], d, _ => pure' d
  | kv :: r, d, hl => bind' (configureOne h kv (hl kv (List.mem_cons_self ..))) fun b =>
      setFromConfigure h r (d || b) fun a ha => hl a (List.mem_cons_of_mem _ ha)

/-! ### the prefix handling and the `initialize_from_*` calls: for an invariant of all stores -/

section
variable (h : InitInv (fun _ => True) (fun _ => True) P)
include h

theorem hardResetFromPrefix (p : Str) : Keeps P (hardResetFromPrefix p) := by
  refine bind (ofExcept _) fun p => bind (forEach (fun row => bind get fun s => ?_) _) fun _ => bind get fun s => ?_
  · split
    · exact fail _
    · refine bind (getObj _) fun o => ?_
      split
      · exact h.setValue _ _ trivial
      · split
        · exact h.setValue _ _ trivial
        · exact fail _
  · split
    · exact fail _
    · exact h.setValue _ _ trivial

theorem firstHandlePrefix (pdo cmd mf : Dict) : Keeps P (firstHandlePrefix pdo cmd mf) := by
  refine bind (ofExcept _) fun r1 => ?_
  dsimp only
  -- the rest of the call stands under each of the three cases of the check of the machine file's `prefix`
  split
  all_goals
    refine bind ?_ fun _ => bind (ofExcept _) fun r3 => ?_
    · first | exact pure' _ | exact fail _
    · split
      · exact bind (hardResetFromPrefix h _) fun _ => pure' _
      · exact bind (pure' _) fun _ => pure' _

theorem initTop (pdo cmd mf : Dict) : Keeps P (initTop pdo cmd mf) :=
  bind (firstHandlePrefix h _ _ _) fun _ => bind (forEach (fun kv => stepPdo h kv fun _ => .all _) _) fun _ =>
    forEach (fun kv => stepMC h.toSetInv kv fun _ => .all _) _

theorem applyMerged (sub : Str) (d : Dict) : Keeps P (applyMerged sub d) :=
  ⟨fun s hs => (forEach (fun kv => stepSub h s.augments sub kv fun _ => .all _) (buildtypeFirst d)).run s hs⟩

theorem initSub (sub : Str) (spcall pdo cmd mf : Dict) : Keeps P (initSub sub spcall pdo cmd mf) :=
  bind get fun s => bind (ofExcept _) fun merged => bind (applyMerged h sub merged) fun _ =>
    modify fun s hs => h.subprojects s _ hs

end

theorem addSystemHere (h : OpInv P A) (k : Key) (o : Obj) (ho : A o) : Keeps P (addSystemHere k o) := by
  refine bind_get fun s hs => ?_
  split
  · exact hs
  · next hk =>
    have hk : alookup k s.options = none := by simpa [ahas] using hk
    refine run_bind_modify (run_bind_alloc (run_bind_modify ?_))
    refine (bind ?_ fun _ => ?_ : Keeps P _).run _ (h.insert { s with pending := aerase k s.pending } k o ho hk (h.pending s _ hs))
    · split
      · exact bind (setOption h.toSetInv _ _ _ (.all _)) fun _ => pure' _
      · exact pure' _
    · split
      · refine bind get fun s1 => ?_
        split
        · exact bind (modify fun s hs => h.pending s _ hs) fun _ => bind (setOption h.toSetInv _ _ _ (.all _)) fun _ => pure' _
        · exact pure' _
      · exact pure' _

theorem addSystemInternal (h : OpInv P A) (k : Key) (o : Obj) (ho : A o) : Keeps P (addSystemInternal k o) := by
  refine bind get fun s => ?_
  split
  · exact pure' _
  · split
    · refine bind (modify fun s hs => h.pending s _ hs) fun _ => bind (addSystemHere h _ o ho) fun _ => ?_
      split
      · exact bind (setOption h.toSetInv _ _ _ (.all _)) fun _ => pure' _
      · exact pure' _
    · exact addSystemHere h k o ho

theorem addSystemOption (h : OpInv P A) (k : Key) (o : Obj) (ho : A o) : Keeps P (addSystemOption k o) := by
  refine bind get fun s => ?_
  dsimp only
  split
  · exact fail _
  · exact addSystemInternal h _ o ho

theorem addModuleOption (h : OpInv P A) (m : Str) (k : Key) (o : Obj) (ho : A o) : Keeps P (addModuleOption m k o) := by
  refine bind get fun s => ?_
  dsimp only
  split
  · exact fail _
  · split
    · exact fail _
    · exact bind (addSystemInternal h _ o ho) fun _ => modify fun s hs => h.moduleOptions s _ hs

/-- the new object is linked as `linkParent` says: the parent computed in `add_project_option` is that function -/
theorem addProjectOption {sub : Str} (h : UpdInv sub I P A) (k : Key) (o : Obj) (ho : A o) : Keeps P (addProjectOption k o) := by
  refine bind_get fun s hs => run_bind_assert hs fun _ => ?_
  split
  · exact hs
  · next hk =>
    have hk : alookup (ensureKey s k) s.options = none := by simpa [ahas] using hk
    refine run_bind_alloc (run_bind_modify ?_)
    exact (assert _).run _ (h.insertLinked s (ensureKey s k) o _ _ ho hk hs)

theorem addBuiltinOption (h : OpInv P A) (k : Key) (row : Str × Kind × Val × Bool) : Keeps P (addBuiltinOption k row) := by
  unfold MesonModel.Options.addBuiltinOption
  dsimp only
  refine bind_ofExcept fun o ho => bind_ofExcept fun nv hnv => ?_
  have ho' := h.revalued o _ nv (h.ofMkObj _ o ho) hnv
  split
  · exact addModuleOption h _ k _ ho'
  · exact addSystemOption h k _ ho'

theorem initBuiltins (h : OpInv P A) : Keeps P initBuiltins :=
  bind (forEach (fun row => addBuiltinOption h _ row) _) fun _ =>
    forEach (fun m => forEach (fun row => addBuiltinOption h _ row) _) _

theorem initBuiltinsCross (h : OpInv P A) : Keeps P initBuiltinsCross :=
  bind (forEach (fun row => addBuiltinOption h _ row) _) fun _ =>
    forEach (fun m => forEach (fun row => addBuiltinOption h _ row) _) _

theorem coreDataInit (h : OpInv P A) : Keeps P coreDataInit := by
  refine bind get fun s => ?_
  split
  · exact initBuiltinsCross h
  · exact initBuiltins h

theorem run_replaceObj {sub : Str} (h : UpdInv sub I P A) {key : Key} {nobj : Obj} (old : Obj) {oid : Nat} (b : Bool)
    {s : Store} (hsub : key.sub = some sub) (ho : A nobj) (hk : alookup key s.options = some oid) (hs : P s) :
    P (replaceObj key nobj old oid b s).2 := by
  rw [replaceObj_eq]
  have hr := h.replace s key nobj ((linkParent s key nobj).isSome && (b || old.parent.isNone || old.yielding)) oid hsub ho hk hs
  cases b
  · exact (catchMeson (h.setFresh _ _ (h.fresh s hs)) (pure' ())).run _ hr
  · exact hr

theorem updateOne {sub : Str} (h : UpdInv sub I P A) (kv : Key × Obj) (ho : A kv.2) : Keeps P (updateOne sub kv) := by
  obtain ⟨key, nobj⟩ := kv
  refine ⟨fun s hs => run_bind_assert hs fun hm => run_bind_get ?_⟩
  have he : ensureKey s key = key := ensureKey_host s key (by simpa using hm)
  split
  · exact (addProjectOption h key nobj ho).run s hs
  · split
    · exact hs
    · next hsub =>
      rw [he]
      cases hk : alookup key s.options with
      | none => exact hs
      | some oid =>
        refine run_bind_getObj hs fun old _ => ?_
        by_cases hd : (!old.kind.sameClass nobj.kind || old.kind.choicesDiffer nobj.kind) = true
        · rw [if_pos hd]
          exact run_replaceObj h old _ (by simpa using hsub) ho hk hs
        · rw [if_neg hd]
          exact hs

theorem updateProjectOptions {sub : Str} (h : UpdInv sub I P A) (objs : List (Key × Obj)) (ho : ∀ kv ∈ objs, A kv.2) :
    Keeps P (updateProjectOptions sub objs) :=
  bind (forEachMem objs fun kv hkv => updateOne h kv (ho kv hkv)) fun _ =>
    bind_get fun s hs => run_bind_modify
      (h.prune s (fun k => !(objs.any (fun p => p.1 == k)) && s.isProjectOption k && k.sub == some sub)
        (fun k hk => by simp only [Bool.and_eq_true, beq_iff_eq] at hk; exact hk.2) hs)

theorem ofMkObjs (h : OpInv P A) {l : List (Key × ObjSpec)} : ∀ {os : List (Key × Obj)}, mkObjs l = .ok os →
    ∀ kv ∈ os, A kv.2 := by
  fun_induction mkObjs l
  case case1 =>
    rintro _ ⟨⟩
    exact fun _ hkv => nomatch hkv
  case case2 => nofun
  case case3 k sp r o ho ih =>
    intro os e kv hkv
    cases hr : mkObjs r with
    | error x => simp [hr, Except.map] at e
    | ok l =>
      simp only [hr, Except.map, Except.ok.injEq] at e
      subst e
      rcases List.mem_cons.mp hkv with rfl | hkv
      · exact h.ofMkObj sp o ho
      · exact ih hr kv hkv

theorem applyOp (h : OpInv P A) : ∀ op, Keeps P (applyOp op)
  | .addSystem k sp => bind_ofExcept fun o ho => bind (addSystemOption h k o (h.ofMkObj sp o ho)) fun _ => pure' _
  | .addProject k sp => bind_ofExcept fun o ho => bind (addProjectOption (h.toUpdInv []) k o (h.ofMkObj sp o ho)) fun _ => pure' _
  | .initBuiltins => bind (initBuiltins h) fun _ => pure' _
  | .setOption k v first => bind (setOption h.toSetInv k v first (.all _)) fun _ => pure' _
  | .setUser k v first => bind (setUserOption h.toSetInv k v first (.all _)) fun _ => pure' _
  | .initTop pdo cmd mf => bind (initTop h.toInitInv pdo cmd mf) fun _ => pure' _
  | .initSub sub spcall pdo cmd mf => bind (initSub h.toInitInv sub spcall pdo cmd mf) fun _ => pure' _
  | .configure args => bind (setFromConfigure h.toInitInv _ _ fun _ _ => .all _) fun _ => pure' _
  | .updateProject sub objs => bind_ofExcept fun os hos =>
      bind (updateProjectOptions (h.toUpdInv sub) os (ofMkObjs h hos)) fun _ => pure' _

theorem run_ops (h : OpInv P A) : ∀ (ops : List Op) (s : Store), P s → P (Options.run s ops)
  | [], _, hs => hs
  | op :: r, s, hs => run_ops h r _ ((applyOp h op).run s hs)

end Keeps
end MesonModel.Life
