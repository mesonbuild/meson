import MesonModel.Options.PrecLemmas
import MesonModel.Options.KeepsOps
/-
Well-formedness of the object table as an invariant of every API call: ids stored in `options` point into the
heap and no two keys share an object (Python: every key holds its own `UserOption` instance, because callers
hand fresh objects to `add_*_option` / `update_project_options`, which is how the model's operations are typed).
-/
namespace MesonModel.Options
open M MesonModel.Life

def Wf (s : Store) : Prop :=
  (∀ k id, alookup k s.options = some id → id < s.heap.length) ∧
  (∀ k1 k2 id, alookup k1 s.options = some id → alookup k2 s.options = some id → k1 = k2)

theorem Wf.ownObject {s : Store} (h : Wf s) {k : Key} {id : Nat} (hk : alookup k s.options = some id) :
    OwnObject k.name id s := by
  intro key i hl hn e
  subst e
  exact hn (by rw [h.2 key k i hl hk])

/-- `m` preserves `Wf`, whether it returns or raises -/
structure PresW {α : Type} (m : M α) : Prop where
  run : ∀ s, Wf s → Wf (m s).2

namespace PresW
variable {α β : Type}
theorem pure (a : α) : PresW (Pure.pure a : M α) := ⟨fun _ h => h⟩
theorem assert (b : Bool) : PresW (M.assert b) := by
  cases b <;> exact ⟨fun _ h => h⟩
theorem of_keeps {m : M α} (h : Keeps Wf m) : PresW m := ⟨h.run⟩
end PresW

/-- `Wf` speaks of the key table and the length of the heap only -/
theorem Wf.congr {s s' : Store} (h : Wf s) (ho : s'.options = s.options) (hl : s'.heap.length = s.heap.length) : Wf s' := by
  unfold Wf
  rw [ho, hl]
  exact h

theorem wf_updObj {s : Store} (id : Nat) (f : Obj → Obj) (h : Wf s) : Wf (s.updObj id f) :=
  h.congr (by simp) (by unfold Store.updObj; split <;> simp)

/-- a fresh object is put under key `k` (a new key, or replacing the object that was there) -/
theorem wf_insert {s : Store} (h : Wf s) (k : Key) (o : Obj) (po : List Key) :
    Wf { s with heap := s.heap ++ [o], options := ainsert k s.heap.length s.options, projectOptions := po } := by
  constructor
  · intro key i hk
    simp only [alookup_ainsert] at hk
    simp only [List.length_append, List.length_cons, List.length_nil]
    split at hk
    · cases hk
      omega
    · have := h.1 key i hk
      omega
  · intro k1 k2 i h1 h2
    simp only [alookup_ainsert] at h1 h2
    split at h1 <;> split at h2
    · next e1 e2 => rw [← e1, ← e2]
    · next e1 e2 =>
        cases h1
        have := h.1 k2 _ h2
        omega
    · next e1 e2 =>
        cases h2
        have := h.1 k1 _ h1
        omega
    · exact h.2 k1 k2 i h1 h2

theorem wf_filter {s : Store} (q : Key → Bool) (po : List Key) (h : Wf s) :
    Wf { s with options := s.options.filter (fun p => q p.1), projectOptions := po } := by
  constructor
  · intro k i hk
    simp only [isLookup_alookup.filter_key] at hk
    split at hk
    · exact h.1 k i hk
    · cases hk
  · intro k1 k2 i h1 h2
    simp only [isLookup_alookup.filter_key] at h1 h2
    split at h1 <;> split at h2 <;> first | exact h.2 k1 k2 i h1 h2 | cases h1 | cases h2

theorem wf_opInv : OpInv Wf (fun _ => True) where
  own _ _ _ _ _ _ := trivial
  setValue id v _ := Keeps.bind (Keeps.getObj id) fun _ => Keeps.bind (Keeps.ofExcept _) fun _ =>
    Keeps.modify fun _ hs => wf_updObj id _ hs
  setYielding id _ _ := Keeps.modify fun _ hs => wf_updObj id _ hs
  augments _ _ _ _ _ hs := hs
  pending _ _ hs := hs
  pendingSub _ _ hs := hs
  subprojects _ _ hs := hs
  moduleOptions _ _ hs := hs
  insert s k o _ _ hs := wf_insert hs k o s.projectOptions
  insertLinked _ k _ _ po _ _ hs := wf_insert hs k _ po
  replace s k o y _ _ _ hs :=
    (wf_insert hs k { o with parent := linkParent s k o, yielding := y } s.projectOptions).congr rfl
      (by simp [replacedStore])
  prune s gone hs :=
    (wf_filter (fun k => !(gone k)) s.projectOptions hs).congr rfl (by simp [prunedStore])
  ofMkObj _ _ _ := trivial
  revalued _ _ _ _ _ := trivial

theorem PresW.resetPrefixedOptions (a b : Str) : PresW (resetPrefixedOptions a b) :=
  .of_keeps (Keeps.resetPrefixedOptions wf_opInv.toSetInv a b fun _ _ => trivial)
theorem PresW.setOption (k : Key) (v : Val) (f : Bool) : PresW (setOption k v f) :=
  .of_keeps (Keeps.setOption wf_opInv.toSetInv k v f (.all _))
theorem PresW.setUserOption (k : Key) (v : Val) (f : Bool) : PresW (setUserOption k v f) :=
  .of_keeps (Keeps.setUserOption wf_opInv.toSetInv k v f (.all _))
theorem PresW.addSystemOption (k : Key) (o : Obj) : PresW (addSystemOption k o) :=
  .of_keeps (Keeps.addSystemOption wf_opInv k o trivial)
theorem PresW.addProjectOption (k : Key) (o : Obj) : PresW (addProjectOption k o) :=
  .of_keeps (Keeps.addProjectOption (wf_opInv.toUpdInv []) k o trivial)
theorem PresW.hardResetFromPrefix (p : Str) : PresW (hardResetFromPrefix p) :=
  .of_keeps (Keeps.hardResetFromPrefix wf_opInv.toInitInv p)
theorem PresW.firstHandlePrefix (a b c : Dict) : PresW (firstHandlePrefix a b c) :=
  .of_keeps (Keeps.firstHandlePrefix wf_opInv.toInitInv a b c)
theorem PresW.initTop (a b c : Dict) : PresW (initTop a b c) :=
  .of_keeps (Keeps.initTop wf_opInv.toInitInv a b c)
theorem PresW.updateProjectOptions (sub : Str) (objs : List (Key × Obj)) : PresW (updateProjectOptions sub objs) :=
  .of_keeps (Keeps.updateProjectOptions (wf_opInv.toUpdInv sub) objs fun _ _ => trivial)

theorem wf_new (c : Bool) : Wf (Store.new c) :=
  ⟨fun k i h => by simp [Store.new, alookup] at h, fun k1 k2 i h _ => by simp [Store.new, alookup] at h⟩

theorem wf_run (ops : List Op) (s : Store) (h : Wf s) : Wf (run s ops) :=
  Keeps.run_ops wf_opInv ops s h

end MesonModel.Options
