import MesonModel.Options.DictLemmas
/-
The dict that `initialize_from_subproject_call` builds (`mergeSub`) — what it holds for one option of the
subproject, for arbitrary input dicts.  This is where the documented eight-step order lives.
-/
namespace MesonModel.Options

section merge
variable (sub n : Str) (m : Machine)

/- Each loop is followed entry by entry: the lookup after the loop on `(k, v) :: r` is the induction hypothesis for `r`
applied to the lookup after one step, and `alast` of `(k, v) :: r` is `alast` of `r`, else `v` if `k` is the key. -/

/-- loops 1 and 4 -/
theorem mergeDefaults_lookup : ∀ (l acc d : Dict), mergeDefaults sub l acc = .ok d →
    alookup ⟨n, some sub, m⟩ d = ofirst (alast ⟨n, none, m⟩ l) (alookup ⟨n, some sub, m⟩ acc)
  | [], acc, d, h => by
    cases h
    rfl
  | (⟨kn, ks, km⟩, v) :: r, acc, d, h => by
    rw [mergeDefaults] at h
    split at h
    · cases h
    · next hs =>
      rw [mergeDefaults_lookup r _ d h, alookup_ainsert, alast, ofirst_assoc, ofirst_ite]
      -- the entry is written under `sub:n` exactly when it is the global `n`
      cases ks with
      | none => simp [Key.withSub]
      | some x =>
        have : x ≠ sub := by simpa using hs
        simp [this]

/-- loop 2 -/
theorem dropGlobals_lookup (po : List Key) : ∀ (l acc : Dict),
    alookup ⟨n, some sub, m⟩ (dropGlobals po sub l acc) =
      if (alast ⟨n, none, m⟩ l).isSome && !(po.contains ⟨n, some [], m⟩) then none
      else alookup ⟨n, some sub, m⟩ acc
  | [], acc => rfl
  | (⟨kn, ks, km⟩, v) :: r, acc => by
    have ih := dropGlobals_lookup po r
    rw [dropGlobals, alast, isSome_ofirst]
    cases ks with
    | some x => simpa using ih acc
    | none =>
      simp only [Key.asRoot, Key.withSub, Option.isNone_none, Bool.true_and]
      by_cases e : kn = n ∧ km = m
      · -- the global `n` itself: its test of `po` is the one in the statement
        obtain ⟨rfl, rfl⟩ := e
        by_cases hp : (⟨kn, some [], km⟩ : Key) ∈ po <;> simp [ih, alookup_aerase, hp]
      · -- another global: what it erases, if anything, is not `sub:n`
        split <;> simp [ih, alookup_aerase, e]

/-- loops 3 and 5 -/
theorem mergeAddressed_lookup : ∀ (l acc : Dict),
    alookup ⟨n, some sub, m⟩ (mergeAddressed sub l acc) =
      ofirst (alast ⟨n, some sub, m⟩ l) (alookup ⟨n, some sub, m⟩ acc)
  | [], acc => rfl
  | (k, v) :: r, acc => by
    rw [mergeAddressed, alast, ofirst_assoc, ofirst_ite]
    split
    · rw [mergeAddressed_lookup r, alookup_ainsert]
    · next hs => rw [mergeAddressed_lookup r, if_neg fun e => hs (by simp [e])]

/-- **the eight-step merge for one option** (`n`, machine `m`) of subproject `sub`: the merged dict holds, in decreasing priority,
`subp:opt` from the command line, from the machine file, `opt` from `subproject(default_options:)`,
`subp:opt` from the parent's `default_options` (recorded in `pending_subproject_options`), and `opt` from
the subproject's own `default_options` — the latter only if neither machine file nor command line set the
global `opt` (then nothing is held and the global value, set at top level, stands) unless `opt` is a
top-level *project* option. -/
theorem mergeSub_lookup (po : List Key) (ps spcall pdo cmd mf d : Dict)
    (h : mergeSub po ps sub spcall pdo cmd mf = .ok d) :
    alookup ⟨n, some sub, m⟩ d =
      ofirst (alast ⟨n, some sub, m⟩ cmd)                       -- 8. command line  subp:opt
      (ofirst (alast ⟨n, some sub, m⟩ mf)                       -- 7. machine file  subp:opt
      (ofirst (alast ⟨n, none, m⟩ spcall)                       -- 6. subproject(default_options:)
      (ofirst (alast ⟨n, some sub, m⟩ ps)                       -- 5. parent default_options  subp:opt
      (if ((alast ⟨n, none, m⟩ cmd).isSome || (alast ⟨n, none, m⟩ mf).isSome) -- 4./3. global opt given:
            && !(po.contains ⟨n, some [], m⟩) then none         --    the global value stands
       else alast ⟨n, none, m⟩ pdo)))) := by                    -- 2. subproject's own default_options
  revert h
  fun_cases mergeSub po ps sub spcall pdo cmd mf
  case case3 d1 h1 d2 d3 d4 h4 =>
    rintro ⟨⟩
    rw [mergeAddressed_lookup, alast_append, mergeDefaults_lookup sub n m _ _ _ h4, mergeAddressed_lookup,
      dropGlobals_lookup, alast_append, mergeDefaults_lookup sub n m _ _ _ h1]
    simp only [alookup, ofirst_assoc, ofirst_none, isSome_ofirst]
  all_goals nofun
end merge

end MesonModel.Options
