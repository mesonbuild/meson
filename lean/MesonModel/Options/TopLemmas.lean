import MesonModel.Options.PrecLemmas
/-
`initialize_from_top_level_project_call` on arbitrary dicts: the value of one option afterwards.
-/
namespace MesonModel.Options
open M

/-- the facts about option `k` (object `id`, current object `o`) that the loops maintain -/
structure Good (k : Key) (id : Nat) (s : Store) (o : Obj) : Prop where
  opt : alookup k s.options = some id
  obj : s.heap[id]? = some o
  own : OwnObject k.name id s
  nb : s.isBuiltin k = false
  aug : alookup k s.augments = none
  ny : o.yielding = false

theorem Good.value {k : Key} {id : Nat} {s : Store} {o : Obj} (g : Good k id s o) (hm : k.machine = .host) :
    getValueFor s k = .ok o.value :=
  getValueFor_own hm (resolveId_registered hm g.opt) g.obj g.aug g.ny

theorem Good.ofSame {k : Key} {id : Nat} {s s' : Store} {o : Obj} (g : Good k id s o) (h : SameObs k id s s') :
    Good k id s' o := by
  obtain ⟨h1, h2, h3, h4, h5, h6⟩ := h
  exact ⟨by rw [h2]; exact g.opt, by rw [h5]; exact g.obj, g.own.transfer ⟨h1, h2, h3, h4, h5, h6⟩,
    by rw [isBuiltin_congr h4]; exact g.nb, by rw [h6]; exact g.aug, g.ny⟩

/-- the facts survive `set_option` on `k` itself: the object holds `w` and does not yield -/
theorem Good.afterSet {k : Key} {id : Nat} {s : Store} {o : Obj} (g : Good k id s o) (w : Val) :
    Good k id ((s.updObj id (fun o => { o with value := w })).updObj id (fun o => { o with yielding := false }))
      { o with value := w, yielding := false } := by
  refine ⟨by simp [g.opt], ?_, ?_, by rw [isBuiltin_congr (s := s) (by simp)]; exact g.nb, by simp [g.aug], rfl⟩
  · have h1 := updObj_heap_same s id (fun o => { o with value := w }) o g.obj
    exact updObj_heap_same _ id (fun o => { o with yielding := false }) _ h1
  · intro key' i hk' hn'
    simp at hk'
    exact g.own key' i hk' hn'

/-- the value a source's raw entry stands for -/
def cleaned (kind : Kind) (v : Val) : Val :=
  match validate kind v with
  | .ok w => w
  | .error _ => v

/-- a loop of assignments: the body takes the invariant, on an entry for `k`, to the observed state `c v` whatever was
observed before, and leaves the observed state as it is on every other entry with `Q`.  If the loop completes, the
observed state is `c` of the last entry for `k`, or what it was. -/
theorem forEach_last {X : Type} (Inv : Store → X → Prop) (k : Key) (c : Val → X) (step : Key × Val → M Unit)
    (Q : Key × Val → Prop) (hit : ∀ v s s' x, Inv s x → step (k, v) s = (.ok (), s') → Inv s' (c v))
    (miss : ∀ kv, kv.1 ≠ k → Q kv → ∀ s s' x, Inv s x → step kv s = (.ok (), s') → Inv s' x) :
    ∀ (l : Dict) (s s' : Store) (x : X), Inv s x → (∀ kv ∈ l, kv.1 = k ∨ Q kv) → M.forEach step l s = (.ok (), s') →
      Inv s' (((alast k l).map c).getD x)
  | [], s, s', x, hi, _, h => by
    cases h
    exact hi
  | (a, v) :: r, s, s', x, hi, hl, h => by
    simp only [M.forEach, M.bind] at h
    cases hr : step (a, v) s with
    | mk res s1 =>
      rw [hr] at h
      cases res with
      | error e => cases h
      | ok u =>
        have ih := fun y hy => forEach_last Inv k c step Q hit miss r s1 s' y hy
          (fun b hb => hl b (List.mem_cons_of_mem _ hb)) h
        simp only [alast]
        by_cases e : a = k
        · subst e
          have := ih (c v) (hit v s s1 x hi hr)
          cases hal : alast a r <;> simpa [ofirst, hal] using this
        · have := ih x (miss (a, v) e ((hl _ (List.mem_cons_self ..)).resolve_left e) s s1 x hi hr)
          cases hal : alast k r <;> simpa [ofirst, hal, e] using this

/-! ## no `prefix` entries: `first_handle_prefix` is the identity -/

def NoPrefix (d : Dict) : Prop := ∀ kv ∈ d, (kv.1.name == sPrefix) = false

theorem prefixSplit_noPrefix : ∀ (d : Dict) (p : Option Val) (acc : Dict), NoPrefix d →
    prefixSplit d p acc = .ok (p, acc ++ d)
  | [], p, acc, _ => by simp [prefixSplit]
  | (k, v) :: r, p, acc, h => by
    have h1 : (k.name == sPrefix) = false := h (k, v) (by simp)
    have h2 : NoPrefix r := fun kv hkv => h kv (by simp [hkv])
    simp [prefixSplit, h1, prefixSplit_noPrefix r p (acc ++ [(k, v)]) h2]

theorem prefixKey_not_mem {d : Dict} (h : NoPrefix d) : prefixKey ∉ d.map (·.1) := by
  intro hm
  obtain ⟨kv, hkv, e⟩ := List.mem_map.mp hm
  have := h kv hkv
  rw [e] at this
  simp [prefixKey] at this

theorem aerase_prefixKey_noPrefix (d : Dict) (h : NoPrefix d) : aerase prefixKey d = d := by
  rw [aerase_eq_filter, List.filter_eq_self]
  intro kv hkv
  have hne : kv.1 ≠ prefixKey := fun e => prefixKey_not_mem h (by rw [← e]; exact List.mem_map_of_mem hkv)
  simpa using hne

theorem firstHandlePrefix_noPrefix (pdo cmd mf : Dict) (h1 : NoPrefix pdo) (h2 : NoPrefix cmd) (h3 : NoPrefix mf)
    (s : Store) : firstHandlePrefix pdo cmd mf s = (.ok (pdo, cmd, mf), s) := by
  simp [firstHandlePrefix, Bind.bind, M.bind, M.ofExcept, M.pure, prefixSplit_noPrefix _ _ _ h1,
    prefixSplit_noPrefix _ _ _ h2, (isLookup_alookup.eq_none_iff prefixKey mf).mpr (prefixKey_not_mem h3), aerase_prefixKey_noPrefix mf h3]

/-! ## `buildtype_first` does not change what a dict holds for another option -/

theorem alast_buildtypeFirst (k : Key) (d : Dict) (hbt : (k.name == sBuildtype) = false) :
    alast k (buildtypeFirst d) = alast k d := by
  unfold buildtypeFirst
  rw [alast_append, alast_filter_key k (fun key => key.name == sBuildtype),
    alast_filter_key k (fun key => !(key.name == sBuildtype))]
  simp [hbt, ofirst]
  cases alast k d <;> rfl

theorem mem_buildtypeFirst {d : Dict} {kv : Key × Val} (h : kv ∈ buildtypeFirst d) : kv ∈ d := by
  unfold buildtypeFirst at h
  simp only [List.mem_append, List.mem_filter] at h
  rcases h with h | h <;> exact h.1

theorem initTop_eq (pdo cmd mf : Dict) (h1 : NoPrefix pdo) (h2 : NoPrefix cmd) (h3 : NoPrefix mf) (s : Store) :
    initTop pdo cmd mf s =
      (M.bind (M.forEach stepPdo (buildtypeFirst pdo))
        (fun _ => M.forEach stepMC (buildtypeFirst mf ++ buildtypeFirst cmd))) s := by
  unfold initTop
  simp only [Bind.bind, M.bind, firstHandlePrefix_noPrefix pdo cmd mf h1 h2 h3 s]
  rfl

theorem initTop_loops (pdo cmd mf : Dict) (h1 : NoPrefix pdo) (h2 : NoPrefix cmd) (h3 : NoPrefix mf) (s s' : Store)
    (hrun : initTop pdo cmd mf s = (.ok (), s')) :
    ∃ s1, M.forEach stepPdo (buildtypeFirst pdo) s = (.ok (), s1) ∧
      M.forEach stepMC (buildtypeFirst mf ++ buildtypeFirst cmd) s1 = (.ok (), s') := by
  rw [initTop_eq pdo cmd mf h1 h2 h3 s] at hrun
  simp only [M.bind] at hrun
  cases hr1 : M.forEach stepPdo (buildtypeFirst pdo) s with
  | mk r1 s1 =>
    rw [hr1] at hrun
    cases r1 with
    | error e => cases hrun
    | ok u => exact ⟨s1, rfl, hrun⟩

/-- between `s` and `s'` the key tables are the same, and so is every override of an option named `n` -/
def SameKeys (n : Str) (s s' : Store) : Prop :=
  s'.options = s.options ∧ s'.projectOptions = s.projectOptions ∧ s'.moduleOptions = s.moduleOptions ∧
    ∀ k : Key, k.name = n → alookup k s'.augments = alookup k s.augments

theorem SameKeys.trans {n : Str} {a b c : Store} (h1 : SameKeys n a b) (h2 : SameKeys n b c) : SameKeys n a c :=
  ⟨h2.1.trans h1.1, h2.2.1.trans h1.2.1, h2.2.2.1.trans h1.2.2.1, fun k hk => (h2.2.2.2 k hk).trans (h1.2.2.2 k hk)⟩

/-- a call that leaves every key named `n` alone (as far as it owns object `id`) -/
theorem SameKeys.of_fr {α : Type} {n : Str} {id : Nat} {m : M α} {s : Store} (hown : OwnObject n id s)
    (hfr : ∀ k : Key, k.name = n → Fr k id m) : SameKeys n s (m s).2 := by
  have h0 := (hfr ⟨n, none, .host⟩ rfl).run s hown
  exact ⟨h0.2.1, h0.2.2.1, h0.2.2.2.1, fun k hk => ((hfr k hk).run s (by rw [hk]; exact hown)).2.2.2.2.2⟩

section loop
variable (k : Key) (id : Nat)

/-- a loop whose body sets `k` when the entry is addressed `ka` (`ka = k`, or the spelling without subproject of a
top-level project option `k = :name`) and otherwise leaves the keys of `k`'s name alone: if it completes, `k` holds the
(cleaned) value of the last entry for `ka`, or what it held before; key tables and the overrides of that name are as
they were -/
theorem loop_value (ka : Key)
    (hm : k.machine = .host) (hn : (k.name == sPrefix) = false)
    (hbt : (k.name == sBuildtype) = false) (step : Key × Val → M Unit)
    (hstep : ∀ v, step (ka, v) = (do let _ ← setUserOption ka v true; M.pure ()))
    (l : Dict) (s0 s s' : Store) (o : Obj)
    (hrw : ∀ st v, st.options = s0.options → setUserOption ka v true st = setUserOption k v true st)
    (g : Good k id s o) (h0 : SameKeys k.name s0 s)
    (hl : ∀ kv ∈ l, kv.1 = ka ∨ ∀ k' : Key, k'.name = k.name → Fr k' id (step kv))
    (h : M.forEach step l s = (.ok (), s')) :
    ∃ o', Good k id s' o' ∧ SameKeys k.name s0 s' ∧ o'.kind = o.kind ∧
      o'.value = (match alast ka l with | some v => cleaned o.kind v | none => o.value) := by
  have hf := forEach_last (fun s x => ∃ o', Good k id s o' ∧ SameKeys k.name s0 s ∧ o'.kind = o.kind ∧ o'.value = x) ka
    (cleaned o.kind) step (fun kv => ∀ k' : Key, k'.name = k.name → Fr k' id (step kv)) ?_ ?_ l s s' o.value
    ⟨o, g, h0, rfl, rfl⟩ hl h
  · generalize alast ka l = a at hf ⊢
    cases a <;> exact hf
  · -- the entry addresses `k`
    rintro v s s1 x ⟨o1, g, h0, hk, rfl⟩ hr
    rw [hstep v] at hr
    have hset := setUserOption_existing s k v id o1 hm hn hbt g.nb g.opt g.obj
    cases hv : validate o1.kind v with
    | error e => simp [Bind.bind, M.bind, hrw s v h0.1, hset, hv] at hr
    | ok w =>
      simp only [Bind.bind, M.bind, hrw s v h0.1, hset, hv, M.pure] at hr
      cases hr
      exact ⟨{ o1 with value := w, yielding := false }, g.afterSet w,
        h0.trans ⟨by simp, by simp, by simp, fun _ _ => by simp⟩, hk, by simp [cleaned, ← hk, hv]⟩
  · -- any other entry: frame
    rintro kv _ hfr s s1 x ⟨o1, g, h0, hk, rfl⟩ hr
    have hs := (hfr k rfl).run s g.own
    have hsk := SameKeys.of_fr g.own hfr
    rw [hr] at hs hsk
    exact ⟨o1, g.ofSame hs, h0.trans hsk, hk, rfl⟩

theorem stepPdo_k (hm : k.machine = .host) (hs : k.sub = none) (v : Val) :
    stepPdo (k, v) = (do let _ ← setUserOption k v true; M.pure ()) := by
  funext s
  have hfb : k.isForBuild = false := by simp [Key.isForBuild, hm]
  have hst : k.subTruthy = false := by simp [Key.subTruthy, hs]
  simp [stepPdo, Bind.bind, M.bind, M.get, hfb, hst]

theorem stepMC_k (hm : k.machine = .host) (hs : k.sub = none) (v : Val) :
    stepMC (k, v) = (do let _ ← setUserOption k v true; M.pure ()) := by
  funext s
  have hfb : k.isForBuild = false := by simp [Key.isForBuild, hm]
  have hst : k.subTruthy = false := by simp [Key.subTruthy, hs]
  simp [stepMC, Bind.bind, M.bind, M.get, hfb, hst]

end loop

/-- an entry for a subproject is parked, one of another name sets that option: the keys named `n` are left alone -/
theorem Fr.stepPdo (n : Str) (id : Nat) (kv : Key × Val) (hkv : kv.1.subTruthy = true ∨ kv.1.name ≠ n)
    (hnp : (Tables.nopfxTable.map (·.1)).contains n = false) (hd : n ≠ sDebug ∧ n ≠ sOptimization) (k : Key)
    (hk : k.name = n) : Fr k id (stepPdo kv) := by
  subst hk
  exact .of_keeps fun s0 => .stepPdo (framed_initInv k id s0) kv fun hst =>
    .other (hkv.resolve_left (by simp [hst])) hnp fun _ => hd

theorem Fr.stepMC (n : Str) (id : Nat) (kv : Key × Val) (hkv : kv.1.subTruthy = true ∨ kv.1.name ≠ n)
    (hnp : (Tables.nopfxTable.map (·.1)).contains n = false) (hd : n ≠ sDebug ∧ n ≠ sOptimization) (k : Key)
    (hk : k.name = n) : Fr k id (stepMC kv) := by
  subst hk
  exact .of_keeps fun s0 => .stepMC (framed_initInv k id s0).toSetInv kv fun hst =>
    .other (hkv.resolve_left (by simp [hst])) hnp fun _ => hd


/-- the two loops of the call for an option `k` that the sources address as `ka` (`ka = k` for a global option,
`ka` = the name without subproject for an option `k = :name` of the top-level project); the other entries are for
subprojects or name other options.  If the call completes, `k` holds the cleaned value of the first of command line,
machine file, `project(default_options)` that has an entry for `ka`, else what it held before; key tables and the
overrides of that name are as they were. -/
theorem initTop_good (k ka : Key) (id : Nat) (s s' : Store) (o : Obj) (pdo cmd mf : Dict)
    (hka : ka.name = k.name) (hkm : ka.machine = .host) (hks : ka.sub = none) (hm : k.machine = .host)
    (hrw : ∀ st v, st.options = s.options → setUserOption ka v true st = setUserOption k v true st)
    (hn : (k.name == sPrefix) = false) (hbt : (k.name == sBuildtype) = false)
    (hd : k.name ≠ sDebug ∧ k.name ≠ sOptimization)
    (hnp : (Tables.nopfxTable.map (·.1)).contains k.name = false)
    (g : Good k id s o)
    (h1 : NoPrefix pdo) (h2 : NoPrefix cmd) (h3 : NoPrefix mf)
    (hp : ∀ kv ∈ pdo, kv.1 = ka ∨ kv.1.subTruthy = true ∨ kv.1.name ≠ k.name)
    (hc : ∀ kv ∈ cmd, kv.1 = ka ∨ kv.1.subTruthy = true ∨ kv.1.name ≠ k.name)
    (hf : ∀ kv ∈ mf, kv.1 = ka ∨ kv.1.subTruthy = true ∨ kv.1.name ≠ k.name)
    (hrun : initTop pdo cmd mf s = (.ok (), s')) :
    ∃ o', Good k id s' o' ∧ SameKeys k.name s s' ∧ o'.kind = o.kind ∧ o'.value =
      (match ofirst (alast ka cmd) (ofirst (alast ka mf) (alast ka pdo)) with
       | some v => cleaned o.kind v
       | none => o.value) := by
  have hbt' : (ka.name == sBuildtype) = false := by
    rw [hka]
    exact hbt
  obtain ⟨s1, hr1, hrun⟩ := initTop_loops pdo cmd mf h1 h2 h3 s s' hrun
  obtain ⟨o1, g1, hs1, hk1, hv1⟩ := loop_value k id ka hm hn hbt stepPdo (stepPdo_k ka hkm hks)
    (buildtypeFirst pdo) s s s1 o hrw g ⟨rfl, rfl, rfl, fun _ _ => rfl⟩
    (fun kv hkv => (hp kv (mem_buildtypeFirst hkv)).imp_right fun h => Fr.stepPdo k.name id kv h hnp hd) hr1
  obtain ⟨o2, g2, hs2, hk2, hv2⟩ := loop_value k id ka hm hn hbt stepMC (stepMC_k ka hkm hks)
    (buildtypeFirst mf ++ buildtypeFirst cmd) s s1 s' o1 hrw g1 hs1
    (fun kv hkv => ((List.mem_append.mp hkv).elim (hf kv ∘ mem_buildtypeFirst) (hc kv ∘ mem_buildtypeFirst)).imp_right
      fun h => Fr.stepMC k.name id kv h hnp hd) hrun
  refine ⟨o2, g2, hs2, hk2.trans hk1, ?_⟩
  rw [hv2, alast_append, alast_buildtypeFirst ka mf hbt', alast_buildtypeFirst ka cmd hbt', hk1, hv1,
    alast_buildtypeFirst ka pdo hbt']
  cases alast ka cmd <;> cases alast ka mf <;> cases alast ka pdo <;> rfl

/-- `set_user_option(opt, v)` for a name that is only registered as the top-level project's option `:opt` (no
global option of that name; not a compiler/base/backend name, which would be parked as pending) is
`set_user_option(:opt, v)` -/
theorem setUserOption_via_root (s : Store) (n : Str) (v : Val) (id : Nat)
    (hr : alookup (⟨n, some [], .host⟩ : Key) s.options = some id)
    (hg : alookup (⟨n, none, .host⟩ : Key) s.options = none)
    (hpend : acceptAsPending ⟨n, none, .host⟩ true = false) :
    setUserOption ⟨n, none, .host⟩ v true s = setUserOption ⟨n, some [], .host⟩ v true s := by
  have h1 : ahas (⟨n, none, .host⟩ : Key) s.options = false := by simp [ahas, hg]
  have h2 : ahas (⟨n, some [], .host⟩ : Key) s.options = true := by simp [ahas, hr]
  simp [setUserOption, Bind.bind, M.bind, M.get, Key.isForBuild, h1, h2, hpend, Key.asRoot]

end MesonModel.Options
