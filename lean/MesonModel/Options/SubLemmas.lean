import MesonModel.Options.MergeLemmas
import MesonModel.Options.TopLemmas
/-
`initialize_from_subproject_call` on arbitrary dicts: the per-subproject override of one option afterwards.
-/
namespace MesonModel.Options
open M

/-- facts about the key `ks = sub:n`, a subproject's view of option `n`: `n` is a global option (object `id` = `o`), the
subproject has no option object of its own under `ks`, `x` is the current override -/
structure GoodSub (ks : Key) (id : Nat) (s : Store) (o : Obj) (x : Option Val) : Prop where
  opt : alookup ks.global s.options = some id
  obj : s.heap[id]? = some o
  own : OwnObject ks.name id s
  nosub : alookup ks s.options = none
  noproj : s.isProjectOption ks = false
  nb : s.isBuiltin ks = false
  aug : alookup ks s.augments = x
  ny : o.yielding = false

theorem GoodSub.ofSame {ks : Key} {id : Nat} {s s' : Store} {o : Obj} {x : Option Val}
    (g : GoodSub ks id s o x) (h : SameObs ks id s s') : GoodSub ks id s' o x := by
  obtain ⟨h1, h2, h3, h4, h5, h6⟩ := h
  exact ⟨by rw [h2]; exact g.opt, by rw [h5]; exact g.obj, g.own.transfer ⟨h1, h2, h3, h4, h5, h6⟩,
    by rw [h2]; exact g.nosub, by rw [isProjectOption_congr h3]; exact g.noproj, by rw [isBuiltin_congr h4]; exact g.nb,
    by rw [h6]; exact g.aug, g.ny⟩

/-- the store `set_option` leaves behind sees the new value, whatever the override was before -/
theorem GoodSub.afterSet {ks : Key} {id : Nat} {s : Store} {o : Obj} {x : Option Val} (g : GoodSub ks id s o x)
    (w : Val) : GoodSub ks id { s with augments := ainsert ks w s.augments } o (some w) :=
  ⟨g.opt, g.obj, fun key i hk hkn => g.own key i hk hkn, g.nosub, g.noproj, g.nb, by simp [alookup_ainsert], g.ny⟩

theorem GoodSub.resolve {ks : Key} {id : Nat} {s : Store} {o : Obj} {x : Option Val} (g : GoodSub ks id s o x)
    (hm : ks.machine = .host) : resolveId s ks = .ok id :=
  resolveId_global hm g.nosub g.noproj g.opt

/-- what the subproject sees: the override if there is one, else the global value -/
theorem GoodSub.value {ks : Key} {id : Nat} {s : Store} {o : Obj} {x : Option Val} (g : GoodSub ks id s o x)
    (hm : ks.machine = .host) (sub : Str) (hs : ks.sub = some sub) :
    getValueFor s ks = .ok (x.getD o.value) := by
  cases x with
  | some v => exact getValueFor_override hm (g.resolve hm) g.obj g.aug (by simp [hs])
  | none => exact getValueFor_own hm (g.resolve hm) g.obj g.aug g.ny

/-- **set-get for an override**: `set_user_option(sub:opt, v, True)` when only the global option exists -/
theorem setUserOption_override (s : Store) (ks : Key) (v : Val) (id : Nat) (o : Obj) (x : Option Val) (sub : Str)
    (hm : ks.machine = .host) (hs : ks.sub = some sub)
    (hn : (ks.name == sPrefix) = false) (hbt : (ks.name == sBuildtype) = false) (g : GoodSub ks id s o x) :
    setUserOption ks v true s =
      match validate o.kind v with
      | .error e => (.error e, s)
      | .ok w => (.ok (x.getD o.value != w), { s with augments := ainsert ks w s.augments }) := by
  have hah : ahas ks s.options = false := by simp [ahas, g.nosub]
  have hag : ahas ks.global s.options = true := by simp [ahas, g.opt]
  have hsome : ks.sub.isSome = true := by simp [hs]
  rw [setUserOption_eq_setOption s ks v true hm (Or.inr ⟨hsome, hag⟩),
    setOption_plain s ks v true id o hn hbt g.nb (g.resolve hm) g.obj]
  cases validate o.kind v <;> simp [hah, hsome, g.aug]

theorem applyMergedWith_eq (ex : Dict) (sub : Str) : applyMergedWith ex sub = M.forEach (stepSub ex sub) := rfl

theorem Fr.stepSub (ks : Key) (id : Nat) (ex : Dict) (sub : Str) (kv : Key × Val)
    (hP : kv.1.sub ≠ some sub ∨ kv.1.name ≠ ks.name)
    (hnp : (Tables.nopfxTable.map (·.1)).contains ks.name = false)
    (hd : ks.name ≠ sDebug ∧ ks.name ≠ sOptimization) : Fr ks id (stepSub ex sub kv) :=
  .of_keeps fun s0 => .stepSub (framed_initInv ks id s0) ex sub kv fun hs => .other (hP.resolve_left (absurd hs)) hnp fun _ => hd

theorem stepSub_target (ks : Key) (id : Nat) (o : Obj) (ex : Dict) (sub : Str)
    (hm : ks.machine = .host) (hs : ks.sub = some sub)
    (hn : (ks.name == sPrefix) = false) (hbt : (ks.name == sBuildtype) = false)
    (v : Val) (s s' : Store) (x : Option Val) (g : GoodSub ks id s o x)
    (h : stepSub ex sub (ks, v) s = (.ok (), s')) :
    GoodSub ks id s' o (if ahas ks ex then x else some (cleaned o.kind v)) := by
  have hne : (ks.sub != some sub) = false := by simp [hs]
  have g1 : GoodSub ks id { s with pendingSub := aerase ks s.pendingSub, pending := aerase ks s.pending } o x :=
    g.ofSame ⟨rfl, rfl, rfl, rfl, rfl, rfl⟩
  simp only [stepSub, Bind.bind, M.bind, M.get, hne, Bool.false_eq_true, ↓reduceIte, M.modify] at h
  by_cases hex : ahas ks ex = true
  · simp only [hex, ↓reduceIte, M.pure] at h ⊢
    cases h
    exact g1
  · simp only [hex, Bool.false_eq_true, ↓reduceIte] at h ⊢
    have hset := setUserOption_override _ ks v id o x sub hm hs hn hbt g1
    cases hv : validate o.kind v with
    | error e => simp [M.bind, hset, hv] at h
    | ok w =>
      simp only [M.bind, hset, hv, M.pure] at h
      cases h
      have hc : cleaned o.kind v = w := by simp [cleaned, hv]
      rw [hc]
      exact g1.afterSet w

def NodupKeys (d : Dict) : Prop := (d.map Prod.fst).Nodup

theorem nodupKeys_ainsert (k : Key) (v : Val) (d : Dict) (h : NodupKeys d) : NodupKeys (ainsert k v d) :=
  isUpdate_ainsert.nodup_keys k v h

theorem nodupKeys_mergeDefaults (sub : Str) : ∀ (l acc d : Dict), NodupKeys acc → mergeDefaults sub l acc = .ok d → NodupKeys d
  | [], acc, d, ha, h => by
    cases h
    exact ha
  | (k, v) :: r, acc, d, ha, h => by
    unfold mergeDefaults at h
    split at h
    · cases h
    · exact nodupKeys_mergeDefaults sub r _ d (nodupKeys_ainsert _ v acc ha) h

theorem nodupKeys_dropGlobals (po : List Key) (sub : Str) : ∀ (l acc : Dict), NodupKeys acc → NodupKeys (dropGlobals po sub l acc)
  | [], _, ha => ha
  | (k, v) :: r, acc, ha => by
    unfold dropGlobals
    split
    · refine nodupKeys_dropGlobals po sub r _ ?_
      rw [aerase_eq_filter]
      exact ha.sublist (List.filter_sublist.map _)
    · exact nodupKeys_dropGlobals po sub r acc ha

theorem nodupKeys_mergeAddressed (sub : Str) : ∀ (l acc : Dict), NodupKeys acc → NodupKeys (mergeAddressed sub l acc)
  | [], _, ha => ha
  | (k, v) :: r, acc, ha => by
    unfold mergeAddressed
    split
    · exact nodupKeys_mergeAddressed sub r _ (nodupKeys_ainsert k v acc ha)
    · exact nodupKeys_mergeAddressed sub r acc ha

theorem nodupKeys_mergeSub (po : List Key) (ps : Dict) (sub : Str) (spcall pdo cmd mf d : Dict)
    (h : mergeSub po ps sub spcall pdo cmd mf = .ok d) : NodupKeys d := by
  revert h
  fun_cases mergeSub po ps sub spcall pdo cmd mf
  case case3 d1 h1 d2 d3 d4 h4 =>
    rintro ⟨⟩
    exact nodupKeys_mergeAddressed sub _ d4 (nodupKeys_mergeDefaults sub spcall _ d4
      (nodupKeys_mergeAddressed sub ps _ (nodupKeys_dropGlobals po sub _ d1
        (nodupKeys_mergeDefaults sub pdo [] d1 (by simp [NodupKeys]) h1))) h4)
  all_goals nofun

theorem initSub_eq (sub : Str) (spcall pdo cmd mf d : Dict) (s : Store)
    (hd : mergeSub s.projectOptions s.pendingSub sub spcall pdo cmd mf = .ok d) :
    initSub sub spcall pdo cmd mf s =
      (M.bind (M.forEach (stepSub s.augments sub) (buildtypeFirst d))
        (fun _ => M.modify (fun s => { s with subprojects := setAdd sub s.subprojects }))) s := by
  unfold initSub
  simp only [Bind.bind, M.bind, M.get, hd, M.ofExcept, M.pure, applyMerged, applyMergedWith_eq]

/-- **the subproject's effective value after `initialize_from_subproject_call`**: an override that existed before
the call stays; otherwise the value the merge holds for `sub:opt` (see `mergeSub_lookup`: last defined of the
documented steps 2…8), cleaned by the option's class; otherwise the global value (set by the top-level call from
steps 1, 3, 4). -/
theorem initSub_value (ks : Key) (id : Nat) (s s' : Store) (o : Obj) (x : Option Val) (sub : Str)
    (spcall pdo cmd mf d : Dict)
    (hm : ks.machine = .host) (hs : ks.sub = some sub)
    (hn : (ks.name == sPrefix) = false) (hbt : (ks.name == sBuildtype) = false)
    (hdn : ks.name ≠ sDebug ∧ ks.name ≠ sOptimization)
    (hnp : (Tables.nopfxTable.map (·.1)).contains ks.name = false)
    (g : GoodSub ks id s o x)
    (hd : mergeSub s.projectOptions s.pendingSub sub spcall pdo cmd mf = .ok d)
    (hother : ∀ kv ∈ d, kv.1 = ks ∨ kv.1.sub ≠ some sub ∨ kv.1.name ≠ ks.name)
    (hrun : initSub sub spcall pdo cmd mf s = (.ok (), s')) :
    getValueFor s' ks = .ok (x.getD (((alookup ks d).map (cleaned o.kind)).getD o.value)) := by
  rw [initSub_eq sub spcall pdo cmd mf d s hd] at hrun
  simp only [M.bind] at hrun
  cases hr1 : M.forEach (stepSub s.augments sub) (buildtypeFirst d) s with
  | mk r1 s1 =>
    rw [hr1] at hrun
    cases r1 with
    | error e => simp at hrun
    | ok u =>
      simp only [M.modify] at hrun
      -- `y`: what the loop has written so far; the override is `x` if there was one at entry, else `y`
      have hloop := forEach_last (fun st y => GoodSub ks id st o (if ahas ks s.augments then x else y)) ks
        (fun v => some (cleaned o.kind v)) (stepSub s.augments sub) (fun kv => kv.1.sub ≠ some sub ∨ kv.1.name ≠ ks.name)
        (fun v st st' y gy h => by
          have := stepSub_target ks id o s.augments sub hm hs hn hbt v st st' _ gy h
          by_cases hE : ahas ks s.augments = true <;> simpa [hE] using this)
        (fun kv _ hq st st' y gy h => by
          have := (Fr.stepSub ks id s.augments sub kv hq hnp hdn).run st gy.own
          rw [h] at this
          exact gy.ofSame this)
        (buildtypeFirst d) s s1 none (by cases x <;> simpa [ahas, g.aug] using g)
        (fun kv hkv => hother kv (mem_buildtypeFirst hkv)) hr1
      cases hrun
      rw [alast_buildtypeFirst ks d hbt, alast_eq_alookup ks d (nodupKeys_mergeSub _ _ _ _ _ _ _ _ hd)] at hloop
      have gfin := hloop.ofSame (s' := { s1 with subprojects := setAdd sub s1.subprojects }) ⟨rfl, rfl, rfl, rfl, rfl, rfl⟩
      rw [gfin.value hm sub hs]
      simp only [ahas, g.aug]
      cases x <;> cases alookup ks d <;> rfl

/-- if every entry of the inputs that names option `n` is a host-machine key, the only entry of the merged
dict for subproject `sub` that names `n` is `sub:n`: by `mergeSub_lookup` the dict holds nothing under the build-machine
key `sub:n` -/
theorem merged_other (po : List Key) (ps : Dict) (sub n : Str) (spcall pdo cmd mf d : Dict)
    (h : mergeSub po ps sub spcall pdo cmd mf = .ok d)
    (hin : ∀ k ∈ (pdo ++ spcall ++ ps ++ mf ++ cmd).map Prod.fst, k.name = n → k.machine = .host) :
    ∀ kv ∈ d, kv.1 = (⟨n, some sub, .host⟩ : Key) ∨ kv.1.sub ≠ some sub ∨ kv.1.name ≠ n := by
  -- no input holds a build-machine key named `n`
  have hno : ∀ (sb : Option Str) (l : Dict), (∀ k ∈ l.map Prod.fst, k.name = n → k.machine = .host) →
      alast (⟨n, sb, .build⟩ : Key) l = none :=
    fun sb l hl => alast_none_of_not_mem _ l fun hm => nomatch hl _ hm rfl
  simp only [List.map_append, List.forall_mem_append] at hin
  have hnone : alookup (⟨n, some sub, .build⟩ : Key) d = none := by
    rw [mergeSub_lookup sub n .build po ps spcall pdo cmd mf d h, hno _ cmd hin.2, hno _ mf hin.1.2, hno _ spcall hin.1.1.1.2,
      hno _ ps hin.1.1.2, hno _ pdo hin.1.1.1.1]
    exact ite_self _
  intro kv hkv
  obtain ⟨⟨kn, ks, km⟩, v⟩ := kv
  by_cases hs : ks = some sub
  · by_cases hn : kn = n
    · cases km with
      | host => exact Or.inl (by rw [hs, hn])
      | build => exact absurd (by rw [hs, hn]) (not_mem_of_alookup_none hnone _ hkv)
    · exact Or.inr (Or.inr hn)
  · exact Or.inr (Or.inl hs)

/-- `initialize_from_subproject_call` leaves option `k` (object `id`) alone when the merged dict holds nothing for
this subproject under `k`'s name -/
theorem initSub_frame (k : Key) (id : Nat) (s : Store) (sub : Str) (spcall pdo cmd mf d : Dict)
    (hd : mergeSub s.projectOptions s.pendingSub sub spcall pdo cmd mf = .ok d)
    (hP : ∀ kv ∈ d, kv.1.sub ≠ some sub ∨ kv.1.name ≠ k.name)
    (hnp : (Tables.nopfxTable.map (·.1)).contains k.name = false)
    (hdn : k.name ≠ sDebug ∧ k.name ≠ sOptimization)
    (hown : OwnObject k.name id s) : SameObs k id s (initSub sub spcall pdo cmd mf s).2 := by
  rw [initSub_eq sub spcall pdo cmd mf d s hd]
  have hfr : Fr k id (M.bind (M.forEach (stepSub s.augments sub) (buildtypeFirst d))
      (fun _ => M.modify (fun s => { s with subprojects := setAdd sub s.subprojects }))) :=
    .of_keeps fun s0 => .bind'
      (.forEachMem _ fun kv hkv => (Fr.stepSub k id s.augments sub kv (hP kv (mem_buildtypeFirst hkv)) hnp hdn).keeps s0)
      fun _ => .modify fun s hs => (framed_initInv k id s0).subprojects s _ hs
  exact hfr.run s hown

/-! What `set_option` *returns* (`changed`) and what it leaves behind when the key is a per-project override
(`:name`, `sub:name`: only the global option object exists) or a registered, non-yielding option.  `meson configure`
saves only when a call reported a change and the `buildtype` expansion runs only then, so the report has to be "the
effective value changed". -/

/-- **`set_option` on an override**: the override is written; the call reports `changed` exactly when the value the
project saw before (`x.getD o.value`: its override, else the global value) differs from the new one; a read-only
option that would change raises *after* the write (as in Python) -/
theorem setOption_override (s : Store) (ks : Key) (v w : Val) (first : Bool) (id : Nat) (o : Obj) (x : Option Val)
    (sub : Str) (hm : ks.machine = .host) (hs : ks.sub = some sub)
    (hn : (ks.name == sPrefix) = false) (hbt : (ks.name == sBuildtype) = false)
    (g : GoodSub ks id s o x) (hv : validate o.kind v = .ok w) :
    setOption ks v first s =
      ((if o.readonly && (x.getD o.value != w) && !first then .error .meson else .ok (x.getD o.value != w)),
       { s with augments := ainsert ks w s.augments }) := by
  have hah : ahas ks s.options = false := by simp [ahas, g.nosub]
  have hsome : ks.sub.isSome = true := by simp [hs]
  rw [setOption_plain s ks v first id o hn hbt g.nb (g.resolve hm) g.obj, hv]
  simp [hah, hsome, g.aug]

/-- `set_user_option` (any `first_invocation`) on an override is `set_option` on it -/
theorem setUserOption_override_eq (s : Store) (ks : Key) (v : Val) (first : Bool) (id : Nat) (o : Obj)
    (x : Option Val) (sub : Str) (hm : ks.machine = .host) (hs : ks.sub = some sub) (g : GoodSub ks id s o x) :
    setUserOption ks v first s = setOption ks v first s :=
  setUserOption_eq_setOption s ks v first hm (Or.inr ⟨by simp [hs], by simp [ahas, g.opt]⟩)

theorem setOption_existing (s : Store) (k : Key) (v w : Val) (first : Bool) (id : Nat) (o : Obj)
    (hm : k.machine = .host)
    (hn : (k.name == sPrefix) = false) (hbt : (k.name == sBuildtype) = false) (g : Good k id s o)
    (hv : validate o.kind v = .ok w) :
    setOption k v first s =
      ((if o.readonly && (o.value != w) && !first then .error .meson else .ok (o.value != w)),
       (s.updObj id (fun o => { o with value := w })).updObj id (fun o => { o with yielding := false })) := by
  have hah : ahas k s.options = true := by simp [ahas, g.opt]
  have hres : resolveId s k = .ok id := by simp [resolveId, ensureKey_host s k hm, g.opt]
  rw [setOption_plain s k v first id o hn hbt g.nb hres g.obj, hv]
  simp [hah, g.ny]

end MesonModel.Options
