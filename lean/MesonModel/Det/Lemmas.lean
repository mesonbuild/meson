/-
C06 — why an output does not depend on an iteration order.  Python's order on `str` is a total order, and sorting by a
total order forgets the order of the input (`mergeSort_eq_of_perm`: `Perm` ⇒ equal results); `OptionKey.__lt__` is the
strict part of one, a lexicographic product (`keyLe`); a lookup in a dict with distinct keys does not depend on the order
of the items; `sorted(set(·))` depends on membership only; a fold whose step commutes up to a relation does not depend,
up to that relation, on the order of its list (`foldl_perm_of_comm`).
-/
import MesonModel.Det.Model
import MesonModel.Util.Sort
import MesonModel.Util.Assoc

namespace MesonModel.Det
open List

structure TotalLe {α} (le : α → α → Bool) : Prop where
  total : ∀ a b, (le a b || le b a) = true
  trans : ∀ a b c, le a b = true → le b c = true → le a c = true
  antisymm : ∀ a b, le a b = true → le b a = true → a = b

theorem isStrLe : IsStrLe strLe := ⟨fun _ => rfl, fun _ _ => rfl, fun _ _ _ _ => rfl⟩

theorem strLe_refl (a : Str) : strLe a a = true := isStrLe.refl a

theorem strLe_totalLe : TotalLe strLe := ⟨isStrLe.total, isStrLe.trans, isStrLe.antisymm⟩

theorem mergeSort_eq_of_perm {α} {le : α → α → Bool} (h : TotalLe le) {l₁ l₂ : List α}
    (p : l₁ ~ l₂) : l₁.mergeSort le = l₂.mergeSort le := by
  apply Perm.eq_of_pairwise (le := fun a b => le a b = true)
  · intro a b _ _ hab hba
    exact h.antisymm a b hab hba
  · exact pairwise_mergeSort h.trans h.total l₁
  · exact pairwise_mergeSort h.trans h.total l₂
  · exact (mergeSort_perm l₁ le).trans (p.trans (mergeSort_perm l₂ le).symm)

theorem sortedStrs_perm {l₁ l₂ : List Str} (p : l₁ ~ l₂) : sortedStrs l₁ = sortedStrs l₂ :=
  mergeSort_eq_of_perm strLe_totalLe p

theorem sortedStrs_perm_self (l : List Str) : sortedStrs l ~ l := mergeSort_perm l strLe

/-- `sorted(s)` of a set given by two enumerations without repetitions -/
theorem sortedStrs_set_ext {l₁ l₂ : List Str} (n₁ : l₁.Nodup) (n₂ : l₂.Nodup) (h : ∀ x, x ∈ l₁ ↔ x ∈ l₂) :
    sortedStrs l₁ = sortedStrs l₂ :=
  sortedStrs_perm ((perm_ext_iff_of_nodup n₁ n₂).mpr h)

theorem pySortedBy_perm_self {α} (lt : α → α → Bool) (l : List α) : pySortedBy lt l ~ l :=
  mergeSort_perm l _

theorem lookup_eq_some_iff_mem {α β} [BEq α] [LawfulBEq α] [DecidableEq α] {l : List (α × β)}
    (nd : (l.map Prod.fst).Nodup) (k : α) (v : β) : l.lookup k = some v ↔ (k, v) ∈ l :=
  ⟨isLookup_lookup.mem k v l, isLookup_lookup.of_mem_nodup nd⟩

theorem lookup_perm {α β} [BEq α] [LawfulBEq α] [DecidableEq α] {l₁ l₂ : List (α × β)}
    (nd : (l₁.map Prod.fst).Nodup) (p : l₁ ~ l₂) (k : α) : l₁.lookup k = l₂.lookup k := by
  have nd₂ : (l₂.map Prod.fst).Nodup := (p.map Prod.fst).nodup_iff.mp nd
  apply Option.ext
  intro v
  rw [lookup_eq_some_iff_mem nd, lookup_eq_some_iff_mem nd₂]
  exact p.mem_iff

theorem lookup_filter_ne {α β} [BEq α] [LawfulBEq α] [DecidableEq α] (l : List (α × β)) (p q : α) :
    (l.filter (fun e => e.1 ≠ p)).lookup q = if q = p then none else l.lookup q := by
  rw [isLookup_lookup.filter_key (fun x => decide (x ≠ p)) q l]
  by_cases h : q = p <;> simp [h]

theorem lookup_map_snd {α β γ} [BEq α] (f : β → γ) (l : List (α × β)) (k : α) :
    (l.map fun e => (e.1, f e.2)).lookup k = (l.lookup k).map f := by
  induction l with
  | nil => rfl
  | cons e es ih =>
    rw [map_cons, lookup_cons, lookup_cons, ih]
    cases k == e.1 <;> rfl

def lexLe {α β} [DecidableEq α] (le₁ : α → α → Bool) (le₂ : β → β → Bool) (x y : α × β) : Bool :=
  if x.1 = y.1 then le₂ x.2 y.2 else le₁ x.1 y.1

theorem lexLe_totalLe {α β} [DecidableEq α] {le₁ : α → α → Bool} {le₂ : β → β → Bool}
    (h₁ : TotalLe le₁) (h₂ : TotalLe le₂) : TotalLe (lexLe le₁ le₂) where
  total := by
    rintro ⟨a, b⟩ ⟨a', b'⟩
    have := h₁.total a a'
    have := h₂.total b b'
    grind [lexLe]
  trans := by
    rintro ⟨a, b⟩ ⟨a', b'⟩ ⟨a'', b''⟩
    have := h₁.trans a a' a''
    have := h₂.trans b b' b''
    -- `a ≤ a' ≤ a` with `a ≠ a'` is excluded by antisymmetry of the first order
    have := h₁.antisymm a a'
    grind [lexLe]
  antisymm := by
    rintro ⟨a, b⟩ ⟨a', b'⟩
    have := h₁.antisymm a a'
    have := h₂.antisymm b b'
    grind [lexLe]

theorem natLe_totalLe : TotalLe (fun a b : Nat => decide (a ≤ b)) := by
  refine ⟨?_, ?_, ?_⟩
  · intro a b
    simp only [Bool.or_eq_true, decide_eq_true_eq]
    omega
  · intro a b c
    simp only [decide_eq_true_eq]
    omega
  · intro a b
    simp only [decide_eq_true_eq]
    omega

def optStrLe : Option Str → Option Str → Bool
  | none, _ => true
  | some _, none => false
  | some a, some b => strLe a b

theorem optStrLe_totalLe : TotalLe optStrLe := by
  refine ⟨?_, ?_, ?_⟩
  · intro a b
    cases a <;> cases b <;> simp [optStrLe, strLe_totalLe.total]
  · intro a b c
    cases a <;> cases b <;> cases c <;> simp [optStrLe]
    exact strLe_totalLe.trans _ _ _
  · intro a b
    cases a <;> cases b <;> simp [optStrLe]
    exact strLe_totalLe.antisymm _ _

theorem TotalLe.comap {α β} {le : β → β → Bool} (h : TotalLe le) (f : α → β)
    (inj : ∀ a b, f a = f b → a = b) : TotalLe (fun a b => le (f a) (f b)) :=
  ⟨fun _ _ => h.total _ _, fun _ _ _ => h.trans _ _ _, fun _ _ p q => inj _ _ (h.antisymm _ _ p q)⟩

def OptKey.tuple (k : OptKey) : Option Str × Nat × Str := (k.sub, k.machine, k.name)

def keyLe (a b : OptKey) : Bool :=
  lexLe optStrLe (lexLe (fun a b : Nat => decide (a ≤ b)) strLe) a.tuple b.tuple

theorem keyLe_totalLe : TotalLe keyLe :=
  (lexLe_totalLe optStrLe_totalLe (lexLe_totalLe natLe_totalLe strLe_totalLe)).comap OptKey.tuple
    (by
      rintro ⟨s, m, n⟩ ⟨s', m', n'⟩ h
      simp only [OptKey.tuple, Prod.mk.injEq] at h
      simp [h])

theorem optKeyLt_eq (a b : OptKey) : (!optKeyLt b a) = keyLe a b := by
  obtain ⟨sa, ma, na⟩ := a
  obtain ⟨sb, mb, nb⟩ := b
  cases sa <;> cases sb <;> simp only [optKeyLt, keyLe, lexLe, OptKey.tuple, optStrLe, tupleLt]
  all_goals grind

theorem pySortedBy_optKeyLt_eq (l : List OptKey) : pySortedBy optKeyLt l = l.mergeSort keyLe := by
  unfold pySortedBy
  congr 1
  funext a b
  exact optKeyLt_eq a b

theorem pySortedBy_optKeyLt_perm {l₁ l₂ : List OptKey} (p : l₁ ~ l₂) :
    pySortedBy optKeyLt l₁ = pySortedBy optKeyLt l₂ := by
  rw [pySortedBy_optKeyLt_eq, pySortedBy_optKeyLt_eq]
  exact mergeSort_eq_of_perm keyLe_totalLe p

theorem dedup_cons (a : Str) (l : List Str) :
    dedup (a :: l) = if a ∈ dedup l then dedup l else a :: dedup l := rfl

theorem mem_dedup (l : List Str) (x : Str) : x ∈ dedup l ↔ x ∈ l := by
  induction l with
  | nil => exact Iff.rfl
  | cons a as ih =>
    rw [dedup_cons, mem_cons, ← ih]
    split
    · exact ⟨Or.inr, fun h => h.elim (fun e => e ▸ ‹a ∈ dedup as›) id⟩
    · exact mem_cons

theorem nodup_dedup (l : List Str) : (dedup l).Nodup := by
  induction l with
  | nil => exact nodup_nil
  | cons a as ih =>
    rw [dedup_cons]
    split
    · exact ih
    · exact nodup_cons.2 ⟨‹_›, ih⟩

theorem sortedSet_ext {l₁ l₂ : List Str} (h : ∀ x, x ∈ l₁ ↔ x ∈ l₂) : sortedSet l₁ = sortedSet l₂ := by
  unfold sortedSet
  apply sortedStrs_perm
  rw [perm_ext_iff_of_nodup (nodup_dedup l₁) (nodup_dedup l₂)]
  intro x
  rw [mem_dedup, mem_dedup]
  exact h x

theorem mem_sortedSet (l : List Str) (x : Str) : x ∈ sortedSet l ↔ x ∈ l := by
  unfold sortedSet
  rw [(sortedStrs_perm_self (dedup l)).mem_iff, mem_dedup]

theorem mem_stepSet (df : List (Str × List Str)) (S : List Str) (x : Str) :
    x ∈ stepSet df S ↔ x ∈ S ∨ ∃ t, t ∈ S ∧ x ∈ depsAt df t := by
  simp [stepSet, mem_append, mem_flatMap]

theorem reachN_ext {df₁ df₂ : List (Str × List Str)}
    (h : ∀ t x, x ∈ depsAt df₁ t ↔ x ∈ depsAt df₂ t) (n : Nat) {S₁ S₂ : List Str}
    (hs : ∀ x, x ∈ S₁ ↔ x ∈ S₂) : ∀ x, x ∈ reachN df₁ n S₁ ↔ x ∈ reachN df₂ n S₂ := by
  induction n generalizing S₁ S₂ with
  | zero => exact hs
  | succ n ih =>
    refine ih fun x => ?_
    simp only [mem_stepSet, hs, h]

theorem depsAt_perm {df₁ df₂ : List (Str × List Str)} (nd : (df₁.map Prod.fst).Nodup) (p : df₁ ~ df₂)
    (t : Str) : depsAt df₁ t = depsAt df₂ t := by
  unfold depsAt
  rw [lookup_perm nd p t]

theorem foldl_perm_of_comm {σ α} {R : σ → σ → Prop} {f : σ → α → σ} (refl : ∀ a, R a a)
    (trans : ∀ {a b c}, R a b → R b c → R a c) (congr : ∀ {a b} x, R a b → R (f a x) (f b x))
    (comm : ∀ a x y, R (f (f a x) y) (f (f a y) x)) {l₁ l₂ : List α} (p : l₁ ~ l₂) :
    ∀ {a b}, R a b → R (l₁.foldl f a) (l₂.foldl f b) := by
  have cong : ∀ (l : List α) {a b}, R a b → R (l.foldl f a) (l.foldl f b) := fun l _ _ h =>
    foldl_rel h fun x _ _ _ => congr x
  induction p with
  | nil => exact id
  | cons x _ ih => exact fun h => ih (congr x h)
  | swap x y l => exact fun h => cong l (trans (comm _ y x) (congr y (congr x h)))
  | trans _ _ ih₁ ih₂ => exact fun h => trans (ih₁ h) (ih₂ (refl _))

def baseStep (s : List (OptKey × OptKind)) (k : OptKey) : List (OptKey × OptKind) :=
  if s.any (fun e => e.1 = k) then s else s ++ [(k, .base)]

theorem baseStep_eq_append (s : List (OptKey × OptKind)) (k : OptKey) :
    baseStep s k = s ++ if s.any (fun e => e.1 = k) then [] else [(k, .base)] := by
  unfold baseStep
  split <;> simp

theorem any_key_perm {s₁ s₂ : List (OptKey × OptKind)} (p : s₁ ~ s₂) (k : OptKey) :
    s₁.any (fun e => decide (e.1 = k)) = s₂.any (fun e => decide (e.1 = k)) := by
  rw [Bool.eq_iff_iff]
  simp only [any_eq_true, p.mem_iff]

theorem baseStep_perm {s₁ s₂ : List (OptKey × OptKind)} (p : s₁ ~ s₂) (k : OptKey) :
    baseStep s₁ k ~ baseStep s₂ k := by
  unfold baseStep
  rw [any_key_perm p k]
  split
  · exact p
  · exact p.append_right _

theorem any_baseStep_of_ne (s : List (OptKey × OptKind)) {x y : OptKey} (h : x ≠ y) :
    (baseStep s x).any (fun e => decide (e.1 = y)) = s.any (fun e => decide (e.1 = y)) := by
  unfold baseStep
  split
  · rfl
  · simp [any_append, h]

theorem baseStep_comm (s : List (OptKey × OptKind)) (x y : OptKey) :
    baseStep (baseStep s x) y ~ baseStep (baseStep s y) x := by
  by_cases hxy : x = y
  · rw [hxy]
  · rw [baseStep_eq_append (baseStep s x), baseStep_eq_append (baseStep s y), any_baseStep_of_ne s hxy,
      any_baseStep_of_ne s (Ne.symm hxy), baseStep_eq_append s x, baseStep_eq_append s y, append_assoc, append_assoc]
    exact perm_append_comm.append_left s

theorem addBaseOptions_perm {s₁ s₂ : List (OptKey × OptKind)} {b₁ b₂ : List OptKey}
    (ps : s₁ ~ s₂) (pb : b₁ ~ b₂) : addBaseOptions s₁ b₁ ~ addBaseOptions s₂ b₂ :=
  foldl_perm_of_comm (f := baseStep) Perm.refl Perm.trans (fun x h => baseStep_perm h x) baseStep_comm pb ps

end MesonModel.Det
