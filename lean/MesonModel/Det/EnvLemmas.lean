/-
Lemmas for the environment part of the C06 model: dictionaries read through `.get` only are compared as
mappings (`DictEq`); extending different keys commutes; the loops of `_set_default_options_from_env`
respect `DictEq`, hence the iteration order of the language sets does not reach any value.
-/
import MesonModel.Det.Lemmas
import MesonModel.Det.EnvModel

namespace MesonModel.Det
open List

def DictEq (d₁ d₂ : OptDict) : Prop := ∀ k, d₁.lookup k = d₂.lookup k

theorem DictEq.refl (d : OptDict) : DictEq d d := fun _ => rfl

theorem DictEq.trans {a b c : OptDict} (h₁ : DictEq a b) (h₂ : DictEq b c) : DictEq a c :=
  fun k => (h₁ k).trans (h₂ k)

theorem lookup_dictExtend (d : OptDict) (k k' : OptKey) (p : List Str) :
    (dictExtend d k p).lookup k' = if k' = k then some ((d.lookup k).getD [] ++ p) else d.lookup k' := by
  induction d with
  | nil =>
    by_cases h : k' = k
    · subst h
      simp [dictExtend]
    · have : (k' == k) = false := by simp [h]
      simp [dictExtend, lookup_cons, this, h]
  | cons e es ih =>
    obtain ⟨k₀, v⟩ := e
    by_cases h0 : k₀ = k
    · subst h0
      by_cases h : k' = k₀
      · subst h
        simp [dictExtend]
      · have : (k' == k₀) = false := by simp [h]
        simp [dictExtend, lookup_cons, this, h]
    · have h0' : (k == k₀) = false := by
        simp
        exact fun e => h0 e.symm
      by_cases h : k' = k₀
      · subst h
        simp [dictExtend, h0]
      · have e1 : (k' == k₀) = false := by simp [h]
        simp only [dictExtend, h0, if_false, lookup_cons, e1, h0']
        exact ih

theorem lookup_dictDel (d : OptDict) (k k' : OptKey) :
    (dictDel d k).lookup k' = if k' = k then none else d.lookup k' :=
  lookup_filter_ne d k k'

theorem dictExtend_congr {d₁ d₂ : OptDict} (h : DictEq d₁ d₂) (k : OptKey) (p : List Str) :
    DictEq (dictExtend d₁ k p) (dictExtend d₂ k p) := by
  intro k'
  rw [lookup_dictExtend, lookup_dictExtend, h k, h k']

theorem dictExtend_comm (d : OptDict) (k₁ k₂ : OptKey) (p : List Str) :
    DictEq (dictExtend (dictExtend d k₁ p) k₂ p) (dictExtend (dictExtend d k₂ p) k₁ p) := by
  intro k'
  by_cases a : k₁ = k₂
  · subst a
    rfl
  · have a' : ¬ k₂ = k₁ := fun e => a e.symm
    simp only [lookup_dictExtend]
    by_cases b : k' = k₁
    · subst b
      simp [a]
    · by_cases c : k' = k₂
      · subst c
        simp [a']
      · simp [b, c]

/-- `for lang in <set>: env_opts[key(lang)].extend(p)`: the resulting mapping does not depend on the order
in which the set is iterated -/
theorem foldl_dictExtend_perm (f : Str → OptKey) (p : List Str) {l₁ l₂ : List Str} (pl : l₁ ~ l₂)
    {d₁ d₂ : OptDict} (h : DictEq d₁ d₂) :
    DictEq (l₁.foldl (fun d x => dictExtend d (f x) p) d₁) (l₂.foldl (fun d x => dictExtend d (f x) p) d₂) :=
  foldl_perm_of_comm (f := fun d x => dictExtend d (f x) p) DictEq.refl DictEq.trans
    (fun x h => dictExtend_congr h (f x) p) (fun d x y => dictExtend_comm d (f x) (f y) p) pl h

/-- the configuration with the two language sets iterated in another order -/
def EnvCfg.reorder (c : EnvCfg) (ld cpp : List Str) : EnvCfg := { c with ldLangs := ld, cppLangs := cpp }

theorem envStep_congr (c : EnvCfg) {ld cpp : List Str} (pl : c.ldLangs ~ ld) (pc : c.cppLangs ~ cpp)
    (look : Str → Option Str) {d₁ d₂ : OptDict} (h : DictEq d₁ d₂) (o : (Str × Str) × Nat) :
    DictEq (envStep c look d₁ o) (envStep (c.reorder ld cpp) look d₂ o) := by
  unfold envStep
  simp only [EnvCfg.reorder]
  cases getEnvVarL look c.isCross o.2 o.1.1 with
  | none => exact h
  | some v =>
    simp only []
    have hp : parseEnvValue { c with ldLangs := ld, cppLangs := cpp } o.2 o.1.2 v = parseEnvValue c o.2 o.1.2 v := rfl
    rw [hp]
    by_cases f : c.firstInvocation = true
    · simp only [f, Bool.not_true, Bool.false_eq_true, if_false]
      by_cases a : o.1.2 = "ldflags".toList
      · simp only [a, if_true]
        exact foldl_dictExtend_perm _ _ pl h
      · simp only [a, if_false]
        by_cases b : o.1.2 = "cppflags".toList
        · simp only [b, if_true]
          exact foldl_dictExtend_perm _ _ pc h
        · simp only [b, if_false]
          exact dictExtend_congr h _ _
    · have f' : c.firstInvocation = false := by simpa using f
      simp only [f', Bool.not_false, if_true]
      exact h

theorem moveStep_congr {s₁ s₂ : OptDict × OptDict} (h : s₁.1 = s₂.1 ∧ DictEq s₁.2 s₂.2) (o : (Str × Str) × Nat) :
    (moveStep s₁ o).1 = (moveStep s₂ o).1 ∧ DictEq (moveStep s₁ o).2 (moveStep s₂ o).2 := by
  obtain ⟨opts, e₁⟩ := s₁
  obtain ⟨_, e₂⟩ := s₂
  obtain ⟨rfl, h⟩ := h
  unfold moveStep
  simp only []
  rw [h (envKey o.2 o.1.2)]
  cases e₂.lookup (envKey o.2 o.1.2) with
  | none => exact ⟨rfl, h⟩
  | some v =>
    simp only []
    by_cases g : hasKey opts (envKey o.2 o.1.2) = true
    · simp only [g, if_true]
      exact ⟨trivial, h⟩
    · have g' : hasKey opts (envKey o.2 o.1.2) = false := by simpa using g
      simp only [g', Bool.false_eq_true, if_false]
      refine ⟨trivial, ?_⟩
      intro k
      rw [lookup_dictDel, lookup_dictDel, h k]

end MesonModel.Det
