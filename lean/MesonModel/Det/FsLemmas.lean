/-
File-system lemmas for the C06 model: what each configure-time writer does to `FS.get`.
-/
import MesonModel.Det.Lemmas

namespace MesonModel.Det
open List

@[simp] theorem get_set (fs : FS) (p q : Str) (st : FileSt) :
    (fs.set p st).get q = if q = p then some st else fs.get q := by
  unfold FS.set FS.get
  by_cases h : q = p
  · subst h
    simp
  · have : (q == p) = false := by simp [h]
    simp only [lookup_cons, this, h, if_false]
    rw [lookup_filter_ne]
    simp [h]

@[simp] theorem get_remove (fs : FS) (p q : Str) :
    (fs.remove p).get q = if q = p then none else fs.get q := by
  unfold FS.remove FS.get
  exact lookup_filter_ne _ _ _

@[simp] theorem get_write (fs : FS) (p q c : Str) :
    (fs.write p c).get q = if q = p then some ⟨c, fs.clock + 1, fs.writeMode p⟩ else fs.get q := by
  unfold FS.write
  have : ∀ (g : FS) (n : Nat), ({ g with clock := n } : FS).get q = g.get q := fun _ _ => rfl
  rw [this, get_set]

theorem get_write_self (fs : FS) (p c : Str) : (fs.write p c).get p = some ⟨c, fs.clock + 1, fs.writeMode p⟩ := by
  rw [get_write, if_pos rfl]

@[simp] theorem clock_write (fs : FS) (p c : Str) : (fs.write p c).clock = fs.clock + 1 := rfl
@[simp] theorem clock_set (fs : FS) (p : Str) (st : FileSt) : (fs.set p st).clock = fs.clock := rfl
@[simp] theorem clock_remove (fs : FS) (p : Str) : (fs.remove p).clock = fs.clock := rfl

@[simp] theorem clock_copymode (fs : FS) (src dst : Str) : (fs.copymode src dst).clock = fs.clock := by
  unfold FS.copymode
  split <;> rfl

theorem get_replace {fs : FS} {tmp dst q : Str} {st : FileSt} (h : fs.get tmp = some st) :
    (fs.replace tmp dst).get q = if q = dst then some st else if q = tmp then none else fs.get q := by
  unfold FS.replace
  rw [h]
  simp

theorem tmpOf_ne (p : Str) : tmpOf p ≠ p := by
  intro h
  have := congrArg List.length h
  simp [tmpOf] at this

theorem replaceIfDifferent_same {fs : FS} {dst tmp : Str} {d t : FileSt} (hd : fs.get dst = some d)
    (ht : fs.get tmp = some t) (h : d.content = t.content) : replaceIfDifferent fs dst tmp = fs.remove tmp := by
  rw [replaceIfDifferent, hd, ht]
  exact if_pos h

theorem replaceIfDifferent_replace {fs : FS} {dst tmp : Str} {t : FileSt} (ht : fs.get tmp = some t)
    (h : ∀ d, fs.get dst = some d → d.content ≠ t.content) : replaceIfDifferent fs dst tmp = fs.replace tmp dst := by
  rw [replaceIfDifferent, ht]
  cases hd : fs.get dst with
  | none => rfl
  | some d => exact if_neg (h d hd)

theorem get_replaceIfDifferent {fs : FS} {dst tmp q : Str} {d t : FileSt}
    (hd : fs.get dst = some d) (ht : fs.get tmp = some t) (hne : tmp ≠ dst) :
    (replaceIfDifferent fs dst tmp).get q =
      if q = tmp then none
      else if q = dst then (if d.content = t.content then some d else some t)
      else fs.get q := by
  by_cases hc : d.content = t.content
  · rw [replaceIfDifferent_same hd ht hc, get_remove, if_pos hc]
    split
    · rfl
    · split
      · rw [‹q = dst›, hd]
      · rfl
  · have hr := replaceIfDifferent_replace ht fun d' e => (Option.some.inj (hd.symm.trans e)) ▸ hc
    rw [hr, get_replace ht, if_neg hc]
    by_cases h2 : q = dst
    · rw [if_pos h2, if_neg (h2 ▸ hne.symm), if_pos h2]
    · rw [if_neg h2, if_neg h2]

theorem get_replaceIfDifferent_new (fs : FS) (dst tmp q : Str) (t : FileSt)
    (hd : fs.get dst = none) (ht : fs.get tmp = some t) :
    (replaceIfDifferent fs dst tmp).get q =
      if q = dst then some t else if q = tmp then none else fs.get q := by
  rw [replaceIfDifferent_replace ht fun d e => nomatch hd.symm.trans e]
  exact get_replace ht

theorem get_writeOut {fs : FS} {w : Writer} {p c q : Str} {old : FileSt} (hp : fs.get p = some old) :
    (writeOut fs w p c).get q =
      match w with
      | .viaReplaceIfDifferent =>
        if q = tmpOf p then none
        else if q = p then (if old.content = c then some old else some ⟨c, fs.clock + 1, fs.writeMode (tmpOf p)⟩)
        else fs.get q
      | .viaReplace =>
        if q = p then some ⟨c, fs.clock + 1, fs.writeMode (tmpOf p)⟩ else if q = tmpOf p then none else fs.get q
      | .inPlace => if q = p then some ⟨c, fs.clock + 1, fs.writeMode p⟩ else fs.get q := by
  have hne := tmpOf_ne p
  cases w with
  | viaReplaceIfDifferent =>
    simp only [writeOut]
    have h1 : (fs.write (tmpOf p) c).get p = some old := by
      have : ¬ p = tmpOf p := fun e => hne e.symm
      rw [get_write]
      simp [this, hp]
    rw [get_replaceIfDifferent h1 (get_write_self fs (tmpOf p) c) hne]
    by_cases a : q = tmpOf p
    · simp [a]
    · by_cases b : q = p
      · simp [a, b]
      · simp [a, b, get_write]
  | viaReplace =>
    simp only [writeOut]
    rw [get_replace (get_write_self fs (tmpOf p) c)]
    by_cases b : q = p
    · simp [b]
    · by_cases a : q = tmpOf p
      · simp [a, b]
      · simp [a, b, get_write]
  | inPlace => simp only [writeOut, get_write]

theorem get_copymode {fs : FS} {src dst q : Str} {s d : FileSt} (hs : fs.get src = some s) (hd : fs.get dst = some d) :
    (fs.copymode src dst).get q = if q = dst then some { d with mode := s.mode } else fs.get q := by
  unfold FS.copymode
  rw [hs, hd]
  simp

/-- the file system `do_conf_file` hands to `replace_if_different` -/
theorem get_confStage {fs : FS} {src dst : Str} {s : FileSt} (hs : fs.get src = some s) (hsrc : src ≠ tmpOf dst) (c q : Str) :
    ((fs.write (tmpOf dst) c).copymode src (tmpOf dst)).get q =
      if q = tmpOf dst then some ⟨c, fs.clock + 1, s.mode⟩ else fs.get q := by
  have h2 : (fs.write (tmpOf dst) c).get src = some s := by
    rw [get_write, if_neg hsrc, hs]
  rw [get_copymode h2 (get_write_self fs (tmpOf dst) c)]
  split
  · rfl
  · rw [get_write, if_neg ‹_›]

end MesonModel.Det
