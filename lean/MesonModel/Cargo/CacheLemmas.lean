/-
The cache model: with one `try` block per cached attribute, `update_version`
leaves no value computed from an older requirement, whatever was cached before.
-/
import MesonModel.Cargo.CacheModel
import MesonModel.Util.Assoc

namespace MesonModel.Cargo.Cache

/-- every cached value was computed from the current requirement -/
def Coherent (o : Obj) : Prop := ∀ e, e ∈ o.cached → e.2 = o.version

/-- only the lazy attributes are ever cached -/
def Within (attrs : List String) (o : Obj) : Prop := ∀ e, e ∈ o.cached → e.1 ∈ attrs

theorem delattr_some {o o' : Obj} {a : String} (h : delattr o a = some o') :
    o' = ⟨o.version, o.cached.filter (fun e => e.1 != a)⟩ := by
  unfold delattr at h
  split at h <;> simp at h
  exact h.symm

theorem delattr_none {o : Obj} {a : String} (h : delattr o a = none) : ∀ e, e ∈ o.cached → e.1 ≠ a := by
  unfold delattr at h
  split at h
  · simp at h
  · rename_i hn
    exact fun e he hea => hn (List.any_eq_true.mpr ⟨e, he, by simp [hea]⟩)

theorem runBlock_version (o : Obj) (b : List String) : (runBlock o b).version = o.version := by
  fun_induction runBlock o b
  case case1 => rfl
  case case2 => rfl
  case case3 h ih => rw [ih, delattr_some h]

theorem runBlock_sub (o : Obj) (b : List String) : ∀ e, e ∈ (runBlock o b).cached → e ∈ o.cached := by
  fun_induction runBlock o b
  case case1 => exact fun e h => h
  case case2 => exact fun e h => h
  case case3 hd ih =>
    intro e h
    have := ih e h
    rw [delattr_some hd] at this
    exact (List.mem_filter.mp this).1

theorem runBlock_single (o : Obj) (a : String) : ∀ e, e ∈ (runBlock o [a]).cached → e.1 ≠ a := by
  intro e h
  simp only [runBlock] at h
  cases hd : delattr o a with
  | none =>
    rw [hd] at h
    exact delattr_none hd e h
  | some o' =>
    rw [hd, delattr_some hd] at h
    simpa using (List.mem_filter.mp h).2

theorem foldl_version (blocks : List (List String)) (o : Obj) :
    (blocks.foldl runBlock o).version = o.version := by
  induction blocks generalizing o with
  | nil => rfl
  | cons b bs ih =>
    simp only [List.foldl_cons]
    rw [ih, runBlock_version]

theorem foldl_sub (blocks : List (List String)) (o : Obj) :
    ∀ e, e ∈ (blocks.foldl runBlock o).cached → e ∈ o.cached := by
  induction blocks generalizing o with
  | nil =>
    intro e h
    exact h
  | cons b bs ih =>
    intro e h
    simp only [List.foldl_cons] at h
    exact runBlock_sub o b e (ih _ e h)

theorem foldl_removes (blocks : List (List String)) (o : Obj) (a : String) (ha : [a] ∈ blocks) :
    ∀ e, e ∈ (blocks.foldl runBlock o).cached → e.1 ≠ a := by
  induction blocks generalizing o with
  | nil => simp at ha
  | cons b bs ih =>
    intro e h
    simp only [List.foldl_cons] at h
    rcases List.mem_cons.mp ha with hb | hb
    · subst hb
      exact runBlock_single o a e (foldl_sub bs _ e h)
    · exact ih _ hb e h

theorem blocksOk_mem (blocks : List (List String)) (attrs : List String) (h : blocksOk blocks attrs = true)
    (a : String) (ha : a ∈ attrs) : [a] ∈ blocks := by
  simp only [blocksOk, Bool.and_eq_true, List.all_eq_true, List.any_eq_true] at h
  obtain ⟨b, hb, he⟩ := h.2 a ha
  have : b = [a] := by simpa using he
  subst this
  exact hb

theorem update_clears (blocks : List (List String)) (attrs : List String)
    (hok : blocksOk blocks attrs = true) (o : Obj) (hw : Within attrs o) (v : List Char) :
    (update blocks o v).cached = [] := by
  cases hc : (update blocks o v).cached with
  | nil => rfl
  | cons e es =>
    have he : e ∈ (update blocks o v).cached := by
      rw [hc]
      simp
    have h1 : e ∈ o.cached := foldl_sub blocks ⟨v, o.cached⟩ e he
    have h2 := foldl_removes blocks ⟨v, o.cached⟩ e.1 (blocksOk_mem blocks attrs hok e.1 (hw e h1)) e he
    exact absurd rfl h2

theorem update_version (blocks : List (List String)) (o : Obj) (v : List Char) :
    (update blocks o v).version = v := by
  unfold update
  rw [foldl_version]

theorem read_preserves (attrs : List String) (o : Obj) (a : String) (ha : a ∈ attrs)
    (hc : Coherent o) (hw : Within attrs o) :
    Coherent (read o a).1 ∧ Within attrs (read o a).1 ∧ (read o a).2 = o.version := by
  unfold read
  cases hl : o.cached.lookup a with
  | some src =>
    exact ⟨hc, hw, hc _ (isLookup_lookup.mem a src o.cached hl)⟩
  | none =>
    simp only []
    split
    · exact ⟨hc, hw, rfl⟩
    · exact ⟨List.forall_mem_cons.mpr ⟨rfl, hc⟩, List.forall_mem_cons.mpr ⟨ha, hw⟩, rfl⟩

/-- ops that read only lazy attributes -/
def OpsWithin (attrs : List String) (ops : List Op) : Prop :=
  ∀ op, op ∈ ops → match op with | .read a => a ∈ attrs | .update _ => True

theorem run_invariant (blocks : List (List String)) (attrs : List String)
    (hok : blocksOk blocks attrs = true) (ops : List Op) (how : OpsWithin attrs ops) :
    ∀ o, Coherent o → Within attrs o →
      Coherent (run blocks o ops) ∧ Within attrs (run blocks o ops) := by
  induction ops with
  | nil =>
    intro o hc hw
    exact ⟨hc, hw⟩
  | cons op rest ih =>
    intro o hc hw
    have hrest : OpsWithin attrs rest := fun p hp => how p (by simp [hp])
    simp only [run, List.foldl_cons]
    cases op with
    | read a =>
      have ha : a ∈ attrs := how (.read a) (by simp)
      have := read_preserves attrs o a ha hc hw
      exact ih hrest _ this.1 this.2.1
    | update v =>
      have hcl := update_clears blocks attrs hok o hw v
      apply ih hrest
      · intro e he
        simp only [step] at he
        rw [hcl] at he
        simp at he
      · intro e he
        simp only [step] at he
        rw [hcl] at he
        simp at he

/-- a fresh object has nothing cached, so every history of it keeps both invariants -/
theorem run_fresh (blocks : List (List String)) (attrs : List String) (hok : blocksOk blocks attrs = true)
    (req : List Char) (ops : List Op) (how : OpsWithin attrs ops) :
    Coherent (run blocks (fresh req) ops) ∧ Within attrs (run blocks (fresh req) ops) :=
  run_invariant blocks attrs hok ops how (fresh req) (fun _ he => nomatch he) (fun _ he => nomatch he)

end MesonModel.Cargo.Cache
