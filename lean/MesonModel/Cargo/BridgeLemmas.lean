/-
What `SemVer(...)` holds for a version *text*. The text `I[.J[.K]]` (ASCII digit
runs) parses to its numeric components, and a full SemVer text `M.m.p[-pre][+build]` parses to the
encoding of its fields as the specification reads them.
-/
import MesonModel.Cargo.SemverLemmas
namespace MesonModel.Cargo
open MesonModel.Py Spec

theorem scanCore_digits (ds : List Char) (hd : ∀ c, c ∈ ds → isDigit c = true) :
    ∀ (acc : Nat) (rest : List Char),
      scanCore (.digits acc) (ds ++ rest) =
        scanCore (.digits (ds.foldl (fun a c => a * 10 + digitVal c) acc)) rest := by
  induction ds with
  | nil =>
    intro acc rest
    rfl
  | cons d ds ih =>
    intro acc rest
    have h1 : isDigit d = true := hd d (by simp)
    simp only [List.cons_append, scanCore, h1, if_true, List.foldl_cons]
    exact ih (fun c hc => hd c (by simp [hc])) _ _

/-- a non-empty run of ASCII digits -/
def IsNum (s : List Char) : Prop := s ≠ [] ∧ ∀ c, c ∈ s → isDigit c = true

theorem scanCore_num (a : List Char) (ha : IsNum a) (rest : List Char) :
    scanCore .none (a ++ rest) = scanCore (.digits (natOfDigits a)) rest := by
  obtain ⟨hne, hd⟩ := ha
  cases a with
  | nil => exact absurd rfl hne
  | cons d ds =>
    have h1 : isDigit d = true := hd d (by simp)
    simp only [List.cons_append, scanCore, h1, if_true]
    rw [scanCore_digits ds (fun c hc => hd c (by simp [hc]))]
    simp [natOfDigits]

theorem scanCore_digits_dot (n : Nat) (r : List Char) :
    scanCore (.digits n) ('.' :: r) = (n :: (scanCore .none r).1, (scanCore .none r).2) := by
  have h1 : isDigit '.' = false := by decide
  have h2 : isIdentStart '.' = false := by decide
  simp [scanCore, h1, h2, flush]

/-- what ends the numeric core — nothing, the pre-release marker, or build metadata — and, second, the text the scan
hands on from there -/
inductive Tail : List Char → List Char → Prop where
  | none : Tail [] []
  | pre (x : List Char) : Tail ('-' :: x) ('-' :: x)
  | build (x : List Char) : Tail ('+' :: x) []

theorem scanCore_digits_tail (n : Nat) (tail txt : List Char) (ht : Tail tail txt) :
    scanCore (.digits n) tail = ([n], txt) := by
  have h1 : isDigit '-' = false := by decide
  have h2 : isIdentStart '-' = true := by decide
  have h3 : isDigit '+' = false := by decide
  have h4 : isIdentStart '+' = false := by decide
  cases ht <;> simp [scanCore, flush, h1, h2, h3, h4]

/-- `I`, `I.J`, `I.J.K` … joined with dots -/
def dotted : List (List Char) → List Char
  | [] => []
  | [a] => a
  | a :: b :: rest => a ++ '.' :: dotted (b :: rest)

theorem scanCore_dotted (ds : List (List Char)) (hne : ds ≠ []) (hd : ∀ d, d ∈ ds → IsNum d)
    (tail txt : List Char) (ht : Tail tail txt) :
    scanCore .none (dotted ds ++ tail) = (ds.map natOfDigits, txt) := by
  fun_induction dotted ds
  case case1 => exact absurd rfl hne
  case case2 a =>
    rw [scanCore_num a (hd a (by simp)), scanCore_digits_tail _ _ _ ht]
    rfl
  case case3 a b rest ih =>
    have := ih (by simp) (fun d h => hd d (by simp [h]))
    rw [List.append_assoc, scanCore_num a (hd a (by simp)), List.cons_append, scanCore_digits_dot, this]
    rfl

theorem preIdents_nil : preIdents [] = [] := by decide

theorem parse_dotted (ds : List (List Char)) (h1 : 1 ≤ ds.length) (h3 : ds.length ≤ 3)
    (hd : ∀ d, d ∈ ds → IsNum d) :
    SemVer.parse (dotted ds) = SemVer.ofComps (ds.map natOfDigits) := by
  have hne : ds ≠ [] := by
    intro h
    subst h
    simp at h1
  have := scanCore_dotted ds hne hd [] [] Tail.none
  simp only [List.append_nil] at this
  have ht : (ds.map natOfDigits).take 3 = ds.map natOfDigits := by
    apply List.take_of_length_le
    simpa using h3
  simp [SemVer.parse, this, preIdents_nil, ht, SemVer.ofComps]

theorem splitOnChar_ne_nil (sep : Char) (s : List Char) : splitOnChar sep s ≠ [] := by
  cases s with
  | nil => simp [splitOnChar]
  | cons d ds =>
    simp only [splitOnChar]
    split <;> (try split) <;> simp

theorem splitOnChar_append (sep : Char) (a b : List Char) :
    splitOnChar sep (a ++ sep :: b) = splitOnChar sep a ++ splitOnChar sep b := by
  induction a with
  | nil => simp [splitOnChar]
  | cons c cs ih =>
    by_cases h : c = sep
    · subst h
      simp [splitOnChar, ih]
    · simp only [List.cons_append, splitOnChar, h, beq_iff_eq, if_false, ih]
      cases h1 : splitOnChar sep cs with
      | nil => exact absurd h1 (splitOnChar_ne_nil sep cs)
      | cons p ps => simp

theorem splitOnChar_noSep (sep : Char) (a : List Char) (h : sep ∉ a) : splitOnChar sep a = [a] := by
  induction a with
  | nil => simp [splitOnChar]
  | cons c cs ih =>
    have hc : ¬ c = sep := by
      intro e
      subst e
      simp at h
    have := ih (by intro hm; exact h (by simp [hm]))
    simp [splitOnChar, hc, this]

/-- a pre-release identifier text: non-empty, over `[0-9A-Za-z-]` -/
def IsIdent (i : List Char) : Prop := i ≠ [] ∧ ∀ c, c ∈ i → isIdentChar c = true

theorem identChar_ne_dot (c : Char) (h : isIdentChar c = true) : c ≠ '.' := by
  intro e
  subst e
  exact absurd h (by decide)
theorem identChar_ne_plus (c : Char) (h : isIdentChar c = true) : c ≠ '+' := by
  intro e
  subst e
  exact absurd h (by decide)

theorem split_dotted (ids : List (List Char)) (hne : ids ≠ []) (hi : ∀ i, i ∈ ids → IsIdent i) :
    splitOnChar '.' (dotted ids) = ids := by
  have ha : ∀ a, IsIdent a → splitOnChar '.' a = [a] := fun a h =>
    splitOnChar_noSep '.' a fun hm => identChar_ne_dot _ (h.2 _ hm) rfl
  fun_induction dotted ids
  case case1 => exact absurd rfl hne
  case case2 a => exact ha a (hi a (by simp))
  case case3 a b rest ih =>
    rw [splitOnChar_append, ha a (hi a (by simp)), ih (by simp) (fun i h => hi i (by simp [h]))]
    rfl

theorem mem_dotted {c : Char} {ds : List (List Char)} (h : c ∈ dotted ds) :
    c = '.' ∨ ∃ d, d ∈ ds ∧ c ∈ d := by
  fun_induction dotted ds
  case case1 => nomatch h
  case case2 a => exact .inr ⟨a, by simp, h⟩
  case case3 a b rest ih =>
    simp only [List.mem_append, List.mem_cons] at h
    rcases h with h | h | h
    · exact .inr ⟨a, by simp, h⟩
    · exact .inl h
    · exact (ih h).imp_right fun ⟨d, hd, hc⟩ => ⟨d, by simp [hd], hc⟩

theorem dotted_no_plus (ids : List (List Char)) (hi : ∀ i, i ∈ ids → IsIdent i) :
    ∀ c, c ∈ dotted ids → c ≠ '+' := by
  intro c hc
  rcases mem_dotted hc with rfl | ⟨i, him, hci⟩
  · decide
  · exact identChar_ne_plus c ((hi i him).2 c hci)

def buildText : Option (List Char) → List Char
  | none => []
  | some b => '+' :: b

theorem takeWhile_stop (l : List Char) (hl : ∀ c, c ∈ l → c ≠ '+') (b : Option (List Char)) :
    (l ++ buildText b).takeWhile (fun c => c != '+') = l := by
  rw [List.takeWhile_append_of_pos (by simpa using hl)]
  cases b <;> simp [buildText]

/-- how the specification reads an identifier text -/
def fieldOf (i : List Char) : Ident :=
  if i.all isDigit then .num (natOfDigits i) else .alnum i

theorem classify_eq (i : List Char) : classify i = encI (fieldOf i) := by
  unfold classify fieldOf
  split <;> simp [encI]

theorem preIdents_section (ids : List (List Char)) (hne : ids ≠ []) (hi : ∀ i, i ∈ ids → IsIdent i)
    (b : Option (List Char)) :
    preIdents ('-' :: (dotted ids ++ buildText b)) = (ids.map fieldOf).map encI := by
  have h1 : (('-' :: dotted ids) ++ buildText b).takeWhile (fun c => c != '+') = '-' :: dotted ids :=
    takeWhile_stop _ (List.forall_mem_cons.mpr ⟨by decide, dotted_no_plus ids hi⟩) b
  simp only [List.cons_append] at h1
  have h2 : ∀ i, i ∈ ids → i ≠ [] := fun i h => (hi i h).1
  simp only [preIdents, h1, startsWith, List.isPrefixOf, beq_self_eq_true, Bool.true_and, if_true,
    List.drop, split_dotted ids hne hi]
  rw [List.filter_eq_self.mpr (by intro i h; simpa using h2 i h)]
  simp [classify_eq]

/-- what follows the numeric core of a SemVer text — `[-pre][+build]` — ends the core, and the identifiers read from what
the scan hands on are those of `pre` -/
theorem tail_pre_build (ids : List (List Char)) (hi : ∀ i, i ∈ ids → IsIdent i) (b : Option (List Char)) :
    ∃ txt, Tail ((if ids = [] then [] else '-' :: dotted ids) ++ buildText b) txt ∧
      preIdents txt = (ids.map fieldOf).map encI := by
  by_cases hne : ids = []
  · subst hne
    cases b with
    | none => exact ⟨_, Tail.none, preIdents_nil⟩
    | some x => exact ⟨_, Tail.build x, preIdents_nil⟩
  · rw [if_neg hne]
    exact ⟨_, Tail.pre _, preIdents_section ids hne hi b⟩

structure SVText where
  major : List Char
  minor : List Char
  patch : List Char
  pre : List (List Char)
  build : Option (List Char)

def SVText.wf (t : SVText) : Prop :=
  IsNum t.major ∧ IsNum t.minor ∧ IsNum t.patch ∧ ∀ i, i ∈ t.pre → IsIdent i

/-- `M.m.p[-pre][+build]` -/
def SVText.render (t : SVText) : List Char :=
  dotted [t.major, t.minor, t.patch] ++
    ((if t.pre = [] then [] else '-' :: dotted t.pre) ++ buildText t.build)

/-- the fields as the specification reads them -/
def SVText.fields (t : SVText) : SV :=
  ⟨natOfDigits t.major, natOfDigits t.minor, natOfDigits t.patch, t.pre.map fieldOf⟩

end MesonModel.Cargo
