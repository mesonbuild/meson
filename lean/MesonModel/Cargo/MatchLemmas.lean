/-
The model's matcher on tag-free comparators and release versions, for `cargo_eq_spec`.
`release` embeds the release versions of the specification, with their order, into component lists;
the bounds the matcher computes from a release are releases again. So on releases the matcher speaks
the specification's own vocabulary (`tlt`, `tle`), and each requirement form is read off its row.
-/
import MesonModel.Cargo.OrderLemmas
import MesonModel.Cargo.Spec
import MesonModel.Cargo.MatchAttr

namespace MesonModel.Cargo
open Spec

/-- the canonical operator `split()` yields for each requirement form (`I.*` becomes a tilde) -/
def toModelOp : ReqOp → Op
  | .exact => .eq | .greater => .gt | .greaterEq => .ge | .less => .lt | .lessEq => .le
  | .tilde => .tilde | .caret => .caret | .wildcard => .tilde

/-- what `SemVer(...)` holds for the text `i[.j[.k]]` (see `parse_dotted`) -/
def SemVer.ofComps (cs : List Nat) : SemVer :=
  ⟨padTo 4 (cs.map (fun (n : Nat) => Comp.int (Int.ofNat n))), cs.length⟩

/-- the release version `a.b.c` as `SemVer` holds it -/
def release (v : V) : SemVer :=
  ⟨[.int (v.1 : Int), .int (v.2.1 : Int), .int (v.2.2 : Int), .int 0], 3⟩

theorem vcmp_nil : vcmp [] [] = .eq := rfl

theorem tle_iff_not_tlt (a b : V) : tle a b ↔ ¬ tlt b a := by
  obtain ⟨a1, a2, a3⟩ := a
  obtain ⟨b1, b2, b3⟩ := b
  simp only [tle, tlt, Prod.mk.injEq]
  omega

theorem tlt_succ_iff (v : V) (i j k : Nat) : tlt v (i, j, k + 1) ↔ tle v (i, j, k) := by
  obtain ⟨a, b, c⟩ := v
  simp only [tle, tlt, Prod.mk.injEq]
  omega

/-- the exclusive upper end of the caret range of `w`: the leftmost non-zero component bumped, and
`1.0.0` for `0.0.0` -/
def caretUpper (w : V) : V :=
  if w.1 ≠ 0 then (w.1 + 1, 0, 0)
  else if w.2.1 ≠ 0 then (0, w.2.1 + 1, 0)
  else if w.2.2 ≠ 0 then (0, 0, w.2.2 + 1)
  else (1, 0, 0)

/-- the caret rule, with its deviation, in one formula for the three shapes -/
theorem pinnedRule_caret (i j k : Nat) (v : V) :
    (pinnedRule .caret [i] v ↔ tle (i, 0, 0) v ∧ tlt v (caretUpper (i, 0, 0))) ∧
    (pinnedRule .caret [i, j] v ↔ tle (i, j, 0) v ∧ tlt v (caretUpper (i, j, 0))) ∧
    (pinnedRule .caret [i, j, k] v ↔ tle (i, j, k) v ∧ tlt v (caretUpper (i, j, k))) := by
  have h0 : tle (0, 0, 0) v := by
    obtain ⟨a, b, c⟩ := v
    simp only [tle, tlt, Prod.mk.injEq]
    omega
  refine ⟨?_, ?_, ?_⟩
  · cases i <;> simp [pinnedRule, cargoRule, caretUpper]
  · cases i
    · cases j <;> simp [pinnedRule, cargoRule, caretUpper, h0]
    · simp [pinnedRule, cargoRule, caretUpper]
  · cases i
    · cases j
      · cases k <;> simp [pinnedRule, cargoRule, caretUpper, h0]
      · simp [pinnedRule, cargoRule, caretUpper]
    · simp [pinnedRule, cargoRule, caretUpper]

theorem vlt_release (v w : V) : vlt (release v).v (release w).v = true ↔ tlt v w := by
  simp only [vlt, release, beq_iff_eq, vcmp_cons_int_lt, Int.ofNat_lt, Int.ofNat_inj, vcmp_nil, tlt]
  simp

theorem vgt_release (v w : V) : vgt (release v).v (release w).v = true ↔ tlt w v := by
  rw [← vlt_release]
  exact Bool.eq_iff_iff.mp (vcmpLaws.lt_iff_gt_swap _ _).symm

theorem vge_release (v w : V) : vge (release v).v (release w).v = true ↔ tle w v := by
  rw [tle_iff_not_tlt, ← vlt_release]
  simp [vge, vlt]

theorem vle_release (v w : V) : vle (release v).v (release w).v = true ↔ tle v w := by
  rw [show vle (release v).v (release w).v = vge (release w).v (release v).v from
    vcmpLaws.le_iff_ge_swap _ _]
  exact vge_release w v

theorem veq_release (v w : V) : veq (release v).v (release w).v = true ↔ v = w := by
  obtain ⟨a, b, c⟩ := v
  obtain ⟨x, y, z⟩ := w
  simp [veq, release]
  omega

theorem hasPre_release (v : V) : (release v).hasPre = false := rfl

theorem ofComps_one (i : Nat) : SemVer.ofComps [i] = ⟨(release (i, 0, 0)).v, 1⟩ := rfl
theorem ofComps_two (i j : Nat) : SemVer.ofComps [i, j] = ⟨(release (i, j, 0)).v, 2⟩ := rfl
theorem ofComps_three (i j k : Nat) : SemVer.ofComps [i, j, k] = release (i, j, k) := rfl

theorem nextVer_release (a b c : Nat) :
    nextVer (release (a, b, c)).v 0 = release (a + 1, 0, 0) ∧
    nextVer (release (a, b, c)).v 1 = release (a, b + 1, 0) ∧
    nextVer (release (a, b, c)).v 2 = release (a, b, c + 1) := ⟨rfl, rfl, rfl⟩

theorem count_release (w : V) : (release w).count = 3 := rfl

theorem caretIdx_release (a b c : Nat) :
    caretIdx (release (a, b, c)).v = if a ≠ 0 then 0 else if b ≠ 0 then 1 else if c ≠ 0 then 2 else 0 := by
  simp [caretIdx, release]

theorem nextVer_caretIdx (w : V) :
    nextVer (release w).v (caretIdx (release w).v) = release (caretUpper w) := by
  obtain ⟨a, b, c⟩ := w
  rw [caretIdx_release]
  unfold caretUpper
  by_cases ha : a = 0
  · subst ha
    by_cases hb : b = 0
    · subst hb
      by_cases hc : c = 0
      · subst hc
        rfl
      · simpa [hc] using (nextVer_release 0 0 c).2.2
    · simpa [hb] using (nextVer_release 0 b c).2.1
  · simpa [ha] using (nextVer_release a b c).1

attribute [cargo_match] compareWith constraintsOf toModelOp ofComps_one ofComps_two ofComps_three hasPre_release
  count_release nextVerLast nextVer_release nextVer_caretIdx Rel.holds List.all_cons List.all_nil
  Bool.false_and Bool.and_true Bool.and_eq_true Bool.false_eq_true if_false ge_iff_le if_true
  vlt_release vgt_release vge_release vle_release veq_release pinnedRule cargoRule tlt_succ_iff

end MesonModel.Cargo
