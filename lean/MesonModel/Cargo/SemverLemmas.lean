/-
The model's comparison against the SemVer section 11 specification, the scanner's
treatment of build metadata, and the structure of `cargo_parse`.
-/
import MesonModel.Cargo.MatchLemmas

namespace MesonModel.Cargo
open Spec
open MesonModel.Version (CmpLaws lexCmpLaws charCmpLaws lexCmp charCmp)

theorem lexCmp_lt_iff {α : Type} (cmp : α → α → Ordering) (r : α → α → Prop)
    (hlt : ∀ x y, cmp x y = .lt ↔ r x y) (heq : ∀ x y, cmp x y = .eq ↔ x = y) :
    ∀ a b, lexCmp cmp a b = .lt ↔ LexLt r a b := by
  intro a
  induction a with
  | nil =>
    intro b
    cases b with
    | nil =>
      simp [lexCmp]
      intro h
      cases h
    | cons y ys =>
      simp [lexCmp]
      exact LexLt.nil_cons y ys
  | cons x xs ih =>
    intro b
    cases b with
    | nil =>
      simp [lexCmp]
      intro h
      cases h
    | cons y ys =>
      rw [Version.lexCmp_cons_cons, Ordering.then_eq_lt, hlt, heq, ih]
      constructor
      · rintro (h | ⟨rfl, h⟩)
        · exact LexLt.head xs ys h
        · exact LexLt.tail x h
      · intro h
        cases h with
        | head _ _ hr => exact Or.inl hr
        | tail _ ht => exact Or.inr ⟨rfl, ht⟩

theorem lexCmp_map {α β : Type} (cmp : β → β → Ordering) (f : α → β) :
    ∀ a b : List α, lexCmp cmp (a.map f) (b.map f) = lexCmp (fun x y => cmp (f x) (f y)) a b := by
  intro a
  induction a with
  | nil =>
    intro b
    cases b <;> simp [lexCmp]
  | cons x xs ih =>
    intro b
    cases b with
    | nil => simp [lexCmp]
    | cons y ys => simp only [List.map, lexCmp, ih]

/-- how the model stores a pre-release identifier *when it is parsed as the specification reads it* -/
def encI : Ident → Comp
  | .num n => .int (Int.ofNat n)
  | .alnum s => .str s

/-- the component list of a SemVer value -/
def encode (a : SV) : List Comp :=
  [.int (Int.ofNat a.major), .int (Int.ofNat a.minor), .int (Int.ofNat a.patch),
    .int (if a.pre = [] then 0 else -1)] ++ a.pre.map encI

theorem encI_inj (x y : Ident) : encI x = encI y ↔ x = y := by
  cases x <;> cases y <;> simp [encI]
  omega

theorem str_lt_iff (a b : List Char) :
    lexCmp charCmp a b = .lt ↔ LexLt (fun x y : Char => x.toNat < y.toNat) a b :=
  lexCmp_lt_iff charCmp _ (fun x y => by simp [charCmp, Nat.compare_eq_lt]) charCmpLaws.eq_iff a b

theorem compCmp_encI_lt (x y : Ident) : compCmp (encI x) (encI y) = .lt ↔ identLt x y := by
  cases x <;> cases y <;> simp [encI, compCmp, identLt]
  · rw [Int.compare_eq_lt]
    omega
  · exact str_lt_iff _ _

theorem pre_lt_iff (l m : List Ident) :
    vcmp (l.map encI) (m.map encI) = .lt ↔ LexLt identLt l m := by
  unfold vcmp
  rw [lexCmp_map]
  exact lexCmp_lt_iff _ _ compCmp_encI_lt
    (fun x y => by rw [compCmpLaws.eq_iff, encI_inj]) l m

theorem vcmp_nil_cons (x : Comp) (xs : List Comp) : vcmp [] (x :: xs) = .lt := rfl
theorem vcmp_cons_nil (x : Comp) (xs : List Comp) : vcmp (x :: xs) [] = .gt := rfl

theorem takeWhile_plus (u t : List Char) :
    (u ++ '+' :: t).takeWhile (fun c => c != '+') = u.takeWhile (fun c => c != '+') := by
  induction u with
  | nil => simp
  | cons c cs ih =>
    by_cases h : c = '+'
    · subst h
      simp
    · have hb : (c != '+') = true := by simpa using h
      simp [List.takeWhile, hb, ih]

theorem preIdents_plus (u t : List Char) : preIdents (u ++ '+' :: t) = preIdents u := by
  simp [preIdents, takeWhile_plus]

theorem scanCore_plus (s t : List Char) (r : Run) :
    (scanCore r (s ++ '+' :: t)).1 = (scanCore r s).1 ∧
    preIdents (scanCore r (s ++ '+' :: t)).2 = preIdents (scanCore r s).2 := by
  fun_induction scanCore r s with
  -- the text ends: the `+` stands in its place and ends the loop
  | case1 r =>
    have h2 : MesonModel.Py.isDigit '+' = false := by decide
    have h3 : isIdentStart '+' = false := by decide
    simp [scanCore, h2, h3]
  -- a pre-release starts: the rest is cut at the `+`
  | case4 _ c cs => simpa [scanCore, *] using preIdents_plus (c :: cs) t
  -- a digit, a `+`, a skipped character: one step of the scan on both sides, then the same run on the rest
  | case2 | case3 | case5 | case6 => simp +zetaDelta [scanCore, *]

theorem constraintsOf_ne_nil (op : Op) (x : SemVer) : constraintsOf op x ≠ [] := by
  cases op <;> simp [constraintsOf]

theorem flatMap_constraints_isEmpty (svs : List (Op × SemVer)) :
    (svs.flatMap (fun c => constraintsOf c.1 c.2)).isEmpty = svs.isEmpty := by
  cases svs with
  | nil => rfl
  | cons c cs =>
    have := constraintsOf_ne_nil c.1 c.2
    cases h : constraintsOf c.1 c.2 with
    | nil => exact absurd h this
    | cons a as => simp [List.flatMap_cons, h]

/-- `cargo_parse` in one formula: the pre-release gate, then every constraint of every comparator (also
for the empty requirement, which has no constraint and names no pre-release) -/
theorem matchSplit_eq (cs : List (Op × List Char)) (ver : List Char) :
    matchSplit cs ver =
      ((!(SemVer.parse ver).hasPre || cs.any (fun c => (SemVer.parse c.2).hasPre)) &&
        (cs.flatMap (fun c => constraintsOf c.1 (SemVer.parse c.2))).all
          (fun c => c.1.holds (SemVer.parse ver).v c.2)) := by
  unfold matchSplit compareWith
  simp only [flatMap_constraints_isEmpty]
  cases cs with
  | nil => simp
  | cons c cs =>
    cases (SemVer.parse ver).hasPre <;>
    simp [List.flatMap_map, Function.comp_def]

end MesonModel.Cargo
