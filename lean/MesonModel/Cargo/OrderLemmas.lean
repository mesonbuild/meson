/-
The SemVer comparison of the Cargo model: `vcmp` is a strict total order on
component lists (`vcmpLaws`, through the generic `CmpLaws`/`lexCmpLaws` of the version area, whose
consequences for `<`, `<=`, `==` … apply as they stand).
-/
import MesonModel.Cargo.Model
import MesonModel.Version.Lemmas

namespace MesonModel.Cargo
open MesonModel.Version (CmpLaws lexCmpLaws charCmpLaws lexCmp charCmp)
open MesonModel

theorem intCmpLaws : CmpLaws (fun a b : Int => compare a b) where
  eq_iff a b := by simp
  swap a b := Std.OrientedOrd.eq_swap
  trans a b c h1 h2 := by
    simp only [Int.compare_eq_lt] at *
    omega

theorem compCmpLaws : CmpLaws compCmp where
  eq_iff a b := by
    cases a <;> cases b <;> simp [compCmp]
    exact (lexCmpLaws charCmpLaws).eq_iff _ _
  swap a b := by
    cases a <;> cases b <;> simp [compCmp, Ordering.swap]
    · exact intCmpLaws.swap _ _
    · exact (lexCmpLaws charCmpLaws).swap _ _
  trans a b c := by
    cases a <;> cases b <;> cases c <;> simp [compCmp]
    · exact intCmpLaws.trans _ _ _
    · exact (lexCmpLaws charCmpLaws).trans _ _ _

theorem vcmpLaws : CmpLaws vcmp := lexCmpLaws compCmpLaws

theorem veq_iff (a b : List Comp) : veq a b = true ↔ a = b := by simp [veq]
theorem vne_iff (a b : List Comp) : vne a b = true ↔ a ≠ b := by simp [vne, veq]

theorem vcmp_append (p a b : List Comp) : vcmp (p ++ a) (p ++ b) = vcmp a b :=
  compCmpLaws.lexCmp_append p a b

theorem vcmp_cons_same (x : Comp) (a b : List Comp) : vcmp (x :: a) (x :: b) = vcmp a b :=
  vcmp_append [x] a b

theorem vcmp_cons_int_lt (m n : Int) (a b : List Comp) :
    vcmp (.int m :: a) (.int n :: b) = .lt ↔ m < n ∨ (m = n ∧ vcmp a b = .lt) := by
  simp only [vcmp, Version.lexCmp_cons_cons, compCmp, Ordering.then_eq_lt, Int.compare_eq_lt,
    intCmpLaws.eq_iff]

end MesonModel.Cargo
