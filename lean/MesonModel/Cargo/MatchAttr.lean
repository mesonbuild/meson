import Lean.Meta.Tactic.Simp.RegisterCommand

/-- what the matcher computes on a comparator given by its components and a release version, down to the
specification's `tlt`/`tle` -/
register_simp_attr cargo_match
