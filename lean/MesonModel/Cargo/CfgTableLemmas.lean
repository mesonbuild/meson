/-
The cfg-table model: with the copy, no sequence of `_get_cfgs` calls changes the
compiler's cached list, and every result depends on its own key only.
-/
import MesonModel.Cargo.CfgTableModel
import MesonModel.Util.Assoc

namespace MesonModel.Cargo.CfgTable

/-- the memo only holds what the key alone determines -/
def MemoOk (rustArgs : Key → List Line) (s0 s : State) : Prop :=
  s.baseHost = s0.baseHost ∧ s.baseBuild = s0.baseBuild ∧
  ∀ k t, (k, t) ∈ s.memo → t = expected rustArgs s0 k

theorem getCfgs_ok (rustArgs : Key → List Line) (s0 s : State) (h : MemoOk rustArgs s0 s) (k : Key) :
    MemoOk rustArgs s0 (getCfgs true rustArgs s k).1 ∧
      (getCfgs true rustArgs s k).2 = expected rustArgs s0 k := by
  obtain ⟨h1, h2, h3⟩ := h
  unfold getCfgs
  cases hl : s.memo.lookup k with
  | some t => exact ⟨⟨h1, h2, h3⟩, h3 k t (isLookup_lookup.mem k t s.memo hl)⟩
  | none =>
    have hb : s.base k.1 = s0.base k.1 := by simp [State.base, h1, h2]
    refine ⟨⟨h1, h2, ?_⟩, by simp [expected, hb]⟩
    intro k' t' hm
    simp only [if_true] at hm
    rcases List.mem_cons.mp hm with he | he
    · cases he
      simp [expected, hb]
    · exact h3 k' t' he

theorem run_ok (rustArgs : Key → List Line) (s0 : State) (ks : List Key) :
    ∀ s, MemoOk rustArgs s0 s → MemoOk rustArgs s0 (run true rustArgs s ks) := by
  induction ks with
  | nil =>
    intro s h
    exact h
  | cons k rest ih =>
    intro s h
    simp only [run, List.foldl_cons]
    exact ih _ (getCfgs_ok rustArgs s0 s h k).1

theorem run_ok_fresh (rustArgs : Key → List Line) (host build : List Line) (ks : List Key) :
    MemoOk rustArgs ⟨host, build, []⟩ (run true rustArgs ⟨host, build, []⟩ ks) :=
  run_ok rustArgs _ ks _ ⟨rfl, rfl, fun _ _ hm => nomatch hm⟩

end MesonModel.Cargo.CfgTable
