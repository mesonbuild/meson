/-
The cfg parser of the Cargo model: `parseE`/`parseArgs` accept exactly the token
language `renderTokens` of the grammar. One walk over the parser (induction on the fuel) shows that an answer
is a tree whose rendering was consumed or one of the implementation's errors; completeness is by
structural induction on the expression.
-/
import MesonModel.Cargo.Spec

namespace MesonModel.Cargo
open Spec

theorem render_head (e : IR) : ∃ t ts, renderTokens e = t :: ts ∧ t ≠ .rparen ∧ t ≠ .equal := by
  cases e <;> simp [renderTokens]

theorem renderRest_head (es : List IR) (rest : List Token) :
    (renderRest es ++ .rparen :: rest).head? ≠ some .equal := by
  cases es <;> simp [renderRest]

/-- what the parser may answer on `ts`: a value whose rendering it consumed from the front of `ts`, or one
of the implementation's errors -/
def Parsed {α : Type} (render : α → List Token) (ok : α → Prop) (ts : List Token) :
    Except PErr (α × List Token) → Prop
  | .ok (a, rest) => ts = render a ++ rest ∧ ok a
  | .error e => e ≠ .fuel

abbrev ParsedE := Parsed renderTokens namesOk

/-- an argument list is consumed together with the parenthesis that closes it -/
abbrev ParsedA := Parsed (fun es => renderArgs es ++ [.rparen]) (fun es => es ≠ [] ∧ namesOkL es)

theorem parseCall_parsed (f : Nat) (isAny : Bool) (tl : List Token)
    (ihA : ∀ ts, ts.length < tl.length → ParsedA ts (parseArgs f ts)) :
    ParsedE ((if isAny then Token.any else Token.all) :: tl)
      (parseCallWith (fun ts => parseArgs f ts) isAny tl) := by
  generalize hk : (if isAny then Token.any else Token.all) = kw
  unfold parseCallWith
  split
  · simp [Parsed]
  · next rest =>
    split
    · subst hk
      cases isAny <;> simp [Parsed, renderTokens, renderArgs, namesOk, namesOkL]
    · have hA := ihA rest (by simp)
      split
      · next e he =>
        rw [show parseArgs f rest = _ from he] at hA
        exact hA
      · next args rest2 he =>
        rw [show parseArgs f rest = _ from he] at hA
        obtain ⟨rfl, -, h3⟩ := hA
        subst hk
        cases isAny <;> simp [Parsed, renderTokens, namesOk, h3]
  · simp [Parsed]

theorem parse_walk : ∀ f,
    (∀ ts, ts.length < f → ParsedE ts (parseE f ts)) ∧
    (∀ ts, ts.length + 1 < f → ParsedA ts (parseArgs f ts)) := by
  intro f
  induction f with
  | zero => exact ⟨fun _ h => absurd h (by omega), fun _ h => absurd h (by omega)⟩
  | succ f ih =>
    obtain ⟨ihE, ihA⟩ := ih
    constructor
    · intro ts hlen
      cases ts with
      | nil => simp [parseE, Parsed]
      | cons tok tl =>
        simp only [List.length_cons] at hlen
        cases tok <;> unfold parseE <;> simp only []
        case lparen | rparen | str | comma | equal => simp [Parsed]
        case all => exact parseCall_parsed f false tl fun ts h => ihA ts (by omega)
        case any => exact parseCall_parsed f true tl fun ts h => ihA ts (by omega)
        case ident name =>
          split
          · simp [Parsed]
          · next hne =>
            split
            · split <;> simp [Parsed, renderTokens, namesOk, hne]
            · simp [Parsed, renderTokens, namesOk, hne]
        case not =>
          split
          · simp [Parsed]
          · next rest2 =>
            have hE := ihE rest2 (by simp only [List.length_cons] at hlen; omega)
            split
            · next e he =>
              rw [he] at hE
              exact hE
            · next arg rest3 he =>
              rw [he] at hE
              obtain ⟨rfl, h2⟩ := hE
              split <;> simp [Parsed, renderTokens, namesOk, h2]
          · simp [Parsed]
    · intro ts hlen
      unfold parseArgs
      have hE := ihE ts (by omega)
      split
      · next e he =>
        rw [he] at hE
        exact hE
      · next a rest he =>
        rw [he] at hE
        obtain ⟨rfl, h2⟩ := hE
        obtain ⟨t, r, h1, _⟩ := render_head a
        split
        · simp [Parsed]
        · simp [Parsed, renderArgs, renderRest, namesOkL, h2]
        · next rest2 =>
          have hA := ihA rest2 (by
            simp only [h1, List.length_append, List.length_cons] at hlen
            omega)
          split
          · next e he2 =>
            rw [he2] at hA
            exact hA
          · next as rest3 he2 =>
            rw [he2] at hA
            obtain ⟨rfl, hne, h4⟩ := hA
            cases as with
            | nil => exact absurd rfl hne
            | cons b bs => simpa [Parsed, renderArgs, renderRest, namesOkL, h2] using h4
        · simp [Parsed]

theorem parse_spec (ts : List Token) :
    (∀ e, parse ts = .ok e → ts = renderTokens e ∧ namesOk e) ∧ parse ts ≠ .error .fuel := by
  have hw := (parse_walk _).1 ts (Nat.lt_succ_self _)
  unfold parse
  split <;> simp_all [Parsed]

mutual
/-- fuel that suffices for `parseE` on the rendering of the expression: one unit per node and per argument -/
def size : IR → Nat
  | .ident _ => 1
  | .equal _ _ => 1
  | .not e => size e + 1
  | .any as => sizeL as + 1
  | .all as => sizeL as + 1
def sizeL : List IR → Nat
  | [] => 0
  | e :: es => size e + sizeL es + 1
end

theorem parseCall_complete (f : Nat) (isAny : Bool) (as : List IR) (rest : List Token)
    (hA : as ≠ [] → parseArgs f (renderArgs as ++ .rparen :: rest) = .ok (as, rest)) :
    parseCallWith (fun ts => parseArgs f ts) isAny (.lparen :: (renderArgs as ++ .rparen :: rest)) =
      .ok (if isAny then .any as else .all as, rest) := by
  cases as with
  | nil => simp [renderArgs, parseCallWith]
  | cons a as' =>
    have := hA (by simp)
    obtain ⟨t, ts, h1, h2, _⟩ := render_head a
    simp only [renderArgs, h1, List.cons_append, List.append_assoc, parseCallWith] at this ⊢
    -- the list is not empty: its first token is no closing parenthesis
    split
    · next heq =>
      cases heq
      exact absurd rfl h2
    · simp [this]

mutual
theorem complete_E (e : IR) (hn : namesOk e) (fuel : Nat) (rest : List Token)
    (hf : size e ≤ fuel) (hr : rest.head? ≠ some .equal) :
    parseE fuel (renderTokens e ++ rest) = .ok (e, rest) := by
  match e, fuel with
  | .ident n, f + 1 =>
    simp only [namesOk] at hn
    simp only [renderTokens, List.cons_append, List.nil_append, parseE, if_neg hn]
    -- the one token that would make this a comparison is excluded by `hr`
    split
    · simp at hr
    · rfl
  | .equal n v, f + 1 =>
    simp only [namesOk] at hn
    simp [renderTokens, parseE, hn]
  | .not e', f + 1 =>
    simp only [size] at hf
    have := complete_E e' hn f (.rparen :: rest) (by omega) (by simp)
    simp [renderTokens, parseE, this]
  | .any as, f + 1 =>
    simp only [size] at hf
    simpa [renderTokens, parseE] using
      parseCall_complete f true as rest (fun hne => complete_A as hne hn f rest (by omega))
  | .all as, f + 1 =>
    simp only [size] at hf
    simpa [renderTokens, parseE] using
      parseCall_complete f false as rest (fun hne => complete_A as hne hn f rest (by omega))
  | .ident _, 0 | .equal _ _, 0 | .not _, 0 | .any _, 0 | .all _, 0 => simp [size] at hf
theorem complete_A (l : List IR) (hne : l ≠ []) (hn : namesOkL l) (fuel : Nat) (rest : List Token)
    (hf : sizeL l ≤ fuel) :
    parseArgs fuel (renderArgs l ++ .rparen :: rest) = .ok (l, rest) := by
  match l, fuel with
  | [], _ => exact absurd rfl hne
  | e :: es, 0 => simp [sizeL] at hf
  | e :: es, f + 1 =>
    simp only [sizeL] at hf
    have hE := complete_E e hn.1 f (renderRest es ++ .rparen :: rest) (by omega) (renderRest_head es rest)
    cases es with
    | nil =>
      simp only [renderRest, List.nil_append] at hE
      simp [renderArgs, renderRest, parseArgs, hE]
    | cons e' es' =>
      have hA := complete_A (e' :: es') (by simp) hn.2 f rest (by omega)
      simp only [renderRest, List.cons_append, List.append_assoc] at hE
      simp only [renderArgs, List.append_assoc] at hA
      simp [renderArgs, renderRest, parseArgs, hE, hA]
end

mutual
theorem size_le_E (e : IR) : size e ≤ (renderTokens e).length := by
  match e with
  | .ident _ => simp [size, renderTokens]
  | .equal _ _ => simp [size, renderTokens]
  | .not e' =>
    have := size_le_E e'
    simp [size, renderTokens]
    omega
  | .any as =>
    have := size_le_A as
    simp [size, renderTokens]
    omega
  | .all as =>
    have := size_le_A as
    simp [size, renderTokens]
    omega
theorem size_le_A (es : List IR) : sizeL es ≤ (renderArgs es).length + 1 := by
  match es with
  | [] => simp [sizeL]
  | e :: es' =>
    have h1 := size_le_E e
    have h2 := size_le_R es'
    simp [sizeL, renderArgs]
    omega
theorem size_le_R (es : List IR) : sizeL es ≤ (renderRest es).length := by
  match es with
  | [] => simp [sizeL]
  | e :: es' =>
    have h1 := size_le_E e
    have h2 := size_le_R es'
    simp [sizeL, renderRest]
    omega
end

theorem evalAny_iff (cfgs : Cfgs) (as : List IR) :
    evalAny cfgs as = true ↔ ∃ a, a ∈ as ∧ evalIR cfgs a = true := by
  induction as with
  | nil => simp [evalAny]
  | cons x xs ih => simp [evalAny, ih]

theorem evalAll_iff (cfgs : Cfgs) (as : List IR) :
    evalAll cfgs as = true ↔ ∀ a, a ∈ as → evalIR cfgs a = true := by
  induction as with
  | nil => simp [evalAll]
  | cons x xs ih => simp [evalAll, ih]

end MesonModel.Cargo
