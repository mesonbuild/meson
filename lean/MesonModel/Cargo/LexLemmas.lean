/-
The cfg lexer of the Cargo model maps the canonical text of an expression to the token rendering of
the grammar.
-/
import MesonModel.Cargo.Spec
namespace MesonModel.Cargo
open MesonModel.Py Spec

theorem pre_pre (r : LexResult) (a b : List Token) : (r.pre b).pre a = r.pre (a ++ b) := by
  simp [LexResult.pre]

theorem pre_nil (r : LexResult) : r.pre [] = r := by simp [LexResult.pre]

theorem lexGo_word (w : List Char) (hw : ∀ c, c ∈ w → isSepChar c = false) :
    ∀ (val rest : List Char), lexGo val none (w ++ rest) = lexGo (w.reverse ++ val) none rest := by
  induction w with
  | nil =>
    intro val rest
    rfl
  | cons c cs ih =>
    intro val rest
    have h1 : isSepChar c = false := hw c (by simp)
    simp only [List.cons_append, lexGo, h1, Bool.false_eq_true, if_false, List.reverse_cons,
      List.append_assoc]
    exact ih (fun d hd => hw d (by simp [hd])) _ _

theorem lexGo_literal (v : List Char) (hv : '"' ∉ v) :
    ∀ (val l rest : List Char),
      lexGo val (some l) (v ++ '"' :: rest) = (lexGo [] none rest).pre [.str (l.reverse ++ v)] := by
  induction v with
  | nil =>
    intro val l rest
    simp [lexGo]
  | cons c cs ih =>
    intro val l rest
    have hc : ¬ c = '"' := by
      intro e
      subst e
      simp at hv
    have := ih (by intro hm; exact hv (by simp [hm])) val (c :: l) rest
    simp [lexGo, hc, this]

theorem lexGo_sep (val : List Char) (c : Char) (cs : List Char) (hc : isSepChar c = true) :
    lexGo val none (c :: cs) =
      (lexGo [] (if c == '"' then some [] else none) cs).pre (wordTok val.reverse ++ sepTok c) := by
  simp [lexGo, hc]

theorem lexGo_sep_plain (val : List Char) (c : Char) (cs : List Char) (hc : isSepChar c = true)
    (hq : c ≠ '"') :
    lexGo val none (c :: cs) = (lexGo [] none cs).pre (wordTok val.reverse ++ sepTok c) := by
  simp [lexGo, hc, hq]

theorem lexGo_quote (val : List Char) (cs : List Char) :
    lexGo val none ('"' :: cs) = (lexGo [] (some []) cs).pre (wordTok val.reverse) := by
  have : isSepChar '"' = true := by decide
  simp [lexGo, this, sepTok]

theorem wordTok_nil : wordTok [] = [] := by decide

def SepStart (rest : List Char) : Prop := rest = [] ∨ ∃ c r, rest = c :: r ∧ isSepChar c = true

/-- a configuration name: non-empty, no separator character, not a keyword -/
def NameOk (n : List Char) : Prop :=
  n ≠ [] ∧ (∀ c, c ∈ n → isSepChar c = false) ∧ n ≠ "any".toList ∧ n ≠ "all".toList ∧ n ≠ "not".toList

theorem wordTok_name (n : List Char) (h : NameOk n) : wordTok n = [.ident n] := by
  obtain ⟨h1, _, h3, h4, h5⟩ := h
  -- the three keywords, as `wordTok` spells them
  have h3 : n ≠ ['a', 'n', 'y'] := h3
  have h4 : n ≠ ['a', 'l', 'l'] := h4
  have h5 : n ≠ ['n', 'o', 't'] := h5
  simp [wordTok, h1, h3, h4, h5]

theorem lexGo_name (n : List Char) (h : NameOk n) (rest : List Char) (hr : SepStart rest) :
    lexGo [] none (n ++ rest) = (lexGo [] none rest).pre [.ident n] := by
  rw [lexGo_word n h.2.1]
  simp only [List.append_nil]
  rcases hr with rfl | ⟨c, r, rfl, hc⟩
  · have : n.reverse ≠ [] := by simpa using h.1
    simp [lexGo, this, LexResult.pre]
  · rw [lexGo_sep _ c r hc, lexGo_sep [] c r hc]
    simp only [List.reverse_reverse, List.reverse_nil, wordTok_name n h, wordTok_nil, pre_pre,
      List.nil_append, List.cons_append]

theorem lexGo_rparen (rest : List Char) :
    lexGo [] none (')' :: rest) = (lexGo [] none rest).pre [.rparen] := by
  rw [lexGo_sep_plain _ ')' rest (by decide) (by decide)]
  simp [wordTok_nil, sepTok]

theorem lexGo_comma (rest : List Char) :
    lexGo [] none (',' :: rest) = (lexGo [] none rest).pre [.comma] := by
  rw [lexGo_sep_plain _ ',' rest (by decide) (by decide)]
  simp [wordTok_nil, sepTok]

mutual
/-- the canonical text of an expression (no optional whitespace) -/
def renderStr : IR → List Char
  | .ident n => n
  | .equal n v => n ++ '=' :: '"' :: (v ++ ['"'])
  | .not e => "not".toList ++ '(' :: (renderStr e ++ [')'])
  | .any as => "any".toList ++ '(' :: (renderStrArgs as ++ [')'])
  | .all as => "all".toList ++ '(' :: (renderStrArgs as ++ [')'])
def renderStrArgs : List IR → List Char
  | [] => []
  | e :: es => renderStr e ++ renderStrRest es
def renderStrRest : List IR → List Char
  | [] => []
  | e :: es => ',' :: (renderStr e ++ renderStrRest es)
end

mutual
/-- names are proper names, values contain no `"` (they may contain blanks and separators) -/
def lexOk : IR → Prop
  | .ident n => NameOk n
  | .equal n v => NameOk n ∧ '"' ∉ v
  | .not e => lexOk e
  | .any as => lexOkL as
  | .all as => lexOkL as
def lexOkL : List IR → Prop
  | [] => True
  | e :: es => lexOk e ∧ lexOkL es
end

theorem sepStart_rparen (r : List Char) : SepStart (')' :: r) := Or.inr ⟨')', r, rfl, by decide⟩
theorem sepStart_comma (r : List Char) : SepStart (',' :: r) := Or.inr ⟨',', r, rfl, by decide⟩

theorem renderStrRest_sepStart (es : List IR) (r : List Char) :
    SepStart (renderStrRest es ++ ')' :: r) := by
  cases es with
  | nil => exact sepStart_rparen r
  | cons e es' =>
    simp only [renderStrRest, List.cons_append]
    exact sepStart_comma _

/-- `kw(inner)`: the keyword, the parentheses and in between what the inner text lexes to -/
theorem lexGo_call (w : List Char) (t : Token) (hw : ∀ c, c ∈ w → isSepChar c = false)
    (ht : wordTok w = [t]) (inner rest : List Char) (toks : List Token)
    (h : lexGo [] none (inner ++ ')' :: rest) = (lexGo [] none (')' :: rest)).pre toks) :
    lexGo [] none (w ++ '(' :: (inner ++ ')' :: rest)) =
      (lexGo [] none rest).pre (t :: .lparen :: (toks ++ [.rparen])) := by
  rw [lexGo_word w hw, lexGo_sep_plain _ '(' _ (by decide) (by decide), h, lexGo_rparen]
  simp [ht, sepTok, pre_pre]

mutual
theorem lex_E (e : IR) (h : lexOk e) (rest : List Char) (hr : SepStart rest) :
    lexGo [] none (renderStr e ++ rest) = (lexGo [] none rest).pre (renderTokens e) := by
  match e with
  | .ident n =>
    simpa [renderStr, renderTokens] using lexGo_name n h rest hr
  | .equal n v =>
    simp only [renderStr, renderTokens, List.append_assoc, List.cons_append, List.nil_append]
    rw [lexGo_word n h.1.2.1, lexGo_sep_plain _ '=' _ (by decide) (by decide), lexGo_quote,
      lexGo_literal v h.2]
    simp [wordTok_name n h.1, wordTok_nil, sepTok, pre_pre]
  | .not e' =>
    simpa [renderStr, renderTokens] using
      lexGo_call "not".toList .not (by decide) (by decide) _ rest _ (lex_E e' h _ (sepStart_rparen rest))
  | .any as =>
    simpa [renderStr, renderTokens] using
      lexGo_call "any".toList .any (by decide) (by decide) _ rest _ (lex_A as h rest)
  | .all as =>
    simpa [renderStr, renderTokens] using
      lexGo_call "all".toList .all (by decide) (by decide) _ rest _ (lex_A as h rest)
theorem lex_A (es : List IR) (h : lexOkL es) (rest : List Char) :
    lexGo [] none (renderStrArgs es ++ ')' :: rest) =
      (lexGo [] none (')' :: rest)).pre (renderArgs es) := by
  match es with
  | [] => simp [renderStrArgs, renderArgs, pre_nil]
  | e :: es' =>
    simp only [renderStrArgs, renderArgs, List.append_assoc]
    rw [lex_E e h.1 _ (renderStrRest_sepStart es' rest), lex_R es' h.2 rest]
    simp [pre_pre]
theorem lex_R (es : List IR) (h : lexOkL es) (rest : List Char) :
    lexGo [] none (renderStrRest es ++ ')' :: rest) =
      (lexGo [] none (')' :: rest)).pre (renderRest es) := by
  match es with
  | [] => simp [renderStrRest, renderRest, pre_nil]
  | e :: es' =>
    simp only [renderStrRest, renderRest, List.append_assoc, List.cons_append]
    rw [lexGo_comma, lex_E e h.1 _ (renderStrRest_sepStart es' rest), lex_R es' h.2 rest]
    simp [pre_pre]
end

mutual
theorem lexOk_namesOk (e : IR) (h : lexOk e) : namesOk e := by
  match e with
  | .ident n =>
    exact h.1
  | .equal n v =>
    exact h.1.1
  | .not e' =>
    exact lexOk_namesOk e' h
  | .any as =>
    exact lexOkL_namesOkL as h
  | .all as =>
    exact lexOkL_namesOkL as h
theorem lexOkL_namesOkL (es : List IR) (h : lexOkL es) : namesOkL es := by
  match es with
  | [] => trivial
  | e :: es' =>
    exact ⟨lexOk_namesOk e h.1, lexOkL_namesOkL es' h.2⟩
end

end MesonModel.Cargo
