/-
About `Cargo/ResolveModel.lean`: the api of a version text and its relation to
caret requirements, Cargo.lock resolution (descending stable sort, first accepted = newest accepted),
the merge of target-specific dependency tables, `SystemDependency.meson_version`.
-/
import MesonModel.Cargo.ResolveModel
import MesonModel.Util.Sort
import MesonModel.Cargo.BridgeLemmas
import MesonModel.Cargo.OrderLemmas
namespace MesonModel.Cargo.Resolve
open MesonModel.Py MesonModel.Cargo MesonModel.Cargo.Spec

deriving instance DecidableEq for Except

/-- the compatibility class of a release, as the api string names it: the major, `0.<minor>` below 1.0, `0` below 0.1 -/
inductive ApiClass where
  | major (n : Nat) | zeroMinor (n : Nat) | zero
  deriving DecidableEq, Repr

def apiClass (v : V) : ApiClass :=
  if v.1 ≠ 0 then .major v.1 else if v.2.1 ≠ 0 then .zeroMinor v.2.1 else .zero

theorem apiClass_eq_iff (v w : V) : apiClass v = apiClass w ↔ v.1 = w.1 ∧ (w.1 ≠ 0 ∨ v.2.1 = w.2.1) := by
  unfold apiClass
  by_cases h1 : v.1 = 0 <;>
  by_cases h2 : w.1 = 0 <;>
  by_cases h3 : v.2.1 = 0 <;>
  by_cases h4 : w.2.1 = 0 <;>
  simp [h1, h2, h3, h4] <;>
  omega

theorem dropWhile_none {α} (p : α → Bool) (l : List α) (h : ∀ c, c ∈ l → p c = false) :
    l.dropWhile p = l := by
  cases l with
  | nil => rfl
  | cons c cs => simp [List.dropWhile, h c (by simp)]

theorem trim_none {α} (p : α → Bool) (l : List α) (h : ∀ c, c ∈ l → p c = false) :
    ((l.dropWhile p).reverse.dropWhile p).reverse = l := by
  rw [dropWhile_none p l h, dropWhile_none p _ fun c hc => h c (List.mem_reverse.mp hc), List.reverse_reverse]

theorem digit_not_intSpace (c : Char) (h : isDigit c = true) : isIntSpace c = false := by
  simp [isDigit, isIntSpace] at *
  omega

theorem pyIntDigits_some (ds : List Char) (hd : ∀ c, c ∈ ds → isDigit c = true) (n : Nat) :
    pyIntDigits ds false (some n) = some (ds.foldl (fun acc c => acc * 10 + digitVal c) n) := by
  induction ds generalizing n with
  | nil => simp [pyIntDigits]
  | cons c cs ih =>
    have hc := hd c (by simp)
    simp [pyIntDigits, hc, ih (fun c h => hd c (by simp [h]))]

theorem pyInt_num (s : List Char) (hs : IsNum s) : pyInt s = some (natOfDigits s : Int) := by
  obtain ⟨hne, hd⟩ := hs
  unfold pyInt
  rw [trim_none _ _ fun c hc => digit_not_intSpace c (hd c hc)]
  cases s with
  | nil => exact absurd rfl hne
  | cons c cs =>
    have hc := hd c (by simp)
    -- a digit in front is no sign
    split
    · rename_i heq
      cases heq
      exact absurd hc (by decide)
    · rename_i heq
      cases heq
      exact absurd hc (by decide)
    · simp [pyIntDigits, hc, pyIntDigits_some cs (fun c h => hd c (by simp [h])), natOfDigits]

theorem strip_noSpace {t : List Char} (h : ∀ c, c ∈ t → isSpace c = false) : strip t = t :=
  trim_none isSpace t h

/-- a version text: digits and dots, starting with a digit -/
structure IsVerText (t : List Char) : Prop where
  chars : ∀ c, c ∈ t → isDigit c = true ∨ c = '.'
  head : ∃ c, t.head? = some c ∧ isDigit c = true

/-- the comma and the characters `split()` gives a meaning to at either end of a piece -/
def special : List Char := [',', '*', '>', '<', '!', '~', '=', '^']

theorem IsVerText.plain {t : List Char} (h : IsVerText t) {c : Char} (hc : c ∈ t) :
    isSpace c = false ∧ c ∉ special := by
  rcases h.chars c hc with hd | rfl
  · have hop : ∀ x, x ∈ special → isDigit x = false := by decide
    refine ⟨?_, fun hm => absurd hd (by simp [hop c hm])⟩
    simp [isDigit, isSpace] at *
    omega
  · decide

theorem endsWith_mem {s : List Char} {a b : Char} (h : endsWith s [a, b] = true) : b ∈ s :=
  List.mem_reverse.mp ((List.isPrefixOf_iff_prefix.mp h).subset (by simp))

/-- such a text has no blank, no comma and no operator character anywhere, so `split()` sees one piece, cuts
nothing off it, and an `=` put in front is the only operator it finds -/
theorem verText_split (t : List Char) (h : IsVerText t) :
    split t = [(.caret, t)] ∧ split ('=' :: t) = [(.eq, t)] := by
  obtain ⟨a, hh, ha⟩ := h.head
  obtain ⟨r, rfl⟩ : ∃ r, t = a :: r := by
    cases t <;> simp_all
  have hsp : ∀ c, c ∈ a :: r → isSpace c = false := fun c hc => (h.plain hc).1
  have hop : ∀ c, c ∈ special → c ∉ a :: r := fun c hc hm => (h.plain hm).2 hc
  have hne : ∀ c, c ∈ special → ¬ c = a := fun c hc e => hop c hc (by simp [e])
  have hend : endsWith (a :: r) ['.', '*'] = false := by
    cases he : endsWith (a :: r) ['.', '*']
    · rfl
    · exact absurd (endsWith_mem he) (hop '*' (by decide))
  have hs : strip (a :: r) = a :: r := strip_noSpace hsp
  have hs' : strip ('=' :: a :: r) = '=' :: a :: r :=
    strip_noSpace fun c hc => by
      rcases List.mem_cons.mp hc with rfl | hc
      · decide
      · exact hsp c hc
  have hc : ',' ∉ a :: r := hop ',' (by decide)
  have hc' : ',' ∉ '=' :: a :: r := by simp [hc]
  have hl : lstrip (a :: r) = a :: r := dropWhile_none _ _ hsp
  have hp : splitPiece (a :: r) = some (.caret, a :: r) := by
    simp only [special, List.forall_mem_cons] at hne
    simp [splitPiece, hs, startsWith, List.isPrefixOf, hend, hne, Ne.symm hne.2.1]
  have hp' : splitPiece ('=' :: a :: r) = some (.eq, a :: r) := by
    simp [splitPiece, hs', startsWith, List.isPrefixOf, hl]
  constructor
  · simp [split, pieces, hs, splitOnChar_noSep ',' _ hc, hp]
  · simp [split, pieces, hs', splitOnChar_noSep ',' _ hc', hp']

theorem dotted_verText (ds : List (List Char)) (hne : ds ≠ []) (hd : ∀ d, d ∈ ds → IsNum d) :
    IsVerText (dotted ds) := by
  refine ⟨fun c hc => ?_, ?_⟩
  · rcases mem_dotted hc with h | ⟨d, hdm, hcd⟩
    · exact Or.inr h
    · exact Or.inl ((hd d hdm).2 c hcd)
  · match ds, hne, hd with
    | [] :: _, _, hd => exact absurd rfl (hd [] (by simp)).1
    | (c :: cs) :: rest, _, hd =>
      refine ⟨c, ?_, (hd (c :: cs) (by simp)).2 c (by simp)⟩
      cases rest <;> rfl

theorem isNum_isIdent (d : List Char) (h : IsNum d) : IsIdent d :=
  ⟨h.1, fun c hc => by simp [isIdentChar, isAlnum, h.2 c hc]⟩

/-- the documented api of a release (or partial) version written as digit runs: the major,
`0.<minor>` below 1.0, `0` below 0.1 -/
def apiText : List (List Char) → List Char
  | [] => []
  | x :: rest =>
    if natOfDigits x ≠ 0 then x
    else match rest with
      | y :: _ => if natOfDigits y ≠ 0 then '0' :: '.' :: y else ['0']
      | [] => ['0']

def classOfApi : List Char → ApiClass
  | ['0'] => .zero
  | '0' :: '.' :: y => .zeroMinor (natOfDigits y)
  | x => .major (natOfDigits x)

theorem apiClass_eq_classOfApi (x y : List Char) (rest : List (List Char)) (k : Nat) (hx : IsNum x) :
    apiClass (natOfDigits x, natOfDigits y, k) = classOfApi (apiText (x :: y :: rest)) := by
  unfold apiText apiClass
  by_cases h0 : natOfDigits x = 0
  · by_cases h1 : natOfDigits y = 0 <;> simp [h0, h1, classOfApi]
  · simp only [ne_eq, h0, not_false_eq_true, if_true]
    unfold classOfApi
    split
    · exact absurd (by decide) h0
    · exact absurd (hx.2 '.' (by simp)) (by decide)
    · rfl

theorem apiOf_dotted (ds : List (List Char)) (hne : ds ≠ []) (hd : ∀ d, d ∈ ds → IsNum d) :
    apiOf (dotted ds) = .ok (apiText ds) := by
  have hs : splitOnChar '.' (dotted ds) = ds := split_dotted ds hne (fun i hi => isNum_isIdent i (hd i hi))
  cases ds with
  | nil => exact absurd rfl hne
  | cons x rest =>
    have hx := hd x (by simp)
    simp only [apiOf, hs, List.getD_cons_zero, hx.1, pyInt_num x hx, apiText]
    by_cases h0 : natOfDigits x = 0
    · cases rest with
      | nil => simp [h0]
      | cons y rest' =>
        by_cases h1 : natOfDigits y = 0 <;>
          simp [h0, h1, pyInt_num y (hd y (by simp))]
    · simp [h0]

theorem api_of_split_one (req : List Char) (op : Op) (ver a : List Char)
    (hs : split req = [(op, ver)]) (hop : op = .ge ∨ op = .eq ∨ op = .caret ∨ op = .tilde)
    (ha : apiOf ver = .ok a) : api req = .ok a := by
  unfold api
  rcases hop with rfl | rfl | rfl | rfl <;> simp [hs, apiGo, ha]

/-- `version.api` of a version text (`Package.api`, `CargoLockPackage.api`) and of the
requirement `=<that text>` (`Dependency.api` after `update_version`) are the same documented api -/
theorem api_version_text (ds : List (List Char)) (hne : ds ≠ []) (hd : ∀ d, d ∈ ds → IsNum d) :
    api (dotted ds) = .ok (apiText ds) ∧ api ('=' :: dotted ds) = .ok (apiText ds) := by
  have hv := verText_split _ (dotted_verText ds hne hd)
  exact ⟨api_of_split_one _ _ _ _ hv.1 (by simp) (apiOf_dotted ds hne hd),
    api_of_split_one _ _ _ _ hv.2 (by simp) (apiOf_dotted ds hne hd)⟩

theorem isInsertionSort : IsInsertionSort (fun p q => !vlt (key p) (key q)) insertDesc sortDesc :=
  ⟨fun _ => rfl, fun p q qs => by rw [insertDesc]; cases vlt (key p) (key q) <;> rfl, rfl, fun _ _ => rfl⟩

theorem mem_sortDesc (q : LockPkg) (l : List LockPkg) : q ∈ sortDesc l ↔ q ∈ l := isInsertionSort.mem

/-- no element is followed by a strictly newer one -/
def Desc (l : List LockPkg) : Prop := l.Pairwise (fun a b => vlt (key a) (key b) = false)

theorem not_lt_trans (a b c : List Comp) (h1 : vlt a b = false) (h2 : vlt b c = false) : vlt a c = false := by
  have := vcmpLaws.ge_trans a b c
  simp only [bne, Bool.not_eq_true'] at this
  exact this h1 h2

theorem sortDesc_desc (l : List LockPkg) : Desc (sortDesc l) :=
  isInsertionSort.pairwise (R := fun a b => vlt (key a) (key b) = false)
    (fun _ _ h => by simpa using h)
    (fun p q h => vcmpLaws.lt_asymm (key p) (key q) (show vlt (key p) (key q) = true by simpa using h))
    (fun _ _ _ => not_lt_trans _ _ _) l

theorem find_first_of_desc (l : List LockPkg) (f : LockPkg → Bool) (p : LockPkg) (hd : Desc l)
    (h : l.find? f = some p) :
    p ∈ l ∧ f p = true ∧ ∀ q, q ∈ l → f q = true → vlt (key p) (key q) = false := by
  obtain ⟨hp, as, bs, hl, has⟩ := List.find?_eq_some_iff_append.mp h
  subst hl
  refine ⟨by simp, hp, ?_⟩
  intro q hq hfq
  rcases List.mem_append.mp hq with hq | hq
  · have := has q hq
    simp [hfq] at this
  · rcases List.mem_cons.mp hq with rfl | hq
    · simp [vlt, vcmpLaws.refl]
    · have := (List.pairwise_append.mp hd).2.1
      exact (List.pairwise_cons.mp this).1 q hq

/-- the condition of a `[target.'…']` table holds (no exception, value true) -/
def isEnabled (triple : List Char) (cfgs : Cfgs) (t : List Char × Deps) : Bool :=
  match conditionHolds triple cfgs t.1 with
  | .ok true => true
  | _ => false

theorem dictUpdate_append (d e1 e2 : Deps) : dictUpdate d (e1 ++ e2) = dictUpdate (dictUpdate d e1) e2 := by
  simp [dictUpdate, List.foldl_append]

theorem mergeTargets_ok (triple : List Char) (cfgs : Cfgs) (ts : List (List Char × Deps)) (d r : Deps)
    (h : mergeTargets triple cfgs d ts = .ok r) :
    r = dictUpdate d ((ts.filter (isEnabled triple cfgs)).flatMap (fun t => t.2)) := by
  fun_induction mergeTargets triple cfgs d ts with
  | case1 =>
    cases h
    simp [dictUpdate]
  | case2 => nomatch h
  | case3 d cond ds rest hc ih => simp [List.filter, isEnabled, hc, dictUpdate_append, ih h]
  | case4 d cond ds rest hc ih => simp [List.filter, isEnabled, hc, ih h]

theorem lookup_cons_if (k : List Char) (a : List Char × List Char) (as : Deps) :
    List.lookup k (a :: as) = if k = a.1 then some a.2 else List.lookup k as := by
  simp only [List.lookup]
  split <;> simp_all

theorem lookup_map_set (d : Deps) (k v k' : List Char) :
    (d.map (fun kv => if kv.1 == k then (k, v) else kv)).lookup k' =
      if k' = k then (if d.any (fun kv => kv.1 == k) then some v else none) else d.lookup k' := by
  induction d with
  | nil => simp
  | cons a as ih =>
    simp only [List.map_cons, List.any_cons, lookup_cons_if, ih]
    by_cases h1 : a.1 = k
    · by_cases h2 : k' = k <;> simp [h1, h2]
    · simp only [beq_eq_false_iff_ne.mpr h1, Bool.false_or]
      by_cases h3 : k' = a.1 <;> simp [h1, h3]

theorem dictSet_lookup (d : Deps) (k v k' : List Char) :
    (dictSet d k v).lookup k' = if k' = k then some v else d.lookup k' := by
  unfold dictSet
  by_cases h : d.any (fun kv => kv.1 == k) = true
  · rw [if_pos h, lookup_map_set]
    simp [h]
  · have hn : d.lookup k = none :=
      List.lookup_eq_none_iff.mpr fun a ha => bne_iff_ne.mpr fun e => h (List.any_eq_true.mpr ⟨a, ha, by simp [e]⟩)
    rw [if_neg h, List.lookup_append]
    by_cases h2 : k' = k
    · simp [h2, hn]
    · simp [h2]

theorem dictUpdate_lookup (d e : Deps) (k : List Char) :
    (dictUpdate d e).lookup k = (e.reverse.lookup k).or (d.lookup k) := by
  induction e generalizing d with
  | nil => simp [dictUpdate]
  | cons kv rest ih =>
    have : dictUpdate d (kv :: rest) = dictUpdate (dictSet d kv.1 kv.2) rest := rfl
    rw [this, ih, dictSet_lookup]
    simp only [List.reverse_cons, List.lookup_append, lookup_cons_if, Option.or_assoc]
    split <;> simp

theorem mesonVersionPieces_ok (ps : List (List Char)) (cs : List (List Char))
    (h : mesonVersionPieces ps = .ok cs) :
    cs.length = ps.length ∧ ∀ i (hi : i < ps.length) (hj : i < cs.length), mesonVersionPiece ps[i] = .ok cs[i] := by
  fun_induction mesonVersionPieces ps generalizing cs with
  | case1 =>
    cases h
    simp
  | case2 | case3 => nomatch h
  | case4 p rest c hp cs' hr ih =>
    cases h
    obtain ⟨hl, hi⟩ := ih cs' hr
    refine ⟨by simp [hl], fun i h1 h2 => ?_⟩
    cases i with
    | zero => simpa using hp
    | succ j => simpa using hi j (by simpa using h1) (by simpa using h2)

theorem mesonVersionPiece_error_iff (p : List Char) :
    mesonVersionPiece p = .error .indexError ↔ strip p = [] := by
  unfold mesonVersionPiece
  split <;> simp [*]
  split <;> simp

theorem mesonVersionPieces_error_iff (ps : List (List Char)) :
    mesonVersionPieces ps = .error .indexError ↔ ∃ p, p ∈ ps ∧ strip p = [] := by
  fun_induction mesonVersionPieces ps with
  | case1 => simp
  | case2 p _ _ hp => simp [← mesonVersionPiece_error_iff p, hp]
  | case3 p _ _ hp _ hr ih | case4 p _ _ hp _ hr ih => simp [← mesonVersionPiece_error_iff p, hp, ← ih, hr]

end MesonModel.Cargo.Resolve
