/-
Models work on `List Char`; a literal enters a statement as `"…".toList`. The kernel decodes a string literal in time
quadratic in its length, and an evaluation pays for that at every literal it meets, so evaluations over long literals
spell them out as character lists first.
-/
namespace MesonModel.Py

/-- turns every `"…".toList` of the goal into the explicit list of characters -/
macro "char_lists" : tactic => `(tactic| repeat (conv in String.toList _ => rw [String.toList_ofList]))

end MesonModel.Py
