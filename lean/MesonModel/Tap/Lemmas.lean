/-
Measures over event lists (the vocabulary of C18), `parse_test` against the directive table, and the events that
move none of the measures.
-/
import MesonModel.Tap.Model

namespace MesonModel.Tap
open MesonModel.Py

def countTests (evs : List Event) : Nat := evs.countP isTestEvent

def numberOf : Event → Nat
  | .test n _ _ _ => n
  | _ => 0

def maxNumber : List Event → Nat
  | [] => 0
  | e :: es => max (numberOf e) (maxNumber es)

def planOf : List Event → Option Plan
  | [] => none
  | .plan p :: _ => some p
  | _ :: es => planOf es

def orPlan (a b : Option Plan) : Option Plan :=
  match a with
  | some p => some p
  | none => b

def isPlanEvent : Event → Bool
  | .plan _ => true
  | _ => false

def countPlans (evs : List Event) : Nat := evs.countP isPlanEvent

def isBailEvent : Event → Bool
  | .bailout _ => true
  | _ => false

def hasBail (evs : List Event) : Bool := evs.any isBailEvent

def isErrorEvent : Event → Bool
  | .error _ => true
  | _ => false

/-- the count and numbering errors, which only `parse_line(None)` yields -/
def isFinalErr : Event → Bool
  | .error (.tooFew ..) => true
  | .error (.tooMany ..) => true
  | .error (.duplicate ..) => true
  | .error (.missing ..) => true
  | _ => false

def isVersionEvent : Event → Bool
  | .version _ => true
  | _ => false

def isLateErr : Event → Bool
  | .error .lateTest => true
  | _ => false

@[simp] theorem countTests_nil : countTests [] = 0 := rfl
@[simp] theorem countTests_append (a b : List Event) : countTests (a ++ b) = countTests a + countTests b := by
  simp [countTests]
@[simp] theorem countTests_cons (e : Event) (es : List Event) :
    countTests (e :: es) = (if isTestEvent e then 1 else 0) + countTests es := by
  simp [countTests, List.countP_cons]
  omega

@[simp] theorem maxNumber_nil : maxNumber [] = 0 := rfl
@[simp] theorem maxNumber_cons (e : Event) (es : List Event) :
    maxNumber (e :: es) = max (numberOf e) (maxNumber es) := rfl
@[simp] theorem maxNumber_append (a b : List Event) : maxNumber (a ++ b) = max (maxNumber a) (maxNumber b) := by
  induction a with
  | nil => simp
  | cons e es ih => simp [ih, Nat.max_assoc]

@[simp] theorem planOf_nil : planOf [] = none := rfl
theorem planOf_append (a b : List Event) : planOf (a ++ b) = orPlan (planOf a) (planOf b) := by
  induction a with
  | nil => simp [orPlan]
  | cons e es ih => cases e <;> simp [planOf, orPlan, ih]

@[simp] theorem hasBail_nil : hasBail [] = false := rfl
@[simp] theorem hasBail_append (a b : List Event) : hasBail (a ++ b) = (hasBail a || hasBail b) := by
  simp [hasBail]
@[simp] theorem hasBail_cons (e : Event) (es : List Event) : hasBail (e :: es) = (isBailEvent e || hasBail es) := by
  simp [hasBail]

@[simp] theorem countPlans_nil : countPlans [] = 0 := rfl
@[simp] theorem countPlans_append (a b : List Event) : countPlans (a ++ b) = countPlans a + countPlans b := by
  simp [countPlans]
@[simp] theorem countPlans_cons (e : Event) (es : List Event) :
    countPlans (e :: es) = (if isPlanEvent e then 1 else 0) + countPlans es := by
  simp [countPlans, List.countP_cons]
  omega

theorem orPlan_assoc (a b c : Option Plan) : orPlan (orPlan a b) c = orPlan a (orPlan b c) := by
  cases a <;> simp [orPlan]
@[simp] theorem orPlan_none_right (a : Option Plan) : orPlan a none = a := by cases a <;> rfl
@[simp] theorem orPlan_none_left (a : Option Plan) : orPlan none a = a := rfl
@[simp] theorem orPlan_some (p : Plan) (a : Option Plan) : orPlan (some p) a = some p := rfl

/-- the directive table of the property, as a specification -/
def directiveResult (ok : Bool) (dir : Option (List Char)) : TestResult :=
  match dir with
  | none => plainResult ok
  | some d =>
    if startsWith (upper d) kSKIP then (if ok then .SKIP else .FAIL)
    else if upper d = kTODO then (if ok then .UNEXPECTEDPASS else .EXPECTEDFAIL)
    else plainResult ok

theorem parseTest_eq (ok : Bool) (n : Nat) (name : List Char) (dir expl : Option (List Char)) :
    parseTest ok n name dir expl =
      (match dir with
       | none => []
       | some d => if startsWith (upper d) kSKIP ∨ upper d = kTODO then []
                   else [.error (.invalidDirective (upper d))]) ++
      [.test n (strip name) (directiveResult ok dir) (normExpl expl)] := by
  unfold parseTest directiveResult
  cases dir with
  | none => simp
  | some d =>
    by_cases h1 : startsWith (upper d) kSKIP = true
    · cases ok <;> simp [h1, plainResult]
    · by_cases h2 : upper d = kTODO
      · have h3 : startsWith kTODO kSKIP = false := by decide
        simp [h2, h3]
      · simp [h1, h2]

theorem parseTest_errs (ok : Bool) (n : Nat) (name : List Char) (dir expl : Option (List Char)) :
    ∃ errs, (∀ e ∈ errs, ∃ d, e = .error (.invalidDirective d)) ∧
      parseTest ok n name dir expl = errs ++ [.test n (strip name) (directiveResult ok dir) (normExpl expl)] := by
  rw [parseTest_eq]
  refine ⟨_, ?_, rfl⟩
  cases dir with
  | none => simp
  | some d =>
    intro e he
    split at he
    · simp at he
    · simp at he
      exact ⟨_, he.2⟩

theorem parseTest_filter (ok : Bool) (n : Nat) (name : List Char) (dir expl : Option (List Char)) :
    (parseTest ok n name dir expl).filter isTestEvent =
      [.test n (strip name) (directiveResult ok dir) (normExpl expl)] := by
  obtain ⟨errs, herrs, hp⟩ := parseTest_errs ok n name dir expl
  have : errs.filter isTestEvent = [] :=
    List.filter_eq_nil_iff.mpr fun e he => by
      obtain ⟨d, rfl⟩ := herrs e he
      simp [isTestEvent]
  rw [hp, List.filter_append, this]
  rfl

theorem mem_optional {α} {p : Prop} [Decidable p] {a x : α} : a ∈ (if p then [x] else []) ↔ (p ∧ a = x) := by
  split <;> simp [*]

/-- the event moves none of the measures -/
def isQuiet (e : Event) : Bool := !(isTestEvent e || isPlanEvent e || isBailEvent e)

/-- the parser can yield the event at any point without any of its counters moving -/
def isInert (e : Event) : Bool := isQuiet e && !isFinalErr e && !isLateErr e

theorem quiet_of_error {e : Event} (h : isErrorEvent e = true) : isQuiet e = true := by
  cases e <;> first | rfl | cases h

theorem quiet_measures (l : List Event) (h : ∀ e ∈ l, isQuiet e = true) :
    countTests l = 0 ∧ maxNumber l = 0 ∧ planOf l = none ∧ hasBail l = false ∧ countPlans l = 0 := by
  induction l with
  | nil => simp
  | cons e es ih =>
    obtain ⟨a, b, c, d, f⟩ := ih fun x hx => h x (List.mem_cons_of_mem _ hx)
    have he := h e (List.mem_cons_self ..)
    cases e with
    | test | plan | bailout => cases he
    | _ => simp [a, b, c, d, f, isTestEvent, numberOf, planOf, isBailEvent, isPlanEvent]

theorem inert_measures (l : List Event) (h : ∀ e ∈ l, isInert e = true) :
    (∀ e ∈ l, isQuiet e = true) ∧ l.countP isLateErr = 0 ∧ ∀ e ∈ l, isFinalErr e = false := by
  refine ⟨fun e he => ?_, List.countP_eq_zero.mpr fun e he => ?_, fun e he => ?_⟩
  all_goals
    have := h e he
    simp [isInert] at this
    simp [this]

end MesonModel.Tap
