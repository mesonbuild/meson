/-
Sessions of fresh parsers, and the consumer of the events: the loop of `TestRunTAP.parse` as a fold, and the
verdict as the effect of the last event that sets the result (`lastTrigger`).
-/
import MesonModel.Tap.Consumer
import MesonModel.Tap.StepLemmas

namespace MesonModel.Tap

/-- a session in closed form: the class attributes stay, every stream is parsed from them -/
theorem session_eq (p : Proc) (ss : List (List (List Char))) :
    session p ss =
      ({ p with used := (ss.map (stateAfter p.cls)).reverse ++ p.used }, ss.map (parseFrom p.cls)) := by
  induction ss generalizing p with
  | nil => rfl
  | cons s ss ih => simp [session, ih, useFresh]

def isBadTest : Event → Bool
  | .test _ _ r _ => r.isBad
  | _ => false

def hasBadSubtest (evs : List Event) : Bool := evs.any isBadTest

def hasErrorOrBail (evs : List Event) : Bool := evs.any (fun e => isErrorEvent e || isBailEvent e)

/-- events that set the local `res` of `TestRunTAP.parse` -/
def isTrigger (e : Event) : Bool := isBadTest e || isErrorEvent e || isBailEvent e

theorem any_trigger (evs : List Event) :
    evs.any isTrigger = (hasBadSubtest evs || hasErrorOrBail evs) := by
  induction evs with
  | nil => rfl
  | cons e es ih =>
    simp only [List.any_cons, ih, hasBadSubtest, hasErrorOrBail, isTrigger]
    cases isBadTest e <;> cases isErrorEvent e <;> cases isBailEvent e <;> simp

theorem allSkip_no_bad (evs : List Event) : allSkip evs = true → hasBadSubtest evs = false := by
  simp only [allSkip, hasBadSubtest, List.all_eq_true, List.any_eq_false]
  intro h e he
  have := h e he
  cases e with
  | test n nm res ex =>
    have : res = .SKIP := by simpa using this
    subst this
    simp [isBadTest, TestResult.isBad]
  | _ => simp [isBadTest]

theorem foldl_consumeEv (t : RunTAP) (evs : List Event) :
    (evs.foldl consumeEv t).res = t.res ∧
    (evs.foldl consumeEv t).localRes = foldRes t.localRes evs ∧
    (evs.foldl consumeEv t).results = t.results ++ evs.filter isTestEvent ∧
    (evs.foldl consumeEv t).errs = t.errs ++ evs.filterMap errOf ∧
    (evs.foldl consumeEv t).warns = t.warns ++ evs.filterMap unknownOf := by
  induction evs generalizing t with
  | nil => simp [foldRes]
  | cons e es ih =>
    obtain ⟨h1, h2, h3, h4, h5⟩ := ih (consumeEv t e)
    simp only [List.foldl_cons, h1, h2, h3, h4, h5]
    cases e <;> simp [consumeEv, foldRes, isTestEvent, errOf, unknownOf, List.filterMap_cons, List.filter_cons]

theorem all_isSkipTest_filter (evs : List Event) : (evs.filter isTestEvent).all isSkipTest = allSkip evs := by
  rw [List.all_filter]
  exact congrArg evs.all (funext fun e => by cases e <;> rfl)

theorem parseTAP_res (r0 : TestResult) (evs : List Event) : (parseTAP r0 evs).res = parseRes r0 evs := by
  obtain ⟨h1, h2, h3, _⟩ := foldl_consumeEv { res := r0 } evs
  simp only [parseTAP, endParse, parseRes, h1, h2, h3, List.nil_append, all_isSkipTest_filter]
  generalize (if allSkip evs = true then _ else _) = l
  cases l <;> rfl

theorem runTAP_res_eq (ef inter : Bool) (rc : Int) (r0 : TestResult) (evs : List Event) :
    (runTAP ef inter rc r0 evs).res = completeRes ef inter rc (parseRes r0 evs) := by
  simp only [runTAP, completeTAP, parseTAP_res, completeRes, Bool.and_eq_true, decide_eq_true_eq]

/-- `should_fail` changes only the last step of `_complete` -/
theorem completeRes_expectedFail (inter : Bool) (rc : Int) (r : TestResult) :
    completeRes true inter rc r =
      if completeRes false inter rc r = .OK then .UNEXPECTEDPASS
      else if completeRes false inter rc r = .FAIL then .EXPECTEDFAIL
      else completeRes false inter rc r := by
  have key : ∀ x : TestResult,
      (if True ∧ (x = .OK ∨ x = .FAIL) then (if x = .OK then TestResult.UNEXPECTEDPASS else .EXPECTEDFAIL) else x) =
        if x = .OK then .UNEXPECTEDPASS else if x = .FAIL then .EXPECTEDFAIL else x := by
    intro x
    cases x <;> rfl
  unfold completeRes
  simp only [Bool.false_eq_true, false_and, if_false]
  exact key _

def Trigger.res : Trigger → TestResult
  | .fail => .FAIL
  | .error => .ERROR

theorem foldRes_eq_lastTrigger (r : Option TestResult) (evs : List Event) :
    foldRes r evs = match lastTrigger evs with
      | some t => some t.res
      | none => r := by
  induction evs generalizing r with
  | nil => rfl
  | cons e es ih =>
    cases e with
    | test n nm res ex =>
      simp only [foldRes, lastTrigger, triggerOf]
      rw [ih]
      cases lastTrigger es with
      | some t => rfl
      | none => cases res.isBad <;> rfl
    | _ =>
      simp only [foldRes, lastTrigger, triggerOf]
      rw [ih]
      cases lastTrigger es <;> rfl

theorem lastTrigger_append (a b : List Event) :
    lastTrigger (a ++ b) = match lastTrigger b with
      | some t => some t
      | none => lastTrigger a := by
  induction a with
  | nil => cases h : lastTrigger b <;> simp [lastTrigger, h]
  | cons e es ih =>
    simp only [List.cons_append, lastTrigger]
    rw [ih]
    cases lastTrigger b <;> rfl

theorem triggerOf_isSome (e : Event) : (triggerOf e).isSome = isTrigger e := by
  cases e with
  | test n nm r ex => cases h : r.isBad <;> simp [triggerOf, isTrigger, isBadTest, isErrorEvent, isBailEvent, h]
  | _ => rfl

theorem triggerOf_fail {e : Event} (h : triggerOf e = some .fail) : isBadTest e = true := by
  cases e with
  | test n nm r ex =>
    cases hb : r.isBad <;> simp [triggerOf, hb] at h
    exact hb
  | _ => simp [triggerOf] at h

theorem triggerOf_error {e : Event} (h : triggerOf e = some .error) : (isErrorEvent e || isBailEvent e) = true := by
  cases e with
  | test n nm r ex => cases hb : r.isBad <;> simp [triggerOf, hb] at h
  | error x => rfl
  | bailout m => rfl
  | _ => simp [triggerOf] at h

theorem lastTrigger_none_iff (evs : List Event) : lastTrigger evs = none ↔ evs.any isTrigger = false := by
  induction evs with
  | nil => simp [lastTrigger]
  | cons e es ih =>
    simp only [lastTrigger, List.any_cons, Bool.or_eq_false_iff, ← ih, ← triggerOf_isSome]
    cases lastTrigger es <;> cases triggerOf e <;> simp

theorem lastTrigger_some_iff (evs : List Event) (t : Trigger) :
    lastTrigger evs = some t ↔
      ∃ pre e post, evs = pre ++ e :: post ∧ triggerOf e = some t ∧ lastTrigger post = none := by
  constructor
  · induction evs with
    | nil => simp [lastTrigger]
    | cons e es ih =>
      simp only [lastTrigger]
      cases h : lastTrigger es with
      | some t' =>
        intro ht
        obtain ⟨pre, e', post, h1, h2⟩ := ih (h.trans ht)
        exact ⟨e :: pre, e', post, by rw [h1]; rfl, h2⟩
      | none => exact fun ht => ⟨[], e, es, rfl, ht, h⟩
  · rintro ⟨pre, e, post, rfl, h2, h3⟩
    rw [lastTrigger_append]
    simp [lastTrigger, h3, h2]

theorem lastTrigger_fail_bad (evs : List Event) (h : lastTrigger evs = some .fail) : hasBadSubtest evs = true := by
  obtain ⟨pre, e, post, rfl, he, _⟩ := (lastTrigger_some_iff _ _).mp h
  simp [hasBadSubtest, triggerOf_fail he]

theorem lastTrigger_error_has (evs : List Event) (h : lastTrigger evs = some .error) : hasErrorOrBail evs = true := by
  obtain ⟨pre, e, post, rfl, he, _⟩ := (lastTrigger_some_iff _ _).mp h
  have := triggerOf_error he
  simp only [Bool.or_eq_true] at this
  simp [hasErrorOrBail, this]

theorem lastTrigger_errors (l : List Event) (h : ∀ e ∈ l, isErrorEvent e = true) (hne : l ≠ []) :
    lastTrigger l = some .error := by
  induction l with
  | nil => exact absurd rfl hne
  | cons e es ih =>
    simp only [lastTrigger]
    by_cases hes : es = []
    · subst hes
      have := h e (List.mem_cons_self ..)
      cases e <;> simp [isErrorEvent] at this
      rfl
    · rw [ih (fun x hx => h x (List.mem_cons_of_mem _ hx)) hes]

theorem no_trigger_iff (evs : List Event) :
    lastTrigger evs = none ↔ (hasBadSubtest evs = false ∧ hasErrorOrBail evs = false) := by
  rw [lastTrigger_none_iff, any_trigger, Bool.or_eq_false_iff]

theorem verdict_eq_specVerdict (evs : List Event) (rc : Int) :
    verdict false false rc evs = specVerdict evs rc := by
  unfold verdict parseRes completeRes specVerdict
  rw [foldRes_eq_lastTrigger]
  cases ht : lastTrigger evs with
  | none =>
    by_cases hrc : rc = 0 <;> cases allSkip evs <;> simp [hrc, TestResult.isBad]
  | some t =>
    cases t with
    | error => cases allSkip evs <;> simp [Trigger.res, TestResult.isBad]
    | fail =>
      have hb := lastTrigger_fail_bad evs ht
      have hs : allSkip evs = false := by
        cases h : allSkip evs with
        | false => rfl
        | true =>
          rw [allSkip_no_bad evs h] at hb
          cases hb
      simp [hs, Trigger.res, TestResult.isBad]

/-- whatever `parse_line(None)` yields comes last and is an error, so it decides the result -/
theorem end_events_make_error (lines : List (List Char)) (rc : Int)
    (h : finish (run PState.init lines).1 ≠ []) : verdict false false rc (parse lines) = .ERROR := by
  have hl := lastTrigger_errors _ (finish_errors (run PState.init lines).1) h
  rw [verdict_eq_specVerdict, specVerdict, parse, lastTrigger_append, hl]

end MesonModel.Tap
