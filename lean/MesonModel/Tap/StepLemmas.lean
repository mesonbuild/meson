/-
`Delta s s' evs`: what yielding `evs` does to the parser's counters, said through the measures of `evs`. Every
branch of `parse_line` satisfies it (`step_delta`) and it composes along a stream (`run_delta`), so a statement
about the events of a whole stream is read off the final state. Then the shape of one step — a line is either
taken by the YAML-block logic (`step_swallowed`) or reaches the classifier (`step_visible`) — and what
`parse_line(None)` adds at the end (`parse_measures`).
-/
import MesonModel.Tap.Lemmas

namespace MesonModel.Tap
open MesonModel.Py

/-- the number of plan events the parser can still yield: one until a plan is known. `Delta.plans` charges every
plan event of a stream to this slot, which is how "at most one plan event" is carried through `run` -/
def planSlot (s : PState) : Nat := if s.plan.isSome then 0 else 1

/-- likewise for the "test after late plan" error, which is reported once (`Delta.late`) -/
def lateSlot (s : PState) : Nat := if s.foundLateTest then 0 else 1

/-- how the counters of the parser move when it emits `evs` -/
structure Delta (s s' : PState) (evs : List Event) : Prop where
  numTests : s'.numTests = s.numTests + countTests evs
  highest : s'.highestTest = max s.highestTest (maxNumber evs)
  plan : s'.plan = orPlan s.plan (planOf evs)
  bailed : s'.bailedOut = (s.bailedOut || hasBail evs)
  noFinal : ∀ e ∈ evs, isFinalErr e = false
  plans : countPlans evs + planSlot s' ≤ planSlot s
  late : evs.countP isLateErr + lateSlot s' ≤ lateSlot s

theorem Delta.refl (s : PState) : Delta s s [] := by
  constructor <;> simp

theorem Delta.trans {s s1 s2 : PState} {e1 e2 : List Event} (h1 : Delta s s1 e1) (h2 : Delta s1 s2 e2) :
    Delta s s2 (e1 ++ e2) := by
  constructor
  · rw [h2.numTests, h1.numTests]
    simp
    omega
  · rw [h2.highest, h1.highest]
    simp [Nat.max_assoc]
  · rw [h2.plan, h1.plan, planOf_append, orPlan_assoc]
  · rw [h2.bailed, h1.bailed]
    simp [Bool.or_assoc]
  · intro e he
    rcases List.mem_append.mp he with h | h
    · exact h1.noFinal e h
    · exact h2.noFinal e h
  · have := h1.plans
    have := h2.plans
    simp
    omega
  · have := h1.late
    have := h2.late
    simp
    omega

theorem Delta.transfer {s0 s s' : PState} {evs : List Event} (h : Delta s s' evs)
    (h1 : s.numTests = s0.numTests) (h2 : s.highestTest = s0.highestTest) (h3 : s.plan = s0.plan)
    (h4 : s.bailedOut = s0.bailedOut) (h5 : s.foundLateTest = s0.foundLateTest) : Delta s0 s' evs := by
  constructor
  · rw [← h1]
    exact h.numTests
  · rw [← h2]
    exact h.highest
  · rw [← h3]
    exact h.plan
  · rw [← h4]
    exact h.bailed
  · exact h.noFinal
  · have := h.plans
    simp only [planSlot] at *
    rw [← h3]
    exact this
  · have := h.late
    simp only [lateSlot] at *
    rw [← h5]
    exact this

theorem Delta.inert {s s' : PState} {evs : List Event} (h : ∀ e ∈ evs, isInert e = true)
    (h1 : s'.numTests = s.numTests) (h2 : s'.highestTest = s.highestTest) (h3 : s'.plan = s.plan)
    (h4 : s'.bailedOut = s.bailedOut) (h5 : s'.foundLateTest = s.foundLateTest) : Delta s s' evs := by
  obtain ⟨hq, hl, hf⟩ := inert_measures evs h
  obtain ⟨a, b, c, d, f⟩ := quiet_measures evs hq
  constructor
  · rw [h1, a]
    rfl
  · rw [h2, b]
    simp
  · rw [h3, c]
    simp
  · rw [h4, d]
    simp
  · exact hf
  · rw [f, planSlot, planSlot, h3]
    simp
  · rw [hl, lateSlot, lateSlot, h5]
    simp

theorem Delta.inert_append {s s' : PState} {errs evs : List Event} (h : Delta s s' evs)
    (he : ∀ e ∈ errs, isInert e = true) : Delta s s' (errs ++ evs) :=
  (Delta.inert he rfl rfl rfl rfl rfl).trans h

theorem Delta.optional {s s' : PState} {evs : List Event} (h : Delta s s' evs) (p : Prop) [Decidable p] {e : Event}
    (he : isInert e = true) : Delta s s' ((if p then [e] else []) ++ evs) :=
  h.inert_append fun x hx => by
    rw [(mem_optional.mp hx).2]
    exact he

theorem Delta.cons_inert {s s' : PState} {evs : List Event} (h : Delta s s' evs) {e : Event}
    (he : isInert e = true) : Delta s s' (e :: evs) :=
  h.inert_append (errs := [e]) (by simpa using he)

theorem onTest_delta (s : PState) (ok : Bool) (num : Option (List Char)) (name : List Char)
    (dir expl : Option (List Char)) : Delta s (onTest s ok num name dir expl).1 (onTest s ok num name dir expl).2 := by
  obtain ⟨errs, herrs, hp⟩ := parseTest_errs ok (testNumber s num) name dir expl
  simp only [onTest, hp, List.append_assoc]
  -- the "late test" error and its flag; then inert errors; then the subtest with the counters
  have late : Delta s { s with foundLateTest := s.foundLateTest || lateNow s }
      (if lateNow s = true then [.error .lateTest] else []) := by
    cases hl : lateNow s
    · simpa using Delta.refl s
    · have : s.foundLateTest = false := by
        unfold lateNow at hl
        split at hl <;> simp_all
      constructor <;> simp [isTestEvent, numberOf, planOf, isBailEvent, isFinalErr, isPlanEvent, planSlot, lateSlot,
        isLateErr, this]
  refine late.trans ?_
  apply Delta.optional _ _ rfl
  apply Delta.optional _ _ rfl
  refine Delta.inert_append ?_ fun e he => by
    obtain ⟨d, rfl⟩ := herrs e he
    rfl
  constructor <;> simp [isTestEvent, numberOf, planOf, isBailEvent, isFinalErr, isPlanEvent, planSlot, lateSlot,
    isLateErr]

theorem planErrs_cases (dir : Option (List Char)) (n : Nat) :
    ∀ e ∈ planErrs dir n, e = .error .planSkipInvalid ∨ e = .error .planDirectiveInvalid := by
  intro e he
  unfold planErrs at he
  split at he
  · cases he
  · split at he
    · exact Or.inl (mem_optional.mp he).2
    · exact Or.inr (List.mem_singleton.mp he)

theorem onPlan_delta (s : PState) (ds : List Char) (dir expl : Option (List Char)) :
    Delta s (onPlan s ds dir expl).1 (onPlan s ds dir expl).2 := by
  unfold onPlan
  cases hp : s.plan with
  | some p => exact (Delta.refl s).cons_inert rfl
  | none =>
    simp only
    split
    · exact (Delta.refl s).cons_inert rfl
    · refine Delta.inert_append ?_ fun e he => by
        rcases planErrs_cases _ _ e he with rfl | rfl <;> rfl
      constructor <;> simp [hp, isTestEvent, numberOf, planOf, isBailEvent, isFinalErr, isPlanEvent, planSlot, isLateErr,
        lateSlot]

theorem onVersion_delta (s : PState) (ds : List Char) :
    Delta s (onVersion s ds).1 (onVersion s ds).2 := by
  unfold onVersion
  split
  · exact (Delta.refl s).cons_inert rfl
  · split
    · exact (Delta.refl s).cons_inert rfl
    · have h : Delta s { s with version := natOfDigits ds } [] :=
        Delta.inert (fun _ h => nomatch h) rfl rfl rfl rfl rfl
      refine h.cons_inert ?_
      split <;> rfl

theorem mainLine_delta (s : PState) (line : List Char) :
    Delta s (mainLine s line).1 (mainLine s line).2 := by
  simp only [mainLine]
  cases h : classify (rstrip line) with
  | skip => exact Delta.refl s
  | test ok num name dir expl => exact onTest_delta ..
  | plan ds dir expl => exact onPlan_delta ..
  | bailout msg =>
    constructor <;> simp [isTestEvent, numberOf, planOf, isBailEvent, isFinalErr, isPlanEvent, planSlot, isLateErr,
      lateSlot]
  | version ds => exact onVersion_delta ..
  | unknown => exact (Delta.refl s).cons_inert rfl

/-- the state in which the main classifier sees a line -/
def enter (s : PState) : PState := { s with lineno := s.lineno + 1, state := .main }

theorem step_afterTest_yaml {s : PState} (h : s.state = .afterTest) (hv : s.version ≥ 13) {line ind : List Char}
    (hy : yamlStart line = some ind) :
    step s line = ({ s with lineno := s.lineno + 1, state := .yaml, yamlLineno := some (s.lineno + 1),
                            yamlIndent := ind }, []) := by
  simp [step, h, hv, hy]

theorem step_yaml_end {s : PState} (h : s.state = .yaml) {line : List Char} (he : yamlEnd line = true) :
    step s line = ({ s with lineno := s.lineno + 1, state := .main }, []) := by
  simp [step, h, he]

theorem step_yaml_cont {s : PState} (h : s.state = .yaml) {line : List Char} (he : yamlEnd line = false)
    (hi : startsWith line s.yamlIndent = true) :
    step s line = ({ s with lineno := s.lineno + 1 }, []) := by
  simp [step, h, he, hi]

/-- the line is consumed by the YAML-block logic and never reaches the classifier -/
def swallowed (s : PState) (line : List Char) : Bool :=
  match s.state with
  | .main => false
  | .afterTest => decide (s.version ≥ 13) && (yamlStart line).isSome
  | .yaml => yamlEnd line || startsWith line s.yamlIndent

def isTestClass : LineClass → Bool
  | .test .. => true
  | _ => false

def visibleTest (s : PState) (line : List Char) : Bool :=
  !swallowed s line && isTestClass (classify (rstrip line))

/-- all fields other than the mode, the line counter and the YAML bookkeeping -/
def sameCounters (s s' : PState) : Prop :=
  s'.plan = s.plan ∧ s'.numTests = s.numTests ∧ s'.lastTest = s.lastTest ∧ s'.highestTest = s.highestTest ∧
  s'.foundLateTest = s.foundLateTest ∧ s'.bailedOut = s.bailedOut ∧ s'.version = s.version

theorem step_swallowed {s : PState} {line : List Char} (h : swallowed s line = true) :
    (step s line).2 = [] ∧ sameCounters s (step s line).1 ∧ (step s line).1.lineno = s.lineno + 1 := by
  unfold swallowed at h
  cases hs : s.state with
  | main => simp [hs] at h
  | afterTest =>
    simp [hs] at h
    obtain ⟨hv, hy⟩ := h
    cases hy' : yamlStart line with
    | none => simp [hy'] at hy
    | some ind =>
      rw [step_afterTest_yaml hs hv hy']
      simp [sameCounters]
  | yaml =>
    simp [hs] at h
    cases he : yamlEnd line with
    | true =>
      rw [step_yaml_end hs he]
      simp [sameCounters]
    | false =>
      have hi : startsWith line s.yamlIndent = true := by simpa [he] using h
      rw [step_yaml_cont hs he hi]
      simp [sameCounters]

theorem step_visible {s : PState} {line : List Char} (h : swallowed s line = false) :
    step s line = ((mainLine (enter s) line).1,
      (if s.state = .yaml then [.error (.yamlNotTerminated s.yamlLineno)] else []) ++ (mainLine (enter s) line).2) := by
  unfold swallowed at h
  unfold step enter
  cases hs : s.state <;> simp [hs] at h ⊢
  · intro hv
    rw [h hv]
  · simp [h]

theorem step_delta (s : PState) (line : List Char) : Delta s (step s line).1 (step s line).2 := by
  cases h : swallowed s line with
  | true =>
    obtain ⟨he, ⟨hplan, hnum, -, hhigh, hlate, hbail, -⟩, -⟩ := step_swallowed h
    rw [he]
    exact Delta.inert (fun _ h => nomatch h) hnum hhigh hplan hbail hlate
  | false =>
    rw [step_visible h]
    exact ((mainLine_delta (enter s) line).optional _ rfl).transfer rfl rfl rfl rfl rfl

theorem run_delta (s : PState) (lines : List (List Char)) : Delta s (run s lines).1 (run s lines).2 := by
  induction lines generalizing s with
  | nil => exact Delta.refl s
  | cons l ls ih => exact (step_delta s l).trans (ih _)

/-- while lines are read no end-of-stream error is emitted: those come from `finish` alone -/
theorem run_no_final (s : PState) (lines : List (List Char)) : (run s lines).2.filter isFinalErr = [] :=
  List.filter_eq_nil_iff.mpr fun e he => by simp [(run_delta s lines).noFinal e he]

theorem run_init_counters (lines : List (List Char)) :
    (run PState.init lines).1.numTests = countTests (run PState.init lines).2 ∧
    (run PState.init lines).1.highestTest = maxNumber (run PState.init lines).2 ∧
    (run PState.init lines).1.plan = planOf (run PState.init lines).2 ∧
    (run PState.init lines).1.bailedOut = hasBail (run PState.init lines).2 := by
  have D := run_delta PState.init lines
  exact ⟨by simpa [PState.init] using D.numTests, by simpa [PState.init] using D.highest,
    by simpa [PState.init] using D.plan, by simpa [PState.init] using D.bailed⟩

theorem exceedsPlan_iff (s : PState) (n : Nat) :
    exceedsPlan s n = true ↔ ∃ p, s.plan = some p ∧ n > p.numTests := by
  unfold exceedsPlan
  cases s.plan <;> simp

theorem lateNow_iff (s : PState) :
    lateNow s = true ↔ (∃ p, s.plan = some p ∧ p.late = true) ∧ s.foundLateTest = false := by
  unfold lateNow
  cases s.plan <;> simp

theorem step_test_line {s : PState} {line : List Char} {ok : Bool} {num : Option (List Char)} {name : List Char}
    {dir expl : Option (List Char)} (hv : swallowed s line = false)
    (hc : classify (rstrip line) = .test ok num name dir expl) :
    step s line = ((onTest (enter s) ok num name dir expl).1,
      (if s.state = .yaml then [.error (.yamlNotTerminated s.yamlLineno)] else []) ++
        (onTest (enter s) ok num name dir expl).2) := by
  rw [step_visible hv]
  simp only [mainLine, hc]

theorem error_mem_onTest {s : PState} {ok : Bool} {num : Option (List Char)} {name : List Char}
    {dir expl : Option (List Char)} {er : Err} (her : ∀ d, er ≠ .invalidDirective d) :
    .error er ∈ (onTest s ok num name dir expl).2 ↔
      (lateNow s = true ∧ er = .lateTest) ∨ (numTooLong num = true ∧ er = .testNumberTooLarge) ∨
      (exceedsPlan s (testNumber s num) = true ∧ er = .exceedsPlan) := by
  obtain ⟨errs, herrs, hp⟩ := parseTest_errs ok (testNumber s num) name dir expl
  have h1 : .error er ∉ errs := fun h => by
    obtain ⟨d, hd⟩ := herrs _ h
    exact her d (Event.error.inj hd)
  simp [onTest, hp, h1]

theorem onPlan_fields (s : PState) (ds : List Char) (dir expl : Option (List Char)) :
    (onPlan s ds dir expl).1.lineno = s.lineno ∧ (onPlan s ds dir expl).1.numTests = s.numTests := by
  unfold onPlan
  cases s.plan <;> cases tooLong ds <;> exact ⟨rfl, rfl⟩

theorem onVersion_fields (s : PState) (ds : List Char) :
    (onVersion s ds).1.lineno = s.lineno ∧ (onVersion s ds).1.numTests = s.numTests := by
  unfold onVersion
  by_cases h : s.lineno = 1 <;> cases tooLong ds <;> simp [h]

theorem mainLine_fields (s : PState) (line : List Char) :
    (mainLine s line).1.lineno = s.lineno ∧
    (mainLine s line).1.numTests = s.numTests + if isTestClass (classify (rstrip line)) then 1 else 0 := by
  simp only [mainLine]
  cases classify (rstrip line) with
  | plan ds dir expl => exact onPlan_fields ..
  | version ds => exact onVersion_fields ..
  | _ => exact ⟨rfl, rfl⟩

theorem mainLine_countTests (s : PState) (line : List Char) :
    countTests (mainLine s line).2 = if isTestClass (classify (rstrip line)) then 1 else 0 := by
  have h := (mainLine_delta s line).numTests
  rw [(mainLine_fields s line).2] at h
  exact (Nat.add_left_cancel h).symm

theorem step_countTests (s : PState) (line : List Char) :
    countTests (step s line).2 = if visibleTest s line then 1 else 0 := by
  cases h : swallowed s line with
  | true => simp [(step_swallowed h).1, visibleTest, h]
  | false =>
    rw [step_visible h]
    by_cases hs : s.state = .yaml <;> simp [hs, visibleTest, h, mainLine_countTests, isTestEvent]

theorem dupMissing_final (s : PState) : ∀ e ∈ dupMissing s, isFinalErr e = true := by
  intro e he
  unfold dupMissing at he
  split at he
  · simp at he
  · split at he
    · simp at he
      subst he
      rfl
    · simp at he
      subst he
      rfl

theorem finalChecks_final (s : PState) : ∀ e ∈ finalChecks s, isFinalErr e = true := by
  intro e he
  unfold finalChecks at he
  split at he
  · split at he
    · exact dupMissing_final s e he
    · split at he
      · simp at he
        subst he
        rfl
      · simp at he
        subst he
        rfl
  · exact dupMissing_final s e he

theorem finish_filter (s : PState) :
    (finish s).filter isFinalErr = if s.bailedOut then [] else finalChecks s := by
  unfold finish
  have h1 : ∀ l : List Event, (∀ e ∈ l, isFinalErr e = true) → l.filter isFinalErr = l := by
    intro l hl
    exact List.filter_eq_self.mpr hl
  by_cases hy : s.state = .yaml <;> cases hb : s.bailedOut <;>
    simp [hy, hb, List.filter_cons, isFinalErr, h1 _ (finalChecks_final s)]

theorem error_of_final {e : Event} (h : isFinalErr e = true) : isErrorEvent e = true ∧ isLateErr e = false := by
  unfold isFinalErr at h
  split at h
  · exact ⟨rfl, rfl⟩
  · exact ⟨rfl, rfl⟩
  · exact ⟨rfl, rfl⟩
  · exact ⟨rfl, rfl⟩
  · cases h

theorem finish_cases (s : PState) :
    ∀ e ∈ finish s, e = .error (.yamlNotTerminated s.yamlLineno) ∨ isFinalErr e = true := by
  intro e he
  unfold finish at he
  rcases List.mem_append.mp he with h | h
  · exact Or.inl (mem_optional.mp h).2
  · split at h
    · cases h
    · exact Or.inr (finalChecks_final s e h)

theorem finish_errors (s : PState) : ∀ e ∈ finish s, isErrorEvent e = true := by
  intro e he
  rcases finish_cases s e he with rfl | h
  · rfl
  · exact (error_of_final h).1

/-- the end-of-stream events are errors, which move no measure -/
theorem parse_measures (lines : List (List Char)) :
    countTests (parse lines) = countTests (run PState.init lines).2 ∧
    maxNumber (parse lines) = maxNumber (run PState.init lines).2 ∧
    planOf (parse lines) = planOf (run PState.init lines).2 ∧
    hasBail (parse lines) = hasBail (run PState.init lines).2 ∧
    countPlans (parse lines) = countPlans (run PState.init lines).2 := by
  obtain ⟨a, b, c, d, f⟩ := quiet_measures _ fun e he => quiet_of_error (finish_errors (run PState.init lines).1 e he)
  simp [parse, a, b, c, d, f, planOf_append]

theorem step_lineno (s : PState) (line : List Char) : (step s line).1.lineno = s.lineno + 1 := by
  cases h : swallowed s line with
  | true => exact (step_swallowed h).2.2
  | false =>
    rw [step_visible h]
    simp [(mainLine_fields _ _).1, enter]

theorem onTest_noVersion (s : PState) (ok : Bool) (num : Option (List Char)) (name : List Char)
    (dir expl : Option (List Char)) : ∀ e ∈ (onTest s ok num name dir expl).2, isVersionEvent e = false := by
  obtain ⟨errs, herrs, hp⟩ := parseTest_errs ok (testNumber s num) name dir expl
  intro e he
  simp only [onTest, hp, List.mem_append, mem_optional, List.mem_singleton] at he
  rcases he with ((⟨_, rfl⟩ | ⟨_, rfl⟩) | ⟨_, rfl⟩) | he | rfl
  · rfl
  · rfl
  · rfl
  · obtain ⟨d, rfl⟩ := herrs e he
    rfl
  · rfl

theorem mainLine_noVersion (s : PState) (line : List Char) (h : s.lineno ≠ 1) :
    ∀ e ∈ (mainLine s line).2, isVersionEvent e = false := by
  intro e he
  simp only [mainLine] at he
  cases hc : classify (rstrip line) with
  | skip => simp [hc] at he
  | test ok num name dir expl =>
    rw [hc] at he
    exact onTest_noVersion _ _ _ _ _ _ e he
  | plan ds dir expl =>
    rw [hc] at he
    simp only [onPlan] at he
    cases hp : s.plan with
    | some p =>
      simp [hp] at he
      subst he
      rfl
    | none =>
      cases hz : tooLong ds
      · simp [hp, hz] at he
        rcases he with he | he
        · rcases planErrs_cases _ _ e he with rfl | rfl <;> rfl
        · subst he
          rfl
      · simp [hp, hz] at he
        subst he
        rfl
  | bailout msg =>
    simp [hc] at he
    subst he
    rfl
  | version ds =>
    simp [hc, onVersion, h] at he
    subst he
    rfl
  | unknown =>
    simp [hc] at he
    subst he
    rfl

theorem step_noVersion (s : PState) (line : List Char) (h : s.lineno ≥ 1) :
    ∀ e ∈ (step s line).2, isVersionEvent e = false := by
  intro e he
  cases hs : swallowed s line with
  | true => simp [(step_swallowed hs).1] at he
  | false =>
    rw [step_visible hs] at he
    rcases List.mem_append.mp he with he | he
    · split at he <;> simp at he
      subst he
      rfl
    · exact mainLine_noVersion (enter s) line (by simp [enter]; omega) e he

theorem run_noVersion (s : PState) (lines : List (List Char)) (h : s.lineno ≥ 1) :
    ∀ e ∈ (run s lines).2, isVersionEvent e = false := by
  induction lines generalizing s with
  | nil =>
    intro e he
    simp [run] at he
  | cons l ls ih =>
    intro e he
    simp only [run] at he
    rcases List.mem_append.mp he with he | he
    · exact step_noVersion s l h e he
    · exact ih _ (by rw [step_lineno]; omega) e he

end MesonModel.Tap
