/-
C01 — the `str` methods (strip, split / join / replace, contains, substring, case), decimal printing and reading of
integers, stringification of lists, and the `@N@` / `@name@` templates as lists of pieces.
-/
import MesonModel.Eval.Model

namespace MesonModel.Eval
open MesonModel.Py

theorem drop_takeWhile_length {α} (p : α → Bool) : ∀ l : List α, l.drop (l.takeWhile p).length = l.dropWhile p
  | [] => rfl
  | a :: r => by
    by_cases h : p a
    · simp [h, drop_takeWhile_length p r]
    · simp [h]

theorem dropWhile_eq_self {α} (p : α → Bool) (l : List α) (h : ∀ a r, l = a :: r → p a = false) :
    l.dropWhile p = l := by
  cases l with
  | nil => rfl
  | cons a r => simp [h a r rfl]

theorem dropWhile_head_fails {α} (p : α → Bool) (l : List α) (a : α) (r : List α)
    (h : l.dropWhile p = a :: r) : p a = false := by
  have := List.head?_dropWhile_not p l
  rw [h] at this
  exact this

/-- both `strip` and `stripChars` are this, for the predicate "is a character to remove" -/
def trimBoth (p : Char → Bool) (s : Str) : Str := ((s.dropWhile p).reverse.dropWhile p).reverse

theorem strip_eq_trimBoth (s : Str) : strip s = trimBoth isSpace s := rfl

theorem stripChars_eq_trimBoth (s chars : Str) : stripChars s chars = trimBoth (fun c => chars.contains c) s := rfl

theorem rtrim_prefix (p : Char → Bool) (t : Str) :
    ∃ w, t = (t.reverse.dropWhile p).reverse ++ w := by
  refine ⟨(t.reverse.takeWhile p).reverse, ?_⟩
  have h := List.takeWhile_append_dropWhile (p := p) (l := t.reverse)
  have h2 := congrArg List.reverse h
  simp only [List.reverse_append, List.reverse_reverse] at h2
  exact h2.symm

theorem trimBoth_ends (p : Char → Bool) (s : Str) :
    (∀ a r, trimBoth p s = a :: r → p a = false) ∧
    (∀ a r, (trimBoth p s).reverse = a :: r → p a = false) := by
  unfold trimBoth
  constructor
  · intro a r h
    -- the result is a prefix of `s.dropWhile p`, so its head is the head of that
    obtain ⟨w, hw⟩ := rtrim_prefix p (s.dropWhile p)
    rw [h] at hw
    exact dropWhile_head_fails p s a _ hw
  · intro a r h
    rw [List.reverse_reverse] at h
    exact dropWhile_head_fails p _ a r h

theorem trimBoth_idem (p : Char → Bool) (s : Str) : trimBoth p (trimBoth p s) = trimBoth p s := by
  obtain ⟨h1, h2⟩ := trimBoth_ends p s
  generalize trimBoth p s = u at h1 h2
  unfold trimBoth
  rw [dropWhile_eq_self p u h1, dropWhile_eq_self p u.reverse h2, List.reverse_reverse]

theorem trimBoth_none (p : Char → Bool) (s : Str) (h : ∀ c ∈ s, p c = false) : trimBoth p s = s := by
  unfold trimBoth
  rw [dropWhile_eq_self p s (fun a r e => h a (e ▸ List.mem_cons_self)),
    dropWhile_eq_self p s.reverse (fun a r e => h a (List.mem_reverse.mp (e ▸ List.mem_cons_self))),
    List.reverse_reverse]

theorem splitGo_ne_nil (sep : Str) : ∀ (s : Str) (k : Nat) (cur : Str), splitGo sep s k cur ≠ []
  | [], _, _ => by simp [splitGo]
  | _ :: r, k + 1, cur => by simp only [splitGo]; exact splitGo_ne_nil sep r k cur
  | c :: r, 0, cur => by
    simp only [splitGo]
    split
    · simp
    · exact splitGo_ne_nil sep r 0 (c :: cur)

theorem joinStr_cons_of_ne_nil (sep x : Str) (r : List Str) (h : r ≠ []) :
    joinStr sep (x :: r) = x ++ sep ++ joinStr sep r := by
  cases r with
  | nil => exact absurd rfl h
  | cons y t => rfl

/-- `new.join(s.split(old)) == s.replace(old, new)` in mid-scan: `k` characters of a separator are still to be
skipped, `cur` is the field collected so far -/
theorem join_splitGo (old new : Str) : ∀ (s : Str) (k : Nat) (cur : Str),
    joinStr new (splitGo old s k cur) = cur.reverse ++ replaceGo old new s k
  | [], k, cur => by simp [splitGo, replaceGo, joinStr]
  | c :: r, k + 1, cur => by simp only [splitGo, replaceGo]; exact join_splitGo old new r k cur
  | c :: r, 0, cur => by
    simp only [splitGo, replaceGo]
    split
    · rw [joinStr_cons_of_ne_nil _ _ _ (splitGo_ne_nil old r _ []), join_splitGo old new r _ []]
      simp
    · rw [join_splitGo old new r 0 (c :: cur)]
      simp

theorem replaceGo_self (old : Str) (hne : old ≠ []) : ∀ (s : Str) (k : Nat), replaceGo old old s k = s.drop k
  | [], k => by simp [replaceGo]
  | c :: r, k + 1 => by simp only [replaceGo, List.drop_succ_cons]; exact replaceGo_self old hne r k
  | c :: r, 0 => by
    simp only [replaceGo, List.drop_zero]
    split
    · rename_i h
      rw [replaceGo_self old hne r (old.length - 1)]
      have hs := (List.prefix_iff_eq_append.mp (List.isPrefixOf_iff_prefix.mp h)).symm
      cases old with
      | nil => exact absurd rfl hne
      | cons o os =>
        simp only [List.length_cons, Nat.add_sub_cancel, List.drop_succ_cons] at hs ⊢
        exact hs.symm
    · rw [replaceGo_self old hne r 0]
      simp

theorem hasSub_iff_infix (p : Str) : ∀ s : Str, hasSub p s = true ↔ p <:+: s
  | [] => by simp [hasSub]
  | c :: r => by
    simp only [hasSub, Bool.or_eq_true, List.isPrefixOf_iff_prefix, hasSub_iff_infix p r, List.infix_cons_iff]

theorem hasSub_iff (p s : Str) : hasSub p s = true ↔ ∃ a b, s = a ++ p ++ b :=
  (hasSub_iff_infix p s).trans ⟨fun ⟨a, b, h⟩ => ⟨a, b, h.symm⟩, fun ⟨a, b, h⟩ => ⟨a, b, h.symm⟩⟩

theorem sliceIdxGo_one (stop i : Int) (fuel : Nat) :
    sliceIdxGo 1 stop (fuel + 1) i = if i < stop then i :: sliceIdxGo 1 stop fuel (i + 1) else [] := by
  simp [sliceIdxGo]

theorem sliceIdxGo_one_filterMap {α} (l : List α) (stop : Nat) (hstop : stop ≤ l.length) :
    ∀ (fuel i : Nat), stop - i ≤ fuel →
      (sliceIdxGo 1 (stop : Int) fuel (i : Int)).filterMap (fun j => l[j.toNat]?) = (l.drop i).take (stop - i)
  | 0, i, h => by
    rw [Nat.le_zero.mp h]
    rfl
  | fuel + 1, i, h => by
    rw [sliceIdxGo_one]
    by_cases hi : i < stop
    · have hil : i < l.length := Nat.lt_of_lt_of_le hi hstop
      rw [if_pos (Int.ofNat_lt.mpr hi), List.filterMap_cons, ← Int.natCast_succ,
        sliceIdxGo_one_filterMap l stop hstop fuel (i + 1) (by omega), Int.toNat_natCast,
        List.getElem?_eq_getElem hil, List.drop_eq_getElem_cons hil,
        show stop - i = (stop - (i + 1)) + 1 by omega, List.take_succ_cons]
    · rw [if_neg (mt Int.ofNat_lt.mp hi), Nat.sub_eq_zero_of_le (Nat.le_of_not_lt hi)]
      rfl

theorem sliceIndices_one (start stop : Option Int) (len : Nat) :
    sliceIndices start stop 1 len =
      sliceIdxGo 1 (match stop with | some x => adjustIdx x len false | none => (len : Int)) len
        (match start with | some x => adjustIdx x len false | none => 0) := by
  have hlt : ¬ ((1 : Int) < 0) := by decide
  unfold sliceIndices
  simp only [hlt, decide_false, ↓reduceIte]
  cases start <;> cases stop <;> rfl

theorem adjustIdx_nat (a len : Nat) (h : a ≤ len) : adjustIdx (a : Int) (len : Int) false = a := by
  unfold adjustIdx
  have c1 : ¬ ((a : Int) < 0) := by omega
  rw [if_neg c1]
  by_cases c2 : (a : Int) ≥ (len : Int)
  · rw [if_pos c2]
    simp only [Bool.false_eq_true, ↓reduceIte]
    omega
  · rw [if_neg c2]

theorem adjustIdx_neg (k len : Nat) (h1 : 1 ≤ k) (h2 : k ≤ len) :
    adjustIdx (-(k : Int)) (len : Int) false = ((len - k : Nat) : Int) := by
  unfold adjustIdx
  have c1 : -(k : Int) < 0 := by omega
  have c2 : ¬ (-(k : Int) + (len : Int) < 0) := by omega
  simp only [c1, c2, ↓reduceIte]
  omega

theorem adjustIdx_ge (a : Int) (len : Nat) (h : a ≥ len) : adjustIdx a (len : Int) false = len := by
  unfold adjustIdx
  have c1 : ¬ (a < 0) := by omega
  simp [c1, h]

theorem adjustIdx_le (x : Int) (len : Nat) : adjustIdx x (len : Int) false ≤ len := by
  unfold adjustIdx
  by_cases h1 : x < 0
  · rw [if_pos h1]
    by_cases h2 : x + (len : Int) < 0
    · simp [h2]
    · simp only [h2, ↓reduceIte]
      omega
  · rw [if_neg h1]
    by_cases h2 : x ≥ (len : Int)
    · simp [h2]
    · simp only [h2, ↓reduceIte]
      omega

theorem sliceIdxGo_empty (sp i : Int) (fuel : Nat) (h : sp ≤ i) : sliceIdxGo 1 sp fuel i = [] := by
  cases fuel with
  | zero => rfl
  | succ n => rw [sliceIdxGo_one, if_neg (by omega)]

/-- `stringifyL l = some xs`, spelled out: element by element, each in quoted mode -/
def printedAs : List Val → List Str → Prop
  | [], [] => True
  | v :: r, x :: xs => stringify true v = some x ∧ printedAs r xs
  | _, _ => False

theorem stringifyL_spec : ∀ (l : List Val) (xs : List Str), stringifyL l = some xs ↔ printedAs l xs
  | [], [] => by simp [stringifyL, printedAs]
  | [], _ :: _ => by simp [stringifyL, printedAs]
  | v :: r, [] => by
    simp only [stringifyL, printedAs, iff_false]
    intro h
    split at h <;> cases h
  | v :: r, x :: xs => by
    simp only [stringifyL, printedAs]
    constructor
    · intro h
      split at h
      · rename_i a b ha hb
        cases h
        exact ⟨ha, (stringifyL_spec r xs).mp hb⟩
      · cases h
    · rintro ⟨ha, hr⟩
      rw [ha, (stringifyL_spec r xs).mpr hr]

theorem flattenL_strs : ∀ l : List Str, flattenL (l.map Val.str) = l.map Val.str
  | [] => rfl
  | x :: r => by simp [flattenL, flattenV, flattenL_strs r]

theorem strArgs_strs : ∀ l : List Str, strArgs (l.map Val.str) = l
  | [] => rfl
  | x :: r => by
    have := strArgs_strs r
    unfold strArgs at this ⊢
    simp [this]

theorem toNat_ofNat_small (k : Nat) (h : k < 55296) : (Char.ofNat k).toNat = k := by
  have hv : k.isValidChar := Or.inl h
  simp [Char.ofNat, hv, Char.ofNatAux, Char.toNat]

/-- a map that sends the characters numbered `lo..hi` out of that range, and leaves the others, is idempotent -/
theorem shiftRange_idem (lo hi : Nat) (f : Nat → Nat)
    (hf : ∀ n, lo ≤ n → n ≤ hi → f n < 55296 ∧ ¬ (lo ≤ f n ∧ f n ≤ hi)) (c : Char) :
    let g := fun c : Char => if lo ≤ c.toNat && c.toNat ≤ hi then Char.ofNat (f c.toNat) else c
    g (g c) = g c := by
  intro g
  by_cases h : lo ≤ c.toNat ∧ c.toNat ≤ hi
  · obtain ⟨hlt, hout⟩ := hf _ h.1 h.2
    have hc : g c = Char.ofNat (f c.toNat) := by simp [g, h]
    rw [hc]
    simp only [g]
    rw [if_neg]
    rw [toNat_ofNat_small _ hlt]
    simpa using hout
  · have hc : g c = c := by simp [g, h]
    rw [hc, hc]

theorem upperC_idem (c : Char) : upperC (upperC c) = upperC c :=
  shiftRange_idem 97 122 (· - 32) (fun n _ _ => by omega) c

theorem lowerC_idem (c : Char) : lowerC (lowerC c) = lowerC c :=
  shiftRange_idem 65 90 (· + 32) (fun n _ _ => by omega) c

theorem isDigit_iff (c : Char) : isDigit c = true ↔ 48 ≤ c.toNat ∧ c.toNat ≤ 57 := by
  simp [isDigit]

theorem ne_of_isDigit {c d : Char} (hc : isDigit c = true) (hd : isDigit d = false) : c ≠ d :=
  ne_of_apply_ne isDigit (by simp [hc, hd])

theorem digitChar_toNat (d : Nat) (h : d < 10) : (digitChar d).toNat = 48 + d := by
  unfold digitChar
  simp only [h, ↓reduceIte]
  exact toNat_ofNat_small _ (by omega)

theorem digitChar_isDigit (d : Nat) (h : d < 10) : isDigit (digitChar d) = true := by
  rw [isDigit_iff, digitChar_toNat d h]
  omega

theorem digitVal_digitChar (d : Nat) (h : d < 10) : digitVal (digitChar d) = d := by
  unfold digitVal
  rw [digitChar_toNat d h]
  omega

/-- what `natDigitsGo` puts in front of the accumulator: a non-empty run of digits that reads back as `n` -/
theorem natDigitsGo_spec : ∀ (fuel n : Nat) (acc : Str), n < fuel →
    ∃ ds, natDigitsGo 10 fuel n acc = ds ++ acc ∧ ds ≠ [] ∧ (∀ c ∈ ds, isDigit c = true) ∧ natOfDigits ds = n
  | 0, _, _, h => by omega
  | fuel + 1, n, acc, h => by
    simp only [natDigitsGo]
    split
    · rename_i hn
      refine ⟨[digitChar n], rfl, List.cons_ne_nil _ _, ?_, ?_⟩
      · simpa using digitChar_isDigit n hn
      · simpa [natOfDigits] using digitVal_digitChar n hn
    · have hm : n % 10 < 10 := Nat.mod_lt _ (by omega)
      obtain ⟨ds, e, _, hd, hv⟩ := natDigitsGo_spec fuel (n / 10) (digitChar (n % 10) :: acc) (by omega)
      refine ⟨ds ++ [digitChar (n % 10)], by simp [e], by simp, ?_, ?_⟩
      · intro c hc
        rcases List.mem_append.mp hc with hc | hc
        · exact hd c hc
        · rw [List.mem_singleton.mp hc]
          exact digitChar_isDigit _ hm
      · have : natOfDigits (ds ++ [digitChar (n % 10)]) = natOfDigits ds * 10 + digitVal (digitChar (n % 10)) := by
          simp [natOfDigits]
        rw [this, hv, digitVal_digitChar _ hm]
        omega

theorem natDigits_spec (n : Nat) :
    natDigits 10 n ≠ [] ∧ (∀ c ∈ natDigits 10 n, isDigit c = true) ∧ natOfDigits (natDigits 10 n) = n := by
  obtain ⟨ds, e, h⟩ := natDigitsGo_spec (n + 1) n [] (by omega)
  rw [List.append_nil] at e
  rw [natDigits, e]
  exact h

theorem intStr_shape (i : Int) :
    intStr i = (if i < 0 then ['-'] else []) ++ natDigits 10 i.natAbs ∧
    natDigits 10 i.natAbs ≠ [] ∧ ∀ c ∈ natDigits 10 i.natAbs, isDigit c = true :=
  ⟨rfl, (natDigits_spec _).1, (natDigits_spec _).2.1⟩

theorem intStr_chars (i : Int) : ∀ c ∈ intStr i, c = '-' ∨ isDigit c = true := by
  intro c hc
  unfold intStr at hc
  rcases List.mem_append.mp hc with h | h
  · split at h
    · left
      simpa using h
    · simp at h
  · right
    exact (natDigits_spec _).2.1 c h

theorem intStr_ne_nil (i : Int) : intStr i ≠ [] := by
  unfold intStr
  intro h
  have := (List.append_eq_nil_iff.mp h).2
  exact (natDigits_spec _).1 this

theorem digitOf_ten (c : Char) (h : isDigit c = true) : digitOf 10 c = some (digitVal c) := by
  have hb := (isDigit_iff c).mp h
  unfold digitOf digitVal
  have c1 : (48 ≤ c.toNat && c.toNat ≤ 57) = true := by simp [hb.1, hb.2]
  simp only [c1, ↓reduceIte]
  have : c.toNat - 48 < 10 := by omega
  simp [this]

theorem parseDigitsGo_digits : ∀ (ds : Str) (prev : Bool) (acc : Nat), (∀ c ∈ ds, isDigit c = true) →
    (ds ≠ [] ∨ prev = true) →
    parseDigitsGo 10 ds prev acc = some (ds.foldl (fun a c => a * 10 + digitVal c) acc)
  | [], prev, acc, _, hne => by
    rcases hne with h | h
    · exact absurd rfl h
    · simp [parseDigitsGo, h]
  | c :: r, prev, acc, hd, _ => by
    have hc := hd c (by simp)
    have hu : (c == '_') = false := beq_false_of_ne (ne_of_isDigit hc rfl)
    simp only [parseDigitsGo, hu, Bool.false_eq_true, ↓reduceIte, digitOf_ten c hc]
    rw [parseDigitsGo_digits r true _ (fun x hx => hd x (by simp [hx])) (Or.inr rfl)]
    rfl

theorem parseDec_digits (ds : Str) (hd : ∀ c ∈ ds, isDigit c = true) (hne : ds ≠ []) :
    parseDec ds = some (natOfDigits ds) := by
  cases ds with
  | nil => exact absurd rfl hne
  | cons c r =>
    have hc := hd c (by simp)
    have hu : (c == '_') = false := beq_false_of_ne (ne_of_isDigit hc rfl)
    simp only [parseDec, hu, Bool.false_eq_true, ↓reduceIte]
    rw [parseDigitsGo_digits (c :: r) false 0 hd (Or.inl (by simp))]
    rfl

/-- `i.to_string().to_int() == i` -/
theorem parseInt_intStr (i : Int) : parseInt (intStr i) = some i := by
  obtain ⟨hs, hne, hd⟩ := intStr_shape i
  have hstrip : strip (intStr i) = intStr i := by
    rw [strip_eq_trimBoth]
    apply trimBoth_none
    intro c hc
    rcases intStr_chars i c hc with rfl | h
    · decide
    · have hb := (isDigit_iff c).mp h
      unfold isSpace
      simp
      omega
  unfold parseInt
  rw [hstrip, hs]
  cases hds : natDigits 10 i.natAbs with
  | nil => exact absurd hds hne
  | cons d r =>
    have hdd : isDigit d = true := hd d (by rw [hds]; simp)
    have hm : d ≠ '-' := ne_of_isDigit hdd rfl
    have hp : d ≠ '+' := ne_of_isDigit hdd rfl
    by_cases hi : i < 0
    · simp only [hi, ↓reduceIte, List.cons_append, List.nil_append]
      rw [← hds, parseDec_digits _ hd hne, (natDigits_spec _).2.2]
      simp
      omega
    · simp only [hi, ↓reduceIte, List.nil_append]
      split
      · rename_i h
        cases h
        exact absurd rfl hm
      · rename_i h
        cases h
        exact absurd rfl hp
      · simp only [← hds, parseDec_digits _ hd hne, (natDigits_spec _).2.2]
        simp
        omega

theorem intStr_injective (i j : Int) (h : intStr i = intStr j) : i = j :=
  Option.some.inj ((parseInt_intStr i).symm.trans ((congrArg parseInt h).trans (parseInt_intStr j)))

/-! ### `@N@` substitution (`str.format`) as a split of the template followed by one fold -/

/-- the pieces of a `.format()` template: literal characters and `@digits@` placeholders.  Depends on
the template only — never on the arguments -/
def fmtPieces : Str → Nat → List FPiece
  | [], _ => []
  | _ :: r, skip + 1 => fmtPieces r skip
  | c :: r, 0 =>
    if c == '@' then
      match placeholder isDigit r with
      | some ds => .var ds :: fmtPieces r (ds.length + 1)
      | none => .lit c :: fmtPieces r 0
    else .lit c :: fmtPieces r 0

/-- one left-to-right pass over the pieces; `none` = a placeholder number without an argument -/
def substPieces (args : List Str) : List FPiece → Option Str
  | [] => some []
  | .lit c :: r => (substPieces args r).map (c :: ·)
  | .var ds :: r =>
    match args[natOfDigits ds]? with
    | some a => (substPieces args r).map (a ++ ·)
    | none => none

/-- the source text of a list of pieces -/
def renderPieces : List FPiece → Str
  | [] => []
  | .lit c :: r => c :: renderPieces r
  | .var n :: r => '@' :: n ++ '@' :: renderPieces r

/-- what one piece contributes to the result -/
def pieceText (args : List Str) : FPiece → Str
  | .lit c => [c]
  | .var ds => (args[natOfDigits ds]?).getD []

theorem formatGo_eq_pieces (args : List Str) : ∀ (s : Str) (k : Nat),
    formatGo args s k = substPieces args (fmtPieces s k)
  | [], k => by simp [formatGo, fmtPieces, substPieces]
  | c :: r, k + 1 => by simp only [formatGo, fmtPieces]; exact formatGo_eq_pieces args r k
  | c :: r, 0 => by
    simp only [formatGo, fmtPieces]
    by_cases hc : (c == '@') = true
    · simp only [hc, ↓reduceIte]
      cases hp : placeholder isDigit r with
      | some ds =>
        simp only [substPieces, formatGo_eq_pieces args r (ds.length + 1)]
        cases args[natOfDigits ds]? <;> rfl
      | none => simp only [substPieces, formatGo_eq_pieces args r 0]
    · simp only [hc, formatGo_eq_pieces args r 0]
      rfl

theorem placeholder_spec (p : Char → Bool) (r run : Str) (h : placeholder p r = some run) :
    run ≠ [] ∧ (∀ c ∈ run, p c = true) ∧ ∃ tail, r = run ++ '@' :: tail := by
  unfold placeholder at h
  simp only at h
  split at h
  · cases h
  · rename_i hne
    split at h
    · rename_i hhead
      cases h
      refine ⟨by simpa using hne, List.all_eq_true.mp List.all_takeWhile, ?_⟩
      rw [drop_takeWhile_length, beq_iff_eq, List.head?_eq_some_iff] at hhead
      obtain ⟨tail, hd⟩ := hhead
      exact ⟨tail, by rw [← hd, List.takeWhile_append_dropWhile]⟩
    · cases h

theorem fmtPieces_cons (c : Char) (r : Str) :
    fmtPieces (c :: r) 0 = .lit c :: fmtPieces r 0 ∨
    ∃ ds, c = '@' ∧ placeholder isDigit r = some ds ∧
      fmtPieces (c :: r) 0 = .var ds :: fmtPieces r (ds.length + 1) := by
  simp only [fmtPieces]
  by_cases hc : (c == '@') = true
  · rw [if_pos hc]
    cases hp : placeholder isDigit r with
    | none => exact .inl rfl
    | some ds => exact .inr ⟨ds, eq_of_beq hc, rfl, rfl⟩
  · rw [if_neg hc]
    exact .inl rfl

/-- the pieces of any scanner of this shape are a partition of the template: nothing is dropped, nothing is
invented -/
theorem renderPieces_scan (f : Str → Nat → List FPiece) (p : Char → Bool) (hnil : ∀ k, f [] k = [])
    (hskip : ∀ c r k, f (c :: r) (k + 1) = f r k)
    (hcons : ∀ c r, f (c :: r) 0 = .lit c :: f r 0 ∨
      ∃ nm, c = '@' ∧ placeholder p r = some nm ∧ f (c :: r) 0 = .var nm :: f r (nm.length + 1)) :
    ∀ (s : Str) (k : Nat), renderPieces (f s k) = s.drop k
  | [], k => by simp [hnil, renderPieces]
  | c :: r, k + 1 => by rw [hskip, List.drop_succ_cons]; exact renderPieces_scan f p hnil hskip hcons r k
  | c :: r, 0 => by
    have ih := renderPieces_scan f p hnil hskip hcons r
    rcases hcons c r with h | ⟨nm, rfl, hnm, h⟩
    · simp only [h, renderPieces, ih 0, List.drop_zero]
    · obtain ⟨_, _, tail, e⟩ := placeholder_spec _ _ _ hnm
      simp only [h, renderPieces, ih, List.drop_zero]
      rw [e]
      simp

theorem renderPieces_fmtPieces : ∀ (s : Str) (k : Nat), renderPieces (fmtPieces s k) = s.drop k :=
  renderPieces_scan fmtPieces isDigit (fun _ => rfl) (fun _ _ _ => rfl) fmtPieces_cons

theorem fmtPieces_vars : ∀ (s : Str) (k : Nat) (ds : Str), .var ds ∈ fmtPieces s k →
    ds ≠ [] ∧ ∀ c ∈ ds, isDigit c = true
  | [], k, ds, h => by simp [fmtPieces] at h
  | c :: r, k + 1, ds, h => by simp only [fmtPieces] at h; exact fmtPieces_vars r k ds h
  | c :: r, 0, ds, h => by
    rcases fmtPieces_cons c r with e | ⟨ds', _, hds, e⟩ <;> rw [e] at h <;>
      rcases List.mem_cons.mp h with h | h
    · cases h
    · exact fmtPieces_vars r _ ds h
    · cases h
      exact ⟨(placeholder_spec _ _ _ hds).1, (placeholder_spec _ _ _ hds).2.1⟩
    · exact fmtPieces_vars r _ ds h

theorem substPieces_none_iff (args : List Str) : ∀ ps : List FPiece,
    substPieces args ps = none ↔ ∃ ds, .var ds ∈ ps ∧ args.length ≤ natOfDigits ds
  | [] => by simp [substPieces]
  | .lit c :: r => by simp [substPieces, substPieces_none_iff args r]
  | .var d :: r => by
    -- a placeholder without an argument is the head or is in the rest
    simp only [substPieces, List.mem_cons, FPiece.var.injEq, or_and_right, exists_or, exists_eq_left]
    cases hg : args[natOfDigits d]? with
    | none => simp [List.getElem?_eq_none_iff.mp hg]
    | some a =>
      have := (List.getElem?_eq_some_iff.mp hg).1
      simp [substPieces_none_iff args r, Nat.not_le.mpr this]

theorem substPieces_some (args : List Str) : ∀ (ps : List FPiece) (out : Str),
    substPieces args ps = some out → out = (ps.map (pieceText args)).flatten
  | [], out, h => by simp [substPieces] at h; simp [h]
  | .lit c :: r, out, h => by
    simp only [substPieces, Option.map_eq_some_iff] at h
    obtain ⟨t, ht, rfl⟩ := h
    simp [pieceText, substPieces_some args r t ht]
  | .var d :: r, out, h => by
    simp only [substPieces] at h
    cases hg : args[natOfDigits d]? with
    | none =>
      rw [hg] at h
      cases h
    | some a =>
      rw [hg] at h
      simp only [Option.map_eq_some_iff] at h
      obtain ⟨t, ht, rfl⟩ := h
      simp [pieceText, hg, substPieces_some args r t ht]

/-! ### f-strings: the same split with identifier placeholders, values read from the variable table -/

/-- the pure content of `fstringGo`: look each name up, stringify, concatenate -/
def fstrSubst (vars : List (Str × Val)) : List FPiece → Except ErrK Str
  | [] => .ok []
  | .lit c :: r => (fstrSubst vars r).map (c :: ·)
  | .var nm :: r =>
    match lookup nm vars with
    | none => .error .invalidCode
    | some v =>
      match stringify false v with
      | none => .error .invalidArguments
      | some txt => (fstrSubst vars r).map (txt ++ ·)

/-- an error in the rest of the pieces is an error of the whole (possibly another one, met earlier) -/
theorem fstrSubst_cons_error (vars : List (Str × Val)) (p : FPiece) (r : List FPiece) (e : ErrK)
    (h : fstrSubst vars r = .error e) : ∃ e', fstrSubst vars (p :: r) = .error e' := by
  cases p with
  | lit c => exact ⟨e, by simp [fstrSubst, h, Except.map]⟩
  | var m =>
    simp only [fstrSubst]
    cases lookup m vars with
    | none => exact ⟨_, rfl⟩
    | some v =>
      dsimp only
      cases stringify false v with
      | none => exact ⟨_, rfl⟩
      | some txt => exact ⟨e, by simp [h, Except.map]⟩

theorem fstringGo_eq (ps : List FPiece) (st : St) :
    fstringGo ps st = (match fstrSubst st.vars ps with
                       | .ok t => .ok t st
                       | .error e => .err e st) := by
  induction ps with
  | nil => rfl
  | cons p r ih =>
    cases p with
    | lit c =>
      simp only [fstringGo, bind, EvalM.bind, ih, fstrSubst]
      cases fstrSubst st.vars r <;> rfl
    | var nm =>
      simp only [fstringGo, bind, EvalM.bind, getSt, fstrSubst]
      cases lookup nm st.vars with
      | none => rfl
      | some v =>
        simp only []
        cases stringify false v with
        | none => rfl
        | some txt =>
          simp only [EvalM.bind, ih]
          cases fstrSubst st.vars r <;> rfl

theorem fstringPieces_cons (c : Char) (r : Str) :
    fstringPieces (c :: r) 0 = .lit c :: fstringPieces r 0 ∨
    ∃ nm, c = '@' ∧ placeholder isIdChar r = some nm ∧
      fstringPieces (c :: r) 0 = .var nm :: fstringPieces r (nm.length + 1) := by
  simp only [fstringPieces]
  by_cases hc : (c == '@') = true
  · rw [if_pos hc]
    cases r with
    | nil => exact .inl rfl
    | cons c1 r =>
      dsimp only
      by_cases hi : isIdStart c1 = true
      · rw [if_pos hi]
        cases hp : placeholder isIdChar (c1 :: r) with
        | none => exact .inl rfl
        | some nm => exact .inr ⟨nm, eq_of_beq hc, rfl, rfl⟩
      · rw [if_neg hi]
        exact .inl rfl
  · rw [if_neg hc]
    exact .inl rfl

theorem renderPieces_fstringPieces : ∀ (s : Str) (k : Nat), renderPieces (fstringPieces s k) = s.drop k :=
  renderPieces_scan fstringPieces isIdChar (fun _ => rfl) (fun _ _ _ => rfl) fstringPieces_cons

end MesonModel.Eval
