import Lean.Meta.Tactic.Simp.RegisterCommand

/-- facts `FrameM x m` about the primitives of `EvalM` and about evaluator functions -/
register_simp_attr eval_frame
