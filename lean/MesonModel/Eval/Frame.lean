/-
C01 — frame property of the evaluator: evaluating a tree changes at most the names it assigns (`FrameM`, `mayWrite`,
`frame_all`).  Then the two ways into another build file: `subproject()` runs without any access to the caller's
variable table, and `subdir()`, when its preconditions hold, is the file's block run on the caller's state.
-/
import MesonModel.Eval.Lemmas
import MesonModel.Eval.FrameAttr

namespace MesonModel.Eval

def Res.st {α} : Res α → St
  | .ok _ s | .err _ s | .sig _ s | .done s => s

/-- `m` never changes the binding of `x` (whatever its outcome) -/
def FrameM {α} (x : Str) (m : EvalM α) : Prop := ∀ s, lookup x (m s).st.vars = lookup x s.vars

namespace FrameM
variable {x : Str}

theorem pure {α} (a : α) : FrameM x (Pure.pure a : EvalM α) := fun _ => rfl
theorem fail {α} (e : ErrK) : FrameM x (fail e : EvalM α) := fun _ => rfl
theorem signal {α} (b : Bool) : FrameM x (signal b : EvalM α) := fun _ => rfl
theorem subdirDone {α} : FrameM x (subdirDone : EvalM α) := fun _ => rfl
theorem setLine (n : Nat) : FrameM x (setLine n) := fun _ => rfl
theorem tag (t : Tag) : FrameM x (tag t) := fun _ => rfl
theorem getSt : FrameM x getSt := fun _ => rfl
theorem incDepth : FrameM x incDepth := fun _ => rfl
theorem decDepth : FrameM x decDepth := fun _ => rfl
theorem emit (l : Str) : FrameM x (emit l) := fun _ => rfl

theorem liftE {α} (w : Option ErrK → Tag) (r : Except ErrK α) : FrameM x (liftE w r) := by
  intro s
  unfold Eval.liftE
  cases r <;> rfl

theorem getVar (n : Str) : FrameM x (getVar n) := by
  intro s
  unfold Eval.getVar
  split
  · rfl
  · split <;> rfl

theorem bind {α β} {m : EvalM α} {f : α → EvalM β} (hm : FrameM x m) (hf : ∀ a, FrameM x (f a)) :
    FrameM x (m >>= f) := by
  intro s
  refine .trans ?_ (hm s)
  show lookup x (EvalM.bind m f s).st.vars = _
  unfold EvalM.bind
  cases m s with
  | ok a s' => exact hf a s'
  | _ => rfl

theorem setVar {n : Str} (v : Val) (h : (n == x) = false) : FrameM x (setVar n v) := by
  intro s
  unfold Eval.setVar
  split
  · rfl
  · exact lookup_insert_ne v (Ne.symm (ne_of_beq_false h)) _

theorem unsetVar {n : Str} (h : n ≠ x) : FrameM x (unsetVar n) := by
  intro s
  unfold Eval.unsetVar
  split
  · exact lookup_erase_ne (Ne.symm h) _
  · rfl

theorem ite {α} {c : Prop} [Decidable c] {a b : EvalM α} (ha : c → FrameM x a) (hb : ¬ c → FrameM x b) :
    FrameM x (if c then a else b) := by
  by_cases h : c
  · rw [if_pos h]
    exact ha h
  · rw [if_neg h]
    exact hb h

end FrameM

theorem frame_bindVars {x : Str} : ∀ (vars : List Str) (vals : List Val), vars.contains x = false →
    FrameM x (bindVars vars vals)
  | [], _, _ => by unfold bindVars; exact FrameM.pure _
  | _ :: _, [], _ => by unfold bindVars; exact FrameM.pure _
  | n :: ns, v :: vs, h => by
    unfold bindVars
    rw [List.contains_cons, BEq.comm, Bool.or_eq_false_iff] at h
    exact FrameM.bind (FrameM.setVar v h.1) (fun _ => frame_bindVars ns vs h.2)

theorem frame_forLoop {x : Str} {body : EvalM Unit} {vars : List Str} (hb : FrameM x body)
    (hv : vars.contains x = false) : ∀ items, FrameM x (forLoop body vars items)
  | [] => by unfold forLoop; exact FrameM.pure _
  | vals :: rest => by
    intro s
    unfold forLoop
    refine .trans ?_ (frame_bindVars vars vals hv s)
    cases bindVars vars vals s with
    | ok _ s1 =>
      dsimp only
      refine .trans ?_ (hb s1)
      cases body s1 with
      | ok _ s2 => exact frame_forLoop hb hv rest s2
      | sig b s2 =>
        cases b
        · exact frame_forLoop hb hv rest _
        · rfl
      | _ => rfl
    | _ => rfl

attribute [irreducible] FrameM

attribute [eval_frame] FrameM.pure FrameM.fail FrameM.signal FrameM.subdirDone FrameM.setLine FrameM.tag FrameM.getSt
  FrameM.incDepth FrameM.decDepth FrameM.emit FrameM.liftE FrameM.getVar FrameM.setVar frame_forLoop

/-- Descends through a `do` block along its binds, conditionals, binders and matches.  What is left are calls of
primitives and of functions with a lemma in the `eval_frame` set, and subterms a hypothesis speaks of.
Conditionals go through `FrameM.ite`: `split` would simplify the whole remaining `if` chain at every step. -/
macro "frame" : tactic => `(tactic| (
  repeat' first | with_reducible apply FrameM.bind | with_reducible apply FrameM.ite | intro _ | split
  all_goals first | contradiction | simp only [eval_frame, *]))

theorem frame_fstringGo {x : Str} : ∀ ps, FrameM x (fstringGo ps)
  | [] => by unfold fstringGo; exact FrameM.pure _
  | .lit _ :: r | .var _ :: r => by
    unfold fstringGo
    have := frame_fstringGo (x := x) r
    frame

@[eval_frame]
theorem frame_fstring {x : Str} (t : Str) : FrameM x (fstring t) := frame_fstringGo _

@[eval_frame]
theorem frame_posTypes {x : Str} (a b : List PyTy) (c : List Val) : FrameM x (posTypes a b c) := by
  unfold posTypes
  frame

@[eval_frame]
theorem frame_mkRange {x : Str} (a b c : Int) : FrameM x (mkRange a b c) := by
  unfold mkRange
  frame

@[eval_frame]
theorem frame_reduceArgsWith {x : Str} {p : EvalM (List (Option Val))} {k : EvalM (List (Str × Val))}
    (hp : FrameM x p) (hk : FrameM x k) (oe ex : Bool) :
    FrameM x (reduceArgsWith p k oe ex) := by
  unfold reduceArgsWith
  frame

@[eval_frame]
theorem frame_applyMethod {x : Str} (ln : Nat) (o : Option Val) (name : Str) (pos : List Val)
    (kw : List (Str × Val)) : FrameM x (applyMethod ln o name pos kw) := by
  unfold applyMethod
  frame

@[eval_frame]
theorem frame_truth {x : Str} (v : Val) : FrameM x (truth v) := by
  unfold truth
  frame

@[eval_frame]
theorem frame_noRange {x : Str} (v : Val) : FrameM x (noRange v) := by
  unfold noRange
  frame

theorem frame_callFunc {x : Str} (fn : Str) (pos : List Val) (kw : List (Str × Val))
    (h1 : fn ≠ cs!"set_variable") (h2 : fn ≠ cs!"unset_variable") : FrameM x (callFunc fn pos kw) := by
  unfold callFunc
  frame

theorem frame_applyFunc {x : Str} {h : Hooks} (hsp : ∀ nm, FrameM x (h.subproject nm))
    (ln : Nat) {fn : Str} (pos : List Val) (kw : List (Str × Val)) (h1 : (fn == cs!"set_variable") = false)
    (h2 : (fn == cs!"unset_variable") = false) (h3 : (fn == cs!"subdir") = false) :
    FrameM x (applyFunc h ln fn pos kw) := by
  have hc := frame_callFunc (x := x) fn pos kw (ne_of_beq_false h1) (ne_of_beq_false h2)
  have h3 := ne_of_beq_false h3
  unfold applyFunc
  frame

mutual
/-- `true` if evaluating the tree might change the binding of `x`: an assignment / `+=` / `foreach`
variable named `x`, any call of `set_variable` / `unset_variable` (whose name is computed), or a
`subdir()` call (the file runs in the same variable table) -/
def mayWrite (x : Str) : Node → Bool
  | .assign _ name v => name == x || mayWrite x v
  | .plusassign _ name v => name == x || mayWrite x v
  | .foreach _ vars items block => vars.contains x || mayWrite x items || mayWriteL x block
  | .call _ fn pos kw _ =>
    fn == cs!"set_variable" || fn == cs!"unset_variable" || fn == cs!"subdir" ||
      mayWriteL x pos || mayWriteK x kw
  | .arr _ pos kw _ => mayWriteL x pos || mayWriteK x kw
  | .dict _ kw => mayWriteK x kw
  | .and_ _ l r => mayWrite x l || mayWrite x r
  | .or_ _ l r => mayWrite x l || mayWrite x r
  | .arith _ _ l r => mayWrite x l || mayWrite x r
  | .cmp _ _ l r => mayWrite x l || mayWrite x r
  | .index _ l r => mayWrite x l || mayWrite x r
  | .not_ _ v => mayWrite x v
  | .uminus _ v => mayWrite x v
  | .paren _ v => mayWrite x v
  | .tern _ c t f => mayWrite x c || mayWrite x t || mayWrite x f
  | .method _ obj _ pos kw _ => mayWrite x obj || mayWriteL x pos || mayWriteK x kw
  | .ifc _ ifs _ els => mayWriteI x ifs || mayWriteL x els
  | _ => false
termination_by structural n => n
def mayWriteL (x : Str) : List Node → Bool
  | [] => false
  | n :: r => mayWrite x n || mayWriteL x r
termination_by structural l => l
def mayWriteK (x : Str) : List (Node × Node) → Bool
  | [] => false
  | (k, v) :: r => mayWrite x k || mayWrite x v || mayWriteK x r
termination_by structural l => l
def mayWriteI (x : Str) : List (Node × List Node) → Bool
  | [] => false
  | (c, b) :: r => mayWrite x c || mayWriteL x b || mayWriteI x r
termination_by structural l => l
end

theorem frame_all (x : Str) (hk : Hooks) (hsp : ∀ nm, FrameM x (hk.subproject nm)) :
    (∀ n, mayWrite x n = false → FrameM x (eval hk n)) ∧
    (∀ l, mayWriteL x l = false → FrameM x (execBlock hk l)) ∧
    (∀ l, mayWriteI x l = false → FrameM x (evalIfs hk l)) ∧
    (∀ dm l acc, mayWriteK x l = false → FrameM x (evalKw hk dm l acc)) ∧
    (∀ l, mayWriteL x l = false → FrameM x (evalList hk l)) := by
  have happ := frame_applyFunc hsp
  apply eval.mutual_induct
  -- the hypothesis about a tree splits along `mayWrite` into the premises of the induction hypotheses and of
  -- `FrameM.setVar`, `frame_forLoop` and `happ`; the closing step of `frame` finds them in the context
  all_goals
    intros
    simp only [mayWrite, mayWriteL, mayWriteK, mayWriteI, Bool.or_eq_false_iff] at *
  -- the conjuncts stand in the order of the conclusion of `eval.mutual_induct` (by argument type), the cases in the order
  -- of its premises: the 25 constructors for `eval`, then nil and cons for each list function
  iterate 25
    · unfold eval
      frame
  iterate 2
    · unfold execBlock
      frame
  iterate 2
    · unfold evalList
      frame
  iterate 2
    · unfold evalKw
      frame
  iterate 2
    · unfold evalIfs
      frame

theorem frame_eval (x : Str) (hk : Hooks) (hsp : ∀ nm, FrameM x (hk.subproject nm)) :
    ∀ n, mayWrite x n = false → FrameM x (eval hk n) :=
  (frame_all x hk hsp).1

theorem frame_evalList (x : Str) (hk : Hooks) (hsp : ∀ nm, FrameM x (hk.subproject nm)) :
    ∀ l, mayWriteL x l = false → FrameM x (evalList hk l) :=
  (frame_all x hk hsp).2.2.2.2

theorem frame_evalKw (x : Str) (hk : Hooks) (hsp : ∀ nm, FrameM x (hk.subproject nm)) (dm : Bool) :
    ∀ l acc, mayWriteK x l = false → FrameM x (evalKw hk dm l acc) :=
  (frame_all x hk hsp).2.2.2.1 dm

theorem frame_execBlock (x : Str) (hk : Hooks) (hsp : ∀ nm, FrameM x (hk.subproject nm)) :
    ∀ l, mayWriteL x l = false → FrameM x (execBlock hk l) :=
  (frame_all x hk hsp).2.1

theorem frame_evalIfs (x : Str) (hk : Hooks) (hsp : ∀ nm, FrameM x (hk.subproject nm)) :
    ∀ l, mayWriteI x l = false → FrameM x (evalIfs hk l) :=
  (frame_all x hk hsp).2.2.1

def Res.mapSt {α} (f : St → St) : Res α → Res α
  | .ok a s => .ok a (f s)
  | .err e s => .err e (f s)
  | .sig b s => .sig b (f s)
  | .done s => .done (f s)

theorem Res.st_mapSt {α} (f : St → St) (r : Res α) : (r.mapSt f).st = f r.st := by
  cases r <;> rfl

def Res.forgetVars {α} : Res α → Res α
  | .ok a s => .ok a { s with vars := [] }
  | .err e s => .err e { s with vars := [] }
  | .sig b s => .sig b { s with vars := [] }
  | .done s => .done { s with vars := [] }

theorem Res.forgetVars_mapSt {α} (v : List (Str × Val)) (r : Res α) :
    (r.mapSt ({ · with vars := v })).forgetVars = r.forgetVars := by
  cases r <;> rfl

/-- `subproject()` neither reads nor writes the caller's variable table: on another table the outcome is the
same, with that table in the place of the caller's.  The guards and the child's start state do not mention
`vars`, and `afterChild` copies it. -/
theorem enterSubproject_setVars (run : List Node → EvalM Unit) (files : Files) (nm : Str) (s : St)
    (v : List (Str × Val)) :
    enterSubproject run files nm { s with vars := v } =
      (enterSubproject run files nm s).mapSt ({ · with vars := v }) := by
  unfold enterSubproject
  simp only [apply_ite (Res.mapSt _)]
  cases lookup nm s.spCache with
  | some obj => rfl
  | none =>
    cases fileOf files (joinPath cs!"subprojects" nm) with
    | none => rfl
    | some block =>
      simp only [childState]
      generalize run block _ = r
      cases r <;> rfl

theorem enterSubproject_vars (run : List Node → EvalM Unit) (files : Files) (nm : Str) (s : St) :
    (enterSubproject run files nm s).st.vars = s.vars := by
  have h : enterSubproject run files nm s = _ := enterSubproject_setVars run files nm s s.vars
  rw [h, Res.st_mapSt]

theorem enterSubproject_blind (run : List Node → EvalM Unit) (files : Files) (nm : Str) (s : St)
    (v' : List (Str × Val)) :
    (enterSubproject run files nm s).forgetVars = (enterSubproject run files nm { s with vars := v' }).forgetVars := by
  rw [enterSubproject_setVars run files nm s v', Res.forgetVars_mapSt]

theorem frame_enterSubproject {x : Str} (run : List Node → EvalM Unit) (files : Files) (nm : Str) :
    FrameM x (enterSubproject run files nm) := by
  unfold FrameM
  intro s
  rw [enterSubproject_vars]

theorem hooksAt_subproject_frame {x : Str} (files : Files) : ∀ n nm, FrameM x ((hooksAt files n).subproject nm)
  | 0, _ => by unfold hooksAt; exact FrameM.fail _
  | n + 1, nm => by unfold hooksAt; exact frame_enterSubproject _ files nm

/-- the preconditions under which `subdir(arg)` enters a file -/
structure SubdirOk (files : Files) (s : St) (arg : Str) (block : List Node) : Prop where
  noDots : hasSub ['.', '.'] arg = false
  notSubprojects : (s.subdir.isEmpty && arg = cs!"subprojects") = false
  notReserved : (s.subdir.isEmpty && cs!"meson-".isPrefixOf arg) = false
  nonEmpty : arg.isEmpty = false
  relative : arg.head? ≠ some '/'
  plain : plainPath arg = true
  fresh : s.visited.contains (joinPath s.subdir arg) = false
  file : fileOf files (joinPath s.subdir arg) = some block

theorem enterSubdir_eq (run : List Node → EvalM Unit) (files : Files) (arg : Str) (block : List Node) (s : St)
    (h : SubdirOk files s arg block) :
    enterSubdir run files arg s =
      (match leaveSubdir s.subdir
          (run block { s with visited := joinPath s.subdir arg :: s.visited, subdir := joinPath s.subdir arg }) () with
        | .ok _ s2 => .ok none s2
        | .err e s2 => .err e s2
        | .sig b s2 => .sig b s2
        | .done s2 => .done s2) := by
  unfold enterSubdir
  simp only [h.noDots, h.notSubprojects, h.notReserved, h.nonEmpty, h.relative, h.plain, h.fresh, h.file,
    Bool.false_eq_true, ↓reduceIte, Bool.not_true]
  rfl

end MesonModel.Eval
