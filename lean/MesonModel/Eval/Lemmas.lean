/-
C01 — facts about integer division, the code-point order, variable tables, indexing and operator dispatch that the
property theorems rest on, and strict typing as a decidable fact about the regenerated operator table
(`strictTableOk`, related to `operatorCall` by `rejects_sound`).
-/
import MesonModel.Eval.Model
import MesonModel.Util.Sort

namespace MesonModel.Eval

theorem pyFloorDiv_pos (a b : Int) (hb : b > 0) :
    b * pyFloorDiv a b ≤ a ∧ a < b * pyFloorDiv a b + b := by
  unfold pyFloorDiv
  simp only [hb, ↓reduceIte]
  have h1 := Int.mul_ediv_add_emod a b
  have h2 := Int.emod_nonneg a (by omega : b ≠ 0)
  have h3 := Int.emod_lt_of_pos a hb
  constructor <;> omega

theorem pyFloorDiv_neg (a b : Int) (hb : b < 0) :
    a ≤ b * pyFloorDiv a b ∧ b * pyFloorDiv a b + b < a := by
  have hq : pyFloorDiv (-a) (-b) = pyFloorDiv a b := by
    simp only [pyFloorDiv, show ¬ b > 0 by omega, show -b > 0 by omega, ↓reduceIte]
  have h := pyFloorDiv_pos (-a) (-b) (by omega)
  rw [hq, Int.neg_mul] at h
  constructor <;> omega

theorem isStrLe : IsStrLe strLe := ⟨fun _ => rfl, fun _ _ => rfl, fun _ _ _ _ => rfl⟩

theorem strLe_refl : ∀ a : Str, strLe a a = true := isStrLe.refl

def Sorted (l : List Str) : Prop := l.Pairwise (fun a b => strLe a b = true)

theorem isInsertionSort : IsInsertionSort strLe insertSorted sortStrs :=
  ⟨fun _ => rfl, fun _ _ _ => rfl, rfl, fun _ _ => rfl⟩

theorem sortStrs_perm : ∀ l, (sortStrs l).Perm l := isInsertionSort.perm

theorem sortStrs_sorted : ∀ l, Sorted (sortStrs l) :=
  isInsertionSort.pairwise_le (key := id) (fun _ _ => rfl) isStrLe.trans isStrLe.total

theorem lookup_insert_ne {x y : Str} (v : Val) (h : x ≠ y) :
    ∀ d, lookup x (insert y v d) = lookup x d
  | [] => by simp [insert, lookup, h]
  | (k, w) :: r => by
    simp only [insert]
    split
    · rename_i hk
      subst hk
      simp [lookup, h]
    · simp only [lookup]
      split
      · rfl
      · exact lookup_insert_ne v h r

theorem lookup_insert_self (x : Str) (v : Val) : ∀ d, lookup x (insert x v d) = some v
  | [] => by simp [insert, lookup]
  | (k, w) :: r => by
    simp only [insert]
    split
    · simp [lookup]
    · rename_i hk
      simp only [lookup, hk, ↓reduceIte]
      exact lookup_insert_self x v r

theorem lookup_erase_ne {x y : Str} (h : x ≠ y) : ∀ d, lookup x (erase y d) = lookup x d
  | [] => by simp [erase]
  | (k, w) :: r => by
    simp only [erase]
    split
    · rename_i hk
      subst hk
      simp [lookup, h]
    · simp only [lookup]
      split
      · rfl
      · exact lookup_erase_ne h r

theorem pyIndex_oob {α} (l : List α) (i : Int) (h : i < -(l.length : Int) ∨ i ≥ l.length) :
    pyIndex l i = none := by
  unfold pyIndex
  simp only [h, ↓reduceIte]

theorem pyIndex_nonneg {α} (l : List α) (n : Nat) (h : n < l.length) :
    pyIndex l (n : Int) = some l[n] := by
  unfold pyIndex
  have h1 : ¬ ((n : Int) < -(l.length : Int) ∨ (n : Int) ≥ l.length) := by omega
  have h2 : ¬ (n : Int) < 0 := by omega
  simp only [h1, h2, ↓reduceIte, Int.toNat_natCast]
  exact List.getElem?_eq_getElem h

theorem pyIndex_neg {α} (l : List α) (k : Nat) (h1 : 1 ≤ k) (h2 : k ≤ l.length) :
    pyIndex l (-(k : Int)) = some (l[l.length - k]'(by omega)) := by
  unfold pyIndex
  have c1 : ¬ (-(k : Int) < -(l.length : Int) ∨ -(k : Int) ≥ l.length) := by omega
  have c2 : -(k : Int) < 0 := by omega
  have c3 : (-(k : Int) + (l.length : Int)).toNat = l.length - k := by omega
  simp only [c1, c2, c3, ↓reduceIte]
  exact List.getElem?_eq_getElem _

theorem operatorCall_of_no_entry {v : Val} {op : Op} (h : opEntry v.ty op = none) (o : Option Val) :
    operatorCall v op o = .error .invalidCode := by
  unfold operatorCall
  rw [h]

theorem operatorCall_typed {v : Val} {op : Op} {t : PyTy} (h : opEntry v.ty op = some (.ty t)) {o : Val}
    (ho : isInstance o t = true) : operatorCall v op (some o) = opBody v op (some o) := by
  unfold operatorCall
  rw [h]
  exact if_pos ho

theorem operatorCall_index_arr (l : List Val) (i : Int) :
    operatorCall (.arr l) .index (some (.int i)) =
      (match pyIndex l i with | some v => .ok v | none => .error .invalidArguments) :=
  operatorCall_typed (t := .int) rfl rfl

def instTy : Ty → PyTy → Bool
  | _, .object => true
  | t, .int => t == .int || t == .bool
  | t, .bool => t == .bool
  | t, .str => t == .str
  | t, .list => t == .arr
  | t, .dict => t == .dict

theorem isInstance_eq (v : Val) (t : PyTy) : isInstance v t = instTy v.ty t := by
  cases t <;> rfl

/-- `lt <op> rt` is rejected with a type error, as read off the operator table -/
def rejects (lt : Ty) (op : Op) (rt : Ty) : Bool :=
  match opEntry lt op with
  | none => true
  | some (.ty t) => !instTy rt t
  | some (.tys l) => !(l.any (instTy rt))
  | some .unary => false
  -- no check in the table: `InterpreterObject.op_equals` / `op_not_equals` (range and subproject objects) refuse an
  -- operand of another type in their body
  | some .untyped => (lt == .range || lt == .subproj) && (op == .equals || op == .notEquals) && rt != lt

theorem rejects_sound (l r : Val) (op : Op) (h : rejects l.ty op r.ty = true) :
    ∃ e, operatorCall l op (some r) = .error e ∧ e ≠ .unsupported := by
  unfold rejects at h
  unfold operatorCall
  split at h
  · rename_i he
    rw [he]
    exact ⟨.invalidCode, rfl, by decide⟩
  · rename_i t he
    rw [he]
    have : isInstance r t = false := by
      rw [isInstance_eq]
      simpa using h
    simp only [this]
    exact ⟨.invalidArguments, rfl, by decide⟩
  · rename_i l he
    rw [he]
    have : l.any (isInstance r) = false := by
      rw [funext (isInstance_eq r)]
      simpa using h
    simp only [this]
    exact ⟨.invalidArguments, rfl, by decide⟩
  · cases h
  · rename_i he
    rw [he]
    simp only [Bool.and_eq_true, beq_iff_eq, Bool.or_eq_true, bne_iff_ne, ne_eq] at h
    obtain ⟨⟨hl, hop⟩, hr⟩ := h
    cases l <;> simp [Val.ty] at hl <;>
      (cases r <;> simp [Val.ty] at hr <;>
        rcases hop with rfl | rfl <;> exact ⟨.invalidArguments, rfl, by decide⟩)

def allTy (p : Ty → Bool) : Bool :=
  p .int && p .bool && p .str && p .arr && p .dict && p .range && p .subproj

def allOp (p : Op → Bool) : Bool :=
  p .plus && p .minus && p .times && p .div && p .mod && p .uminus && p .not_ && p .bool && p .equals &&
  p .notEquals && p .greater && p .less && p .greaterEquals && p .lessEquals && p .in_ && p .notIn && p .index

theorem allTy_spec {p : Ty → Bool} (h : allTy p = true) (t : Ty) : p t = true := by
  simp only [allTy, Bool.and_eq_true] at h
  cases t <;> simp [h]

theorem allOp_spec {p : Op → Bool} (h : allOp p = true) (o : Op) : p o = true := by
  simp only [allOp, Bool.and_eq_true] at h
  cases o <;> simp [h]

/-- arithmetic and ordering/equality operators (the ones the reference types strictly) -/
def strictOp : Op → Bool
  | .plus | .minus | .times | .div | .mod | .equals | .notEquals | .greater | .less | .greaterEquals
  | .lessEquals => true
  | _ => false

/-- one cell of the strict-typing table: different operand types are rejected, except `array + x`
(documented append) and `int <op> bool` (the quirk) -/
def strictCase (lt : Ty) (op : Op) (rt : Ty) : Bool :=
  !(strictOp op && decide (lt ≠ rt) && !decide (lt = .arr ∧ op = .plus) && !decide (lt = .int ∧ rt = .bool)) ||
    rejects lt op rt

def strictTableOk : Bool := allTy fun lt => allOp fun op => allTy fun rt => strictCase lt op rt

theorem strictTable_spec (h : strictTableOk = true) (lt : Ty) (op : Op) (rt : Ty) :
    strictCase lt op rt = true :=
  allTy_spec (allOp_spec (allTy_spec h lt) op) rt

/-- the per-run obligation on the regenerated table -/
theorem strictTableOk_holds : strictTableOk = true := by decide +kernel

end MesonModel.Eval
